import HmsGen.MapRanges
import Hms.Mod.Order
import HmsProofs.Lemmas.ModPerm
import HmsProofs.Lemmas.ModLink
import HmsProofs.Lemmas.ModInit
import HmsProofs.Lemmas.ModInventory
/-!
# C14 — analysis, compilation and execution are deterministic

The model is a function of its input, so its determinism is trivial. The property is about the places
where the Go code's result could depend on something that is not input: the iteration order of a Go map,
or state that survives from an earlier run. So every `range` over a map in the code (inventory regenerated
on every run) is classified as unobservable, covered by a permutation lemma `perm_invariant_*`, covered
only under the hypothesis of an open finding (V22, V12), or outside the model; storage names are injective
(as repaired by V26); every package-level variable is a constant table. Repetition on the real code:
`props/C14.py`.
-/
namespace HmsProofs.C14
open Hms.Mod

/-- Every `range` over a map-typed expression in non-test code under `homescript/` is classified. -/
theorem map_ranges_covered : HmsGen.mapRanges.all (fun s => (classify s).isSome) = true := by
  decide +kernel

/-- No site has two rows (`classify` would never consult the second). Rows for sites outside the inventory
are not excluded by this. -/
theorem map_ranges_table_wellformed : (classification.map (·.1)).Nodup := by decide +kernel

/-- No state survives a run: every package-level variable is classified, and as a constant table. -/
theorem fresh_state :
    HmsGen.packageVars.all (fun v =>
      match varClassification.lookup (v.1, v.2.1) with
      | some verdict => verdict.isConstant
      | none => false) = true := by decide +kernel

/-! ## Module visiting order (`compileProgram`, `getMangledFn`) -/

/-- The output of the compiled program does not depend on the orders in which the compiler visits the
modules. False without `noCrossModuleClash` (finding V22). -/
def perm_invariant_compileProgram_full : Prop :=
  ∀ (ms ord₁ ord₂ any₁ any₂ : Modules), namesDistinct ms = true → closed ms = true →
    ord₁.Perm ms → ord₂.Perm ms → any₁.Perm ms → any₂.Perm ms → ∀ fuel,
      runLinked ms ord₁ any₁ fuel = runLinked ms ord₂ any₂ fuel

theorem perm_invariant_compileProgram_partial (ms ord₁ ord₂ any₁ any₂ : Modules) (hd : namesDistinct ms = true)
    (hc : noCrossModuleClash ms = true) (hcl : closed ms = true)
    (h₁ : ord₁.Perm ms) (h₂ : ord₂.Perm ms) (h₃ : any₁.Perm ms) (h₄ : any₂.Perm ms) (fuel : Nat) :
    runLinked ms ord₁ any₁ fuel = runLinked ms ord₂ any₂ fuel :=
  Hms.Mod.perm_invariant_compileProgram_partial ms ord₁ ord₂ any₁ any₂ hd hc hcl h₁ h₂ h₃ h₄ fuel

/-- Finding V22: with a clashing global name the output depends on the visiting order. -/
theorem perm_invariant_compileProgram_counterexample_V22 : ¬ perm_invariant_compileProgram_full := by
  intro h
  obtain ⟨ms, o₁, o₂, hd, hcl, h₁, h₂, hne, _⟩ := link_counterexample_V22_global
  exact hne (h ms o₁ o₂ ms ms hd hcl h₁ h₂ (List.Perm.refl _) (List.Perm.refl _) 100)

/-- In whatever order the entry `@init` calls the other modules' `@init`, each is called exactly once,
before `main`. -/
theorem perm_invariant_initCalls (ms ord : Modules) (entry : String) (hd : namesDistinct ms = true) (ho : ord.Perm ms)
    (he : (findMod ms entry).isSome = true) :
    (∀ m ∈ ms, (startup ord entry).count (.init m.name) = 1) ∧
    (startup ord entry).getLast? = some .main ∧ (startup ord entry).count .main = 1 :=
  init_once_vm ms ord entry hd ho he

/-! ## Function order (`relocateLabels`, `renameVariables`, `Compile`) -/

/-- A loop that rebuilds a map entry by entry (`relocateLabels`, `Compile`, `Clone`, `Fields`,
scope additions, argument binding, JSON): every key ends up with the same value. -/
theorem perm_invariant_relocateLabels {β γ} (f : String → β → γ) {l₁ l₂ : List (String × β)} (h : l₁.Perm l₂)
    (hk : (l₁.map Prod.fst).Nodup) (k : String) : obsMap (rebuild f l₁) k = obsMap (rebuild f l₂) k :=
  perm_invariant_rebuild f h hk k

/-- The code `renameVariables` gives each function does not depend on the order in which the functions are visited.
False without `noSharedVars` (finding V12). -/
def perm_invariant_renameVariables_full : Prop :=
  ∀ (l₁ l₂ : List (String × List VInstr)), l₁.Perm l₂ → (l₁.map Prod.fst).Nodup → ∀ k,
    obsMap (renameAll [] l₁) k = obsMap (renameAll [] l₂) k

/-- `renameVariables` shares one slot map between all functions; when no variable name occurs in two
functions (no captured variables, injective mangling) each gets the same slots in every visiting order. -/
theorem perm_invariant_renameVariables_partial {l₁ l₂ : List (String × List VInstr)} (h : l₁.Perm l₂)
    (hs : noSharedVars l₁ = true) (hk : (l₁.map Prod.fst).Nodup) (k : String) :
    obsMap (renameAll [] l₁) k = obsMap (renameAll [] l₂) k :=
  Hms.Mod.perm_invariant_renameVariables_partial h hs hk k

/-- Finding V12: a captured variable gets its slot from whichever of its two functions is visited first. -/
theorem perm_invariant_renameVariables_counterexample_V12 : ¬ perm_invariant_renameVariables_full := by
  intro h
  -- `x` gets slot 1 in `g` when `f` is visited first, slot 0 when `g` is
  exact absurd (h [("f", [.setVar "a", .setVar "x"]), ("g", [.setVar "x"])]
    [("g", [.setVar "x"]), ("f", [.setVar "a", .setVar "x"])] (List.Perm.swap _ _ _) (by decide +kernel) "g")
    (by decide +kernel)

/-- `getMangledFn`'s search of the current module: keys are distinct, so the hit does not depend on the order. -/
theorem perm_invariant_ownLookup {β} {l₁ l₂ : List (String × β)} (h : l₁.Perm l₂)
    (hk : (l₁.map Prod.fst).Nodup) (k : String) : l₁.lookup k = l₂.lookup k :=
  lookup_perm_of_nodup_keys h hk k

/-! ## Object fields (`Display`, `keys`, casts as repaired by V35, `IsEqual`) -/

theorem perm_invariant_display {l₁ l₂ : List (String × String)} (h : l₁.Perm l₂)
    (hk : (l₁.map Prod.fst).Nodup) : displayFields l₁ = displayFields l₂ :=
  perm_invariant_displayFields h hk

theorem perm_invariant_sortedKeys {β} {l₁ l₂ : List (String × β)} (h : l₁.Perm l₂)
    (hk : (l₁.map Prod.fst).Nodup) : sortByKey l₁ = sortByKey l₂ :=
  perm_invariant_sortByKey h hk

theorem perm_invariant_isEqual {β} [BEq β] {l₁ l₂ r₁ r₂ : List (String × β)} (hl : l₁.Perm l₂) (hr : r₁.Perm r₂)
    (hk : (r₁.map Prod.fst).Nodup) : fieldsEqual l₁ r₁ = fieldsEqual l₂ r₂ :=
  perm_invariant_fieldsEqual hl hr hk

/-! ## Scope maps → diagnostics as a multiset -/

theorem perm_invariant_scopeWarnings {l₁ l₂ : List (String × ScopeEntry)} (h : l₁.Perm l₂) :
    (dropScopeWarnings l₁).Perm (dropScopeWarnings l₂) :=
  perm_invariant_dropScope h

theorem perm_invariant_diagnostics {α β} (f : α → List β) {l₁ l₂ : List α} (h : l₁.Perm l₂) :
    (l₁.flatMap f).Perm (l₂.flatMap f) :=
  perm_invariant_emit f h

/-! ## Mangling -/

/-- Distinct (module, name, counter) triples get distinct storage names (`mangleVarFixed`), for all strings.
False as it stands: module `a.b` with name `c` and module `a` with name `b.c` both give `@a.b.c.0`.
`_partial` assumes that identifiers contain no `.` (the lexer admits letters, digits and `_`; the compiler
adds a `$` prefix). -/
def mangle_injective_full : Prop :=
  ∀ (m₁ m₂ n₁ n₂ : String) (c₁ c₂ : Nat), mangleVarFixed m₁ n₁ c₁ = mangleVarFixed m₂ n₂ c₂ →
    m₁ = m₂ ∧ n₁ = n₂ ∧ c₁ = c₂

theorem mangle_injective_partial {m₁ m₂ n₁ n₂ : String} {c₁ c₂ : Nat}
    (h₁ : '.' ∉ n₁.toList) (h₂ : '.' ∉ n₂.toList) (h : mangleVarFixed m₁ n₁ c₁ = mangleVarFixed m₂ n₂ c₂) :
    m₁ = m₂ ∧ n₁ = n₂ ∧ c₁ = c₂ := by
  obtain ⟨hm, hn, hc⟩ := mangleVar_injective_partial h₁ h₂ (String.ofList_injective h)
  exact ⟨String.toList_inj.mp hm, String.toList_inj.mp hn, hc⟩

theorem mangleFn_injective_partial {m₁ m₂ n₁ n₂ : String}
    (h₁ : '.' ∉ n₁.toList) (h₂ : '.' ∉ n₂.toList) (h : mangleFnFixed m₁ n₁ = mangleFnFixed m₂ n₂) :
    m₁ = m₂ ∧ n₁ = n₂ := by
  obtain ⟨hm, hn⟩ := Hms.Mod.mangleFn_injective_partial h₁ h₂ (String.ofList_injective h)
  exact ⟨String.toList_inj.mp hm, String.toList_inj.mp hn⟩

/-- Finding V26: in the unrepaired scheme `a1` + 0 and `a` + 10 get the same storage name. -/
theorem mangle_injective_counterexample_V26 :
    mangleVarUnfixed "m" "a1" 0 = mangleVarUnfixed "m" "a" 10 ∧ ("a1", 0) ≠ (("a", 10) : String × Nat) := by
  decide +kernel

/-- Finding V26: module `a` + function `b_f` collides with module `a_b` + function `f`. -/
theorem mangleFn_injective_counterexample_V26 :
    mangleFnUnfixed "a" "b_f" = mangleFnUnfixed "a_b" "f" ∧ (("a", "b_f") : String × String) ≠ ("a_b", "f") := by
  decide +kernel

/-- Non-vacuity: identifiers as the lexer produces them satisfy the hypothesis. -/
example : '.' ∉ "a1".toList ∧ '.' ∉ "$iter_x".toList ∧ mangleVarFixed "main" "a1" 0 = "@main.a1.0" ∧
    mangleVarFixed "main" "a" 10 = "@main.a.10" := by decide +kernel

end HmsProofs.C14
