import Hms.Conc.Protocol
import Hms.Conc.Poll
import HmsGen.Enums
import HmsProofs.Lemmas.ConcProtocol
import HmsProofs.Lemmas.ConcWait
import HmsProofs.Lemmas.ConcPoll
/-!
# C10 — cancellation always stops execution promptly

Models: `Hms/Conc/Poll.lean` (the run loop of one core with an arbitrary instruction function; the interpreter's poll
per node) and `Hms/Conc/Protocol.lean` (Wait, cores, channels, locks; all interleavings). The quantum is the
regenerated constant `HmsGen.vmQuantum` (`NUM_INSTRUCTIONS_EXECUTE_PER_VCYCLE`).

The claim is partial with respect to real time and the Go scheduler: time is counted in steps of a core (instructions,
frame pops) and in steps of `Wait`; that every goroutine keeps being scheduled, and how long a step takes, is outside
the model (sampled by the check).
-/
namespace HmsProofs.C10
open Hms.Conc

def quantum : Nat := HmsGen.vmQuantum

/-- The regenerated quantum is positive; otherwise a core would never poll after its first cycle. -/
theorem quantum_pos : 0 < quantum := by decide

/-- Whatever the program does (`m.step` is an arbitrary function: loops, calls, handlers), if the context is
cancelled from step-time `T` on, then (1) a core started at time 0 ends, within `T + 1` loop iterations, having
executed fewer than `quantum` steps after the cancellation; (2) a core entered at time `t` stops by time
`max t (T + quantum - 1)`; (3) at a poll that sees the cancellation the core signals `terminate` without executing
anything more. -/
theorem cancel_bounded_vm {σ : Type} (m : Machine σ) (T : Nat) (s : σ) :
    (∃ r, run m quantum T (T + 1) 0 0 [] s = some r ∧ r.t < T + quantum)
    ∧ (∀ fuel t p tr r, run m quantum T fuel t p tr s = some r → r.t ≤ max t (T + quantum - 1))
    ∧ (∀ fuel t p tr, m.empty s = false → T ≤ t →
        run m quantum T (fuel + 1) t p tr s = some ⟨some .terminate, t, p + 1, tr ++ [m.obs s]⟩) :=
  ⟨run_stops m quantum T quantum_pos s, fun fuel t p tr r h => run_time_bound m quantum T fuel t p tr s r h,
    fun fuel t p tr he hT => run_cancelled_at_poll m quantum T fuel t p tr s he hT⟩

/-- A core that is started when the context is already cancelled (the successor in a relay of short-lived threads,
say) executes nothing at all: the poll comes before its first instruction, so the relay cannot outlive the
cancellation by way of cores that never reach a poll. -/
theorem late_core_runs_nothing {σ : Type} (m : Machine σ) (s : σ) (fuel : Nat) (he : m.empty s = false) :
    run m quantum 0 (fuel + 1) 0 0 [] s = some ⟨some .terminate, 0, 1, [m.obs s]⟩ := by
  simpa using (cancel_bounded_vm m 0 s).2.2 fuel 0 0 [] he (Nat.le_refl 0)

/-- The interpreter polls at every statement and expression: no node is visited at or after the
cancellation, whatever the program does, and the evaluation ends. -/
theorem cancel_bounded_tree {σ : Type} (m : TreeMachine σ) (T : Nat) (s : σ) :
    (∃ r, treeRun m T (T + 1) 0 [] s = some r ∧ r.t ≤ T)
    ∧ (∀ fuel t tr r, treeRun m T fuel t tr s = some r → r.t ≤ max t T) := by
  -- the interpreter is a core with a quantum of one
  simp only [treeRun_eq_run]
  exact ⟨(run_stops m.toMachine 1 T Nat.one_pos s).imp fun r h => ⟨h.1, Nat.lt_succ_iff.mp h.2⟩,
    fun fuel t tr r h => run_time_bound m.toMachine 1 T fuel t t tr s r h⟩

/-- The handler dispatch of `Run` does not intercept a termination interrupt. An instruction (a polling builtin) that
raises an interrupt (`hs`, outside a frame end, `hf`) ends the cycle with it however many handlers are installed; and
the termination found at a poll returns before the handlers are looked at, so two machines that differ only in their
handlers answer alike (this part needs neither `hf` nor `hs`). -/
theorem cancel_not_catchable {σ : Type} (m : Machine σ) (T c t : Nat) (s s' : σ) (i : Intr)
    (he : m.empty s = false) (hf : m.frameEnd s = false)
    (hs : m.step s (decide (T ≤ t)) = .raise (.intr i) s') :
    inner m T (c + 1) t s = .done (some i) (t + 1)
    ∧ ∀ (h' : σ → Nat) (c' : σ → σ) (q fuel p : Nat) (tr : List Nat), T ≤ t →
        run { m with handlers := h', catch_ := c' } q T (fuel + 1) t p tr s
          = run m q T (fuel + 1) t p tr s := by
  refine ⟨by simp [inner, he, hf, hs], ?_⟩
  intro h' c' q fuel p tr hT
  simp [run, he, hT]

/-- The interpreter's `try` likewise: an interrupt raised by a node ends the evaluation although
handlers are installed. -/
theorem cancel_not_catchable_tree {σ : Type} (m : TreeMachine σ) (T fuel t : Nat) (tr : List Nat) (s s' : σ)
    (i : Intr) (hfin : m.finished s = false) (hT : ¬ T ≤ t) (hs : m.visit s false = .raise (.intr i) s') :
    treeRun m T (fuel + 1) t tr s = some ⟨some i, t + 1, t + 1, tr ++ [m.obs s]⟩ := by
  simp [treeRun, hfin, hT, hs]

/-- `Wait` returns: in every reachable state of the protocol (all interleavings) `Wait` is never blocked on its lock;
stepping alone (`waitRun`: no core or host step in between) it ends its current pass over the snapshot within
`3·|rest| + 4` steps; and once every listed core has signalled (`Quiet`; a cancelled core does so at its next poll,
`cancel_bounded_vm`) it returns within `3·|rest| + 3·|listed| + 6` steps. Three steps per core still to be scanned;
`+ 4` is the worst position within a pass (`passLen`), `+ 6` adds the `+ 2` of a scan from the top (`top_returns`),
both in `Lemmas/ConcWait.lean`. -/
theorem wait_returns (s : PState) (hr : Reach Cfg.fixed s) (ha : s.wait.active = true) :
    (waitStep Cfg.fixed s).isSome = true
    ∧ (∃ k, k ≤ 3 * restLen s.wait + 4 ∧
        ((waitRun Cfg.fixed k s).wait = .top ∨ ∃ r, (waitRun Cfg.fixed k s).wait = .returned r))
    ∧ (Quiet s → ∃ k, k ≤ 3 * restLen s.wait + 3 * s.listed.length + 6 ∧
        ∃ r, (waitRun Cfg.fixed k s).wait = .returned r) := by
  have hi := reach_inv hr
  refine ⟨waitStep_enabled s hi.leaked0 ha, ?_, fun hq => wait_returns_of_quiet s hq ha⟩
  obtain ⟨k, hk, _, ht⟩ := pass_ends s hi.leaked0 ha
  exact ⟨k, Nat.le_trans hk (passLen_le _), ht⟩

/-- A core that is running and holds no lock (`.running .idle`) can always finish, and once the context
is cancelled it can always take its terminating step: sending the signal never blocks. -/
theorem core_can_signal (s : PState) (c : Nat) (hc : s.core c = .running .idle) :
    Step Cfg.fixed s { s with core := upd s.core c (.signalled none) }
    ∧ (s.cancelled = true → Step Cfg.fixed s { s with core := upd s.core c (.signalled (some .terminate)) }) :=
  ⟨Step.coreFinish s c none hc (by simp), fun hcan => Step.coreFinish s c (some .terminate) hc (fun _ => hcan)⟩

/-- No core is left blocked: in every reachable state, under every interleaving, no core goroutine sits in a send on
its signal channel; it is running (and can signal, `core_can_signal`) or its goroutine has ended, in particular after
`Wait` has returned. The third part holds of every step, reachable or not: the cancellation is never undone. -/
theorem no_core_left_blocked (s : PState) (hr : Reach Cfg.fixed s) :
    (∀ c sg, s.core c ≠ .sending sg)
    ∧ (∀ c, (s.core c).isLive = true → (∃ g, s.core c = .running g) ∨ ∃ sg, s.core c = .signalled sg)
    ∧ (∀ s', Step Cfg.fixed s s' → s.cancelled = true → s'.cancelled = true) := by
  have hi := reach_inv hr
  refine ⟨hi.cores.no_sending, ?_, fun s' h => (step_changes h).2.2⟩
  intro c hl
  cases h : s.core c with
  | absent => simp [h, CoreSt.isLive] at hl
  | running g => exact .inl ⟨g, rfl⟩
  | sending sg => exact absurd h (hi.cores.no_sending c sg)
  | signalled sg => exact .inr ⟨sg, rfl⟩
  | received sg => simp [h, CoreSt.isLive] at hl

/-- An endless loop with a handler installed (`loop { try { … } catch … }`), cancelled at step 120:
the core signals `terminate` at its fourth poll, after 150 steps. -/
def spin : Machine Nat where
  empty := fun _ => false
  frameEnd := fun _ => false
  popFrame := id
  step := fun s _ => .next (s + 1)
  handlers := fun _ => 1
  catch_ := id
  overLimit := fun _ => false
  obs := id

example : run spin quantum 120 10 0 0 [] 0 = some ⟨some .terminate, 150, 4, [0, 50, 100, 150]⟩ := by decide +kernel

/-- A program that throws in every instruction inside a handler cannot swallow the termination. -/
def thrower : Machine Nat where
  empty := fun _ => false
  frameEnd := fun _ => false
  popFrame := id
  step := fun s _ => .raise .throw_ (s + 1)
  handlers := fun _ => 1
  catch_ := id
  overLimit := fun _ => false
  obs := id

example : (run thrower quantum 7 10 0 0 [] 0).map (·.sig) = some (some .terminate) := by decide +kernel

/-- The state reached by: spawn core 0 and core 1; core 0 fails; `Wait` takes the interrupt, cancels
and returns; core 1 polls, sees the cancellation and sends on its signal channel. -/
def v19Trace (cfg : Cfg) : PState :=
  let s0 := PState.init.spawn.spawn
  let s1 := { s0 with core := upd s0.core 0 (sent cfg (some .fatal)) }
  let s2 := waitRun cfg 4 { s1 with wait := .top }
  { s2 with core := upd s2.core 1 (sent cfg (some .terminate)) }

theorem v19Trace_reach (cfg : Cfg) : Reach cfg (v19Trace cfg) := by
  have r0 : Reach cfg PState.init.spawn.spawn := .step _ _ (.step _ _ .init (.hostSpawn _ rfl)) (.hostSpawn _ rfl)
  have r1 := Reach.step _ _ r0 (.coreFinish (cfg := cfg) PState.init.spawn.spawn 0 (some .fatal) rfl nofun)
  have r2 := waitRun_reach 4 _ (.step _ _ r1 (.waitStart _ rfl))
  -- core 1 is still running and the context is cancelled, whatever the channels are
  obtain ⟨b, l, st⟩ := cfg
  exact .step _ _ r2 (.coreFinish _ 1 (some .terminate) (by cases b <;> rfl) fun _ => by cases b <;> rfl)

/-- Finding V19: with unbuffered signal channels, after `Wait` has returned (first interrupt)
core 1 sits in its send, is not listed any more, and stays there whatever happens afterwards
(further spawns, further calls of `Wait`): a goroutine blocked forever behind the host's wait.
With the buffered channel the same trace leaves core 1 finished. -/
theorem v19_counterexample :
    let cfg : Cfg := ⟨false, false, false⟩
    let s := v19Trace cfg
    Reach cfg s ∧ s.wait = .returned (some (0, .fatal)) ∧ s.core 1 = .sending (some .terminate)
      ∧ ∀ s', Steps cfg s s' → s'.core 1 = .sending (some .terminate) := by
  intro cfg s
  have h1 : s.core 1 = .sending (some .terminate) := by decide
  exact ⟨v19Trace_reach _, by decide, h1, fun s' hs =>
    sending_unlisted_stuck_forever (cfg := cfg) rfl hs 1 _ h1 (by decide) (by decide) (by decide)⟩

example : (v19Trace Cfg.fixed).core 1 = .signalled (some .terminate) ∧
    (v19Trace Cfg.fixed).wait = .returned (some (0, .fatal)) := by decide

end HmsProofs.C10
