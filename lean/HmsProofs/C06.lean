import Hms.Lex.Spec
import Hms.GenBridge
import HmsProofs.Tables
import HmsProofs.Lemmas.Lexer
/-!
# C06 — the token stream is a faithful image of the source text

`HmsProofs.Tables` is imported for the check's sake and for nothing in this file: building this module re-proves,
against the regenerated tables, that `TokKind` lists the constants of `lexer.TokenKind` in Go's order
(`kind_names_agree`, `kind_codes_agree`, `prec_table_in_range`); C19 and C20 get it through C07.

`Spec.tokenizes src ps` (Hms/Lex/Spec.lean) says of a piece list `ps`: the pieces concatenate to `src` (every
character belongs to exactly one piece); non-token pieces are white space or comments; every token's lexeme belongs to
the class of its kind in `grammar.ebnf`, keywords are distinguished from identifiers, and its value is the decoding of
the lexeme (digits without `_`, escapes decoded); operator tokens are maximal (the next character never extends them
to another operator) and names/numbers are maximal; each token's span is exactly ⟨`locAt src off`,
`locAt src (off + length - 1)`⟩ for its lexeme `src[off ..]`.
-/
namespace HmsProofs.C06
open Hms Hms.Lex

def inTable (tbl : List (String × TokKind)) (w : String) (k : TokKind) : Bool :=
  tbl.any fun x => decide (x.1 = w ∧ x.2 = k)

/-- Every keyword the Go lexer recognises (regenerated by lexing candidate words) is a keyword
of the specification with the same kind, and conversely. -/
theorem keyword_table_agrees :
    (∀ e ∈ HmsGen.keywordTable, ((TokKind.ofCode? e.2).map fun k => inTable Spec.keywords e.1 k) = some true)
    ∧ (∀ e ∈ Spec.keywords, HmsGen.keywordTable.any (fun x => decide (x.1 = e.1 ∧ x.2 = e.2.code)) = true) := by
  decide +kernel

/-- Every punctuation string of length ≤ 3 that the Go lexer reads as one token (regenerated
over the whole alphabet) is an operator of the specification with that kind and value, and
conversely. -/
theorem operator_table_agrees :
    (∀ e ∈ HmsGen.operatorTable,
        ((TokKind.ofCode? e.2.1).map fun k => inTable Spec.operators e.1 k && decide (e.2.2 = e.1)) = some true)
    ∧ (∀ e ∈ Spec.operators,
        HmsGen.operatorTable.any (fun x => decide (x.1 = e.1 ∧ x.2.1 = e.2.code ∧ x.2.2 = e.1)) = true) := by
  decide +kernel

/-- The model's keyword decision is the specification's table. -/
theorem lex_keyword_iff (w : String) : keywordKind w = Spec.keywords.lookup w :=
  Lemmas.LexStep.keywordKind_eq_lookup w

/-- Lexing always finishes: tokens and EOF, or tokens and one error (never "out of fuel"). -/
theorem lex_total (src : List Char) : ∃ r, pieces (src.length + 1) Loc.start src = .inl r :=
  Lemmas.Lexer.pieces_total src Loc.start

/-- Partition, token classes, decoded values, maximal munch and exact spans, for every source text that lexes
without error. -/
theorem lexer_meets_spec (src : List Char) (ps : List Piece)
    (h : pieces (src.length + 1) Loc.start src = .inl (.ok ps)) : Spec.tokenizes src ps = true := by
  have := Lemmas.Lexer.pieces_start src
  rw [h] at this
  simpa only [Spec.tokenizes, this.1, beq_self_eq_true, Bool.true_and, List.nil_append, List.length_nil]
    using this.2 rfl

/-- What `NextToken` delivers is the token pieces followed by EOF at the end position. -/
theorem lex_stream_ok (src : List Char) (ps : List Piece)
    (h : pieces (src.length + 1) Loc.start src = .inl (.ok ps)) :
    (lexAll src).tokens = tokensOf ps ∧ (lexAll src).err = none
      ∧ (lexAll src).eof = some ⟨.eof, "EOF".toList, Spec.locAt src src.length, Spec.locAt src src.length⟩ := by
  have hflat := Lemmas.Lexer.pieces_start src
  have hstream := Lemmas.Lexer.lexPrefix_spec (src.length + 1) Loc.start src []
  rw [h] at hflat
  rw [h] at hstream
  unfold lexAll
  rw [hstream, hflat.1, Lemmas.LexLoc.start_advanceBy,
    Lemmas.LexLoc.locAt_eq_locOf _ _ (Nat.le_refl _), List.take_length]
  simp

/-- Error path: the stream ends with that error; its span lies in the text. -/
theorem lex_error_span (src : List Char) (e : LexErr)
    (h : pieces (src.length + 1) Loc.start src = .inl (.error e)) :
    (lexAll src).err = some e ∧ e.start.idx ≤ e.stop.idx ∧ e.stop.idx ≤ src.length
      ∧ e.start = Spec.locAt src e.start.idx ∧ e.stop = Spec.locAt src e.stop.idx := by
  have := Lemmas.Lexer.pieces_start src
  rw [h] at this
  obtain ⟨a, b, r, rfl, h2, h3⟩ := this
  rw [h2, h3, Lemmas.LexLoc.start_advanceBy, Lemmas.LexLoc.start_advanceBy]
  refine ⟨(Lemmas.Lexer.lexAll_of_pieces_err _ e h).1, by simp [Lemmas.LexLoc.locOf_idx],
    by simp [Lemmas.LexLoc.locOf_idx], ?_, ?_⟩
  · rw [Lemmas.LexLoc.locOf_idx, List.append_assoc, Lemmas.LexLoc.locAt_append_length]
  · rw [Lemmas.LexLoc.locOf_idx, Lemmas.LexLoc.locAt_append_length]

example : Spec.tokenizes "a||b 1_0.5 \"\\n\" // c\n/* x */ y".toList
    (match pieces 100 Loc.start "a||b 1_0.5 \"\\n\" // c\n/* x */ y".toList with
     | .inl (.ok ps) => ps | _ => []) = true := by decide +kernel

end HmsProofs.C06
