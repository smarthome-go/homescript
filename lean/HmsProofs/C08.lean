import Hms.Pos.Render
import HmsProofs.C06
import HmsProofs.Lemmas.PosRender
import HmsProofs.Lemmas.PosSpans
/-!
# C08 — every reported position is real, points at the culprit and can be rendered

`renderErrOK src sp` / `renderDiagOK src sp` (Hms/Pos/Render.lean) transcribe the index and
`strings.Repeat` arithmetic of `errors.Error.Display` / `diagnostic.Diagnostic.Display`: they are
`true` iff the Go code indexes `lines[...]` in range and never passes a negative count to `Repeat`
(64-bit wrap-around included). The check compares them with what the two Go functions actually do
on arbitrary spans and on every span the analyzer and the parser report.

`InText src sp`: both ends are real positions of `src` (index ≤ number of runes; line and column
are those of the independent description `Spec.locAt`). `WholeFile sp`: the all-zero span.
-/
namespace HmsProofs.C08
open Hms.Lex Hms.Pos

/-- The renderers use 64-bit arithmetic; below 2^32 runes nothing can wrap (the property speaks
of texts up to 64 KiB). -/
abbrev sizeBound : Nat := Lemmas.PosRender.sizeBound

/-- The statement at full strength: a whole-file or in-text span, start not after end, can be rendered by both
renderers. It is false of the code (`render_safe_full_false`): `errors.Error.Display` has no case for the whole-file
span. -/
def render_safe_full : Prop :=
  ∀ (src : List Char) (sp : Span), src.length < sizeBound → (InText src sp ∨ WholeFile sp) → Ordered sp →
    renderErrOK src sp = true ∧ renderDiagOK src sp = true

/-- What holds: every span whose ends are real positions of the text, start not after end, is rendered by both
renderers without an index out of range or a negative `Repeat` count, and the whole-file span is rendered by
`Diagnostic.Display`. The missing case, `Error.Display` on the whole-file span, is excluded by the check's oracle: a
syntax error never carries it. -/
theorem render_safe_partial (src : List Char) (sp : Span) (hsize : src.length < sizeBound) :
    (InText src sp → Ordered sp → renderErrOK src sp = true ∧ renderDiagOK src sp = true)
      ∧ (WholeFile sp → renderDiagOK src sp = true) :=
  ⟨Lemmas.PosRender.render_safe src sp hsize, Lemmas.PosRender.render_diag_whole_file src sp⟩

/-- Both renderers render every in-text span whose start is not after its end: the first part of
`render_safe_partial`, the form used for syntax errors and located diagnostics. -/
theorem render_safe (src : List Char) (sp : Span) (hsize : src.length < sizeBound)
    (hin : InText src sp) (hord : Ordered sp) :
    renderErrOK src sp = true ∧ renderDiagOK src sp = true :=
  Lemmas.PosRender.render_safe src sp hsize hin hord

/-- The same for a program text that is not valid UTF-8 (Go decodes every invalid byte to one
U+FFFD rune, so a line has at least as many bytes as runes and at most four times as many): the
conclusion only needs that much about the byte lengths `bl k` of the lines. -/
theorem render_safe_any_encoding (bl : Nat → Nat) (src : List Char) (sp : Span)
    (hbl : Lemmas.PosRender.ByteLens bl src) (hsize : src.length < sizeBound)
    (hin : InText src sp) (hord : Ordered sp) :
    renderErrOK src sp = true ∧ renderDiagOKWith bl src sp = true :=
  Lemmas.PosRender.render_safe_with bl src sp hbl hsize hin hord

/-- The all-zero span makes `errors.Error.Display` index `lines[-1]` (Go: index out of range). -/
theorem render_err_whole_file_counterexample :
    WholeFile ⟨Loc.zero, Loc.zero⟩ ∧ Ordered ⟨Loc.zero, Loc.zero⟩
      ∧ renderErrOK "ab\ncd".toList ⟨Loc.zero, Loc.zero⟩ = false
      ∧ renderDiagOK "ab\ncd".toList ⟨Loc.zero, Loc.zero⟩ = true := by decide +kernel

theorem render_safe_full_false : ¬ render_safe_full := by
  intro h
  have := (h "ab\ncd".toList ⟨Loc.zero, Loc.zero⟩ (by decide +kernel) (Or.inr (by decide +kernel)) (by decide +kernel)).1
  revert this
  decide +kernel

/-- End column before start column on one line: both renderers call `Repeat` with a negative
count (the hypothesis `Ordered` of `render_safe` is needed). -/
theorem render_reversed_counterexample :
    renderErrOK "ab\ncd".toList ⟨⟨1, 5, 4⟩, ⟨1, 2, 1⟩⟩ = false
      ∧ renderDiagOK "ab\ncd".toList ⟨⟨1, 5, 4⟩, ⟨1, 2, 1⟩⟩ = false := by decide +kernel

/-- Start line past the last line: both renderers index `lines` out of range (the hypothesis
`InText` is needed). -/
theorem render_line_past_end_counterexample :
    renderErrOK "ab\ncd".toList ⟨⟨3, 1, 6⟩, ⟨3, 1, 6⟩⟩ = false
      ∧ renderDiagOK "ab\ncd".toList ⟨⟨3, 1, 6⟩, ⟨3, 1, 6⟩⟩ = false := by decide +kernel

/-- A multi-line diagnostic whose start column lies beyond the end of its line: negative count of
the `~~~ ...` marker (only `Diagnostic.Display` has this form). -/
theorem render_column_past_line_counterexample :
    renderErrOK "ab\ncd".toList ⟨⟨1, 9, 8⟩, ⟨2, 1, 3⟩⟩ = true
      ∧ renderDiagOK "ab\ncd".toList ⟨⟨1, 9, 8⟩, ⟨2, 1, 3⟩⟩ = false := by decide +kernel

/-- Every token of the lexer model carries a span that lies in the text, start ≤ end. -/
theorem tok_span_wf (src : List Char) (ps : List Piece)
    (h : pieces (src.length + 1) Loc.start src = .inl (.ok ps)) :
    ∀ t ∈ (lexAll src).tokens, InText src ⟨t.start, t.stop⟩ ∧ Ordered ⟨t.start, t.stop⟩ := by
  rw [(C06.lex_stream_ok src ps h).1]
  exact Lemmas.PosSpans.tok_span_wf src ps (C06.lexer_meets_spec src ps h)

/-- The EOF token sits at the end-of-input position, which is a real position. -/
theorem eof_span_wf (src : List Char) (ps : List Piece)
    (h : pieces (src.length + 1) Loc.start src = .inl (.ok ps)) :
    ∃ t, (lexAll src).eof = some t ∧ InText src ⟨t.start, t.stop⟩ ∧ Ordered ⟨t.start, t.stop⟩ :=
  ⟨_, (C06.lex_stream_ok src ps h).2.2,
    ⟨Nat.le_refl _, Nat.le_refl _, rfl, rfl⟩, Nat.le_refl _⟩

/-- A lexical error carries a span that lies in the text, start ≤ end. -/
theorem lex_error_span_wf (src : List Char) (e : LexErr)
    (h : pieces (src.length + 1) Loc.start src = .inl (.error e)) :
    (lexAll src).err = some e ∧ InText src ⟨e.start, e.stop⟩ ∧ Ordered ⟨e.start, e.stop⟩ := by
  obtain ⟨h1, h2, h3, h4, h5⟩ := C06.lex_error_span src e h
  exact ⟨h1, ⟨by simp only; omega, h3, h4, h5⟩, h2⟩

/-- `start_i.Until(end_j)` — how the parser builds the range of every construct from the first
token it saw and the last token it consumed — is a well-formed in-text span whenever `i ≤ j`. -/
theorem until_wf (src : List Char) (ps : List Piece)
    (h : pieces (src.length + 1) Loc.start src = .inl (.ok ps))
    (i j : Nat) (hij : i ≤ j) (hj : j < (lexAll src).tokens.length) :
    InText src (spanUntil ((lexAll src).tokens[i]'(by omega)).start ((lexAll src).tokens[j]'hj).stop)
      ∧ Ordered (spanUntil ((lexAll src).tokens[i]'(by omega)).start ((lexAll src).tokens[j]'hj).stop) := by
  have e := (C06.lex_stream_ok src ps h).1
  have hj' : j < (tokensOf ps).length := by rw [← e]; exact hj
  have := Lemmas.PosSpans.until_wf src ps (C06.lexer_meets_spec src ps h) i j hij hj'
  simpa only [e] using this

/-- Every construct range and every token span of a lexed text can be rendered. -/
theorem until_renders (src : List Char) (ps : List Piece) (hsize : src.length < sizeBound)
    (h : pieces (src.length + 1) Loc.start src = .inl (.ok ps))
    (i j : Nat) (hij : i ≤ j) (hj : j < (lexAll src).tokens.length) :
    let sp := spanUntil ((lexAll src).tokens[i]'(by omega)).start ((lexAll src).tokens[j]'hj).stop
    renderErrOK src sp = true ∧ renderDiagOK src sp = true := by
  obtain ⟨h1, h2⟩ := until_wf src ps h i j hij hj
  exact render_safe src _ hsize h1 h2

/-- A multi-line span over a text with multi-byte characters: real, ordered, rendered. -/
example :
    let src := "fn main() {\n  let é = \"∑\";\n  throw(\n    1\n  );\n}".toList
    let sp : Span := ⟨Spec.locAt src 29, Spec.locAt src 44⟩
    InText src sp ∧ Ordered sp ∧ sp.start.line = 3 ∧ sp.stop.line = 5
      ∧ renderErrOK src sp = true ∧ renderDiagOK src sp = true := by decide +kernel

end HmsProofs.C08
