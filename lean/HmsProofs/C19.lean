import Hms.Print.Expr
import Hms.GenBridge
import HmsProofs.C07
import HmsProofs.Lemmas.Pratt
import HmsProofs.Lemmas.PrintStr
import HmsProofs.Lemmas.PrintOpt
/-!
# C19 — printing and optimising a program preserve its meaning
-/
namespace HmsProofs.C19
open Hms Hms.Pratt Hms.Print

/-! ## (a) Expression core: print, then parse -/

/-- The model's printer adds no parentheses of its own (`Hms/Print/Expr.lean`: the correspondence with the
Go `String()` methods). -/
theorem printer_is_flatten : printTree = flatten := rfl

/-- Printing a normal tree and parsing the text gives the tree back, for every binding-power table that
never lets a closer or a comma continue an expression. -/
theorem print_parse (prec : Prec) (hs : TableSane prec) (t : Tree) (hn : normal prec 0 t = true) :
    parseExpr prec (printTree t) = .ok (t, []) := by
  obtain ⟨n, h⟩ := C07.pratt_correct prec hs 0 t [] hn (by simp [headLbp])
    (by simpa [headLbp] using Lemmas.Pratt.rightSpineOK_zero prec t)
  have := h n (Nat.le_refl _)
  rw [List.append_nil] at this
  exact Lemmas.Print.parseExpr_of_parseE prec this

/-- Whatever the parser returns for a completely consumed input is a normal tree. -/
theorem parse_result_normal (prec : Prec) (ts : List TokKind) (t : Tree)
    (h : parseExpr prec ts = .ok (t, [])) : normal prec 0 t = true :=
  (C07.pratt_sound prec _ 0 ts [] t h).2.1

/-- Hence printing a parsed expression and parsing the text again gives the same tree. -/
theorem print_parsed_roundtrip (prec : Prec) (hs : TableSane prec) (ts : List TokKind) (t : Tree)
    (h : parseExpr prec ts = .ok (t, [])) :
    parseExpr prec (printTree t) = .ok (t, []) :=
  print_parse prec hs t (parse_result_normal prec ts t h)

/-- Printing is a fixed point after one round. -/
theorem print_fixed_point (prec : Prec) (hs : TableSane prec) (ts : List TokKind) (t : Tree)
    (h : parseExpr prec ts = .ok (t, [])) :
    ∃ t', parseExpr prec (printTree t) = .ok (t', []) ∧ printTree t' = printTree t :=
  ⟨t, print_parsed_roundtrip prec hs ts t h, rfl⟩

/-- The same for the regenerated `TokenKind.Prec()` table of the code. -/
theorem print_parsed_roundtrip_gen (ts : List TokKind) (t : Tree)
    (h : parseExpr Gen.prec ts = .ok (t, [])) : parseExpr Gen.prec (printTree t) = .ok (t, []) :=
  print_parsed_roundtrip Gen.prec C07.prec_table_sane ts t h

/-- `10 + -2 ** 2` as the fuzzer builds it from `10 - 2 ** 2` (finding R8): a power expression directly
below the prefix operator. -/
def r8Tree : Tree :=
  .bin (.atom .int) .plus (.pre .minus (.bin (.atom .int) .power (.atom .int)))

/-- A tree that is not normal does not survive printing: the text of `r8Tree` parses to `10 + (-2) ** 2`,
another tree with another value. -/
theorem print_parse_counterexample :
    normal Gen.prec 0 r8Tree = false ∧
    parseExpr Gen.prec (printTree r8Tree)
      = .ok (.bin (.atom .int) .plus (.bin (.pre .minus (.atom .int)) .power (.atom .int)), []) ∧
    parseExpr Gen.prec (printTree r8Tree) ≠ .ok (r8Tree, []) := by
  have h : parseExpr Gen.prec (printTree r8Tree)
      = .ok (.bin (.atom .int) .plus (.bin (.pre .minus (.atom .int)) .power (.atom .int)), []) := by rfl
  refine ⟨by rfl, h, ?_⟩
  rw [h]
  intro e
  cases e

/-- `2 * (7 / 2)` built without a grouped node (swapped operands of `7 / 2 * 2`, finding R8): the text
`2 * 7 / 2` parses to `(2 * 7) / 2`. -/
def r8SwapTree : Tree :=
  .bin (.atom .int) .multiply (.bin (.atom .int) .divide (.atom .int))

theorem print_parse_swap_counterexample :
    normal Gen.prec 0 r8SwapTree = false ∧
    parseExpr Gen.prec (printTree r8SwapTree)
      = .ok (.bin (.bin (.atom .int) .multiply (.atom .int)) .divide (.atom .int), []) := by
  refine ⟨by rfl, by rfl⟩

/-- With the operand wrapped in a grouped node (the repaired fuzzer) the tree survives. -/
theorem print_parse_grouped_example :
    parseExpr Gen.prec (printTree (.bin (.atom .int) .plus
        (.pre .minus (.grp (.bin (.atom .int) .power (.atom .int))))))
      = .ok (.bin (.atom .int) .plus (.pre .minus (.grp (.bin (.atom .int) .power (.atom .int)))), []) := by
  rfl

/-! ## (b) String literals: print, then lex -/

/-- The literal the printers write for a string value `s` (`quote s` escapes `s` like `ast.EscapeString`,
between double quotes) is lexed by the lexer model of C06 as one string token of value `s`, then the end of
the input, without error. -/
theorem string_literal_roundtrip (s : List Char) :
    (Lex.lexAll (quote s)).tokens.map (fun t => (t.kind, t.value)) = [(TokKind.string, s)]
      ∧ (Lex.lexAll (quote s)).err = none ∧ (Lex.lexAll (quote s)).eof.isSome = true := by
  obtain ⟨h1, h2, h3⟩ := Lemmas.Print.lexAll_quote s
  refine ⟨?_, h2, h3⟩
  rw [h1]
  rfl

/-- Escaping is needed (finding R1): what the unrepaired parser-AST printer wrote for the value `"`, the
value itself between quotes, does not lex to one string token. -/
theorem unescaped_literal_counterexample :
    (Lex.lexAll ('"' :: ['"'] ++ ['"'])).tokens.map (fun t => (t.kind, t.value)) ≠ [(TokKind.string, ['"'])] := by
  decide

/-! ## (c) The optimizer -/

open Hms.Core Lemmas.Print in
/-- The optimizer's output behaves like its input: for every program and every recorded-type oracle
`isNever` under which statements of recorded type `never` do not complete normally, the specification
semantics gives the optimised program the same outcome (output, trigger trace, completion or fatal error). -/
theorem optimize_preserves (cfg : Cfg) (isNever : Stmt → Bool) (h : NeverDiverges cfg isNever)
    (fuel : Nat) (entry : String) :
    runProgram { cfg with prog := optimizeProgram isNever cfg.prog } fuel entry = runProgram cfg fuel entry :=
  Lemmas.Print.runProgram_optimize cfg isNever h fuel entry

open Hms.Core Lemmas.Print in
/-- The same for a single block, in any state. -/
theorem optimize_block_preserves (cfg : Cfg) (isNever : Stmt → Bool) (h : NeverDiverges cfg isNever)
    (b : Block) (fuel : Nat) (st : St) :
    evalBlock cfg fuel (optimizeBlock isNever b) st = evalBlock cfg fuel b st := by
  rw [Lemmas.Print.evalBlock_optimize cfg isNever h b fuel]

open Hms.Core Lemmas.Print in
/-- Non-vacuity: for `return`, `break` and `continue` the hypothesis is a theorem. -/
theorem optimize_preserves_control (cfg : Cfg) (fuel : Nat) (entry : String) :
    runProgram { cfg with prog := optimizeProgram isControl cfg.prog } fuel entry = runProgram cfg fuel entry :=
  optimize_preserves cfg isControl (control_never_diverges cfg) fuel entry

open Hms.Core in
/-- The optimizer only drops a suffix of a statement list, and how many statements it keeps is determined by
the flags alone (this count is what the tie with the Go optimizer compares). -/
theorem optimize_keeps_prefix (isNever : Stmt → Bool) (stmts : List Stmt) :
    takeThrough isNever stmts <+: stmts
      ∧ (takeThrough isNever stmts).length = keptCount (stmts.map isNever) :=
  ⟨Lemmas.Print.takeThrough_prefix isNever stmts, Lemmas.Print.takeThrough_length isNever stmts⟩

open Hms.Core Lemmas.Print in
/-- The hypothesis is needed (finding A5): `match 0 { 1 => { return; } }` has no default arm and only
diverging arms; the unrepaired analyzer records it as `never`, yet it completes, since no arm matches. The
optimizer drops the `1 / 0;` that follows: the optimised block completes normally, the original ends in a
fatal error. -/
theorem optimize_needs_never_diverges_counterexample :
    recordedNever (fun _ => false) a5Match = true
      ∧ isOk (evalBlock { prog := [] } 8 (optimizeBlock (recordedNever fun _ => false) a5Block) {}) = true
      ∧ isFatal (evalBlock { prog := [] } 8 a5Block {}) = true
      ∧ ¬ NeverDiverges { prog := [] } (recordedNever fun _ => false) := by
  have h1 : isOk (evalBlock { prog := [] } 8 (optimizeBlock (recordedNever fun _ => false) a5Block) {}) = true := by
    decide
  refine ⟨by rfl, h1, by decide, fun h => ?_⟩
  rw [optimize_block_preserves { prog := [] } (recordedNever fun _ => false) h a5Block 8 {}] at h1
  exact absurd h1 (by decide)

end HmsProofs.C19
