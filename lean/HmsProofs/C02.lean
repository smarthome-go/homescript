import HmsProofs.Lemmas.VMSound
/-!
# C02 — an accepted program can never crash, wedge or confuse the host (stack discipline)

Proved in part, about the VM model `Hms.Core.VM`. `Hms.Core.BcCheck.hcheck : Code → Bool` is a bytecode verifier
in the style of JVM verification, restricted to heights: it assigns to every reachable instruction index of every
function an operand-stack height (relative to the activation's base), a memory-pointer offset (relative to function
entry) and the list of handlers the activation has installed, and checks the assignment instruction by instruction
(`verify`). Code it accepts never answers the panics of `Excluded`.

`_partial`: the hypothesis `DynOK` — a *called function value* is a checked function with the arity and result
count its call site was checked for, and a builtin leaves a result exactly where the site expects one. Heights
cannot establish this; it is what the analyzer's type discipline provides.
-/
namespace HmsProofs.C02
open Hms.Core Hms.Core.Comp Hms.Core.VM Hms.Core.BcCheck
open HmsProofs.Lemmas.VMRun HmsProofs.Lemmas.VMCheck HmsProofs.Lemmas.VMSound

abbrev Inv := @HmsProofs.Lemmas.VMCheck.Inv
abbrev DynOK := @HmsProofs.Lemmas.VMCheck.DynOK
abbrev Excluded := HmsProofs.Lemmas.VMSound.Excluded

/-- `hcheck` accepts only code for which some annotation passes `verify` (the one it infers). -/
theorem hcheck_verify (code : Code) (h : hcheck code = true) : ∃ A, verify code A = true := by
  unfold hcheck at h
  split at h
  · rename_i A _; exact ⟨A, h⟩
  · cases h

/-- C02, one instruction. From a state satisfying `Inv` (for every frame: operand-stack height, memory pointer and
installed handlers are the ones recorded for its instruction index), with the memory pointer below the limit and
`DynOK`, executing the running instruction never answers the Go panics "stack underflow" (`pop` on an empty stack),
"handler stack underflow", "memory index" (slot outside the memory) or "label at run time". A normal step
re-establishes `Inv`; a throw ends in `UncaughtThrow` (no handler installed at all) or enters a handler, of any
activation, in a state satisfying `Inv`. -/
theorem hcheck_sound_partial (code : Code) (h : hcheck code = true) :
    ∃ A, verify code A = true ∧
    ∀ (lim : Limits) (s : VMState) (f : Frame) (rest : List Frame) (c : FnCode) (i : RInstr) (sp : Span),
      Inv code A s → s.calls = f :: rest → findCode code f.fn = some c → c[f.ip]? = some (i, sp) →
      s.mp < (lim.memory : Int) → DynOK code A lim s →
      (∀ why st, step code lim s i sp = .panic why st → ¬ Excluded why)
      ∧ (∀ s', step code lim s i sp = .next s' → Inv code A s')
      ∧ (∀ msg tsp s', step code lim s i sp = .intr (.throw msg tsp) s' →
          (s'.handlers = [] ∨ ∃ s'', throwTo s' msg tsp = .cont s'')
          ∧ ∀ s'', throwTo s' msg tsp = .cont s'' → Inv code A s'') := by
  obtain ⟨A, hv⟩ := hcheck_verify code h
  refine ⟨A, hv, ?_⟩
  intro lim s f rest c i sp ⟨bs0, hinv⟩ hc hf hi hlim hdyn
  have hs := step_sound hv hinv hc hf hi lim hlim hdyn
  refine ⟨?_, ?_, ?_⟩
  · intro why st e
    rw [e] at hs
    exact not_excluded hs
  · intro s' e
    rw [e] at hs
    obtain ⟨bs', hb, _⟩ := hs
    exact ⟨bs', hb⟩
  · intro msg tsp s' e
    rw [e] at hs
    obtain ⟨h1, h2⟩ := hs msg tsp rfl
    exact ⟨h1, fun s'' ht => let ⟨bs', hb, _⟩ := h2 s'' ht; ⟨bs', hb⟩⟩

/-- A fresh core that is about to run a checked function without parameters satisfies `Inv`
(this is how `runMain` starts `@init` and the entry function). -/
theorem inv_fresh (code : Code) (A : List FnAnn) (hv : verify code A = true) (fn : String) (c : FnCode)
    (fa : FnAnn) (hl : lookupFn code A fn = some (c, fa)) (hp : fa.params = 0) (s : VMState)
    (hc : s.calls = [⟨fn, 0⟩]) (hs : s.stack = []) (hm : s.mp = 0) (hh : s.handlers = []) :
    Inv code A s := by
  obtain ⟨_, hentry, _⟩ := verify_fn hv hl
  refine ⟨[⟨0, 0⟩], ?_, ?_⟩
  · rw [hc, hs, hm, hh]
    simp only [InvL]
    exact ⟨c, fa, _, [], hl, hentry, by simp [hp], by simp, by simp, by simp [hmap], by simp, rfl⟩
  · exact siteOK_entry hc

/-- C02, whole runs. A run of accepted code from a state satisfying `Inv` (a fresh core: `inv_fresh`) and `MemOK`
(memory pointer below the limit; true of a fresh core when the memory limit is positive), whose dynamic calls
conform, never ends in an excluded panic, for any limits, quantum, cancellation point and fuel; its poll states
satisfy `Inv`. -/
theorem hcheck_run_sound_partial (code : Code) (h : hcheck code = true) :
    ∃ A, verify code A = true ∧
    ∀ (lim : Limits) (quantum : Nat) (cancelAt : Option Nat) (s₀ : VMState),
      Inv code A s₀ → MemOK lim s₀ → DynReach code A lim quantum cancelAt s₀ →
      (∀ fuel why st, run code lim quantum cancelAt fuel s₀ = .panic why st → ¬ Excluded why)
      ∧ (∀ p, PollReach code lim quantum cancelAt s₀ p → Inv code A p) := by
  obtain ⟨A, hv⟩ := hcheck_verify code h
  refine ⟨A, hv, ?_⟩
  intro lim q ca s₀ hinv hm hdyn
  exact ⟨fun fuel why st e => run_sound hv lim q ca fuel s₀ hinv hm hdyn why st e,
    fun p hp => (pollReach_inv hv hinv hm hdyn hp).1⟩

def noCallVal (code : Code) : Bool :=
  code.all fun cf => cf.code.all fun x => match x.1 with | .callVal => false | _ => true

/-- Code without `callVal` has no dynamic calls: `DynOK` holds in every state. -/
theorem dynOK_static (code : Code) (A : List FnAnn) (lim : Limits)
    (hno : noCallVal code = true) (s : VMState) : DynOK code A lim s := by
  intro f rest c fa sp argc o g o' tl _ hlk hi _
  exfalso
  obtain ⟨cf, hm, rfl, _⟩ := lookup_mem hlk
  simp only [noCallVal, List.all_eq_true] at hno
  have := hno cf (List.of_mem_zip hm).1 _ (List.mem_of_getElem? hi)
  simp at this

/-- C02 without `DynOK`, for code without `callVal` (no calls of function values, builtins or members). -/
theorem run_sound_static (code : Code) (h : hcheck code = true) (hno : noCallVal code = true) :
    ∃ A, verify code A = true ∧
    ∀ (lim : Limits) (quantum : Nat) (cancelAt : Option Nat) (s₀ : VMState),
      Inv code A s₀ → MemOK lim s₀ →
      ∀ fuel why st, run code lim quantum cancelAt fuel s₀ = .panic why st → ¬ Excluded why := by
  obtain ⟨A, hv, hs⟩ := hcheck_run_sound_partial code h
  refine ⟨A, hv, ?_⟩
  intro lim q ca s₀ hinv hm
  refine (hs lim q ca s₀ hinv hm ?_).1
  intro p _ _ k s1 _ _
  exact dynOK_static code A lim hno _

/-- The "run indefinitely" clause of C09. If `s₂` is reached from `s₁` by instructions of the activation running in
`s₁` and of those it calls (`Path`: the call depth never drops below that of `s₁`, exception dispatch included,
memory pointer below the limit and `DynOK` before each instruction) and is again in that activation at the same
instruction index — a loop head on the next iteration, the instruction after a call — then the operand-stack height
and the memory pointer are those of `s₁`. -/
theorem balanced (code : Code) (A : List FnAnn) (hv : verify code A = true) (lim : Limits)
    (s₁ s₂ : VMState) (h1 : Inv code A s₁) (hp : Path code A lim s₁.calls.length s₁ s₂)
    (hd : s₂.calls.length = s₁.calls.length) (f : Frame) (r₁ r₂ : List Frame)
    (hc1 : s₁.calls = f :: r₁) (hc2 : s₂.calls = f :: r₂) :
    s₂.stack.length = s₁.stack.length ∧ s₂.mp = s₁.mp :=
  HmsProofs.Lemmas.VMSound.balanced hv h1 hp hd hc1 hc2 rfl

section Examples

private def sp0 : Span := ⟨0, 0, 0, 0⟩
private def mk (l : List RInstr) : FnCode := l.map (·, sp0)

/-- `let i = 0; while i < 3 { i = f(i) }` with `f(x) = x + 1`, then a `try`/`catch` around a
`throw`: slots, a loop, a call, a handler. -/
private def loopCode : Code := [
  { name := "main", code := mk [.addMp 1, .copyPush (.int 0), .setVar 0,
      .getVar 0, .copyPush (.int 3), .lt, .jumpIfFalse 11,
      .getVar 0, .callImm "f", .setVar 0, .jump 3,
      .setTry "main" 16, .copyPush (.str "x"), .throw, .popTry, .jump 18, .setVar 0, .popTry,
      .addMp (-1), .ret] },
  { name := "f", code := mk [.addMp 1, .setVar 0, .getVar 0, .copyPush (.int 1), .add, .addMp (-1), .ret] } ]

example : hcheck loopCode = true := by decide

example : noCallVal loopCode = true := by decide

private theorem loopCode_verify : verify loopCode ((infer loopCode).getD []) = true := by decide

/-- It runs to completion, over several polls, with operand stack, memory pointer and handler stack returned. -/
example : (match run loopCode {} 7 none 50 { calls := [⟨"main", 0⟩] } with
    | .ok s => s.stack.length == 0 && s.mp == 0 && s.handlers.length == 0
    | _ => false) = true := by decide

/-- At the loop head (index 3), height and memory pointer one iteration (15 instructions) after the first visit
are those of the first visit. -/
example : (match runQuantum loopCode {} 3 { calls := [⟨"main", 0⟩] } with
    | .inl s1 =>
      (match runQuantum loopCode {} 15 s1 with
        | .inl s2 => s1.calls == [⟨"main", 3⟩] && s2.calls == [⟨"main", 3⟩] && s1.stack.length == s2.stack.length
            && s1.mp == s2.mp
        | _ => false)
    | _ => false) = true := by decide

/-- The hypotheses of `balanced` are satisfiable: from the first visit of the loop head the 15 instructions of the
body (with its call of `f`, call depth 1 → 2 → 1) lead back to it along a `Path`. -/
example : ∃ A s₁ s₂, verify loopCode A = true ∧ Path loopCode A {} 1 s₁ s₂
    ∧ s₁.calls.map (fun f => (f.fn, f.ip)) = [("main", 3)] ∧ s₂.calls.map (fun f => (f.fn, f.ip)) = [("main", 3)]
    ∧ s₂.steps = s₁.steps + 15 := by
  have hd : (match pathRun loopCode {} 1 3 { calls := [⟨"main", 0⟩] } with
      | some s1 =>
        (match pathRun loopCode {} 1 15 s1 with
          | some s2 => s1.calls.map (fun f => (f.fn, f.ip)) == [("main", 3)]
              && s2.calls.map (fun f => (f.fn, f.ip)) == [("main", 3)] && s2.steps == s1.steps + 15
          | none => false)
      | none => false) = true := by decide
  cases h1 : pathRun loopCode {} 1 3 { calls := [⟨"main", 0⟩] } with
  | none => rw [h1] at hd; cases hd
  | some s1 =>
    rw [h1] at hd
    simp only at hd
    cases h2 : pathRun loopCode {} 1 15 s1 with
    | none => rw [h2] at hd; cases hd
    | some s2 =>
      rw [h2] at hd
      simp only [Bool.and_eq_true, beq_iff_eq] at hd
      exact ⟨(infer loopCode).getD [], s1, s2, loopCode_verify,
        path_of_pathRun (dynOK_static loopCode _ {} (by decide)) 15 s1 s2 h2, hd.1.1, hd.1.2, hd.2⟩

/-- The hypotheses of the run theorems are satisfiable, by the annotation `infer` computes and the fresh core about
to run `main`. -/
example : ∃ A, verify loopCode A = true ∧ Inv loopCode A { calls := [⟨"main", 0⟩] }
    ∧ MemOK {} { calls := [⟨"main", 0⟩] } := by
  refine ⟨(infer loopCode).getD [], loopCode_verify, ?_, ⟨by decide, by simp, by simp, by simp⟩⟩
  have hp : (lookupFn loopCode ((infer loopCode).getD []) "main").map (fun x => x.2.params) = some 0 := by decide
  obtain ⟨⟨c, fa⟩, hl, hpar⟩ := Option.map_eq_some_iff.mp hp
  exact inv_fresh loopCode _ loopCode_verify "main" c fa hl hpar _ rfl rfl rfl rfl

/-- The checker rejects code that underflows, and that code does panic the VM. -/
example : hcheck [{ name := "main", code := mk [.drop, .ret] }] = false
    ∧ (match run [{ name := "main", code := mk [.drop, .ret] }] {} 5 none 5 { calls := [⟨"main", 0⟩] } with
      | .panic why _ => why == "stack underflow"
      | _ => false) = true := by decide

/-- The run theorem without `DynOK`, for a fresh core that starts a parameterless function. -/
def hcheck_run_sound_full : Prop :=
  ∀ (code : Code), hcheck code = true → ∀ (lim : Limits) (quantum : Nat) (fn : String),
    (findCode code fn).map paramsOf = some 0 →
    ∀ fuel why st, run code lim quantum none fuel { calls := [⟨fn, 0⟩] } = .panic why st → ¬ Excluded why

/-- `main` calls the function value `g` with no argument; `g` pops one. Heights alone accept it. -/
private def arityCode : Code := [
  { name := "main", code := mk [.addMp 0, .copyPush (.vmFn "g"), .copyPush (.int 0), .callVal, .addMp 0, .ret] },
  { name := "g", code := mk [.addMp 1, .setVar 0, .addMp (-1), .ret] } ]

/-- `DynOK` is needed: a height checker cannot see which function a function *value* denotes; `arityCode` passes
`hcheck` and panics with "stack underflow". The Go analyzer rejects the source of such code (arity is part of the
function type), so this is the division of labour between the two checkers, not a defect of the VM. -/
theorem hcheck_run_sound_full_counterexample : ¬ hcheck_run_sound_full := by
  intro hfull
  have hd : (match run arityCode {} 50 none 5 { calls := [⟨"main", 0⟩] } with
      | .panic why _ => why == "stack underflow" | _ => false) = true := by decide
  cases hr : run arityCode {} 50 none 5 { calls := [⟨"main", 0⟩] } with
  | panic why st =>
    rw [hr] at hd
    exact hfull arityCode (by decide) {} 50 "main" (by decide) 5 why st hr (Or.inl (by simpa using hd))
  | ok s => rw [hr] at hd; cases hd
  | fatal k m sp s => rw [hr] at hd; cases hd
  | term s => rw [hr] at hd; cases hd
  | outOfFuel s => rw [hr] at hd; cases hd

/-- It rejects a loop that grows the stack (one push per iteration). -/
example : hcheck [{ name := "main", code := mk [.copyPush (.int 1), .jump 0] }] = false := by decide

/-- It rejects a slot outside the frame, and a `popTry` without a handler. -/
example : hcheck [{ name := "main", code := mk [.addMp 1, .getVar 1, .drop, .addMp (-1), .ret] }] = false
    ∧ hcheck [{ name := "main", code := mk [.popTry, .ret] }] = false := by decide

end Examples

end HmsProofs.C02
