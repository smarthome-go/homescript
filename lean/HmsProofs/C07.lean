import Hms.Parse.Normal
import Hms.GenBridge
import HmsProofs.Tables
import HmsProofs.Lemmas.Pratt
/-!
# C07 — parse trees follow the documented grammar and ignore layout

Proved: the regenerated `TokenKind.Prec()` table is the operator chain of the property (`prec_table_ok`), and the loop
of `Parser.expression` (parser/expression.go; `parseE` and its `loop` in `Hms/Parse/Pratt.lean`, over token kinds, so
layout is outside the model) returns exactly the normal trees (`Hms/Parse/Normal.lean`) of its input.

`HmsProofs.Tables` is imported for the check's sake and for nothing in this file: building this module re-proves,
against the regenerated tables, that `TokKind` lists the constants of `lexer.TokenKind` in Go's order
(`kind_names_agree`, `kind_codes_agree`, `prec_table_in_range`); C19 and C20 get it through C07.
-/
namespace HmsProofs.C07
open Hms Hms.Pratt

/-- Rank of a binary operator in the chain of the property statement
(assignment < `||` < `&&` < `|` < `^` < `&` < equality < comparison < shift < additive <
multiplicative < `as` < `**`). Written from the statement, not from the code. -/
def rank : TokKind → Option Nat
  | .assign | .plusAssign | .minusAssign | .multiplyAssign | .divideAssign | .moduloAssign
  | .powerAssign | .shiftLeftAssign | .shiftRightAssign | .bitOrAssign | .bitAndAssign
  | .bitXorAssign => some 0
  | .or_ => some 1
  | .and_ => some 2
  | .bitOr => some 3
  | .bitXor => some 4
  | .bitAnd => some 5
  | .equal | .notEqual => some 6
  | .lessThan | .greaterThan | .lessThanEqual | .greaterThanEqual => some 7
  | .shiftLeft | .shiftRight => some 8
  | .plus | .minus => some 9
  | .multiply | .divide | .modulo => some 10
  | .as => some 11
  | .power => some 12
  | _ => none

def isPostfixOpener : TokKind → Bool
  | .lParen | .lBracket | .dot | .arrow | .tildeArrow => true
  | _ => false

def ranked (k : TokKind) : Bool := (rank k).isSome
def rk (k : TokKind) : Nat := (rank k).getD 0

/-- A higher rank binds strictly tighter on both sides. -/
def RanksOrdered (prec : Prec) : Prop :=
  ∀ a ∈ TokKind.all, ∀ b ∈ TokKind.all, ranked a = true → ranked b = true → rk a < rk b →
      max (prec a).1 (prec a).2 < min (prec b).1 (prec b).2
/-- Operators of one rank share their powers. -/
def RanksUniform (prec : Prec) : Prop :=
  ∀ a ∈ TokKind.all, ∀ b ∈ TokKind.all, ranked a = true → ranked b = true → rk a = rk b →
      prec a = prec b
/-- `**` is right-associative, every other ranked operator left-associative, and all of them bind. -/
def Associativity (prec : Prec) : Prop :=
  (prec .power).1 > (prec .power).2
  ∧ (∀ a ∈ TokKind.all, ranked a = true → a ≠ .power → (prec a).1 < (prec a).2)
  ∧ (∀ a ∈ TokKind.all, ranked a = true → 0 < (prec a).1)
/-- Prefix operands are parsed above every ranked operator and below call/index/member. -/
def PrefixPlacement (prec : Prec) : Prop :=
  (∀ a ∈ TokKind.all, ranked a = true → max (prec a).1 (prec a).2 < prefixBp)
  ∧ (∀ a ∈ TokKind.all, isPostfixOpener a = true → prefixBp < (prec a).1)
/-- Nothing else continues an expression, except the range operator. -/
def NothingElseBinds (prec : Prec) : Prop :=
  ∀ a ∈ TokKind.all, ranked a = false → isPostfixOpener a = false → a ≠ .doubleDot →
      prec a = (0, 0)

/-- What the property demands of a binding-power table. -/
def TableOK (prec : Prec) : Prop :=
  RanksOrdered prec ∧ RanksUniform prec ∧ Associativity prec ∧ PrefixPlacement prec
    ∧ NothingElseBinds prec

instance (prec : Prec) : Decidable (RanksOrdered prec) := by unfold RanksOrdered; infer_instance
instance (prec : Prec) : Decidable (RanksUniform prec) := by unfold RanksUniform; infer_instance
instance (prec : Prec) : Decidable (Associativity prec) := by unfold Associativity; infer_instance
instance (prec : Prec) : Decidable (PrefixPlacement prec) := by unfold PrefixPlacement; infer_instance
instance (prec : Prec) : Decidable (NothingElseBinds prec) := by unfold NothingElseBinds; infer_instance
instance (prec : Prec) : Decidable (TableOK prec) := by unfold TableOK; infer_instance
instance (prec : Prec) : Decidable (TableSane prec) := by unfold TableSane; infer_instance

/-- One operator of each rank. -/
def rankRep : Nat → TokKind
  | 0 => .assign | 1 => .or_ | 2 => .and_ | 3 => .bitOr | 4 => .bitXor | 5 => .bitAnd | 6 => .equal
  | 7 => .lessThan | 8 => .shiftLeft | 9 => .plus | 10 => .multiply | 11 => .as | _ => .power

/-- `RanksOrdered` and `RanksUniform` compare every kind with every kind. One pass over the kinds is enough:
each ranked kind has the powers of the representative of its rank, and the representatives are ordered. -/
theorem ranks_of_rep {prec : Prec}
    (hu : ∀ a ∈ TokKind.all, ranked a = true → rk a < 13 ∧ prec a = prec (rankRep (rk a)))
    (ho : ∀ r ∈ List.range 13, ∀ s ∈ List.range 13, r < s →
      max (prec (rankRep r)).1 (prec (rankRep r)).2 < min (prec (rankRep s)).1 (prec (rankRep s)).2) :
    RanksOrdered prec ∧ RanksUniform prec := by
  refine ⟨fun a ha b hb ra rb hlt => ?_, fun a ha b hb ra rb he => ?_⟩
  · obtain ⟨la, ea⟩ := hu a ha ra
    obtain ⟨lb, eb⟩ := hu b hb rb
    rw [ea, eb]
    exact ho _ (List.mem_range.2 la) _ (List.mem_range.2 lb) hlt
  · rw [(hu a ha ra).2, (hu b hb rb).2, he]

/-- The regenerated `TokenKind.Prec()` table is the table of the property. -/
theorem prec_table_ok : TableOK Gen.prec := by
  obtain ⟨ho, hu⟩ := ranks_of_rep (prec := Gen.prec) (by decide +kernel) (by decide +kernel)
  exact ⟨ho, hu, by decide +kernel, by decide +kernel, by decide +kernel⟩

/-- Closers and separators never continue an expression (regenerated table). -/
theorem prec_table_sane : TableSane Gen.prec := by decide

/-- Every token the loop can enter on (non-zero left power) is handled by one of its cases. -/
theorem loop_cases_cover :
    ∀ k ∈ TokKind.all, 0 < (Gen.prec k).1 →
      (k == .doubleDot || isInfix k || isAssign k || k == .lParen || k == .lBracket
        || isMemberOp k || k == .as) = true := by decide +kernel

/-- Completeness: a normal tree is rebuilt from its flattening, whatever follows it, provided the following token
does not bind tighter than the context or than the tree's right spine. -/
theorem pratt_correct (prec : Prec) (hs : TableSane prec) (p : Nat) (t : Tree) (rest : List TokKind)
    (hn : normal prec p t = true) (hr : headLbp prec rest ≤ p)
    (hsp : rightSpineOK prec (headLbp prec rest) t = true) :
    ∃ n, ∀ fuel, n ≤ fuel → parseE prec fuel p (flatten t ++ rest) = .ok (t, rest) :=
  ⟨_, (Lemmas.Pratt.complete_E hs t p rest hn hsp (.stop hr)).ok⟩

/-- Soundness: whatever the loop returns is a normal tree; after erasing every comma that directly precedes `)` or
`]` (a trailing comma), the input is the tree's flattening followed by the remaining input, which does not bind
tighter than the context or the tree's right spine. -/
theorem pratt_sound (prec : Prec) (fuel p : Nat) (ts rest : List TokKind) (t : Tree)
    (h : parseE prec fuel p ts = .ok (t, rest)) :
    Lemmas.Pratt.dropTrailingCommas ts = flatten t ++ Lemmas.Pratt.dropTrailingCommas rest
      ∧ normal prec p t = true ∧ headLbp prec rest ≤ p
      ∧ rightSpineOK prec (headLbp prec rest) t = true := by
  obtain ⟨c, rfl, hf, hn, hrest⟩ := Lemmas.Pratt.parseE_sound_flat prec fuel p ts rest t h
  exact ⟨Lemmas.Pratt.flat_drop prec hf p hn rest, hn, hrest⟩

/-- Soundness without the proviso, for inputs that contain no trailing comma. -/
theorem pratt_sound_exact (prec : Prec) (fuel p : Nat) (ts rest : List TokKind) (t : Tree)
    (hntc : Lemmas.Pratt.hasTrailingComma ts = false)
    (h : parseE prec fuel p ts = .ok (t, rest)) :
    ts = flatten t ++ rest ∧ normal prec p t = true ∧ headLbp prec rest ≤ p
      ∧ rightSpineOK prec (headLbp prec rest) t = true := by
  obtain ⟨c, rfl, hf, hrest⟩ := Lemmas.Pratt.parseE_sound_flat prec fuel p ts rest t h
  rw [Lemmas.Pratt.flat_exact hf (Lemmas.Pratt.hasTrailingComma_append_false hntc).1]
  exact ⟨rfl, hrest⟩

/-- The proviso is needed: `[ 1 , ]` parses to the one-element list. -/
theorem pratt_sound_needs_proviso :
    ¬ (∀ (prec : Prec) (fuel p : Nat) (ts rest : List TokKind) (t : Tree),
        parseE prec fuel p ts = .ok (t, rest) →
        ts = flatten t ++ rest ∧ normal prec p t = true ∧ headLbp prec rest ≤ p
          ∧ rightSpineOK prec (headLbp prec rest) t = true) := by
  intro H
  have h := (H (fun _ => (0, 0)) 4 0 [.lBracket, .int, .comma, .rBracket] []
    (.list (.cons (.atom .int) .nil)) rfl).1
  simp [flatten, flattenArgs] at h

/-- Two normal trees with the same token sequence are the same tree: the operator table alone fixes the tree of an
expression. -/
theorem normal_tree_unique (prec : Prec) (hs : TableSane prec) (t₁ t₂ : Tree)
    (h₁ : normal prec 0 t₁ = true) (h₂ : normal prec 0 t₂ = true)
    (hsp₁ : rightSpineOK prec 0 t₁ = true) (hsp₂ : rightSpineOK prec 0 t₂ = true)
    (hf : flatten t₁ = flatten t₂) : t₁ = t₂ := by
  have r₁ := Lemmas.Pratt.complete_E hs t₁ 0 [] h₁ (by simpa [headLbp] using hsp₁) (.stop (Nat.zero_le _))
  have r₂ := Lemmas.Pratt.complete_E hs t₂ 0 [] h₂ (by simpa [headLbp] using hsp₂) (.stop (Nat.zero_le _))
  rw [hf] at r₁
  exact congrArg Prod.fst (r₁.unique r₂)

/-- A trailing comma in a list or an argument list never changes the tree: two inputs that
differ only in trailing commas and both parse completely yield the same tree. -/
theorem trailing_comma_irrelevant (prec : Prec) (hs : TableSane prec) (f₁ f₂ : Nat)
    (ts₁ ts₂ : List TokKind) (t₁ t₂ : Tree)
    (h₁ : parseE prec f₁ 0 ts₁ = .ok (t₁, [])) (h₂ : parseE prec f₂ 0 ts₂ = .ok (t₂, []))
    (he : Lemmas.Pratt.dropTrailingCommas ts₁ = Lemmas.Pratt.dropTrailingCommas ts₂) : t₁ = t₂ := by
  obtain ⟨e₁, n₁, _, s₁⟩ := pratt_sound prec f₁ 0 ts₁ [] t₁ h₁
  obtain ⟨e₂, n₂, _, s₂⟩ := pratt_sound prec f₂ 0 ts₂ [] t₂ h₂
  have hf : flatten t₁ = flatten t₂ := by
    have : flatten t₁ ++ Lemmas.Pratt.dropTrailingCommas [] = flatten t₂ ++ Lemmas.Pratt.dropTrailingCommas [] := by
      rw [← e₁, ← e₂, he]
    simpa [Lemmas.Pratt.dropTrailingCommas] using this
  exact normal_tree_unique prec hs t₁ t₂ n₁ n₂ (by simpa [headLbp] using s₁) (by simpa [headLbp] using s₂) hf

/-- The entry point's fuel is enough for every token list. -/
theorem pratt_total (prec : Prec) (ts : List TokKind) : parseExpr prec ts ≠ .error .fuel :=
  Lemmas.Pratt.parseE_ne_fuel (by omega)

/-- `1 + 2 * 3 ** 4 ** 5 - -6` : a non-trivial normal tree for the regenerated table. -/
example :
    parseExpr Gen.prec [.int, .plus, .int, .multiply, .int, .power, .int, .power, .int, .minus, .minus, .int]
      = .ok (.bin (.bin (.atom .int) .plus (.bin (.atom .int) .multiply
              (.bin (.atom .int) .power (.bin (.atom .int) .power (.atom .int)))))
            .minus (.pre .minus (.atom .int)), []) := by rfl

end HmsProofs.C07
