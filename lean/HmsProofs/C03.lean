import HmsProofs.Lemmas.CheckRules
import HmsProofs.Lemmas.CheckTemplate
/-!
# C03 — the analyzer rejects every ill-typed program and accepts every well-typed one

* `Hms.Check.check : PProg → List Diag` is the algorithmic checker (model of the Go analyzer
  after the repairs A1–A7, A9, A10, A14, F1, F3, SP1 of DESIGN §9; tied to the real analyzer by `./check.py C03`),
* `Hms.Check.WellTyped` / `ProgOK` / `HasType` / `StmtOK` … is the declarative typing relation
  (the specification, `Hms/Check/Typing.lean`).

`PProg` is the core language: every expression and statement form, functions, function literals, globals, `main`.
Soundness, completeness and the recorded-types theorem hold for all of `PProg`. Imports, singletons, `impl` blocks and
`trigger` statements are not part of `PProg`; their rules are covered by the decision tables `template_decision` and
`trigger_decision`.

There is one rule lemma per fault class of the property statement. A `…_rejected` lemma concludes that an `Err` of
the fault's class (an error-level diagnostic: message class, rule class) is among the `errs` the checker's function
returns; `global_named_like_function_rejected` concludes `¬ WellTyped p`. It speaks of the function of the checker
that emits the diagnostic, with the checker's own intermediate results in its hypotheses; no lemma carries a
diagnostic from a sub-expression to the expression around it. `Lemmas/CheckRules.lean` has the same faults at
further positions and the way of a diagnostic from a statement of a function body, or from a global, to the program.
-/
namespace HmsProofs.C03
open Hms.Check HmsProofs.Lemmas.Check

/-- A program without error-level diagnostic is well-typed. -/
theorem check_sound (p : PProg) (h : (check p).all notError = true) : WellTyped p :=
  ⟨_, sound_prog p ((check_all_notError_iff true p).mp h)⟩

theorem check_sound_nil (p : PProg) (h : check p = []) : WellTyped p :=
  check_sound p (by simp [h])

/-- A well-typed program receives no error-level diagnostic. -/
theorem check_complete (p : PProg) (h : WellTyped p) : (check p).all notError = true := by
  obtain ⟨tys, hd⟩ := h
  exact (check_all_notError_iff true p).mpr (by rw [complete_prog p tys hd])

/-- The types recorded for an accepted program are types the rules assign. -/
theorem check_types (p : PProg) (h : (check p).all notError = true) : ProgOK p (inferTypes p) :=
  sound_prog p ((check_all_notError_iff true p).mp h)

/-- A well-typed program has no other list of types than the recorded one. -/
theorem check_types_unique (p : PProg) (tys : List Ty) (h : ProgOK p tys) : tys = inferTypes p := by
  simp [inferTypes, complete_prog p tys h]

/-- Rejection is exact: an error-level diagnostic is reported iff the program is not well-typed. -/
theorem rejects_iff_ill_typed (p : PProg) : (check p).any (fun d => d.level == .error) = true ↔ ¬ WellTyped p := by
  have hw : WellTyped p ↔ (check p).all notError = true := ⟨check_complete p, check_sound p⟩
  rw [hw, List.all_eq_not_any_not]
  simp [notError]

/-- `TypeCheck` decides exactly structural compatibility: element-, field-, parameter- and
result-wise, `any` accepts everything, `never` / `unknown` fit everywhere, function values only
where they are admitted. -/
theorem typecheck_decides_compatibility (a : Bool) (got exp : Ty) :
    typeCheck a got exp = none ↔ Compatible a got exp := typeCheck_iff exp a got

/-- Expression level: the checker's verdict and attributes coincide with the typing relation. -/
theorem expr_check_iff (Γ : Ctx) (s : Bool) (e : PExpr) (t : Ty) (x c : Bool) (l : List Ty) :
    HasType Γ s e t x c l ↔ checkExpr Γ s e = { errs := [], ty := t, ex := x, cst := c, tys := l } := by
  refine ⟨complete_expr, fun h => ?_⟩
  have := sound_expr e Γ s (by rw [h])
  rwa [h] at this

/-- `infixExpression`: the right operand is checked against the type of the left one, whether or not the operator is
admitted for it. -/
theorem operand_mismatch_rejected (Γ : Ctx) (s : Bool) (op : InfixOp) (l r : PExpr) (m : Msg)
    (h : typeCheck true (checkExpr Γ true r).ty (checkExpr Γ true l).ty = some m) :
    ⟨m, .operandMismatch⟩ ∈ (checkExpr Γ s (.infix op l r)).errs := by
  simp only [checkExpr]
  cases infixResult op (checkExpr Γ true l).ty <;> exact wrap_mem (by simp [tcErr, h])

/-- `infixExpression`: the operator table (`infixResult`) has no entry for the kind of the left operand. -/
theorem operator_not_admitted_rejected (Γ : Ctx) (s : Bool) (op : InfixOp) (l r : PExpr)
    (h : infixResult op (checkExpr Γ true l).ty = none) :
    ⟨.infixOperand, .operatorNotAdmitted⟩ ∈ (checkExpr Γ s (.infix op l r)).errs := by
  simp only [checkExpr, h]; exact wrap_mem (by simp)

/-- `callArgs` at the first of the remaining arguments: unless its type is `null` (reported as such), it is checked
against the parameter at its position, `argParam ps rest`. -/
theorem argument_mismatch_rejected (Γ : Ctx) (ps : List Ty) (rest : Option Ty) (a : PExpr) (as : PExprs) (m : Msg)
    (hk : (checkExpr Γ true a).ty.kind ≠ .null) (h : typeCheck true (checkExpr Γ true a).ty (argParam ps rest) = some m) :
    ⟨m, .argMismatch⟩ ∈ (checkArgs Γ ps rest (.cons a as)).errs := by
  simp [checkArgs, hk, tcErr, h]

/-- `callExpression` on a callee of a function type that is not variadic: as many arguments as parameters. -/
theorem arity_mismatch_rejected (Γ : Ctx) (s : Bool) (base : PExpr) (args : PExprs) (ps : List (String × Ty)) (ret : Ty)
    (hc : callee (checkExpr Γ true base).ty = .fn ps ret) (hlen : args.length ≠ ps.length) :
    ⟨.arity, .arity⟩ ∈ (checkExpr Γ s (.call base args)).errs := by
  simp only [checkExpr, hc, bne_iff_ne.mpr hlen, ↓reduceIte]; exact wrap_mem (by simp)

/-- `spawn` of a function value (a local, a parameter, a global, a builtin: whatever name is found in the variable
scopes) instead of a function of the program (repair SP1) -/
theorem spawn_of_variable_rejected (Γ : Ctx) (s : Bool) (name : String) (args : PExprs) (t : Ty) (ps : List (String × Ty))
    (ret : Ty) (hl : lookupTy name Γ.vars = some t) (hc : callee t = .fn ps ret) :
    ⟨.spawnNonFunction, .spawnNonFunction⟩ ∈ (checkExpr Γ s (.spawn name args)).errs :=
  spawn_of_fn_variable hl (callee_fn_kind hc)

/-- the same for a variadic builtin (`spawn println(…)`) -/
theorem spawn_of_variadic_variable_rejected (Γ : Ctx) (s : Bool) (name : String) (args : PExprs) (t : Ty) (ps : List Ty)
    (rest ret : Ty) (hl : lookupTy name Γ.vars = some t) (hc : callee t = .var ps rest ret) :
    ⟨.spawnNonFunction, .spawnNonFunction⟩ ∈ (checkExpr Γ s (.spawn name args)).errs :=
  spawn_of_fn_variable hl (callee_var_kind hc)

/-- `callArgs` of a `spawn`, at the first of the remaining arguments: a function value does not cross to another
thread. -/
theorem spawn_closure_argument_rejected (Γ : Ctx) (ps : List Ty) (rest : Option Ty) (a : PExpr) (as : PExprs)
    (hk : (checkExpr Γ true a).ty.kind = .fn) :
    ⟨.closureAcrossThreads, .closureAcrossThreads⟩ ∈ (checkSpawnArgs Γ ps rest (.cons a as)).errs := by
  simp [checkSpawnArgs, hk]

/-- `spawn` of a name that cannot be called. The hypothesis speaks of the base as the checker computes it for a `spawn`:
`identRes`, then the tail of `Analyzer.expression` in strict mode. -/
theorem spawn_not_callable_rejected (Γ : Ctx) (s : Bool) (name : String) (args : PExprs)
    (hc : callee (wrap true (identRes Γ name)).ty = .bad) :
    ⟨.notCallable, .notCallable⟩ ∈ (checkExpr Γ s (.spawn name args)).errs := by
  simp only [checkExpr, hc]; exact wrap_mem (by simp)

/-- a `spawn` has no value: its type is `null`, whatever is spawned (repair SP1) -/
theorem spawn_type_null (Γ : Ctx) (s : Bool) (name : String) (args : PExprs) :
    (checkExpr Γ s (.spawn name args)).ty = .null :=
  spawn_ty_null Γ s name args

/-- A `spawn` yields no thread handle: `.join` on it is an unknown member (repair SP1). -/
theorem spawn_join_rejected (Γ : Ctx) (s : Bool) (name : String) (args : PExprs) :
    ⟨.unknownMember, .unknownMember⟩ ∈ (checkExpr Γ s (.member (.spawn name args) "join" .dot)).errs :=
  spawn_no_member Γ s name args "join"

/-- `returnStatement` with a value, inside a function or function literal (`Γ.ret = some rt`: the return type of
`CurrentFunction`). -/
theorem return_mismatch_rejected (Γ : Ctx) (e : PExpr) (rt : Ty) (m : Msg) (hr : Γ.ret = some rt)
    (h : typeCheck true (checkExpr Γ true e).ty rt = some m) :
    ⟨m, .returnMismatch⟩ ∈ (checkStmt Γ (.ret e)).errs := by
  simp [checkStmt, hr, tcErr, h]

/-- a function body whose value does not fit the declared return type -/
theorem body_mismatch_rejected (fns globals : List (String × Ty)) (f : PFn) (m : Msg) (hm : f.name ≠ "main")
    (h : typeCheck true
      (checkBlock { vars := paramScope [] (convertParamList f.params).2 ++ globals, fns := fns,
                    ret := some (curRet fns f.name), inLoop := false } f.body).ty (convertType true f.ret).2 = some m) :
    ⟨m, .returnMismatch⟩ ∈ (checkFn fns globals f).1 := by
  simp [checkFn, beq_eq_false_iff_ne.mpr hm, tcErr, h]

/-- `assignExpression`: the right side is checked against the type of the left one, and function values are not
admitted there (`typeCheck false`). -/
theorem assign_mismatch_rejected (Γ : Ctx) (s : Bool) (op : Option InfixOp) (l r : PExpr) (m : Msg)
    (h : typeCheck false (checkExpr Γ true r).ty (checkExpr Γ true l).ty = some m) :
    ⟨m, .assignMismatch⟩ ∈ (checkExpr Γ s (.assign op l r)).errs := by
  simp only [checkExpr]; exact wrap_mem (by simp [tcErr, h])

/-- compound assignment operator not admitted for the type (e.g. `%=` on floats, repair A7) -/
theorem assign_operator_rejected (Γ : Ctx) (s : Bool) (op : Option InfixOp) (l r : PExpr)
    (hc : typeCheck false (checkExpr Γ true r).ty (checkExpr Γ true l).ty = none)
    (h : assignOk op (checkExpr Γ true l).ty = false) :
    ⟨.assignOperand, .operatorNotAdmitted⟩ ∈ (checkExpr Γ s (.assign op l r)).errs := by
  simp only [checkExpr]; exact wrap_mem (by simp [tcErr, hc, h])

/-- `ifExpression` with an `else` block; `condition_not_bool_if_then` (`Lemmas/CheckRules.lean`) is the one without. -/
theorem condition_not_bool_rejected (Γ : Ctx) (s : Bool) (c : PExpr) (t e : PBlock) (m : Msg)
    (h : typeCheck true (checkExpr Γ true c).ty .bool = some m) :
    ⟨m, .conditionNotBool⟩ ∈ (checkExpr Γ s (.ifElse c t e)).errs := by
  simp only [checkExpr]; exact wrap_mem (by simp [tcErr, h])

/-- `whileStatement` -/
theorem while_condition_not_bool_rejected (Γ : Ctx) (c : PExpr) (b : PBlock) (m : Msg)
    (h : typeCheck true (checkExpr Γ true c).ty .bool = some m) :
    ⟨m, .conditionNotBool⟩ ∈ (checkStmt Γ (.whileS c b)).errs := by
  simp [checkStmt, tcErr, h]

/-- `ifExpression`: the `else` block is checked against the type of the `then` block; `try_branch_mismatch`
(`Lemmas/CheckRules.lean`) is the same for `try` / `catch`. -/
theorem branch_mismatch_rejected (Γ : Ctx) (s : Bool) (c : PExpr) (t e : PBlock) (m : Msg)
    (h : typeCheck true (checkBlock Γ e).ty (checkBlock Γ t).ty = some m) :
    ⟨m, .branchMismatch⟩ ∈ (checkExpr Γ s (.ifElse c t e)).errs := by
  simp only [checkExpr]; exact wrap_mem (by simp [tcErr, h])

/-- a value-producing `if` without `else` -/
theorem missing_else_rejected (Γ : Ctx) (s : Bool) (c : PExpr) (t : PBlock)
    (h : (typeCheck true (checkBlock Γ t).ty .null).isSome = true) :
    ⟨.missingElse, .branchMismatch⟩ ∈ (checkExpr Γ s (.ifThen c t)).errs := by
  simp only [checkExpr, h, ↓reduceIte]; exact wrap_mem (by simp)

/-- iteration over something that is not a range, string or list -/
theorem not_iterable_rejected (Γ : Ctx) (name : String) (it : PExpr) (b : PBlock)
    (h : iterTy (checkExpr Γ true it).ty = none) :
    ⟨.notIterable, .notIterable⟩ ∈ (checkStmt Γ (.forS name it b)).errs := by
  simp [checkStmt, h]

/-- `identExpression`: the name is neither a variable in scope nor a function of the program (`getVar`, then `getFunc`). -/
theorem unknown_ident_rejected (Γ : Ctx) (s : Bool) (name : String) (h : Γ.lookup name = none) :
    ⟨.unknownIdent, .unknownIdent⟩ ∈ (checkExpr Γ s (.ident name)).errs := by
  simp only [checkExpr, h]; exact wrap_mem (by simp)

/-- unknown type (in a `let` annotation; `unknown_type_in_cast` of `Lemmas/CheckRules.lean` for `as`) -/
theorem unknown_type_rejected (Γ : Ctx) (x name : String) (e : PExpr) (h : primTy name = none) :
    ⟨.unknownType, .unknownType⟩ ∈ (checkStmt Γ (.letS x (some (.name name)) e)).errs := by
  have := unknown_type name h
  simp only [checkStmt, letRule, letVarTy, Bool.false_and, Bool.false_eq_true, ↓reduceIte]
  cases typeCheck (!(checkExpr Γ false e).ty.hasAny) (checkExpr Γ false e).ty (convertType true (PTy.name name)).2 <;>
    simp [this]

/-- `memberExpression` with `.`: the type of the base has no such member (`memberRule`) and is not `any`, on which the
checker reports an implicit `any` instead. -/
theorem unknown_member_rejected (Γ : Ctx) (s : Bool) (b : PExpr) (name : String)
    (hr : memberRule (checkExpr Γ false b).ty name .dot = none) (hk : (checkExpr Γ false b).ty.kind ≠ .any) :
    ⟨.unknownMember, .unknownMember⟩ ∈ (checkExpr Γ s (.member b name .dot)).errs := by
  simp only [checkExpr, hr, beq_eq_false_iff_ne.mpr hk, Bool.false_eq_true, ↓reduceIte]; exact wrap_mem (by simp)

/-- `breakStatement` with `LoopDepth = 0` -/
theorem break_outside_loop_rejected (Γ : Ctx) (h : Γ.inLoop = false) :
    ⟨.breakOutsideLoop, .breakOutsideLoop⟩ ∈ (checkStmt Γ .brk).errs := by
  simp [checkStmt, h]

/-- `continueStatement` with `LoopDepth = 0` -/
theorem continue_outside_loop_rejected (Γ : Ctx) (h : Γ.inLoop = false) :
    ⟨.continueOutsideLoop, .continueOutsideLoop⟩ ∈ (checkStmt Γ .cont).errs := by
  simp [checkStmt, h]

/-- A function literal does not inherit the loop it is written in (repair A2): `break` as the first statement of its
body (here a body without value) is an error of the literal, whatever `Γ.inLoop` is. -/
theorem break_in_closure_rejected (Γ : Ctx) (s : Bool) (params : List (String × PTy)) (ret : PTy) (rest : PStmts) :
    ⟨.breakOutsideLoop, .breakOutsideLoop⟩ ∈ (checkExpr Γ s (.lambda params ret (.mkNoTail (.cons .brk rest)))).errs :=
  closure_body_errors Γ s params ret _ _
    (block_mem_stmts _ _ _ (stmts_mem_head _ _ _ _ (break_outside_loop_rejected _ rfl)))

/-- `functionSignature`: a function whose name is among those met before it (`seen`; `checkProg` starts from `[]`). -/
theorem dup_definition_rejected (seen : List String) (f : PFn) (rest : List PFn) (h : seen.contains f.name = true) :
    ⟨.duplicateFunction, .duplicateDefinition⟩ ∈ dupFnErrs seen (f :: rest) := by
  simp [dupFnErrs, List.contains_iff_mem.mp h]

/-- the `let` rule at global level reports a name that is already defined -/
theorem dup_global_rejected (Γ : Ctx) (name : String) (ann : Option PTy) (r : Res) (h : (lookupTy name Γ.vars).isSome = true) :
    ⟨.duplicateGlobal, .duplicateDefinition⟩ ∈ (letRule Γ name ann r true).errs := by
  simp [letRule, h]

/-- a function whose name is already taken by a value of the root scope (repair F3): the value
would win over the function wherever the name is used -/
theorem fn_name_taken_rejected (p : PProg) (f : PFn) (hf : f ∈ p.fns) (h : (lookupTy f.name hostScope).isSome = true) :
    ⟨.nameClash, .duplicateDefinition⟩ ∈ (checkProg true p).errs :=
  fn_name_clash_prog p true f hf h

/-- a global whose name is that of a function of the module, in either order of appearance (repair F3) -/
theorem global_named_like_function_rejected (p : PProg) (g : PGlobal) (f : PFn) (hg : g ∈ p.globals) (hf : f ∈ p.fns)
    (h : g.name = f.name) : ¬ WellTyped p := by
  have hl : (lookupTy g.name (p.fns.map fun f => (f.name, fnSig f))).isSome = true := h ▸ lookupTy_map_isSome hf
  exact prog_not_welltyped (global_errors_reach_program p true _ (global_name_clash hg hl hostScope))

/-- `analyzeParams`: two parameters of one name, in any function but `main` (whose parameters are an error as such). -/
theorem dup_param_rejected (fns globals : List (String × Ty)) (f : PFn) (hm : f.name ≠ "main")
    (h : dupNames [] (convertParamList f.params).2 ≠ 0) :
    ⟨.duplicateParam, .duplicateDefinition⟩ ∈ (checkFn fns globals f).1 := by
  simp only [checkFn, beq_eq_false_iff_ne.mpr hm, Bool.false_eq_true, ↓reduceIte]
  cases hn : dupNames [] (convertParamList f.params).2 with
  | zero => exact absurd hn h
  | succ n => simp [List.replicate]

/-- the `let` rule at global level reports an initialiser that is not constant -/
theorem non_constant_global_rejected (Γ : Ctx) (name : String) (ann : Option PTy) (r : Res) (h : r.cst = false) :
    ⟨.nonConstantGlobal, .nonConstantGlobal⟩ ∈ (letRule Γ name ann r true).errs := by
  simp [letRule, h]

/-- a range literal is only as constant as its bounds (repair A6) -/
theorem range_constant_iff_bounds (Γ : Ctx) (a b : PExpr) (incl : Bool) :
    (checkExpr Γ true (.range a b incl)).cst = ((checkExpr Γ true a).cst && (checkExpr Γ true b).cst) := by
  have h : anyOK true .range = true := by decide
  simp only [checkExpr]; rw [wrap_of_ok h]

/-- `CreateErrorIfContainsAny` at the tail of `Analyzer.expression`: in a strict position a type that contains `any`
is an error, unless it is a function or option type. -/
theorem implicit_any_rejected (s : Bool) (r : Res) (h : anyOK s r.ty = false) :
    ⟨.implicitAny, .implicitAny⟩ ∈ (wrap s r).errs := by
  simp [wrap, h]

/-- implicit `any` in a `let` without annotation -/
theorem implicit_any_let_rejected (Γ : Ctx) (name : String) (r : Res) (g : Bool) (h : r.ty.hasAny = true) :
    ⟨.implicitAny, .implicitAny⟩ ∈ (letRule Γ name none r g).errs := by
  simp [letRule, letVarTy, h]

/-- `analyzeModule`, when the host requires `main` (`checkProg true`) -/
theorem main_missing_rejected (p : PProg) (h : (p.fns.any fun f => f.name == "main") = false) :
    ⟨.mainMissing, .mainShape⟩ ∈ (checkProg true p).errs := by
  simp [checkProg, h]

/-- `functionDefinition`: `main` takes no parameters -/
theorem main_shape_rejected (fns globals : List (String × Ty)) (f : PFn) (hm : f.name = "main") (h : f.params ≠ []) :
    ⟨.mainParams, .mainShape⟩ ∈ (checkFn fns globals f).1 := by
  have hl : f.params.length > 0 := by
    cases hh : f.params with
    | nil => exact absurd hh h
    | cons a as => simp
  simp [checkFn, beq_iff_eq.mpr hm, hl]

/-- `functionDefinition`: the declared return type of `main` is `null`, or `unknown`, which passes here -/
theorem main_return_rejected (fns globals : List (String × Ty)) (f : PFn) (hm : f.name = "main")
    (h1 : (convertType true f.ret).2.kind ≠ .unknown) (h2 : (convertType true f.ret).2.kind ≠ .null) :
    ⟨.mainReturn, .mainShape⟩ ∈ (checkFn fns globals f).1 := by
  simp [checkFn, beq_iff_eq.mpr hm, h1, h2]

/-- A program is not well-typed if `checkFn` reports an error on one of its functions, under the signatures and the
globals that `checkProg` hands to it. -/
theorem function_error_rejects_program (p : PProg) (f : PFn) (e : Err) (hf : f ∈ p.fns)
    (h : e ∈ (checkFn (p.fns.map fun f => (f.name, fnSig f))
      (checkGlobals (p.fns.map fun f => (f.name, fnSig f)) hostScope p.globals).vars f).1) :
    ¬ WellTyped p :=
  prog_not_welltyped (fn_errors_reach_program p true e (checkFns_mem hf h))

/-- An `impl` block receives no template diagnostic iff it matches its template: all named
capabilities exist, no two selected ones conflict, exactly the required methods are implemented,
each with the required parameters, return type and modifier, extracting the singleton. -/
theorem template_decision (t : Template) (i : Impl) : templateCheck t i = [] ↔ TemplateOK t i :=
  HmsProofs.Lemmas.Check.template_decision t i

/-- A `trigger` statement receives no diagnostic iff trigger and callback exist, the callback is an `event` function, it
is not triggered from itself and the arguments fit. Of the callback's parameters and return type `TriggerOK` says only
that the checker's own comparison with what the trigger demands (`callbackShapeErr`) finds nothing. -/
theorem trigger_decision (c : TrigCase) : triggerCheck c = [] ↔ TriggerOK c :=
  HmsProofs.Lemmas.Check.trigger_decision c

section Examples

private def body (ss : List PStmt) : PBlock := .mkNoTail (PStmts.ofList ss)
private def mainFn (ss : List PStmt) : PFn := ⟨"main", [], .name "null", 0, body ss⟩
private def call (f : String) (as : List PExpr) : PExpr := .call (.ident f) (PExprs.ofList as)
private def hasErr (p : PProg) (r : Rule) : Bool := (check p).any fun d => d.level == .error && d.rule == r

/-- `let g = 1; fn f(a: int) -> int { a + g } fn main() { println(f(1)); }` is accepted and its
recorded types are the expected ones. -/
private def pOk : PProg :=
  ⟨[⟨"g", none, .int 1⟩],
   [⟨"f", [("a", .name "int")], .name "int", 0, .mk .nil (.infix .add (.ident "a") (.ident "g"))⟩,
    mainFn [.exprS (call "println" [call "f" [.int 1]])]]⟩

example : check pOk = [] := by decide +kernel
example : WellTyped pOk := check_sound_nil pOk (by decide +kernel)
example : (inferTypes pOk == [.int, .int, .int, .int, .int, .int, .int, .null, .null, .null, .fnvar [] .unknown .null, .int,
    .fn [("a", .int)] .int, .int]) = true := by decide +kernel

/-- a diverging `loop`, closures, `match`, `try`, objects, options: accepted -/
private def pRich : PProg :=
  ⟨[],
   [⟨"f", [("x", .name "int")], .name "int", 0,
      .mkNoTail (PStmts.ofList [
        .letS "h" (some (.fn [("a", .name "int")] (.name "int"))) (.lambda [("a", .name "int")] (.name "int") (.mk .nil (.ident "a"))),
        .letS "o" none (.obj (PFields.ofList [("k", .pre .some (.int 1))])),
        .loopS (.mkNoTail (PStmts.ofList [
          .exprS (.ifThen (.infix .gt (.ident "x") (.int 3)) (.mkNoTail (PStmts.ofList [.ret (call "h" [.ident "x"])]))),
          .exprS (.assign (some .add) (.ident "x") (.matchE (.ident "x")
            (PArms.ofList [(PLits.ofList [some (.int 1), some (.int 2)], .int 5), (PLits.ofList [none], .int 1)])))]))])⟩,
    mainFn [.exprS (call "println" [.tryE (.mk .nil (call "f" [.int 1])) "e" (.mk .nil (.int 0))])]]⟩

example : check pRich = [] := by decide +kernel

private def faulty (ss : List PStmt) : PProg := ⟨[], [mainFn ss]⟩

example : hasErr (faulty [.exprS (.infix .add (.int 1) (.str "a"))]) .operandMismatch = true := by decide +kernel
example : hasErr (faulty [.exprS (.infix .sub (.str "a") (.str "b"))]) .operatorNotAdmitted = true := by decide +kernel
example : hasErr (faulty [.exprS (call "assert" [.int 1])]) .argMismatch = true := by decide +kernel
example : hasErr (faulty [.exprS (call "assert" [])]) .arity = true := by decide +kernel
example : hasErr (faulty [.ret (.int 1)]) .returnMismatch = true := by decide +kernel
example : hasErr (faulty [.letS "x" none (.int 1), .exprS (.assign none (.ident "x") (.str "s"))]) .assignMismatch = true := by
  decide +kernel
example : hasErr (faulty [.letS "x" none (.float 0), .exprS (.assign (some .rem) (.ident "x") (.float 0))])
    .operatorNotAdmitted = true := by decide +kernel
example : hasErr (faulty [.whileS (.int 1) (body [])]) .conditionNotBool = true := by decide +kernel
example : hasErr (faulty [.letS "x" none (.ifElse (.bool true) (.mk .nil (.int 1)) (.mk .nil (.str "s")))]) .branchMismatch = true := by
  decide +kernel
example : hasErr (faulty [.forS "i" (.int 5) (body [])]) .notIterable = true := by decide +kernel
example : hasErr (faulty [.exprS (.ident "zz")]) .unknownIdent = true := by decide +kernel
example : hasErr (faulty [.letS "x" (some (.name "Zz")) (.int 1)]) .unknownType = true := by decide +kernel
example : hasErr (faulty [.exprS (.member (.int 1) "zz" .dot)]) .unknownMember = true := by decide +kernel
example : hasErr (faulty [.brk]) .breakOutsideLoop = true := by decide +kernel
example : hasErr (faulty [.cont]) .continueOutsideLoop = true := by decide +kernel
/-- A2: `loop { let f = fn() { break; }; break; }` -/
example : hasErr (faulty [.loopS (body [.letS "f" none (.lambda [] (.name "null") (body [.brk])), .brk])])
    .breakOutsideLoop = true := by decide +kernel
/-- A1: `fn f() -> int { let g = fn() -> str { "a" }; return "x"; }` -/
example : hasErr ⟨[], [⟨"f", [], .name "int", 0,
      body [.letS "g" none (.lambda [] (.name "str") (.mk .nil (.str "a"))), .ret (.str "x")]⟩, mainFn []]⟩
    .returnMismatch = true := by decide +kernel
/-- A5: `fn f(x: int) -> int { match x { 1 => { return 1; } } }` falls off its end -/
example : hasErr ⟨[], [⟨"f", [("x", .name "int")], .name "int", 0,
      .mk .nil (.matchE (.ident "x") (PArms.ofList [(PLits.ofList [some (.int 1)], .blk (body [.ret (.int 1)]))]))⟩, mainFn []]⟩
    .returnMismatch = true := by decide +kernel
example : hasErr ⟨[], [mainFn [], mainFn []]⟩ .duplicateDefinition = true := by decide +kernel
example : hasErr ⟨[⟨"g", none, .int 1⟩, ⟨"g", none, .int 2⟩], [mainFn []]⟩ .duplicateDefinition = true := by decide +kernel
/-- F3: `let f = 1; fn f() { } fn main() { }`, `let main = 1; fn main() { }`, `fn println() { } fn main() { }` -/
example : hasErr ⟨[⟨"f", none, .int 1⟩], [⟨"f", [], .name "null", 0, body []⟩, mainFn []]⟩ .duplicateDefinition = true := by
  decide +kernel
example : hasErr ⟨[⟨"main", none, .int 1⟩], [mainFn []]⟩ .duplicateDefinition = true := by decide +kernel
example : hasErr ⟨[], [⟨"println", [], .name "null", 0, body []⟩, mainFn []]⟩ .duplicateDefinition = true := by decide +kernel
example : check ⟨[⟨"f", none, .int 1⟩], [⟨"g", [], .name "null", 0, body []⟩, mainFn []]⟩ = [] := by decide +kernel
/-- A6: `let a = 1; let r = a..5;` -/
example : hasErr ⟨[⟨"a", none, .int 1⟩, ⟨"r", none, .range (.ident "a") (.int 5) false⟩], [mainFn []]⟩
    .nonConstantGlobal = true := by decide +kernel
example : hasErr (faulty [.letS "x" none (.list .nil)]) .implicitAny = true := by decide +kernel
example : hasErr ⟨[], []⟩ .mainShape = true := by decide +kernel
example : hasErr ⟨[], [⟨"main", [("a", .name "int")], .name "null", 0, body []⟩]⟩ .mainShape = true := by decide +kernel
example : hasErr ⟨[], [⟨"main", [], .name "int", 0, .mk .nil (.int 1)⟩]⟩ .mainShape = true := by decide +kernel

/- SP1: `fn work(n: int) { } fn main() { spawn work(1); let h = spawn work(2); let k: null = h; }` is accepted. -/
private def workFn : PFn := ⟨"work", [("n", .name "int")], .name "null", 0, body []⟩
private def spawnE (f : String) (as : List PExpr) : PExpr := .spawn f (PExprs.ofList as)
private def pSpawn (ss : List PStmt) : PProg := ⟨[], [workFn, mainFn ss]⟩

example : check (pSpawn [.exprS (spawnE "work" [.int 1])]) = [] := by decide +kernel
example : check (pSpawn [.exprS (spawnE "work" [.int 1]), .letS "h" none (spawnE "work" [.int 2]),
    .letS "k" (some (.name "null")) (.ident "h")]) = [] := by decide +kernel
example : WellTyped (pSpawn [.letS "h" none (spawnE "work" [.int 1])]) := check_sound_nil _ (by decide +kernel)
/- SP1: `let f = work; spawn f(1);`, `spawn println(1);`, a function literal as an argument, `.join()` and a printed
spawn are rejected. -/
example : hasErr (pSpawn [.letS "f" none (.ident "work"), .exprS (spawnE "f" [.int 1])]) .spawnNonFunction = true := by
  decide +kernel
example : hasErr (pSpawn [.exprS (spawnE "println" [.int 1])]) .spawnNonFunction = true := by decide +kernel
example : hasErr (pSpawn [.exprS (spawnE "work" [.lambda [] (.name "null") (body [])])]) .closureAcrossThreads = true := by
  decide +kernel
example : hasErr (pSpawn [.letS "h" none (spawnE "work" [.int 1]), .exprS (.call (.member (.ident "h") "join" .dot) .nil)])
    .unknownMember = true := by decide +kernel
example : hasErr (pSpawn [.exprS (call "println" [spawnE "work" [.int 1]])]) .nullArgument = true := by decide +kernel
example : hasErr (pSpawn [.letS "x" none (.int 1), .exprS (spawnE "x" [])]) .notCallable = true := by decide +kernel
example : hasErr (pSpawn [.exprS (spawnE "work" [])]) .arity = true := by decide +kernel

example : Compatible true (.fn [("a", .int), ("b", .list .never)] .never) (.fn [("a", .any), ("b", .list .str)] (.opt .int)) :=
  (typecheck_decides_compatibility _ _ _).mp (by decide +kernel)
/-- F1: parameters correspond by position, `fn g(a: int, b: str) -> int` is no `fn(b: str, a: int) -> int` -/
example : ¬ Compatible true (.fn [("a", .int), ("b", .str)] .int) (.fn [("b", .str), ("a", .int)] .int) :=
  fun h => absurd ((typecheck_decides_compatibility _ _ _).mpr h) (by decide +kernel)
example : typeCheck true (.fn [("a", .int), ("b", .str)] .int) (.fn [("b", .str), ("a", .int)] .int) = some .fnParamMissing := by
  decide +kernel
example : ¬ Compatible false (.obj [("a", .int), ("b", .str)]) (.obj [("a", .int)]) :=
  fun h => absurd ((typecheck_decides_compatibility _ _ _).mpr h) (by decide +kernel)

/-- template decision table: the required method with a wrong parameter type is reported, the
matching implementation is not -/
example : templateCheck fooFeature ⟨["light"], [⟨"dim", [("percent", .int)], .bool, 0, true⟩]⟩ = [] := by decide +kernel
example : templateCheck fooFeature ⟨["light"], [⟨"dim", [("percent", .str)], .bool, 0, true⟩]⟩ = [.tc .typeMismatch] := by
  decide +kernel
example : templateCheck fooFeature ⟨["light", "temperature"], []⟩ = [.capabilityConflict] := by decide +kernel
example : triggerCheck ⟨true, true, false, 2, [("n", .int)], .null, [("elapsed", .int)], .null, [.int], [.int]⟩ = [] := by
  decide +kernel
example : triggerCheck ⟨true, true, false, 2, [("n", .str)], .null, [("elapsed", .int)], .null, [.int], [.int]⟩
    = [.tc .fnParamMissing] := by decide +kernel

end Examples

end HmsProofs.C03
