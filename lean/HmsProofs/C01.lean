import HmsProofs.Lemmas.SemStep
/-!
# C01 — compiled execution is faithful to the source program

Part 1 (this file, unconditional): the specification semantics `Hms.Core` implements the
conventions the property names — 64-bit two's-complement integers, truncating division,
shift rules, short-circuit `&&`/`||`, `for` over a snapshot.
Part 2 (`HmsProofs.C01VM`): the compiler/VM model simulates this semantics on a fragment of the language.
-/
namespace HmsProofs.C01
open Hms.Core

/-- `+`, `-`, `*` and unary `-` give the true result reduced into the signed 64-bit range. -/
theorem add_wraps (a b : I64) : (a + b).toInt = (a.toInt + b.toInt).bmod (2 ^ 64) := by
  simp [BitVec.toInt_add]

theorem sub_wraps (a b : I64) : (a - b).toInt = (a.toInt - b.toInt).bmod (2 ^ 64) := by
  simp [BitVec.toInt_sub]

theorem mul_wraps (a b : I64) : (a * b).toInt = (a.toInt * b.toInt).bmod (2 ^ 64) := by
  simp [BitVec.toInt_mul]

theorem neg_wraps (a : I64) : (-a).toInt = (-a.toInt).bmod (2 ^ 64) := by
  simp [BitVec.toInt_neg]

/-- `MaxInt64 + 1 = MinInt64`. -/
example : ((9223372036854775807 : I64) + 1).toInt = -9223372036854775808 := by decide

/-- Division truncates toward zero and the remainder takes the sign of the dividend
(`MinInt64 / -1` wraps to `MinInt64`). -/
theorem div_truncates (a b : I64) : (a.sdiv b).toInt = (a.toInt.tdiv b.toInt).bmod (2 ^ 64) := by
  simp [BitVec.toInt_sdiv]

theorem rem_sign_of_dividend (a b : I64) : (a.srem b).toInt = a.toInt.tmod b.toInt := by
  simp [BitVec.toInt_srem]

/-- A zero divisor is never a value of `/` or `%`: it is the fatal `ValueError`. -/
theorem div_by_zero_is_fatal (a : I64) (sp : Span) (s : St) :
    ∃ msg, (intOp .div a 0 sp) s = (.error (.fatal "ValueError" msg sp), s)
      ∧ (intOp .rem a 0 sp) s = (.error (.fatal "ValueError" msg sp), s) :=
  ⟨_, rfl, rfl⟩

/-- Shifts by 64 or more give 0 (`<<`), and 0 or −1 by the sign of the left operand (`>>`). -/
theorem shl_large (a b : I64) (h : 64 ≤ b.toNat) : shlI a b = 0 := by
  simp [shlI, h]

theorem shr_large (a b : I64) (h : 64 ≤ b.toNat) : (shrI a b).toInt = if a.toInt < 0 then -1 else 0 := by
  unfold shrI
  have : min b.toNat 64 = 64 := by omega
  rw [this, BitVec.toInt_sshiftRight, Int.shiftRight_eq_div_pow]
  have h1 := BitVec.toInt_lt (x := a)
  have h2 := BitVec.le_toInt (x := a)
  simp at h1 h2
  split <;> omega

/-- A negative shift count is the fatal `ValueError`, never a value. -/
theorem negative_shift_is_fatal (a b : I64) (sp : Span) (s : St) (h : b.toInt < 0) :
    (intOp .shl a b sp) s = (.error (.fatal "ValueError" "Negative shift count: this is operation is illegal" sp), s)
      ∧ (intOp .shr a b sp) s = (.error (.fatal "ValueError" "Negative shift count: this is operation is illegal" sp), s) := by
  constructor <;> simp [intOp, h] <;> rfl

/-- `l && r` does not evaluate `r` when `l` is false; `l || r` does not when `l` is true:
the result and the state are those after `l`. -/
theorem and_short_circuits (cfg : Cfg) (fuel : Nat) (sp : Span) (ty : Ty) (l r : Expr) (s s' : St)
    (h : evalExpr cfg fuel l s = (.ok (.bool false), s')) :
    evalExpr cfg (fuel + 1) (.infix sp ty .and l r) s = (.ok (.bool false), s') := by
  rw [Sim.evalExpr_and, h]

theorem or_short_circuits (cfg : Cfg) (fuel : Nat) (sp : Span) (ty : Ty) (l r : Expr) (s s' : St)
    (h : evalExpr cfg fuel l s = (.ok (.bool true), s')) :
    evalExpr cfg (fuel + 1) (.infix sp ty .or l r) s = (.ok (.bool true), s') := by
  rw [Sim.evalExpr_or, h]

/-- `for` over a snapshot: `forRun` holds the elements as a value and after a completed round goes on with the
tail, so no heap update by the body changes what is visited. That `for` reads the elements once, before the
first round, is the equation `Sim.evalStmt_forS`, not this statement. -/
theorem for_visits_snapshot (cfg : Cfg) (fuel : Nat) (name : String) (x : Val) (xs : List Val)
    (body : Block) (s s' : St) (v : Val)
    (h : (inScope (do declare name x; evalBlock cfg fuel body)) s = (.ok v, s')) :
    forRun cfg (fuel + 1) name (x :: xs) body s = forRun cfg fuel name xs body s' := by
  simp only [forRun]
  rw [h]

/-- A singleton the host provides starts as the host's value … -/
theorem singleton_starts_as_host_value (host : HostSingletons) (name : String) (t : Ty) (hv : HostVal)
    (h : host.lookup name = some hv) : singletonInit host name t = hostToVal hv := by
  simp [singletonInit, h]

/-- … every other singleton as the zero value of its type. -/
theorem singleton_starts_as_zero_value (host : HostSingletons) (name : String) (t : Ty)
    (h : host.lookup name = none) : singletonInit host name t = zeroValue t := by
  simp [singletonInit, h]

/-- A host that provides nothing (the default configuration) gives every singleton its zero value. -/
theorem no_host_singletons (name : String) (t : Ty) : singletonInit [] name t = zeroValue t := rfl

/-- A function `fn f(c: $S, a: T)` is called with the normal argument only; the activation binds `a` to it and
`c` to the current value of the module's singleton `$S` (the value itself: an object or list is shared with
`$S`, a scalar is copied), whatever the caller's scopes are. -/
theorem extraction_binds_singleton (cfg : Cfg) (fuel : Nat) (sp : Span) (m c a sname sname' : String) (tc ta : Ty)
    (stmts : List Stmt) (e : Option Expr) (bsp : Span) (bty : Ty) (v g : Val) (s s₁ : St) (r : Val)
    (hd : ¬ s.depth > cfg.callLimit) (hg : s.globals.lookup (m, sname) = some g)
    (h : evalBlock cfg fuel (.mk ⟨0,0,0,0⟩ .null stmts e)
          { s with scopes := [[(c, g), (a, v)]], module := m, depth := s.depth + 1 } = (.ok r, s₁)) :
    callBody cfg (fuel + 1) sp m [⟨c, tc, true, sname⟩, ⟨a, ta, false, sname'⟩] (.mk bsp bty stmts e) [v] s
      = (.ok r, { s₁ with scopes := s.scopes, module := s.module, depth := s.depth }) := by
  simp [callBody, hd, hg, h]

/-- The caller cannot pass the singleton: an argument list as long as the full parameter list is
outside the language (the analyzer rejects it; here the call is not given a meaning). -/
theorem extraction_takes_no_argument (cfg : Cfg) (fuel : Nat) (sp : Span) (m c a sname sname' : String) (tc ta : Ty)
    (body : Block) (v w : Val) (s : St) (hd : ¬ s.depth > cfg.callLimit) :
    callBody cfg (fuel + 1) sp m [⟨c, tc, true, sname⟩, ⟨a, ta, false, sname'⟩] body [w, v] s
      = (.error (.unsupported "arity"), s) := by
  simp [callBody, hd]

end HmsProofs.C01
