import Hms.GenBridge
import HmsGen.Enums
/-! Ties between hand-written enumerations of the model and the regenerated tables. -/
namespace HmsProofs.Tables
open Hms

/-- The model's `TokKind` lists the Go constants of `lexer.TokenKind` in the same order. -/
theorem kind_names_agree : TokKind.all.map TokKind.goName = HmsGen.goKindNames := by decide +kernel

theorem kind_codes_agree : TokKind.all.map TokKind.code = List.range HmsGen.goKindNames.length := by
  decide +kernel

/-- Every non-zero entry of the regenerated `Prec()` table belongs to a named kind. -/
theorem prec_table_in_range : ∀ e ∈ HmsGen.precTable, e.1 < TokKind.all.length := by decide +kernel

end HmsProofs.Tables
