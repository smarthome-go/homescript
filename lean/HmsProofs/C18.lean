import HmsProofs.Lemmas.MembersTyped
/-!
# C18 — every builtin member the analyzer offers exists and behaves as typed

The table theorems are `decide +kernel` over `HmsGen/Members.lean`, regenerated from the Go code on every
run by calling `ast.<Type>.Fields()` and `Fields()` of a representative value of both value packages. The
model theorems hold for all lists and all 64-bit indices; `_total`: the equation covers every input and
none of its right-hand sides is a panic.

`xs.length < 2 ^ 63` (`goSized`): a Go slice or string is never longer than the largest `int`. It is the
invariant of Go's `len`, not a restriction of the language fragment.

`callMember` takes the flag `vm` (which runtime) and never looks at it: the model has no member on which the
runtimes differ. A theorem that quantifies over it is one statement, not two.
-/
namespace HmsProofs.C18
open Hms.Members HmsGen HmsProofs.Lemmas.Members

def inRuntime (tbl : List (String × String × String)) (rep member shape : String) : Bool :=
  tbl.any fun r => r.1 == rep && r.2.1 == member && r.2.2 == shape

/-- Every member the analyzer offers on a type exists on the runtime value of that type in both runtimes,
with the same shape (field or method). -/
theorem members_exist :
    ∀ r ∈ membersAnalyzer,
      inRuntime membersVM r.1 r.2.1 r.2.2.1 = true ∧ inRuntime membersTree r.1 r.2.1 r.2.2.1 = true := by
  decide +kernel

/-- No `Fields()` call of a representative value panicked (a panic is dumped as a `<PANIC>` row). A
representative whose `Fields()` answers with an interrupt has no rows and fails `members_exist` if the
analyzer offers it a member; `null`, which is offered none, would pass unnoticed. -/
theorem no_fields_panic :
    (∀ r ∈ membersVM, r.2.1 ≠ "<PANIC>") ∧ (∀ r ∈ membersTree, r.2.1 ≠ "<PANIC>") := by
  decide +kernel

/-- The analyzer's string table and structural table list the same (rep, member, shape) rows, and every
representative has a dumped type. -/
theorem typed_table_covers :
    (membersAnalyzer.map fun r => (r.1, r.2.1, r.2.2.1 == "method"))
        = (membersAnalyzerTyped.map fun r => (r.1, r.2.1, r.2.2.1))
      ∧ (∀ r ∈ membersAnalyzerTyped, (repType r.1).isSome = true) := by
  decide +kernel

/-- For every row inside the model, the signature the analyzer advertises (regenerated) is the one the model
is proved against (`expectedSig`/`expectedField`). -/
theorem member_sigs_agree :
    ∀ r ∈ membersAnalyzerTyped, modelled r.1 r.2.1 r.2.2.1 = true →
      ∃ t, repType r.1 = some t ∧
        (if r.2.2.1 then expectedSig t r.2.1 = some (r.2.2.2.1, r.2.2.2.2)
         else r.2.2.2.1 = [] ∧ expectedField t r.2.1 = some r.2.2.2.2) := by
  decide +kernel

/-- `member_typed_partial` is not vacuous: the model covers 92 of the table's 156 rows for /repo as it
stands. The table is regenerated on every run; the bound 80 leaves it room to change. -/
theorem modelled_rows_many :
    80 ≤ (membersAnalyzerTyped.filter fun r => modelled r.1 r.2.1 r.2.2.1).length := by
  decide +kernel

/-- The converse, a report and not an obligation: members a runtime has and the analyzer does not offer.
The driver computes these rows itself (`Driver.runtimeOnlyRows`). -/
def runtimeOnly (tbl : List (String × String × String)) : List (String × String) :=
  (tbl.filter fun r => !(membersAnalyzer.any fun a => a.1 == r.1 && a.2.1 == r.2.1)).map fun r => (r.1, r.2.1)

/-- `IndexValue` on a list: the element at the wrapped position or, out of range, the IndexOutOfBounds
interrupt; never a panic, never another element. -/
theorem index_total (xs : List MVal) (i : I64) (hl : xs.length < 2 ^ 63) :
    (∃ k v, wrapSpec i.toInt xs.length = some k ∧ xs[k]? = some v
        ∧ indexValue (.list xs) (.int i) = .ok v (.list xs))
    ∨ (wrapSpec i.toInt xs.length = none
        ∧ ∃ msg, indexValue (.list xs) (.int i) = .fatal "IndexOutOfBounds" msg) := by
  cases hw : wrapSpec i.toInt xs.length with
  | some k =>
    obtain ⟨v, hv, he⟩ := (listIndex_spec xs i hl).1 k hw
    exact Or.inl ⟨k, v, rfl, hv, he⟩
  | none => exact Or.inr ⟨rfl, _, (listIndex_spec xs i hl).2 hw⟩

/-- The same for strings (by code point). -/
theorem str_index_total (cs : List Char) (i : I64) (hl : cs.length < 2 ^ 63) :
    (∃ k c, wrapSpec i.toInt cs.length = some k ∧ cs[k]? = some c
        ∧ indexValue (.str cs) (.int i) = .ok (.str [c]) (.str cs))
    ∨ (wrapSpec i.toInt cs.length = none
        ∧ ∃ msg, indexValue (.str cs) (.int i) = .fatal "IndexOutOfBounds" msg) := by
  cases hw : wrapSpec i.toInt cs.length with
  | some k =>
    obtain ⟨c, hc, he⟩ := (strIndex_spec cs i hl).1 k hw
    exact Or.inl ⟨k, c, rfl, hc, he⟩
  | none => exact Or.inr ⟨rfl, _, (strIndex_spec cs i hl).2 hw⟩

/-- The out-of-range message names the wrapped index (what the implementation prints). -/
theorem index_message (xs : List MVal) (i : I64) (hl : xs.length < 2 ^ 63)
    (hw : wrapSpec i.toInt xs.length = none) :
    indexValue (.list xs) (.int i)
        = .fatal "IndexOutOfBounds" (oobMsgIndex "list" xs.length (wrapIdx i (goLen xs)))
      ∧ (wrapIdx i (goLen xs)).toInt = wrappedInt i.toInt xs.length := by
  exact ⟨(listIndex_spec xs i hl).2 hw, toInt_wrapIdx xs i hl⟩

/-- `insert(index, v)` at the wrapped position `k` (`k = len` appends), or the interrupt. -/
theorem insert_total (vm : Bool) (xs : List MVal) (i : I64) (v : MVal) (hl : xs.length < 2 ^ 63) :
    (∃ k, wrapSpecIns i.toInt xs.length = some k
        ∧ callMember vm (.list xs) "insert" [.int i, v] = .ok .null (.list (xs.take k ++ v :: xs.drop k)))
    ∨ (wrapSpecIns i.toInt xs.length = none
        ∧ ∃ msg, callMember vm (.list xs) "insert" [.int i, v] = .fatal "IndexOutOfBounds" msg) := by
  cases hw : wrapSpecIns i.toInt xs.length with
  | some k => exact Or.inl ⟨k, rfl, (listInsert_spec xs i v hl).1 k hw⟩
  | none => exact Or.inr ⟨rfl, _, (listInsert_spec xs i v hl).2 hw⟩

theorem remove_total (vm : Bool) (xs : List MVal) (i : I64) (hl : xs.length < 2 ^ 63) :
    (∃ k, wrapSpec i.toInt xs.length = some k
        ∧ callMember vm (.list xs) "remove" [.int i] = .ok .null (.list (xs.eraseIdx k)))
    ∨ (wrapSpec i.toInt xs.length = none
        ∧ ∃ msg, callMember vm (.list xs) "remove" [.int i] = .fatal "IndexOutOfBounds" msg) := by
  cases hw : wrapSpec i.toInt xs.length with
  | some k => exact Or.inl ⟨k, rfl, (listRemove_spec xs i hl).1 k hw⟩
  | none => exact Or.inr ⟨rfl, _, (listRemove_spec xs i hl).2 hw⟩

theorem pop_total (vm : Bool) (xs : List MVal) (hl : xs.length < 2 ^ 63) :
    callMember vm (.list xs) "pop" [] =
      match xs.getLast? with
      | none => .ok .none (.list xs)
      | some v => .ok (.some v) (.list xs.dropLast) :=
  listPop_spec xs hl

theorem pop_front_total (vm : Bool) (xs : List MVal) (hl : xs.length < 2 ^ 63) :
    callMember vm (.list xs) "pop_front" [] =
      match xs with
      | [] => .ok .none (.list xs)
      | v :: rest => .ok (.some v) (.list rest) :=
  listPopFront_spec xs hl

theorem last_total (vm : Bool) (xs : List MVal) (hl : xs.length < 2 ^ 63) :
    callMember vm (.list xs) "last" [] =
      match xs.getLast? with
      | none => .ok .none (.list xs)
      | some v => .ok (.some v) (.list xs) :=
  listLast_spec xs hl

theorem push_total (vm : Bool) (xs : List MVal) (v : MVal) :
    callMember vm (.list xs) "push" [v] = .ok .null (.list (xs ++ [v]))
      ∧ callMember vm (.list xs) "push_front" [v] = .ok .null (.list (v :: xs)) :=
  ⟨rfl, rfl⟩

/-- `substring(upper)`: never a panic on a negative bound (repair X8), never half a character (repair X14). -/
theorem substring_total (vm : Bool) (cs : List Char) (u : I64) (hl : cs.length < 2 ^ 63) :
    callMember vm (.str cs) "substring" [.int u] =
      if 0 ≤ u.toInt ∧ u.toInt < cs.length then .ok (.str (cs.take u.toInt.toNat)) (.str cs)
      else .throw "index out of range" :=
  strSubstring_spec cs u hl

/-- `repeat(count)`: an exception for a negative count or an output longer than the largest `int`, so
`strings.Repeat` never panics (repair X8). -/
theorem repeat_total (vm : Bool) (cs : List Char) (n : I64) :
    callMember vm (.str cs) "repeat" [.int n] =
      if n.toInt < 0 then .throw "negative repeat count"
      else if 0 < byteLen cs ∧ n.toInt > (maxInt : Int) / (byteLen cs : Int) then .throw "repeat output length overflow"
      else .ok (.str (List.replicate n.toNat cs).flatten) (.str cs) :=
  strRepeat_spec cs n

/-- Indexing a value of a representative type with an index of the required type yields a value of the
element type the analyzer assigns, or an interrupt; never a panic. For objects and any-objects the assigned
type is `any`, which every value has: there nothing is said about the value returned. -/
theorem index_typed (T R : GTy) (hT : indexResultType T = some R) (recv idx : MVal)
    (hr : conforms recv T = true) (hz : goSized recv)
    (hi : conforms idx (match T with | .obj | .anyobj => GTy.str | _ => GTy.int) = true) :
    typedOutcome (indexValue recv idx) T R :=
  typed_index T R hT recv idx hr hz hi

/-- Every row of the analyzer table, modelled or not, behaves as typed (the conclusion of `member_typed_partial`).
Not proved: the members outside the model (`split`, `replace`, `to_json`, `sort`, `parse_*`, …) are judged on the
implementation by the oracle of the check only. -/
def member_typed_full : Prop :=
  ∀ r ∈ membersAnalyzerTyped, ∀ (vm : Bool) (t : GTy), repType r.1 = some t →
    ∀ (recv : MVal) (args : List MVal), conforms recv t = true → goSized recv →
      conformsArgs args r.2.2.2.1 = true →
      typedOutcome (if r.2.2.1 then callMember vm recv r.2.1 args else fieldMember recv r.2.1) t r.2.2.2.2

/-- Every modelled member of the regenerated analyzer table behaves as typed in the model: called on any
receiver of the representative's type with arguments of the advertised parameter types it yields a value of
the advertised result type (and leaves a receiver of its type), or an interrupt; never a panic. `_partial`:
restricted to `modelled`, the members `expectedSig`/`expectedField` list. -/
theorem member_typed_partial :
    ∀ r ∈ membersAnalyzerTyped, modelled r.1 r.2.1 r.2.2.1 = true →
      ∀ (vm : Bool) (t : GTy), repType r.1 = some t →
        ∀ (recv : MVal) (args : List MVal), conforms recv t = true → goSized recv →
          conformsArgs args r.2.2.2.1 = true →
          typedOutcome (if r.2.2.1 then callMember vm recv r.2.1 args else fieldMember recv r.2.1)
            t r.2.2.2.2 := by
  intro r hr hm vm t ht recv args hc hz ha
  obtain ⟨t', ht', hsig⟩ := member_sigs_agree r hr hm
  rw [ht] at ht'
  injection ht' with ht'
  subst ht'
  cases hmeth : r.2.2.1 with
  | true =>
    rw [hmeth] at hsig
    simp only [if_true] at hsig ⊢
    exact typed_generic t r.2.1 r.2.2.2.1 r.2.2.2.2 hsig vm recv args hc hz ha
  | false =>
    rw [hmeth] at hsig
    simp only [Bool.false_eq_true, if_false] at hsig ⊢
    exact typed_field_generic t r.2.1 r.2.2.2.2 hsig.2 recv hc

/-! ## Non-vacuity -/

/-- `[1, 2, 3][-1] = 3`; `[1, 2, 3][-4]` is out of range. -/
example : indexValue (.list [.int 1, .int 2, .int 3]) (.int (-1)) = .ok (.int 3) (.list [.int 1, .int 2, .int 3]) := by
  rfl
example : ∃ m, indexValue (.list [.int 1, .int 2, .int 3]) (.int (-4)) = .fatal "IndexOutOfBounds" m :=
  ⟨_, rfl⟩

/-- `[1, 2].insert(-1, 9)` gives `[1, 9, 2]`. -/
example : callMember true (.list [.int 1, .int 2]) "insert" [.int (-1), .int 9]
    = .ok .null (.list [.int 1, .int 9, .int 2]) := by rfl
example : modelled "list_int" "insert" true = true ∧ modelled "str" "substring" true = true
    ∧ modelled "range" "end" false = true ∧ modelled "option_str" "unwrap_or" true = true := by decide +kernel

end HmsProofs.C18
