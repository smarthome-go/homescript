import HmsProofs.Lemmas.SimStraight
import HmsProofs.Lemmas.SimLabels
import HmsProofs.Lemmas.SimPureExec
import HmsProofs.Lemmas.SimStmtExec
import HmsProofs.Lemmas.SimFnExec
import HmsProofs.Lemmas.SimHGlue
import HmsProofs.Lemmas.SimHEntry
import HmsProofs.Lemmas.SimBridge
/-!
# C01 (part 2) — the compiler and the VM simulate the specification semantics

Property-level statements about the models `Hms.Core.Comp` (compiler) and `Hms.Core.VM` (virtual
machine) versus `Hms.Core.evalExpr` (specification), each written out in full and followed by a concrete
instance; the proofs are in `HmsProofs/Lemmas/Sim*.lean`. The `compile…_frag`, `…_spec` and `…_vm`
theorems say what the compiler emits, one equation of the specification, one instruction of the VM.
Sections 1–8 (the passes `relocateLabels` and `renameVariables`, the fragments without calls) run on
`execN`, plain `VM.step` sequences; from section 9 on VM runs are `execHN` — instruction sequences
including `Core.Run`'s exception dispatch — on states `mkS s calls mp k stk mem w`: the base state `s`
with these frames, memory pointer, `k` more steps on the counter, operand stack, memory cells and world
`w` = heap and output.

In sections 9–23 every `…_correct` theorem is a projection of one theorem, `HmsProofs.Sim.allP`
(`Lemmas/SimHAll`: every simulation statement, at every fuel, in every sound context `G`), read through
`PE.simGE`, `PArgs.simArgs` (expressions, argument lists), `StmtM.simGS` (statements) and `PX.simOE`
(expressions whose value carries an origin — the heap cell `l[i]` or `o.f` it was read from, through
which `Assign` writes, section 17; `PX` from `allP`'s `pe` by `px_all`); the hypotheses
`hst : st = …` of the per-construct theorems only fix the shape of the statement
(`cast_correct_partial` alone builds its two-link `SimM` chain here). The driver theorems
(`entry_run`, `entry_out`) are `Sim.entry_run` of `Lemmas/SimHEntry`.

The hypotheses:
* `Placed lab σ c ip code`: the VM code `c` of the current function holds `code` (labels stripped,
  lowered through `lab`, `σ`) from `ip` on, and `lab` sends each label defined in it to its position.
* `StRel`: level by level the specification's scopes and the compiler's bind the same tracked
  identifiers, each mangled name's slot is a legal cell holding the specification's value, live names
  are pairwise distinct and below the current counters. `GRel`: `StRel`, the function's cleanup label
  visible to `return`, and the iterator cells of the enclosing `for` loops keeping their values.
* `T` (`A.T` in an activation, one list per function in `progCheck`), the *tracked identifiers*, are
  those `StRel` speaks about: each is bound on both sides or on neither. It is a parameter because the
  compiler's scopes also bind names the specification does not have (the cleanup key, `$iter_x`), which
  must stay outside `T`, while every identifier the code declares, reads, assigns or calls (`println`
  included) is in `T`, so that "no local shadows the callee" is part of the relation.
* `G : GCtx` with `G.OK'` (`G.OK`: moreover `G.fr = false` — no `for` loops, and a value pushed under
  `SimGE` has no origin, `OrgOK`; one pushed under `Sim.SimOE`, sections 17–18, may have): every
  callable function (`G.K`) of the module is `FnOK`; frames are at most `G.F` cells and
  `G.B + (callLimit + 2) · G.F < memory` (the VM has no depth check of its own at `Call_Imm`; the room
  is what keeps `AddMempointer` from failing before the specification's `StackOverFlow`); `println` and
  `throw` are not shadowed. `A : Act` with `A.OK`: an activation — frame `⟨A.fn, ·⟩ :: A.rest`, memory
  pointer `A.mp` after the prologue, code `A.c`, slots `A.σ` injective and below the frame size `A.nv` on the
  storage names `A.N` (`hN`: those the code mentions), label positions `A.lab`, cleanup label `A.cl` (where
  `return` jumps, allowed when `A.rt`), function table `A.φ`.
* `SpecOK G mp st`: the specification state is in the program's module, has no globals, and its call
  depth `d` bounds the memory pointer, `mp ≤ G.B + d · G.F` (with `G.fr = true` also `HeapInv`,
  section 19).

The conclusions: every `Sim…` predicate is a case split on the specification's outcome.
* A value, or normal completion ↦ of the specification state only output and heap (for statements
  also the scopes) changed, and the VM is at the end of the placed code with the value pushed, resp.
  with the operand stack as before and the relation holding for the new scopes and memory.
* `break` / `continue` ↦ the VM is at the innermost loop's break / continue label, and the scopes `d`
  levels up are related again; `return v` ↦ the VM is at the function's cleanup label with `v` pushed.
* An exception `(msg, span)` (section 14) ↦ the VM is at a `Throw` instruction raising it, possibly some
  activations deeper (`RunsT`, `RunsCallT`).
* A fatal error other than the specification's own `StackOverFlow` ↦ the same fatal interrupt (kind,
  message, span) after the same output.
* `unsupported` / `timeout` of the specification ↦ no claim: the predicate is `True`.
In every case the cells below the activation's frame (the callers') are untouched (`MemLe`).

The worked programs — `progX` of Example 9, of which Examples 10–13 treat parts, and one each in Examples
14–22 — follow the pattern of Example 9: the program run on both models by kernel evaluation (a VM run
ending `ok` leaves a clean core: operand stack, memory pointer and frames — Examples 14, 22: handlers —
at 0; Example 17 ends in a fatal error); `Comp.compile`'s code compared, instruction by
instruction, with `cgFn …` relocated and renamed; the context from one Boolean, `progCheck`, evaluated
by the kernel (`ProgChecked`, section 9); and `run` through the theorems (`ProgChecked.out`,
section 12; Example 17: `entry_runF`).
-/
namespace HmsProofs.C01VM
open Hms.Core Hms.Core.Comp Hms.Core.VM HmsProofs.Sim

/-! ## 1. `relocateLabels` -/

/-- If `relocateLabels` succeeds, the function's code is the emitted code without the `Label`
pseudo-instructions, in order and unchanged except that the label operand of `Jump` / `JumpIfFalse` /
`SetTryLabel` becomes `labelIndex code l`. -/
theorem relocate_shape (code : SCode) (out : List (Instr Nat String × Span)) (h : relocate code = some out) :
    out = (stripLabels code).map (resolve (labelIndex code)) ∧ out.length = (stripLabels code).length :=
  ⟨relocate_some code out h, relocate_length code out h⟩

/-- `l ↦ n` iff `n` real instructions precede the *last* `label l` of the code (the Go map keeps
the last definition): the output index of the first real instruction at or after that label. -/
theorem label_resolution (code : SCode) (l : String) (n : Nat) :
    labelIndex? code l = some n ↔
      ∃ pre sp post, code = pre ++ (Instr.label l, sp) :: post ∧
        (∀ sp', (Instr.label l, sp') ∉ post) ∧ n = (stripLabels pre).length ∧
        stripLabels code = stripLabels pre ++ stripLabels post := by
  rw [labelIndex?_eq_some_iff]
  constructor
  · rintro ⟨pre, sp, post, rfl, h1, h2⟩
    exact ⟨pre, sp, post, rfl, h1, h2, by rw [stripLabels_append, stripLabels_cons_label]⟩
  · rintro ⟨pre, sp, post, h0, h1, h2, _⟩
    exact ⟨pre, sp, post, h0, h1, h2⟩

/-- A resolved label never points beyond the end of the function (it may equal the length: a
label at the very end). -/
theorem label_index_le (code : SCode) (out) (h : relocate code = some out) (l : String)
    (hl : ∃ sp, (Instr.label l, sp) ∈ code) : labelIndex code l ≤ out.length :=
  relocate_target_le code out h l hl

/-- Removing labels never shifts the source map: the i-th relocated instruction keeps the span it
was emitted with. -/
theorem sourcemap_aligned (code : SCode) (out) (h : relocate code = some out) :
    out.map (·.2) = (stripLabels code).map (·.2) :=
  relocate_spans code out h

/-- `relocateLabels` fails exactly when some jump target was never defined. -/
theorem relocate_fails_iff (code : SCode) :
    relocate code = none ↔
      ∃ p ∈ code, ∃ l, target? p.1 = some l ∧ ∀ sp, (Instr.label l, sp) ∉ code :=
  relocate_eq_none_iff code

/-- What `relocateLabels` answers when it succeeds (`relocate_shape`). -/
private def relG (c : SCode) : NCode := (stripLabels c).map (resolve (labelIndex c))

private theorem relocate_relG (c : SCode) (h : (relocate c).isSome = true) : relocate c = some (relG c) := by
  obtain ⟨r, hr⟩ := Option.isSome_iff_exists.mp h
  rw [hr, relocate_some c r hr]; rfl

section Example1
private def s1 : Span := ⟨1, 1, 1, 1⟩
private def s2 : Span := ⟨2, 2, 2, 2⟩
private def relocEx : SCode :=
  [(.label "a", s1), (.nop, s1), (.jumpIfFalse "b", s2), (.label "a", s2), (.jump "a", s1), (.label "b", s2)]

example : relocate relocEx = some [(.nop, s1), (.jumpIfFalse 3, s2), (.jump 2, s1)] := rfl
example : labelIndex relocEx "a" = 2 ∧ labelIndex relocEx "b" = 3 := by decide
example : relocate [((.jump "nowhere" : SInstr), s1)] = none := rfl
end Example1

/-! ## 2. `renameVariables` -/

/-- Renaming is instruction-wise: only the operand of `GetVarImm` / `SetVarImm` changes (mangled
name ↦ `slotFn code name`). -/
theorem renameVars_shape (code : NCode) :
    renameVars code = code.map (fun p => (mapLV id (slotFn code) p.1, p.2)) ∧
    (renameVars code).length = code.length ∧
    (renameVars code).map (·.2) = code.map (·.2) :=
  ⟨renameVars_eq_map code, renameVars_length code, renameVars_spans code⟩

/-- Two occurrences get the same slot iff they carry the same mangled name. -/
theorem slots_injective (code : NCode) (v w : String) (hv : v ∈ varNames code) (hw : w ∈ varNames code) :
    slotFn code v = slotFn code w ↔ v = w :=
  slotFn_inj code v w hv hw

/-- Every slot is below the number of distinct names of the function. -/
theorem slots_dense (code : NCode) :
    (distinctNames code).Nodup ∧ (∀ v, v ∈ distinctNames code ↔ v ∈ varNames code) ∧
    ∀ v ∈ varNames code, slotFn code v < (distinctNames code).length :=
  ⟨distinctNames_nodup code, mem_distinctNames code, slotFn_lt code⟩

section Example2
private def s0 : Span := ⟨0, 0, 0, 0⟩
private def renEx : NCode :=
  [(.setVar "@m.x.0", s0), (.setVar "@m.y.0", s0), (.getVar "@m.x.0", s0), (.jump 7, s0), (.getVar "@m.y.0", s0)]

example : renameVars renEx =
    [(.setVar 0, s0), (.setVar 1, s0), (.getVar 0, s0), (.jump 7, s0), (.getVar 1, s0)] := rfl
example : slotFn renEx "@m.x.0" = 0 ∧ slotFn renEx "@m.y.0" = 1 ∧ distinctNames renEx = ["@m.x.0", "@m.y.0"] := by
  decide
end Example2

/-! ## 3. The instruction stream of a straight-line expression -/

/-- For `e` built from int/bool/string/null/none literals, parentheses, local variables, prefix
operators and the infix operators other than `&&`/`||`, with every variable in scope, `compileExpr`
appends exactly `cstraightSp ρ e` (`ρ = ρOf cs`, the scope map) to the current function and changes
nothing else of the compiler state; that code has neither labels nor jumps. In the `compile…` theorems
`fuel` is the compiler model's (one per nested call of `compileExpr` and its like; `Frag.depth`, `depthE`,
`cdE`, `cdSs` give an amount that suffices), not the specification's fuel of the `…_correct` theorems. -/
theorem compileExpr_straight (fuel : Nat) (e : Expr) (cs : CState)
    (hs : Frag.straight e = true) (hfuel : Frag.depth e ≤ fuel)
    (hv : ∀ x ∈ Frag.vars e, (ρOf cs x).isSome = true) :
    (compileExpr fuel e).run cs = ((), appendCode cs (cstraightSp (ρOf cs) e)) ∧
    (∀ f, cs.fns.lookup (cs.currModule, cs.currFn) = some f →
      (appendCode cs (cstraightSp (ρOf cs) e)).fns.lookup (cs.currModule, cs.currFn)
        = some { f with code := f.code ++ cstraightSp (ρOf cs) e }) ∧
    (∀ p ∈ cstraightSp (ρOf cs) e, isLabel p.1 = false ∧ target? p.1 = none) :=
  ⟨Sim.compileExpr_straight fuel e cs hs hfuel hv,
   fun f hf => appendCode_lookup cs _ f hf,
   cstraightSp_plain _ e⟩

section Example3
private def sp0 : Span := ⟨0, 0, 0, 0⟩
private def spA : Span := ⟨1, 2, 1, 6⟩
private def spM : Span := ⟨1, 1, 1, 11⟩
/-- `(1 + x) * 3` -/
def ex1 : Expr :=
  .infix spM .int .mul
    (.grouped sp0 (.infix spA .int .add (.int sp0 1) (.ident sp0 .int "x" false false false)))
    (.int sp0 3)

def cs0 : CState :=
  { fns := [(("main", "main"), { name := "@main.main", code := [(.addMp 1, sp0)] })],
    currFn := "main", currModule := "main", scopes := [[("x", "@main.x.0")]] }

example : Frag.straight ex1 = true ∧ Frag.depth ex1 ≤ 4 ∧ ∀ x ∈ Frag.vars ex1, (ρOf cs0 x).isSome = true := by
  decide

example : cstraightSp (ρOf cs0) ex1 =
    [(.copyPush (.int 1), sp0), (.getVar "@main.x.0", sp0), (.add, spA), (.copyPush (.int 3), sp0), (.mul, spM)] := rfl

example : (((compileExpr 4 ex1).run cs0).2.fns.lookup ("main", "main")).map (·.code) =
    some ([(.addMp 1, sp0)] ++ cstraightSp (ρOf cs0) ex1) := by
  rw [(compileExpr_straight 4 ex1 cs0 (by decide) (by decide) (by decide)).1]
  rfl
end Example3

/-! ## 4. Straight-line code on the VM agrees with the specification -/

/-- The frame's code holds the lowered instructions of `e` from `ip` on, every variable of `e` is
related by `EnvRel` (visible in the specification's scopes, resolved by `ρ`, its slot inside the memory
limit and holding the same value) and the heaps agree. Then a value `v` of the specification is
reached by exactly `n = |code of e|` `VM.step`s without interrupt or panic (`done s n v`: `ip + n`,
`v` pushed, nothing else changed), and the specification's state is unchanged. -/
theorem straight_ok (cfg : Cfg) (code : Code) (lim : Limits) (ρ : String → Option String)
    (σ lab : String → Nat) (fuel : Nat) (e : Expr) (st st' : St) (v : Val) (s : VMState)
    (f : Frame) (rest : List Frame) (c : List (RInstr × Span))
    (hs : Frag.straight e = true) (hcalls : s.calls = f :: rest) (hfn : findCode code f.fn = some c)
    (hcode : CodeAt c f.ip ((cstraightSp ρ e).map (lower lab σ)))
    (henv : EnvRel ρ σ lim (Frag.vars e) st.scopes s.mp s.mem) (hheap : s.st.heap = st.heap)
    (hev : evalExpr cfg fuel e st = (.ok v, st')) :
    st' = st ∧ execN code lim (cstraightSp ρ e).length s = .next (done s (cstraightSp ρ e).length v) := by
  have := exec_straight cfg code lim ρ σ lab fuel e st s f rest c hs hcalls hfn hcode henv hheap
  rw [hev] at this
  exact this

/-- Same hypotheses: a fatal error of the specification (`x / 0`, `x % 0`, a negative shift count:
`ValueError`) is the VM's fatal interrupt with the same kind, message and span (that of the offending
operator, with which its instruction was emitted), the store untouched. Fatal interrupts are not
catchable, so this is the program's outcome. -/
theorem straight_fatal (cfg : Cfg) (code : Code) (lim : Limits) (ρ : String → Option String)
    (σ lab : String → Nat) (fuel : Nat) (e : Expr) (st st' : St) (k m : String) (fsp : Span) (s : VMState)
    (f : Frame) (rest : List Frame) (c : List (RInstr × Span))
    (hs : Frag.straight e = true) (hcalls : s.calls = f :: rest) (hfn : findCode code f.fn = some c)
    (hcode : CodeAt c f.ip ((cstraightSp ρ e).map (lower lab σ)))
    (henv : EnvRel ρ σ lim (Frag.vars e) st.scopes s.mp s.mem) (hheap : s.st.heap = st.heap)
    (hev : evalExpr cfg fuel e st = (.error (.fatal k m fsp), st')) :
    st' = st ∧ ∃ s', execN code lim (cstraightSp ρ e).length s = .intr (.fatal k m fsp) s' ∧ SameStore s s' := by
  have := exec_straight cfg code lim ρ σ lab fuel e st s f rest c hs hcalls hfn hcode henv hheap
  rw [hev] at this
  exact this

/-- `execN` is the VM's own loop: `runQuantum` (the inner loop of `Core.Run`) consumes the `n`
iterations of a successful `execN n` and continues from the reached state; a fatal interrupt found by
`execN` is what `runQuantum` returns. -/
theorem straight_runQuantum (code : Code) (lim : Limits) (n m : Nat) (s s' : VMState)
    (h : execN code lim n s = .next s') :
    runQuantum code lim (n + m) s = runQuantum code lim m s' :=
  (runQuantum_execHN code lim m n s).1 s' (execHN_of_execN code lim n s _ (fun _ _ _ => StepRes.noConfusion) h)

theorem straight_runQuantum_fatal (code : Code) (lim : Limits) (n m : Nat) (s s' : VMState)
    (k msg : String) (sp : Span) (h : execN code lim n s = .intr (.fatal k msg sp) s') :
    runQuantum code lim (n + m) s = .inr (.fatal k msg sp s') :=
  (runQuantum_execHN code lim m n s).2 _ s' (execHN_of_execN code lim n s _ (by intro _ _ _ h; cases h) h)

/-- The three passes together: the function's symbolic code is `pre ++ cstraightSp ρ e ++ post`
(`compileExpr_straight`), `relocateLabels` gives `r`, the VM runs `renameVariables r` at `ip` = the
number of real instructions of `pre`, and `EnvRel` is taken with the function's own `slotFn r`. Then
`straight_ok` / `straight_fatal` hold (`Sim1`). -/
theorem compiled_straight_correct (cfg : Cfg) (code : Code) (lim : Limits) (ρ : String → Option String)
    (fuel : Nat) (e : Expr) (st : St) (s : VMState) (f : Frame) (rest : List Frame)
    (pre post : SCode) (r : NCode)
    (hs : Frag.straight e = true)
    (hrel : relocate (pre ++ cstraightSp ρ e ++ post) = some r)
    (hcalls : s.calls = f :: rest) (hfn : findCode code f.fn = some (renameVars r))
    (hip : f.ip = (stripLabels pre).length)
    (henv : EnvRel ρ (slotFn r) lim (Frag.vars e) st.scopes s.mp s.mem) (hheap : s.st.heap = st.heap) :
    Sim1 code lim s (cstraightSp ρ e).length st (evalExpr cfg fuel e st) := by
  refine exec_straight cfg code lim ρ (slotFn r) (labelIndex (pre ++ cstraightSp ρ e ++ post))
    fuel e st s f rest _ hs hcalls hfn ?_ henv hheap
  rw [hip]
  have := codeAt_of_compiled pre (cstraightSp ρ e) post r hrel
  rwa [stripLabels_eq_self _ (fun p hp => (cstraightSp_plain ρ e p hp).1)] at this

section Example4
/-- The function body `addMp 1; <(1 + x) * 3>; label end; ret` as the compiler emits it. -/
private def symCode : SCode :=
  [(.addMp 1, sp0)] ++ cstraightSp (ρOf cs0) ex1 ++ [(.label "end", sp0), (.ret, sp0)]
private def relCode : NCode := (stripLabels symCode).map (resolve (labelIndex symCode))
private def vmCode : Code := [{ name := "@main.main", code := renameVars relCode }]
/-- `x = 3` in slot 0 at `mp = 5`; the frame is at instruction 1 (after `addMp`). -/
private def vm0 : VMState := { calls := [⟨"@main.main", 1⟩], mp := 5, mem := [(5, .int 3)] }
private def spec0 : St := { scopes := [[("x", .int 3)]] }

private theorem relocate_symCode : relocate symCode = some relCode := relocate_relG symCode (by decide +kernel)

private theorem env0 : EnvRel (ρOf cs0) (slotFn relCode) {} (Frag.vars ex1) spec0.scopes vm0.mp vm0.mem := by
  intro x hx
  have : x = "x" := by simpa [Frag.vars, ex1] using hx
  subst this
  exact ⟨"@main.x.0", .int 3, rfl, rfl, by decide, by decide, rfl⟩

/-- `(1 + x) * 3` with `x = 3`: the specification says 12 … -/
example : evalExpr { prog := [] } 4 ex1 spec0 = (.ok (.int 12), spec0) := rfl
/-- … and five VM steps push 12 (the statement instantiated through all three passes). -/
example : execN vmCode {} 5 vm0 = .next (done vm0 5 (.int 12)) := by
  have h := compiled_straight_correct { prog := [] } vmCode {} (ρOf cs0) 4 ex1 spec0 vm0
    ⟨"@main.main", 1⟩ [] [(.addMp 1, sp0)] [(.label "end", sp0), (.ret, sp0)] relCode
    (by decide) relocate_symCode rfl rfl rfl env0 rfl
  have hev : evalExpr { prog := [] } 4 ex1 spec0 = (.ok (.int 12), spec0) := rfl
  rw [hev] at h
  exact h.2

private def spD : Span := ⟨7, 3, 7, 14⟩
/-- `1 / (x - 3)` -/
private def ex2 : Expr :=
  .infix spD .int .div (.int sp0 1)
    (.grouped sp0 (.infix spA .int .sub (.ident sp0 .int "x" false false false) (.int sp0 3)))
private def vmCode2 : Code :=
  [{ name := "f", code := (cstraightSp (ρOf cs0) ex2).map (lower (fun _ => 0) (fun _ => 0)) }]
private def vm2 : VMState := { calls := [⟨"f", 0⟩], mp := 5, mem := [(5, .int 3)] }

/-- `1 / (x - 3)` with `x = 3`: the specification's fatal `ValueError` at the span of `/` is
the VM's fatal interrupt. -/
example : ∃ s', execN vmCode2 {} 5 vm2 =
    .intr (.fatal "ValueError" "Division by zero error: this is operation is illegal" spD) s' ∧ SameStore vm2 s' := by
  have h := straight_fatal { prog := [] } vmCode2 {} (ρOf cs0) (fun _ => 0) (fun _ => 0) 4 ex2 spec0 spec0
    "ValueError" "Division by zero error: this is operation is illegal" spD vm2 ⟨"f", 0⟩ [] _
    (by decide) rfl rfl (fun k _ => by simp) ?_ rfl rfl
  · exact h.2
  · intro x hx
    have : x = "x" := by simpa [Frag.vars, ex2] using hx
    subst this
    exact ⟨"@main.x.0", .int 3, rfl, rfl, by decide, by decide, rfl⟩
end Example4

/-! ## 5. Pure expressions with control flow: `&&`, `||`, `if`/`else` -/

/-- For `e` in `Frag.pureE` (the straight-line fragment plus `&&`, `||` and `if c { t } else { e }`
with single pure expressions as branches) `compileExpr` appends `cpE module ρ e labelCounters`,
`Label`s and jumps included, and advances the label counters; nothing else changes (`upd`). -/
theorem compileExpr_pure (fuel : Nat) (e : Expr) (cs : CState)
    (hs : Frag.pureE e = true) (hd : Frag.depthE e ≤ fuel)
    (hv : ∀ x ∈ Frag.varsE e, (ρOf cs x).isSome = true) :
    (compileExpr fuel e).run cs =
      ((), upd cs (cpE cs.currModule (ρOf cs) e cs.labelMangle).1 (cpE cs.currModule (ρOf cs) e cs.labelMangle).2) :=
  Sim.compileExpr_pure fuel e cs hs hd hv

/-- Label hygiene: the labels defined in the code of a pure expression are pairwise distinct, and
each is `<module>.<ident>.<n>` with `n` between the counter of `ident` before and after, so they
differ from every label generated earlier or later (`labelName_inj`). This is what makes
`relocateLabels`' "last definition wins" harmless. -/
theorem pure_labels_fresh (mod : String) (ρ : String → Option String) (e : Expr) (lm : LM) :
    LblInv mod lm (cpE mod ρ e lm).2 (definedLabels (cpE mod ρ e lm).1) :=
  (cpE_labels mod ρ).1 e lm

/-- For a fixed module `<module>.<ident>.<n>` (what `mangleLabel` returns: `freshLabel_fst`)
determines `(ident, n)`, whatever the identifier: `n` is what follows the last `.`. -/
theorem label_names_injective (mod id1 id2 : String) (c1 c2 : Nat)
    (h : labelName mod id1 c1 = labelName mod id2 c2) : id1 = id2 ∧ c1 = c2 :=
  labelName_inj mod id1 id2 c1 c2 h

/-- `straight_ok` with jumps: the code of `e` is `Placed`; the VM gets in some number `k` of steps,
whichever branches are taken, to `ip + n` (`n` = number of real instructions of the fragment) with `v`
pushed and nothing else changed. -/
theorem pure_ok (cfg : Cfg) (code : Code) (lim : Limits) (mod : String) (ρ : String → Option String)
    (σ lab : String → Nat) (fuel : Nat) (e : Expr) (lm : LM) (st st' : St) (v : Val) (s : VMState)
    (f : Frame) (rest : List Frame) (c : List (RInstr × Span))
    (hs : Frag.pureE e = true) (hcalls : s.calls = f :: rest) (hfn : findCode code f.fn = some c)
    (hcode : Placed lab σ c f.ip (cpE mod ρ e lm).1)
    (henv : EnvRel ρ σ lim (Frag.varsE e) st.scopes s.mp s.mem) (hheap : s.st.heap = st.heap)
    (hev : evalExpr cfg fuel e st = (.ok v, st')) :
    st' = st ∧ ∃ k, execN code lim k s =
      .next (reach s (f.ip + nI (cpE mod ρ e lm).1) k (⟨v, none⟩ :: s.stack) s.mem) := by
  have := exec_pure cfg code lim mod ρ σ lab s f rest c hcalls hfn fuel e st f.ip s.stack s.mem lm hs hcode henv hheap
  rw [hev] at this
  exact ⟨this.1, this.2.from_state hcalls⟩

/-- `straight_fatal` with jumps. -/
theorem pure_fatal (cfg : Cfg) (code : Code) (lim : Limits) (mod : String) (ρ : String → Option String)
    (σ lab : String → Nat) (fuel : Nat) (e : Expr) (lm : LM) (st st' : St) (kd m : String) (fsp : Span)
    (s : VMState) (f : Frame) (rest : List Frame) (c : List (RInstr × Span))
    (hs : Frag.pureE e = true) (hcalls : s.calls = f :: rest) (hfn : findCode code f.fn = some c)
    (hcode : Placed lab σ c f.ip (cpE mod ρ e lm).1)
    (henv : EnvRel ρ σ lim (Frag.varsE e) st.scopes s.mp s.mem) (hheap : s.st.heap = st.heap)
    (hev : evalExpr cfg fuel e st = (.error (.fatal kd m fsp), st')) :
    st' = st ∧ ∃ k s', execN code lim k s = .intr (.fatal kd m fsp) s' ∧
      s'.st = s.st ∧ s'.mp = s.mp ∧ s'.globals = s.globals ∧ s'.handlers = s.handlers := by
  have := exec_pure cfg code lim mod ρ σ lab s f rest c hcalls hfn fuel e st f.ip s.stack s.mem lm hs hcode henv hheap
  rw [hev] at this
  exact ⟨this.1, this.2.from_state hcalls⟩

/-- The three passes together, with labels: symbolic code `pre ++ code(e) ++ post` in which `post`
defines no label of `code(e)` again. Then `Placed` holds with `lab = labelIndex` of the whole function
and `σ = slotFn r` (sections 1, 2), hence the simulation `SimP` from instruction `nI pre`. -/
theorem compiled_pure_correct (cfg : Cfg) (code : Code) (lim : Limits) (mod : String)
    (ρ : String → Option String) (fuel : Nat) (e : Expr) (lm : LM) (st : St) (s : VMState)
    (f : Frame) (rest : List Frame) (pre post : SCode) (r : NCode) (stk : List SVal) (mem : List (Int × Val))
    (hs : Frag.pureE e = true)
    (hrel : relocate (pre ++ (cpE mod ρ e lm).1 ++ post) = some r)
    (hpost : ∀ l ∈ definedLabels (cpE mod ρ e lm).1, l ∉ definedLabels post)
    (hcalls : s.calls = f :: rest) (hfn : findCode code f.fn = some (renameVars r))
    (henv : EnvRel ρ (slotFn r) lim (Frag.varsE e) st.scopes s.mp mem) (hheap : s.st.heap = st.heap) :
    SimP code lim s (nI pre) (nI (cpE mod ρ e lm).1) stk mem st (evalExpr cfg fuel e st) :=
  Sim.compiled_pure_correct cfg code lim mod ρ fuel e lm st s f rest pre post r stk mem hs hrel hpost hcalls hfn
    henv hheap

section Example5
private def spI : Span := ⟨3, 1, 3, 40⟩
private def spL : Span := ⟨3, 4, 3, 20⟩
/-- `if x > 2 && x != 5 { x * 2 } else { 0 }` -/
def ex3 : Expr :=
  .ifE spI .int
    (.infix spL .bool .and
      (.infix sp0 .bool .gt (.ident sp0 .int "x" false false false) (.int sp0 2))
      (.infix sp0 .bool .ne (.ident sp0 .int "x" false false false) (.int sp0 5)))
    (.mk sp0 .int [] (some (.infix sp0 .int .mul (.ident sp0 .int "x" false false false) (.int sp0 2))))
    (some (.mk sp0 .int [] (some (.int sp0 0))))

example : Frag.pureE ex3 = true ∧ Frag.depthE ex3 ≤ 5 := by decide

/-- The emitted code, labels and all … -/
example : (cpE "main" (ρOf cs0) ex3 []).1 =
    [(.getVar "@main.x.0", sp0), (.copyPush (.int 2), sp0), (.gt, sp0),
     (.jumpIfFalse "main.return_false.0", spL),
     (.getVar "@main.x.0", sp0), (.copyPush (.int 5), sp0), (.eq, sp0), (.not, sp0),
     (.jump "main.after_infix.0", spL), (.label "main.return_false.0", spL),
     (.copyPush (.bool false), spL), (.label "main.after_infix.0", spL),
     (.jumpIfFalse "main.else.0", spI),
     (.getVar "@main.x.0", sp0), (.copyPush (.int 2), sp0), (.mul, sp0),
     (.jump "main.if_after.0", spI), (.label "main.else.0", spI),
     (.copyPush (.int 0), sp0), (.label "main.if_after.0", spI)] := rfl

/-- … is what the real `compileExpr` produces (statement instantiated). -/
example : (((compileExpr 5 ex3).run cs0).2.fns.lookup ("main", "main")).map (·.code) =
    some ([(.addMp 1, sp0)] ++ (cpE "main" (ρOf cs0) ex3 []).1) := by
  rw [compileExpr_pure 5 ex3 cs0 (by decide) (by decide) (by decide)]
  rfl

private def symCode3 : SCode :=
  [(.addMp 1, sp0)] ++ (cpE "main" (ρOf cs0) ex3 []).1 ++ [(.label "main.cleanup.0", sp0), (.ret, sp0)]
private def relCode3 : NCode := (stripLabels symCode3).map (resolve (labelIndex symCode3))
private def vmCode3 : Code := [{ name := "@main.main", code := renameVars relCode3 }]
private def vm3 : VMState := { calls := [⟨"@main.main", 1⟩], mp := 5, mem := [(5, .int 3)] }
private def spec3 : St := { scopes := [[("x", .int 3)]] }

/-- With `x = 3` the specification says 6, and the VM — through `relocate`, `renameVars`, both
conditional jumps and the final `jump` — arrives at instruction 17 with 6 pushed. -/
example : ∃ k, execN vmCode3 {} k vm3 = .next (reach vm3 17 k [⟨.int 6, none⟩] vm3.mem) := by
  have h := compiled_pure_correct { prog := [] } vmCode3 {} "main" (ρOf cs0) 5 ex3 [] spec3 vm3
    ⟨"@main.main", 1⟩ [] [(.addMp 1, sp0)] [(.label "main.cleanup.0", sp0), (.ret, sp0)] relCode3 [] vm3.mem
    (by decide) (relocate_relG symCode3 (by decide +kernel)) (by decide) rfl rfl ?_ rfl
  · have hev : evalExpr { prog := [] } 5 ex3 spec3 = (.ok (.int 6), spec3) := rfl
    rw [hev] at h
    exact h.2.from_state (f := ⟨"@main.main", 1⟩) rfl
  · intro x hx
    have : x = "x" := by
      simp only [Frag.varsE, Frag.varsB, ex3, List.mem_append, List.mem_singleton, List.not_mem_nil,
        or_self, or_false] at hx
      exact hx
    subst this
    exact ⟨"@main.x.0", .int 3, rfl, rfl, by decide, by decide, rfl⟩
end Example5

/-! ## 6. `let`, assignment, `if`, `while` -/

/-- For sequences of `let x = e;`, `x = e;`, `x op= e;` (local `x`, pure `e`), `if` with or without
`else` and `while` over blocks of such statements (`Frag.okSs`), well scoped (`Frag.wsSs`),
`compileStmts` appends exactly `cSs module ss env` and leaves scopes, variable counters, label counters
and the function's variable count as `cSs` computes them (`updS`); the loop stack and the rest are as
before. -/
theorem compileStmts_frag (fuel : Nat) (ss : List Stmt) (cs : CState)
    (hs : Frag.okSs ss = true) (hd : Frag.depthSs ss ≤ fuel)
    (hws : Frag.wsSs cs.currModule ss (envOf cs) = true) :
    (compileStmts fuel ss).run cs =
      ((), updS cs cs.loops (cSs cs.currModule ss (envOf cs)).1 (cSs cs.currModule ss (envOf cs)).2) := by
  have := (compile_stmt fuel).2.1 ss cs hs hd cs.loops [] (envOf cs) hws
  rwa [updS_self, List.nil_append] at this

/-- For a fixed module `@<module>.<ident>.<n>` (what `mangleVar` returns: `freshVar`) determines
`(ident, n)`, with no hypothesis on the identifier's characters: the decimal `n` contains no `.`, so
it is what follows the last one. Distinct declarations get distinct names, hence (`slots_injective`)
distinct slots. -/
theorem mangled_names_injective (mod x y : String) (c d : Nat)
    (h : mangleName mod x c = mangleName mod y d) : x = y ∧ c = d :=
  mangleName_inj mod x y c d h

/-- Under a scheme without separator, `@<module>_<ident><n>`, `x1`,0 and `x`,10 would both be
`@main_x10` (finding V26). -/
example : mangleName "main" "x1" 0 = "@main.x1.0" ∧ mangleName "main" "x" 10 = "@main.x.10" ∧
    mangleName "main" "x1" 0 ≠ mangleName "main" "x" 10 := by decide

section V26Witness
private def mkLet (x : String) (v : Int) : Stmt := .letS sp0 x .int false .int (.int sp0 v)
private def printVar (x : String) : Stmt :=
  .exprS sp0 (.call sp0 .null (.ident sp0 (.fn [] .null) "println" false false false)
    [("", .ident sp0 .int x false false false)] false)
/-- `fn main() { let x1 = 100; let x = 0; let x = 1; … let x = 10; println(x1); }` — the witness
of finding V26: were the eleventh `x` to share the slot of `x1`, the VM would print `10`. -/
private def v26prog : Program :=
  [{ name := "main", imports := [], singletons := [], globals := [], nImpls := 0,
     fns := [⟨sp0, "main", [], .null, 0, false,
       .mk sp0 .null ([mkLet "x1" 100] ++ (List.range 11).map (fun (i : Nat) => mkLet "x" (i : Int)) ++
         [printVar "x1"]) none⟩] }]

/-- On the models themselves (kernel evaluation): the specification prints `100` … -/
example : (match runProgram { prog := v26prog } 100 with | .ok out _ => out | _ => "?") = "100\n" := by
  decide +kernel
/-- … and so does the compiled program on the VM. -/
example : (match compile v26prog "main" 100 with
    | .ok c => (match runMain c {} 50 1000 with | .ok s => s.st.out | _ => "?")
    | .error e => e) = "100\n" := by
  decide +kernel
end V26Witness

/-- `Good`: `σ` is injective on the name set `N` and every name of `N` has a cell inside the memory
limit. If the code of `ss` is `Placed` at `ip` and `StRel` holds, then (`SimS`): when the
specification completes `ss`, only its scopes changed, and the VM — through all loop iterations —
arrives at the end of the code with its operand stack as before and a memory for which `StRel` holds
again; a fatal error is the same fatal interrupt; the fragment never produces
`break`/`continue`/`return`/`throw`. -/
theorem stmts_correct (cfg : Cfg) (code : Code) (lim : Limits) (mod : String) (T : List String)
    (N : String → Prop) (σ lab : String → Nat) (s : VMState) (f : Frame) (rest : List Frame)
    (c : List (RInstr × Span)) (hcalls : s.calls = f :: rest) (hfn : findCode code f.fn = some c)
    (hg : Good T N σ lim s.mp)
    (fuel : Nat) (ss : List Stmt) (env : CEnv) (spec : St) (ip : Nat) (stk : List SVal) (mem : List (Int × Val))
    (hs : Frag.okSs ss = true) (hT : ∀ x ∈ Frag.identsSs ss, x ∈ T) (hws : Frag.wsSs mod ss env = true)
    (hN : ∀ m ∈ codeVars (cSs mod ss env).1, N m) (hpl : Placed lab σ c ip (cSs mod ss env).1)
    (hrel : StRel mod T N σ lim s.mp env.scopes env.vm spec.scopes mem) (hheap : s.st.heap = spec.heap) :
    SimS code lim s ip (nI (cSs mod ss env).1) stk mem
      (StRel mod T N σ lim s.mp (cSs mod ss env).2.scopes (cSs mod ss env).2.vm) spec
      (evalStmts cfg fuel ss spec) :=
  (exec_stmt_all hcalls hfn hg fuel).2.1 ss env spec ip stk mem hs hT hws hN hpl hrel hheap

/-- `stmts_correct` through `relocateLabels` and `renameVariables`. -/
theorem compiled_stmts_correct (cfg : Cfg) (code : Code) (lim : Limits) (mod : String) (T : List String)
    (fuel : Nat) (ss : List Stmt) (env : CEnv) (spec : St) (s : VMState) (f : Frame) (rest : List Frame)
    (pre post : SCode) (r : NCode) (stk : List SVal) (mem : List (Int × Val))
    (hs : Frag.okSs ss = true) (hT : ∀ x ∈ Frag.identsSs ss, x ∈ T)
    (hws : Frag.wsSs mod ss env = true)
    (hrel : relocate (pre ++ (cSs mod ss env).1 ++ post) = some r)
    (hpost : ∀ l ∈ definedLabels (cSs mod ss env).1, l ∉ definedLabels post)
    (hcalls : s.calls = f :: rest) (hfn : findCode code f.fn = some (renameVars r))
    (hframe : ∀ m ∈ varNames r, 0 ≤ s.mp - (slotFn r m : Int) ∧ s.mp - (slotFn r m : Int) < (lim.memory : Int))
    (hst : StRel mod T (· ∈ varNames r) (slotFn r) lim s.mp env.scopes env.vm spec.scopes mem)
    (hheap : s.st.heap = spec.heap) :
    SimS code lim s (nI pre) (nI (cSs mod ss env).1) stk mem
      (StRel mod T (· ∈ varNames r) (slotFn r) lim s.mp (cSs mod ss env).2.scopes (cSs mod ss env).2.vm)
      spec (evalStmts cfg fuel ss spec) :=
  Sim.compiled_stmts_correct cfg code lim mod T fuel ss env spec s f rest pre post r stk mem hs hT hws hrel
    hpost hcalls hfn hframe hst hheap

section Example6
private def idn (x : String) : Expr := .ident sp0 .int x false false false
/-- `let i = 0; let acc = 0; while i < 5 { if i % 2 == 0 { acc += i; } i += 1; }` -/
def loopEx : List Stmt :=
  [ .letS sp0 "i" .int false .int (.int sp0 0),
    .letS sp0 "acc" .int false .int (.int sp0 0),
    .whileS sp0 (.infix sp0 .bool .lt (idn "i") (.int sp0 5))
      (.mk sp0 .null
        [ .exprS sp0 (.ifE sp0 .null
            (.infix sp0 .bool .eq (.infix sp0 .int .rem (idn "i") (.int sp0 2)) (.int sp0 0))
            (.mk sp0 .null [ .exprS sp0 (.assign sp0 (some .add) (idn "acc") (idn "i")) ] none) none),
          .exprS sp0 (.assign sp0 (some .add) (idn "i") (.int sp0 1)) ] none) ]
private def envL : CEnv := ⟨[[]], [], [], 0⟩
private def csL : CState :=
  { fns := [(("main", "main"), { name := "@main.main", code := [(.addMp 4, sp0)] })],
    currFn := "main", currModule := "main" }
private def symL : SCode :=
  [(.addMp 4, sp0)] ++ (cSs "main" loopEx envL).1 ++
    [(.label "main.cleanup.0", sp0), (.addMp (-4), sp0), (.ret, sp0)]
private def relL : NCode := (stripLabels symL).map (resolve (labelIndex symL))
private def codeL : Code := [{ name := "@main.main", code := renameVars relL }]
private def vmL : VMState := { calls := [⟨"@main.main", 1⟩], mp := 4 }
private def TL : List String := ["i", "acc"]

example : Frag.okSs loopEx = true ∧ Frag.depthSs loopEx ≤ 13 ∧ Frag.wsSs "main" loopEx envL = true := by
  decide +kernel

example : (((compileStmts 13 loopEx).run csL).2.fns.lookup ("main", "main")).map (·.code) =
    some ([(.addMp 4, sp0)] ++ (cSs "main" loopEx envL).1) := by
  rw [compileStmts_frag 13 loopEx csL (by decide +kernel) (by decide +kernel) (by decide +kernel)]
  rfl

private theorem relocate_symL : relocate symL = some relL := relocate_relG symL (by decide +kernel)

private def isInt (n : Int) : Val → Bool
  | .int i => i.toInt == n
  | _ => false
private def okU : Except Ctl Unit → Bool
  | .ok _ => true
  | _ => false

/-- The specification: the loop ends normally with `acc = 6`. -/
private theorem spec_facts : okU (evalStmts { prog := [] } 20 loopEx {}).1 = true ∧
    ((lookupScopes "acc" (evalStmts { prog := [] } 20 loopEx {}).2.scopes).map (isInt 6)) = some true := by
  decide +kernel

/-- The VM, running the relocated and renamed code from instruction 1 with an empty memory,
reaches the end of the loop (instruction 25) with `6 = 0 + 2 + 4` in the cell of `acc` (slot 1:
cell `mp - 1 = 3`), after six evaluations of the loop condition, five passes through the body
and three through the `if` branch. -/
example : ∃ k mem', execN codeL {} k vmL = .next (reach vmL 25 k [] mem') ∧
    ∃ i : I64, mem'.lookup 3 = some (.int i) ∧ i.toInt = 6 := by
  have hst : StRel "main" TL (· ∈ varNames relL) (slotFn relL) {} vmL.mp envL.scopes envL.vm
      ({} : St).scopes [] :=
    ⟨⟨fun _ _ => trivial, trivial⟩, by decide +kernel, by decide +kernel, by
      intro sc hsc p hp; simp [envL] at hsc; subst hsc; simp at hp⟩
  have h1 : Frag.okSs loopEx = true := by decide +kernel
  have h2 : ∀ x ∈ Frag.identsSs loopEx, x ∈ TL := by decide +kernel
  have h4 : Frag.wsSs "main" loopEx envL = true := by decide +kernel
  have h5 : ∀ l ∈ definedLabels (cSs "main" loopEx envL).1,
      l ∉ definedLabels [((Instr.label "main.cleanup.0" : SInstr), sp0), (.addMp (-4), sp0), (.ret, sp0)] := by
    decide +kernel
  have h6 : findCode codeL (⟨"@main.main", 1⟩ : Frame).fn = some (renameVars relL) := by
    simp [findCode, codeL]
  have h7 : ∀ m ∈ varNames relL, 0 ≤ vmL.mp - (slotFn relL m : Int) ∧
      vmL.mp - (slotFn relL m : Int) < ((({} : Limits).memory : Nat) : Int) := by decide +kernel
  -- (the fuel is kept abstract while the theorem is instantiated, so that the elaborator does not
  -- start evaluating the specification; the kernel does that in `spec_facts`)
  obtain ⟨fuel, hfuel⟩ : ∃ n : Nat, n = 20 := ⟨20, rfl⟩
  have h := compiled_stmts_correct { prog := [] } codeL {} "main" TL fuel loopEx envL {} vmL
    ⟨"@main.main", 1⟩ [] [(.addMp 4, sp0)] [(.label "main.cleanup.0", sp0), (.addMp (-4), sp0), (.ret, sp0)]
    relL [] [] h1 h2 h4 relocate_symL h5 rfl h6 h7 hst rfl
  subst hfuel
  obtain ⟨hok, hacc⟩ := spec_facts
  rcases hev : evalStmts { prog := [] } 20 loopEx {} with ⟨res, st'⟩
  rw [hev] at h hok hacc
  cases res with
  | error e => simp [okU] at hok
  | ok u =>
    obtain ⟨_, mem', hrun, hrel'⟩ := h
    have hlk := hrel'.scopes.lookup TL (slotFn relL) {} vmL.mp "acc" (by decide)
    have hρ : ρS (cSs "main" loopEx envL).2.scopes "acc" = some "@main.acc.0" := by decide +kernel
    rw [hρ] at hlk
    simp only at hacc
    cases hv : lookupScopes "acc" st'.scopes with
    | none => simp [hv] at hacc
    | some v =>
      rw [hv] at hlk hacc
      simp only [Option.map_some, Option.some.injEq] at hacc
      obtain ⟨⟨_, _, hmem⟩, _⟩ := hlk
      obtain ⟨k, hk⟩ := hrun.from_state (f := ⟨"@main.main", 1⟩) rfl
      have hslot : vmL.mp - (slotFn relL "@main.acc.0" : Int) = 3 := by decide +kernel
      rw [hslot] at hmem
      refine ⟨k, mem', hk, ?_⟩
      cases v <;> simp [isInt] at hacc
      exact ⟨_, hmem, hacc⟩
end Example6

/-! ## 7. Whole functions -/

/-- For a function without parameters or annotation whose body is a block of such statements (no
trailing expression), well scoped from `fnEnv` (the function's top scope holding the cleanup label,
around the enclosing scopes), `compileFn` leaves as the function's entry
`fnCode = AddMempointer(n); <cSs …>; cleanup: AddMempointer(-n); Return`, `n` the variable count; other
functions, scopes, loop stack, `try` depth and the `unsupported` flag are as before. -/
theorem compileFn_frag (f2 : Nat) (fd : FnDef) (cs : CState) (bsp : Span) (bty : Ty) (stmts : List Stmt)
    (hbody : fd.body = .mk bsp bty stmts none) (hparams : fd.params = []) (hann : fd.hasAnnotation = false)
    (hs : Frag.okSs stmts = true) (hd : Frag.depthSs stmts ≤ f2)
    (hws : Frag.wsSs cs.currModule stmts (fnEnv cs fd.name) = true) :
    (compileFn (f2 + 2) fd).run cs = ((), fnFinal cs fd stmts) ∧
    (fnFinal cs fd stmts).fns.lookup (cs.currModule, fd.name) =
      some { name := mangleFnName cs.currModule fd.name, code := fnCode cs fd stmts,
             cntVars := (cSs cs.currModule stmts (fnEnv cs fd.name)).2.nv } ∧
    (∀ k, k ≠ (cs.currModule, fd.name) → (fnFinal cs fd stmts).fns.lookup k = cs.fns.lookup k) ∧
    (fnFinal cs fd stmts).scopes = cs.scopes ∧ (fnFinal cs fd stmts).loops = cs.loops ∧
    (fnFinal cs fd stmts).tryDepth = cs.tryDepth ∧ (fnFinal cs fd stmts).unsupported = cs.unsupported :=
  ⟨compileFn_frag_run f2 fd cs bsp bty stmts hbody hparams hann hs hd hws, fnFinal_lookup cs fd stmts,
   fnFinal_lookup_other cs fd stmts, (fnFinal_frame cs fd stmts hs).1, (fnFinal_frame cs fd stmts hs).2.1,
   (fnFinal_frame cs fd stmts hs).2.2.1, (fnFinal_frame cs fd stmts hs).2.2.2.2.1⟩

/-- Memory safety of locals: every slot `renameVariables` assigns in such a function is at most the
`n` of its `AddMempointer(n)`, so `mp - slot` stays inside the cells the prologue reserved. `houter` (`outer`
in `FnOK`): the identifiers of the body, all in `T`, are not bound in the enclosing compile scopes. -/
theorem fn_slots_fit (T : List String) (cs : CState) (fd : FnDef) (stmts : List Stmt) (r : NCode)
    (hT : ∀ x ∈ Frag.identsSs stmts, x ∈ T)
    (hws : Frag.wsSs cs.currModule stmts (fnEnv cs fd.name) = true)
    (hkey : cleanupKey cs.currModule fd.name ∉ T)
    (houter : ∀ sc ∈ cs.scopes, ∀ x ∈ T, sc.lookup x = none)
    (hrel : relocate (fnCode cs fd stmts) = some r) :
    ∀ m ∈ varNames r, slotFn r m ≤ (cSs cs.currModule stmts (fnEnv cs fd.name)).2.nv :=
  fn_slots_le T cs fd stmts r hT hws hkey houter hrel

/-- The VM is at instruction 0 of the relocated and renamed `fnCode` with room for the frame; the
specification starts the body in a fresh activation (`scopes = [[]]`). Then (`SimFn`) if the
specification completes the body, the VM runs prologue, body and epilogue and returns to the caller's
frame with operand stack, memory pointer, heap, output, globals and handlers as at the call; a fatal
error is the VM's fatal interrupt; the fragment has no other outcome. No `Placed`/`StRel` hypothesis is
left: label hygiene, relocation, renaming and the initial relation are discharged. -/
theorem fn_body_correct (cfg : Cfg) (code : Code) (lim : Limits) (T : List String) (fuel : Nat)
    (cs : CState) (fd : FnDef) (stmts : List Stmt) (r : NCode) (spec : St) (s0 : VMState) (fname : String)
    (rest : List Frame)
    (hs : Frag.okSs stmts = true) (hT : ∀ x ∈ Frag.identsSs stmts, x ∈ T)
    (hws : Frag.wsSs cs.currModule stmts (fnEnv cs fd.name) = true)
    (hkey : cleanupKey cs.currModule fd.name ∉ T)
    (houter : ∀ sc ∈ cs.scopes, ∀ x ∈ T, sc.lookup x = none)
    (hrel : relocate (fnCode cs fd stmts) = some r)
    (hcalls : s0.calls = ⟨fname, 0⟩ :: rest) (hfn : findCode code fname = some (renameVars r))
    (hmp0 : 0 ≤ s0.mp)
    (hmem : s0.mp + ((cSs cs.currModule stmts (fnEnv cs fd.name)).2.nv : Int) < (lim.memory : Int))
    (hspec : spec.scopes = [[]]) (hheap : s0.st.heap = spec.heap) :
    SimFn code lim s0 rest spec (evalStmts cfg fuel stmts spec) :=
  fn_body_correct' cfg code lim T fuel cs fd stmts r spec s0 fname rest hs hT hws hkey houter hrel hcalls hfn
    hmp0 hmem hspec hheap

/-- The same through the VM's driver (`Core.Run`: poll, then a quantum of instructions), with no caller
frame: for every quantum at least the number of instructions the call executes — so that no poll falls
inside it — `run` ends with `ok`, or with the specification's fatal error. -/
theorem fn_run (cfg : Cfg) (code : Code) (lim : Limits) (T : List String) (fuel : Nat)
    (cs : CState) (fd : FnDef) (stmts : List Stmt) (r : NCode) (spec : St) (s0 : VMState) (fname : String)
    (hs : Frag.okSs stmts = true) (hT : ∀ x ∈ Frag.identsSs stmts, x ∈ T)
    (hws : Frag.wsSs cs.currModule stmts (fnEnv cs fd.name) = true)
    (hkey : cleanupKey cs.currModule fd.name ∉ T)
    (houter : ∀ sc ∈ cs.scopes, ∀ x ∈ T, sc.lookup x = none)
    (hrel : relocate (fnCode cs fd stmts) = some r)
    (hcalls : s0.calls = [⟨fname, 0⟩]) (hfn : findCode code fname = some (renameVars r))
    (hmp0 : 0 ≤ s0.mp)
    (hmem : s0.mp + ((cSs cs.currModule stmts (fnEnv cs fd.name)).2.nv : Int) < (lim.memory : Int))
    (hstack : s0.stack.length ≤ lim.stack) (hcallLim : 1 ≤ lim.callStack)
    (hspec : spec.scopes = [[]]) (hheap : s0.st.heap = spec.heap) :
    match evalStmts cfg fuel stmts spec with
    | (.ok _, _) =>
      ∃ K, ∀ quantum, K ≤ quantum → ∀ vfuel, ∃ s', run code lim quantum none (vfuel + 1) s0 = .ok s' ∧
        s'.st = s0.st ∧ s'.mp = s0.mp ∧ s'.stack = s0.stack
    | (.error (.fatal kd m sp), _) =>
      ∃ K, ∀ quantum, K ≤ quantum → ∀ vfuel, ∃ s', run code lim quantum none (vfuel + 1) s0 = .fatal kd m sp s' ∧
        s'.st = s0.st
    | _ => True :=
  Sim.fn_run cfg code lim T fuel cs fd stmts r spec s0 fname hs hT hws hkey houter hrel hcalls hfn hmp0 hmem
    hstack hcallLim hspec hheap

section Example7
/-- `fn main() { let i = 0; let acc = 0; while i < 5 { if i % 2 == 0 { acc += i; } i += 1; } }` -/
private def fdL : FnDef := ⟨sp0, "main", [], .null, 0, false, .mk sp0 .null loopEx none⟩
/-- The compiler state in which pass 2 of `compileProgram` reaches `main`. -/
private def csF : CState :=
  { fns := [(("main", "@init"), { name := "@main.@init", code := [] }),
            (("main", "main"), { name := "@main.main", code := [] })],
    currFn := "@init", currModule := "main" }
private def relF : NCode :=
  (stripLabels (fnCode csF fdL loopEx)).map (resolve (labelIndex (fnCode csF fdL loopEx)))
private def codeF : Code := [{ name := "@main.main", code := renameVars relF }]
private def vmF : VMState := { calls := [⟨"@main.main", 0⟩] }

private theorem relocate_fnCode : relocate (fnCode csF fdL loopEx) = some relF :=
  relocate_relG _ (by decide +kernel)

/-- `compileFn` really produces `fnCode …` for `main` (statement instantiated), … -/
example : (((compileFn 15 fdL).run csF).2.fns.lookup ("main", "main")).map (·.code) =
    some (fnCode csF fdL loopEx) := by
  have h := compileFn_frag 13 fdL csF sp0 .null loopEx rfl rfl rfl (by decide +kernel) (by decide +kernel)
    (by decide +kernel)
  rw [h.1]
  exact congrArg (Option.map (·.code)) h.2.1

/-- … and a call of it on the VM — frame `⟨"@main.main", 0⟩`, empty stack, `mp = 0` — runs
prologue, loop and epilogue and returns (no frames left) with `mp = 0` and an empty stack. -/
example : ∃ k s', execN codeF {} k vmF = .next s' ∧ s'.calls = [] ∧ s'.mp = 0 ∧ s'.stack = [] := by
  obtain ⟨fuel, hfuel⟩ : ∃ n : Nat, n = 20 := ⟨20, rfl⟩
  have h := fn_body_correct { prog := [] } codeF {} TL fuel csF fdL loopEx relF {} vmF "@main.main" []
    (by decide +kernel) (by decide +kernel) (by decide +kernel) (by decide +kernel)
    (by decide +kernel) relocate_fnCode rfl (by simp [findCode, codeF]) (by decide) (by decide +kernel) rfl rfl
  subst hfuel
  obtain ⟨hok, _⟩ := spec_facts
  rcases hev : evalStmts { prog := [] } 20 loopEx {} with ⟨res, st'⟩
  rw [hev] at h hok
  cases res with
  | error e => simp [okU] at hok
  | ok u =>
    obtain ⟨_, k, s', hk, h1, h2, h3, _⟩ := h
    exact ⟨k, s', hk, h1, h2, h3⟩
/-- The same call through the VM's driver: with a quantum large enough `run` answers `ok`. -/
example : ∃ K, ∀ quantum, K ≤ quantum → ∀ vfuel, ∃ s', run codeF {} quantum none (vfuel + 1) vmF = .ok s' ∧
    s'.st = vmF.st ∧ s'.mp = 0 ∧ s'.stack = [] := by
  obtain ⟨fuel, hfuel⟩ : ∃ n : Nat, n = 20 := ⟨20, rfl⟩
  have h := fn_run { prog := [] } codeF {} TL fuel csF fdL loopEx relF {} vmF "@main.main"
    (by decide +kernel) (by decide +kernel) (by decide +kernel) (by decide +kernel)
    (by decide +kernel) relocate_fnCode rfl (by simp [findCode, codeF]) (by decide) (by decide +kernel)
    (by decide) (by decide) rfl rfl
  subst hfuel
  obtain ⟨hok, _⟩ := spec_facts
  rcases hev : evalStmts { prog := [] } 20 loopEx {} with ⟨res, st'⟩
  rw [hev] at h hok
  cases res with
  | error e => simp [okU] at hok
  | ok u => exact h
end Example7

/-! ## 8. Singletons: `Load_Singleton` and extraction -/

/-- `found = false`: `Load_Singleton` leaves the default the compiler pushed (`Cloning_Push` of the
zero value) where it is. -/
theorem loadSingleton_not_found (code : Code) (lim : Limits) (s : VMState) (name m : String) (sp : Span)
    (h : lim.hostSingletons.lookup name = none) :
    step code lim s (.loadSingleton name m) sp = .next (advance s) := by
  simp [step, h]

/-- `found = true`: the default is popped and the host's value — the very value the specification
starts the singleton with, `hostToVal` — is pushed instead. -/
theorem loadSingleton_found (code : Code) (lim : Limits) (s : VMState) (name m : String) (sp : Span)
    (hv : HostVal) (d : SVal) (rest : List SVal) (v : Val) (st' : St)
    (h : lim.hostSingletons.lookup name = some hv) (hs : s.stack = d :: rest)
    (hh : hostToVal hv s.st = (.ok v, st')) :
    step code lim s (.loadSingleton name m) sp
      = .next (advance (push1 { s with stack := rest, st := st' } v)) := by
  simp [step, h, pop1, hs, runM, hh]

/-- Without the default below it (never in compiled code: `compileSingletonInit` emits the
`Cloning_Push` first) a found value makes the Go code pop an empty stack: the panic outcome. -/
theorem loadSingleton_found_empty (code : Code) (lim : Limits) (s : VMState) (name m : String) (sp : Span)
    (hv : HostVal) (h : lim.hostSingletons.lookup name = some hv) (hs : s.stack = []) :
    step code lim s (.loadSingleton name m) sp = .panic "stack underflow" s := by
  simp [step, h, pop1, hs]

section SingletonWitness
private def callE (f : String) (args : List Expr) : Expr :=
  .call sp0 .null (.ident sp0 (.fn [] .null) f false true false) (args.map fun a => ("", a)) false
private def printE (args : List Expr) : Stmt :=
  .exprS sp0 (.call sp0 .null (.ident sp0 (.fn [] .null) "println" false false false) (args.map fun a => ("", a)) false)
private def cfgTy : Ty := .obj [("n", .int), ("l", .list .int)]
/-- `$C = { n: int, l: [int] }; $K = int;`
`fn f(c: $C, k: $K, a: int) { println(c.n + k + a); c.n = c.n + 1; }`
`fn main() { f(10); f(20); println($C.n); }` -/
private def singProg : Program :=
  [{ name := "main", imports := [], singletons := [("$C", cfgTy), ("$K", .int)], globals := [], nImpls := 0,
     fns := [
       ⟨sp0, "f", [⟨"c", cfgTy, true, "$C"⟩, ⟨"k", .int, true, "$K"⟩, ⟨"a", .int, false, ""⟩], .null, 0, false,
         .mk sp0 .null [
           printE [.infix sp0 .int .add (.infix sp0 .int .add (.member sp0 .int (.ident sp0 cfgTy "c" false false false) "n" .dot)
             (.ident sp0 .int "k" false false false)) (.ident sp0 .int "a" false false false)],
           .exprS sp0 (.assign sp0 none (.member sp0 .int (.ident sp0 cfgTy "c" false false false) "n" .dot)
             (.infix sp0 .int .add (.member sp0 .int (.ident sp0 cfgTy "c" false false false) "n" .dot) (.int sp0 1)))] none⟩,
       ⟨sp0, "main", [], .null, 0, false,
         .mk sp0 .null [.exprS sp0 (callE "f" [.int sp0 10]), .exprS sp0 (callE "f" [.int sp0 20]),
           printE [.member sp0 .int (.ident sp0 cfgTy "$C" false false true) "n" .dot]] none⟩] }]
private def singHost : HostSingletons := [("$C", .obj [("n", .int 5), ("l", .list [.int 1])]), ("$K", .int 100)]

/-- The callers pass one argument; `c` and `k` are the singletons, the update through `c` is seen
by the next call and by `$C`. Host-provided values: specification … -/
example : (match runProgram { prog := singProg, hostSingletons := singHost } 100 with | .ok out _ => out | _ => "?")
    = "115\n126\n7\n" := by
  decide +kernel
/-- … and compiled program on the VM (clean core afterwards). -/
example : (match compile singProg "main" 100 with
    | .ok c => (match runMain c { hostSingletons := singHost } 50 1000 with
      | .ok s => (s.st.out, s.stack.length, s.mp, s.handlers.length) | _ => ("?", 0, 0, 0))
    | .error e => (e, 0, 0, 0)) = ("115\n126\n7\n", 0, 0, 0) := by
  decide +kernel
/-- Nothing provided: zero values, on both sides. -/
example : (match runProgram { prog := singProg } 100 with | .ok out _ => out | _ => "?") = "10\n21\n2\n" := by
  decide +kernel
example : (match compile singProg "main" 100 with
    | .ok c => (match runMain c {} 50 1000 with | .ok s => s.st.out | _ => "?")
    | .error e => e) = "10\n21\n2\n" := by
  decide +kernel
end SingletonWitness

/-! ## The vocabulary of sections 9–15

The simulation statements of `Lemmas/SimH*.lean` thread a memory `Mem` = cells + the VM's iterator
table, which only `for` loops change (section 16). Sections 9–15 are about programs without `for`
(`G.OK`) and memories given as cell lists (`memOf`: the iterator table is the base state's): `GRel`,
`SimGE`, `SimArgs`, `SimGS`, `SimCall`, `SimCallV` below shadow the predicates of the same names in the
opened `HmsProofs.Sim` and differ from them in the `.ok`/`.ret` clause only (no origin on the pushed
value). From section 16 on the statements say `Sim.` where they mean the general ones. -/

def memOf (G : GCtx) (mem : List (Int × Val)) : Mem := ⟨mem, itOf G.s⟩

def GRel (G : GCtx) (A : Act) (scopes : CScopes) (vm : List (String × Nat)) (ss : SScopes)
    (mem : List (Int × Val)) : Prop := Sim.GRel G A scopes vm ss (memOf G mem)

def SimGE (G : GCtx) (A : Act) (ip n : Nat) (stk : List SVal) (mem : List (Int × Val)) (st : St)
    (r : Except Ctl Val × St) : Prop :=
  match r with
  | (.ok v, st') =>
    st' = { st with out := st'.out, heap := st'.heap } ∧
      ∃ mem', Runs G.fr G.code G.lim G.s A.fn A.rest A.mp ip stk (memOf G mem) st.world (ip + n) (⟨v, none⟩ :: stk) mem'
          st'.world ∧ MemLe G.fr A.mp (memOf G mem) mem'
  | r => Sim.SimGE G A ip n stk (memOf G mem) st r

def SimArgs (G : GCtx) (A : Act) (ip n : Nat) (stk : List SVal) (mem : List (Int × Val)) (st : St)
    (r : Except Ctl (List Val) × St) : Prop :=
  match r with
  | (.ok vals, st') =>
    st' = { st with out := st'.out, heap := st'.heap } ∧
      ∃ mem', Runs G.fr G.code G.lim G.s A.fn A.rest A.mp ip stk (memOf G mem) st.world (ip + n)
          (vals.map (⟨·, none⟩) ++ stk) mem' st'.world ∧ MemLe G.fr A.mp (memOf G mem) mem'
  | r => Sim.SimArgs G A ip n stk (memOf G mem) st r

def SimGS {α : Type} (G : GCtx) (A : Act) (loops : List (String × String)) (lscopes : CScopes) (d : Nat)
    (ip n : Nat) (stk : List SVal) (mem : List (Int × Val)) (Q : SScopes → List (Int × Val) → Prop) (st : St)
    (r : Except Ctl α × St) : Prop :=
  match r with
  | (.error (.ret v), st') =>
    A.rt = true ∧ st' = { st with scopes := st'.scopes, out := st'.out, heap := st'.heap } ∧
      ∃ mem', Runs G.fr G.code G.lim G.s A.fn A.rest A.mp ip stk (memOf G mem) st.world (A.lab A.cl) (⟨v, none⟩ :: stk) mem'
          st'.world ∧ MemLe G.fr (A.mp - (A.nv : Int)) (memOf G mem) mem'
  | r => Sim.SimGS G A loops lscopes d ip n stk (memOf G mem) (fun ss m => Q ss m.cells) st r

def SimCall (G : GCtx) (g : String) (frames : List Frame) (mp : Int) (args : List Val) (stk : List SVal)
    (mem : List (Int × Val)) (st : St) (r : Except Ctl Val × St) : Prop :=
  match r with
  | (.ok v, st') =>
    st' = { st with out := st'.out, heap := st'.heap } ∧
      ∃ mem', RunsCall G g frames mp (args.map (⟨·, none⟩) ++ stk) (memOf G mem) st.world (⟨v, none⟩ :: stk) mem' st'.world ∧
        MemLe G.fr mp (memOf G mem) mem'
  | r => Sim.SimCall G g frames mp (args.map (⟨·, none⟩)) stk (memOf G mem) st r

def SimCallV (G : GCtx) (g : String) (frames : List Frame) (mp : Int) (args : List Val) (stk : List SVal)
    (mem : List (Int × Val)) (st : St) (r : Except Ctl Val × St) : Prop :=
  match r with
  | (.ok v, st') =>
    st' = { st with out := st'.out, heap := st'.heap } ∧
      ∃ mem' stk', (stk' = stk ∨ stk' = ⟨v, none⟩ :: stk) ∧
        RunsCall G g frames mp (args.map (⟨·, none⟩) ++ stk) (memOf G mem) st.world stk' mem' st'.world ∧
        MemLe G.fr mp (memOf G mem) mem'
  | r => Sim.SimCallV G g frames mp args stk (memOf G mem) st r

private theorem simGE_of {G : GCtx} {A : Act} {ip n stk} {mem : List (Int × Val)} {st : St} {r : Except Ctl Val × St}
    (hfr : G.fr = false) (h : Sim.SimGE G A ip n stk (memOf G mem) st r) : SimGE G A ip n stk mem st r := by
  obtain ⟨r1, st1⟩ := r
  cases r1 with
  | error c => exact h
  | ok v =>
    obtain ⟨h1, mem', o, ho, hrun, hml⟩ := h
    cases ho hfr
    exact ⟨h1, mem', hrun, hml⟩

private theorem simArgs_of {G : GCtx} {A : Act} {ip n stk} {mem : List (Int × Val)} {st : St}
    {r : Except Ctl (List Val) × St}
    (hfr : G.fr = false) (h : Sim.SimArgs G A ip n stk (memOf G mem) st r) : SimArgs G A ip n stk mem st r := by
  obtain ⟨r1, st1⟩ := r
  cases r1 with
  | error c => exact h
  | ok vals =>
    obtain ⟨h1, mem', svals, _, hs0, hrun, hml⟩ := h
    rw [hs0 hfr] at hrun
    exact ⟨h1, mem', hrun, hml⟩

private theorem simCall_of {G : GCtx} {g frames mp args stk} {mem : List (Int × Val)} {st : St} {r : Except Ctl Val × St}
    (hfr : G.fr = false) (h : Sim.SimCall G g frames mp (args.map (⟨·, none⟩)) stk (memOf G mem) st r) :
    SimCall G g frames mp args stk mem st r := by
  obtain ⟨r1, st1⟩ := r
  cases r1 with
  | error c => exact h
  | ok v =>
    obtain ⟨h1, mem', o, ho, hrun, hml⟩ := h
    cases ho hfr
    exact ⟨h1, mem', hrun, hml⟩

private theorem simCallV_of {G : GCtx} {g frames mp args stk} {mem : List (Int × Val)} {st : St} {r : Except Ctl Val × St}
    (hfr : G.fr = false) (h : Sim.SimCallV G g frames mp args stk (memOf G mem) st r) :
    SimCallV G g frames mp args stk mem st r := by
  obtain ⟨r1, st1⟩ := r
  cases r1 with
  | error c => exact h
  | ok v =>
    obtain ⟨h1, mem', stk', hs, hrun, hml⟩ := h
    refine ⟨h1, mem', stk', ?_, hrun, hml⟩
    rcases hs with hs | ⟨o, ho, hs⟩
    · exact Or.inl hs
    · cases ho hfr; exact Or.inr hs

private theorem simGS_of {α : Type} {G : GCtx} {A : Act} {loops lscopes d ip n stk} {mem : List (Int × Val)}
    {scopes : CScopes} {vm : List (String × Nat)} {st : St} {r : Except Ctl α × St} (hfr : G.fr = false)
    (h : Sim.SimGS G A loops lscopes d ip n stk (memOf G mem) (Sim.GRel G A scopes vm) st r) :
    SimGS G A loops lscopes d ip n stk mem (GRel G A scopes vm) st r := by
  have h' := Sim.SimGS.monoQ (Q' := fun ss m => GRel G A scopes vm ss m.cells) (fun _ _ hq => hq.cells_congr rfl) h
  obtain ⟨r1, st1⟩ := r
  cases r1 with
  | ok u => exact h'
  | error c =>
    cases c <;> try exact h'
    obtain ⟨hrt, h1, mem', o, ho, hrun, hml⟩ := h'
    cases ho hfr
    exact ⟨hrt, h1, mem', hrun, hml⟩

/-! ## 9. Calls of top-level functions -/

/-- A compiled function meets the hypotheses of the call simulation (`FnOK`): ordinary parameters,
statements of the general fragment (`Frag.okGSs`: `let`, assignment, `if`, `while`, `loop`, `break`,
`continue`, `return e;`, call statements, `println(…)`) and a trailing expression (`Frag.okGE`: the
pure fragment plus calls `f(a₁, …, aₙ)` of top-level functions in which all arguments but at most one
are atoms — literals or local variables, `Frag.oneNonAtom`; see `args_order_witness_spec/_vm/_fatal`). Its
code `cgFn …` is `AddMempointer(n); SetVarImm p₁ … SetVarImm pₖ; statements; expression; cleanup:
AddMempointer(-n); Return`, a call being `code(aₙ) … code(a₁); Call_Imm f`. The hypotheses left are
static and decidable for a given function (`fnCheck`). -/
theorem fn_compiled_ok (G : GCtx) (fd : FnDef) (stmts : List Stmt) (e : Expr) (φ : String → Option String)
    (scopes0 : CScopes) (vm0 : List (String × Nat)) (lm0 : LM) (T : List String) (r : NCode)
    (hbody : ∃ bsp bty, fd.body = .mk bsp bty stmts (some e))
    (hparams : ∀ p ∈ fd.params, p.isSingleton = false)
    (hrel : relocate (cgFn G.mod φ fd stmts (some e) scopes0 vm0 lm0) = some r)
    (hcode : findCode G.code (mangleFnName G.mod fd.name) = some (renameVars r))
    (hframe : (fnParts G.mod φ fd stmts (some e) scopes0 vm0 lm0).envE.nv ≤ G.F)
    (okS : Frag.okGSs false true stmts = true) (okE : Frag.okGE e = true)
    (wsS : Frag.wsGSs G.mod fd.name φ [] stmts (fnParts G.mod φ fd stmts (some e) scopes0 vm0 lm0).envB = true)
    (wsE : Frag.wsGE (fnParts G.mod φ fd stmts (some e) scopes0 vm0 lm0).envS.scopes φ e = true)
    (tParams : ∀ p ∈ fd.params, p.name ∈ T) (tIdents : ∀ x ∈ Frag.identsGSs stmts, x ∈ T)
    (tVars : ∀ x ∈ Frag.namesGE e, x ∈ T) (key : cleanupKey G.mod fd.name ∉ T)
    (outer : ∀ sc ∈ scopes0, ∀ x ∈ T, sc.lookup x = none) (phi : PhiOK G φ) :
    FnOK G fd.name fd
      ⟨renameVars r, slotFn r, labelIndex (cgFn G.mod φ fd stmts (some e) scopes0 vm0 lm0), (· ∈ varNames r), T, φ,
        scopes0, vm0, lm0⟩ stmts e :=
  FnOK.of_compiled G fd stmts e φ scopes0 vm0 lm0 T r hbody hparams hrel hcode hframe
    (okFSs_of_okGSs _ _ _ _ okS) (okE_okGE _ _ okE) wsS wsE
    tParams tIdents tVars key outer phi

/-- A call on the VM is the specification's call (`Sem.callBody`, what `evalCall`/`applyFn` run for a
function value), for *every* fuel: the induction is on the specification's fuel, so recursion, direct
or mutual, is covered. The VM starts at the callee's first instruction with the arguments on the
operand stack, first argument on top. A result `v` ↦ the VM runs prologue (`AddMempointer n`, one
`SetVarImm` per parameter), body and epilogue and is back in the caller's frames with the same memory
pointer, `v` pushed and the caller's cells (`≤ mp`) untouched. An exception nobody inside the callee
catches ↦ `RunsCallT`: whoever installed the newest handler takes over (`try_correct`), or the run ends
with `UncaughtThrow` (`entry_run`). `break`/`continue` never escape a call. -/
theorem call_correct (G : GCtx) (hG : G.OK) (fuel : Nat) (g : String) (fd : FnDef) (I : FnInfo)
    (stmts : List Stmt) (e : Expr) (hK : G.K g) (hfind : findFn G.cfg.prog G.mod g = some fd)
    (hFn : FnOK G g fd I stmts e) (sp : Span) (vals : List Val) (st : St) (frames : List Frame) (mp : Int)
    (stk : List SVal) (mem : List (Int × Val)) (hsp : SpecOK G mp st) (hmp : 0 ≤ mp) :
    SimCall G (mangleFnName G.mod g) frames mp vals stk mem st
      (callBody G.cfg fuel sp G.mod fd.params fd.body vals st) := by
  have h := (allP G hG.toOK' fuel).pcall g fd I stmts e hK hfind hFn (by rw [hG.nofor]; intro h; cases h) sp
    (vals.map (⟨·, none⟩)) st frames mp stk (memOf G mem) hsp hmp
  have hvm : (vals.map (fun v => (⟨v, none⟩ : SVal))).map (·.v) = vals := by
    rw [List.map_map]; exact List.map_id' vals
  rw [hvm] at h
  exact simCall_of hG.nofor h

/-- `call_correct` for a call that returns, spelled out on `VM.step` sequences. -/
theorem call_returns (G : GCtx) (hG : G.OK) (fuel : Nat) (g : String) (fd : FnDef) (I : FnInfo)
    (stmts : List Stmt) (e : Expr) (hK : G.K g) (hfind : findFn G.cfg.prog G.mod g = some fd)
    (hFn : FnOK G g fd I stmts e) (sp : Span) (vals : List Val) (st st' : St) (v : Val) (frames : List Frame)
    (mp : Int) (stk : List SVal) (mem : List (Int × Val)) (hsp : SpecOK G mp st) (hmp : 0 ≤ mp)
    (hev : callBody G.cfg fuel sp G.mod fd.params fd.body vals st = (.ok v, st')) :
    st' = { st with out := st'.out, heap := st'.heap } ∧
    ∃ mem', (∀ k, ∃ k', execHN G.code G.lim k'
        (mkS G.s (⟨mangleFnName G.mod g, 0⟩ :: frames) mp k (vals.map (⟨·, none⟩) ++ stk) mem st.world) =
          .next (mkS G.s frames mp (k + k') (⟨v, none⟩ :: stk) mem' st'.world)) ∧
      ∀ a, a ≤ mp → mem'.lookup a = mem.lookup a := by
  have h := call_correct G hG fuel g fd I stmts e hK hfind hFn sp vals st frames mp stk mem hsp hmp
  rw [hev] at h
  obtain ⟨hfr, mem', hrun, hml⟩ := h
  have hit : mem'.it = itOf G.s := by have := hml.it; rw [hG.nofor] at this; exact this
  refine ⟨hfr, mem'.cells, ?_, hml.cells⟩
  have e : mem' = ⟨mem'.cells, itOf G.s⟩ := by rw [← hit]
  rw [e] at hrun
  exact hrun.run

/-- Expressions with calls inside an activation: every call goes through `Call_Imm`, the callee's
frame and `Return`. -/
theorem call_expr_correct (G : GCtx) (hG : G.OK) (fuel : Nat) (A : Act) (hA : A.OK G) (e : Expr) (st : St)
    (ip : Nat) (stk : List SVal) (mem : List (Int × Val)) (lm : LM) (scopes : CScopes) (vm : List (String × Nat))
    (hs : Frag.okGE e = true) (hws : Frag.wsGE scopes A.φ e = true) (hT : ∀ x ∈ Frag.namesGE e, x ∈ A.T)
    (hpl : Placed A.lab A.σ A.c ip (cgE G.mod (ρS scopes) A.φ e lm).1)
    (hrel : StRel G.mod A.T A.N A.σ G.lim A.mp scopes vm st.scopes mem) (hsp : SpecOK G A.mp st) :
    SimGE G A ip (nI (cgE G.mod (ρS scopes) A.φ e lm).1) stk mem st (evalExpr G.cfg fuel e st) :=
  simGE_of hG.nofor ((allP G hG.toOK' fuel).pe.simGE A hA e st ip stk (memOf G mem) lm scopes vm (okE_okGE _ _ hs) hws hT hpl hrel hsp)

/-- Argument lists: the code is `code(aₙ) ++ … ++ code(a₁)` (`cgArgs`), the VM evaluates right to
left, the specification (`evalList`) left to right; with all arguments but at most one atoms both
arrive at the same values (first argument on top), the same output and, when an argument fails, the
same fatal error. -/
theorem call_args_correct (G : GCtx) (hG : G.OK) (fuel : Nat) (A : Act) (hA : A.OK G)
    (args : List (String × Expr)) (st : St) (ip : Nat) (stk : List SVal) (mem : List (Int × Val)) (lm : LM)
    (scopes : CScopes) (vm : List (String × Nat))
    (hs : Frag.okGArgs args = true) (hone : Frag.oneNonAtom args = true)
    (hws : Frag.wsGArgs scopes A.φ args = true) (hT : ∀ x ∈ Frag.namesGArgs args, x ∈ A.T)
    (hpl : Placed A.lab A.σ A.c ip (cgArgs G.mod (ρS scopes) A.φ args lm).1)
    (hrel : StRel G.mod A.T A.N A.σ G.lim A.mp scopes vm st.scopes mem) (hsp : SpecOK G A.mp st) :
    SimArgs G A ip (nI (cgArgs G.mod (ρS scopes) A.φ args lm).1) stk mem st
      (evalList G.cfg fuel (args.map (·.2)) st) :=
  simArgs_of hG.nofor ((allP G hG.toOK' fuel).pargs.simArgs A hA args st ip stk (memOf G mem) lm scopes vm (okEArgs_okGArgs _ _ hs) hone hws hT hpl hrel hsp)

/-! ### From a concrete program to the hypotheses of the simulation

Three layers give `FnOK`/`FnVoidOK`/`GCtx.OK'` of a concrete program: `fnCheck` (one function, by kernel
evaluation), `phiOK_cons` (the function table, entry by entry) and `progCheck` (a module, by kernel
evaluation), all for the largest fragment (`Frag.okFSs G.fr`, sections 16–22). -/

/-- The decidable hypotheses of `FnOK.of_compiled` / `FnVoidOK.of_compiled` (`oe = none`) as one
Boolean, so that one kernel evaluation checks a function and computes `fnParts` once. -/
def fnCheck (G : GCtx) (fd : FnDef) (stmts : List Stmt) (oe : Option Expr) (φ : String → Option String)
    (scopes0 : CScopes) (vm0 : List (String × Nat)) (lm0 : LM) (T : List String) : Bool :=
  let P := fnParts G.mod φ fd stmts oe scopes0 vm0 lm0
  fd.params.all (fun p => !p.isSingleton && T.contains p.name)
  && (relocate (cgFn G.mod φ fd stmts oe scopes0 vm0 lm0)).isSome
  && decide (P.envE.nv ≤ G.F)
  && Frag.okFSs G.fr false true stmts
  && Frag.wsGSs G.mod fd.name φ [] stmts P.envB
  && oe.all (fun e => Frag.okE G.fr e && Frag.wsGE P.envS.scopes φ e && (Frag.namesGE e).all T.contains)
  && (Frag.identsGSs stmts).all T.contains
  && !T.contains (cleanupKey G.mod fd.name)
  && scopes0.all (fun sc => T.all fun x => (sc.lookup x).isNone)

theorem fnOK_of_check (G : GCtx) (fd : FnDef) (stmts : List Stmt) (e : Expr) (φ : String → Option String)
    (scopes0 : CScopes) (vm0 : List (String × Nat)) (lm0 : LM) (T : List String)
    (hbody : ∃ bsp bty, fd.body = .mk bsp bty stmts (some e))
    (hcode : findCode G.code (mangleFnName G.mod fd.name) =
      some (renameVars (relG (cgFn G.mod φ fd stmts (some e) scopes0 vm0 lm0))))
    (h : fnCheck G fd stmts (some e) φ scopes0 vm0 lm0 T = true) (phi : PhiOK G φ) :
    FnOK G fd.name fd
      ⟨renameVars (relG (cgFn G.mod φ fd stmts (some e) scopes0 vm0 lm0)),
        slotFn (relG (cgFn G.mod φ fd stmts (some e) scopes0 vm0 lm0)),
        labelIndex (cgFn G.mod φ fd stmts (some e) scopes0 vm0 lm0),
        (· ∈ varNames (relG (cgFn G.mod φ fd stmts (some e) scopes0 vm0 lm0))), T, φ, scopes0, vm0, lm0⟩ stmts e := by
  simp only [fnCheck, Bool.and_eq_true, List.all_eq_true, Option.all_some, decide_eq_true_eq,
    List.contains_iff_mem, Option.isNone_iff_eq_none, Bool.not_eq_eq_eq_not, Bool.not_true] at h
  obtain ⟨⟨⟨⟨⟨⟨⟨⟨hp, hrel⟩, hframe⟩, okS⟩, wsS⟩, ⟨okE, wsE⟩, tVars⟩, tIdents⟩, key⟩, outer⟩ := h
  exact FnOK.of_compiled G fd stmts e φ scopes0 vm0 lm0 T _ hbody (fun p hp' => (hp p hp').1)
    (relocate_relG _ hrel) hcode hframe okS okE wsS wsE (fun p hp' => (hp p hp').2) tIdents tVars
    (by simpa using key) outer phi

theorem fnVoidOK_of_check (G : GCtx) (fd : FnDef) (stmts : List Stmt) (φ : String → Option String)
    (scopes0 : CScopes) (vm0 : List (String × Nat)) (lm0 : LM) (T : List String)
    (hbody : ∃ bsp bty, fd.body = .mk bsp bty stmts none)
    (hcode : findCode G.code (mangleFnName G.mod fd.name) =
      some (renameVars (relG (cgFn G.mod φ fd stmts none scopes0 vm0 lm0))))
    (h : fnCheck G fd stmts none φ scopes0 vm0 lm0 T = true) (phi : PhiOK G φ) :
    FnVoidOK G fd.name fd
      ⟨renameVars (relG (cgFn G.mod φ fd stmts none scopes0 vm0 lm0)),
        slotFn (relG (cgFn G.mod φ fd stmts none scopes0 vm0 lm0)),
        labelIndex (cgFn G.mod φ fd stmts none scopes0 vm0 lm0),
        (· ∈ varNames (relG (cgFn G.mod φ fd stmts none scopes0 vm0 lm0))), T, φ, scopes0, vm0, lm0⟩ stmts := by
  simp only [fnCheck, Bool.and_eq_true, List.all_eq_true, Option.all_none, decide_eq_true_eq,
    List.contains_iff_mem, Option.isNone_iff_eq_none, Bool.not_eq_eq_eq_not, Bool.not_true, and_true] at h
  obtain ⟨⟨⟨⟨⟨⟨⟨hp, hrel⟩, hframe⟩, okS⟩, wsS⟩, tIdents⟩, key⟩, outer⟩ := h
  exact FnVoidOK.of_compiled G fd stmts φ scopes0 vm0 lm0 T _ hbody (fun p hp' => (hp p hp').1)
    (relocate_relG _ hrel) hcode hframe okS wsS (fun p hp' => (hp p hp').2) tIdents
    (by simpa using key) outer phi

/-- `PhiOK` of a function table written as a chain of `if n = a then some b else …`, entry by entry. -/
theorem phiOK_nil (G : GCtx) : PhiOK G (fun _ => none) := nofun

theorem phiOK_cons {G : GCtx} {a b : String} {ψ : String → Option String} (hb : b = mangleFnName G.mod a)
    (hK : G.K a) (fd : FnDef) (hfind : findFn G.cfg.prog G.mod a = some fd) (hψ : PhiOK G ψ) :
    PhiOK G (fun n => if n = a then some b else ψ n) := by
  intro name f h
  by_cases hn : name = a
  · have h : some b = some f := (if_pos hn).symm.trans h
    cases h; subst hn
    exact ⟨hb, hK, fd, hfind, by rw [resolveFn, hfind]⟩
  · exact hψ name f ((if_neg hn).symm.trans h)

/-! ### A whole module checked by one evaluation

`progCheck` is everything decidable that `GCtx.OK'`, `FnOK` and `FnVoidOK` ask of a module whose
functions `fds` are compiled at top level (`cgFn … [[]] [] []`), each with its tracked identifiers from
`Ts`. What stays per program is matched, not evaluated: the function table `φ` (`phiOK_cons`), the
program's functions (`hprog`), the callable ones (`hK`) and the code table (`hcode`). -/

private def stmtsOf : Block → List Stmt
  | .mk _ _ ss _ => ss
private def tailOf : Block → Option Expr
  | .mk _ _ _ e => e

def infoOf (mod : String) (φ : String → Option String) (fd : FnDef) (T : List String) : FnInfo :=
  ⟨renameVars (relG (cgFn mod φ fd (stmtsOf fd.body) (tailOf fd.body) [[]] [] [])),
    slotFn (relG (cgFn mod φ fd (stmtsOf fd.body) (tailOf fd.body) [[]] [] [])),
    labelIndex (cgFn mod φ fd (stmtsOf fd.body) (tailOf fd.body) [[]] [] []),
    (· ∈ varNames (relG (cgFn mod φ fd (stmtsOf fd.body) (tailOf fd.body) [[]] [] []))), T, φ, [[]], [], []⟩

def progCheck (G : GCtx) (φ : String → Option String) (fds : List FnDef) (Ts : List (List String))
    (kn : List String) : Bool :=
  (G.code.map (·.name) == fds.map fun fd => mangleFnName G.mod fd.name)
  && decide (G.code.map (·.name)).Nodup
  && ((fds.zip Ts).all fun p =>
      fnCheck G p.1 (stmtsOf p.1.body) (tailOf p.1.body) φ [[]] [] [] p.2
      && (!G.fr || p.2.all fun y => !p.2.contains ("$iter_" ++ y)))
  && fds.length == Ts.length
  && (kn.all fun g => (fds.find? (·.name == g)).all fun fd => (tailOf fd.body).isSome)
  && decide (G.B + ((G.cfg.callLimit : Int) + 2) * (G.F : Int) < (G.lim.memory : Int))
  && decide (0 ≤ G.B)
  && (G.s.globals.lookup "println").isNone
  && (resolveFn G.cfg.prog G.mod "println").isNone
  && (resolveFn G.cfg.prog G.mod "throw").isNone
  && decide (1 ≤ G.lim.callStack)

structure ProgChecked (G : GCtx) (φ : String → Option String) (fds : List FnDef) (Ts : List (List String)) :
    Prop where
  ok : G.OK'
  calls : 1 ≤ G.lim.callStack
  fn : ∀ (i : Nat) (fd : FnDef) (T : List String), fds[i]? = some fd → Ts[i]? = some T →
    (G.fr = true → ∀ y ∈ T, ("$iter_" ++ y) ∉ T) ∧
    match tailOf fd.body with
    | some e => FnOK G fd.name fd (infoOf G.mod φ fd T) (stmtsOf fd.body) e
    | none => FnVoidOK G fd.name fd (infoOf G.mod φ fd T) (stmtsOf fd.body)

private theorem findCode_nodup (code : Code) (h : (code.map (·.name)).Nodup) (i : Nat) (f : CompiledFn)
    (hf : code[i]? = some f) : findCode code f.name = some f.code := by
  unfold findCode
  induction code generalizing i with
  | nil => simp at hf
  | cons d ds ih =>
    rw [List.map_cons, List.nodup_cons] at h
    cases i with
    | zero =>
      cases (by simpa using hf : d = f)
      simp [List.find?]
    | succ i =>
      have hfm : f ∈ ds := List.mem_of_getElem? (by simpa using hf)
      have hd : (d.name == f.name) = false := by
        rw [beq_eq_false_iff_ne]
        intro e
        exact h.1 (e ▸ List.mem_map_of_mem hfm)
      simpa [List.find?, hd] using ih h.2 i (by simpa using hf)

/-- `progCheck G φ fds Ts kn = true` with `phi`, `hprog` (the module's functions are `fds`), `hK` (`kn` lists the
callable functions; of those `progCheck` asks a trailing expression, `FnOK`) and `hcode` gives `ProgChecked`.
The code table is met through `findCode_nodup`: function names are distinct, so the `i`-th
entry is what `findCode` finds under the `i`-th name. -/
theorem progChecked_of_check {G : GCtx} {φ : String → Option String} {fds : List FnDef}
    {Ts : List (List String)} (kn : List String) (phi : PhiOK G φ)
    (hprog : ∀ g, findFn G.cfg.prog G.mod g = fds.find? (·.name == g)) (hK : ∀ g, G.K g → g ∈ kn)
    (hcode : G.code.map (·.code) = (fds.zip Ts).map fun p => (infoOf G.mod φ p.1 p.2).c)
    (h : progCheck G φ fds Ts kn = true) : ProgChecked G φ fds Ts := by
  simp only [progCheck, Bool.and_eq_true, List.all_eq_true, decide_eq_true_eq, Option.isNone_iff_eq_none,
    beq_iff_eq] at h
  obtain ⟨⟨⟨⟨⟨⟨⟨⟨⟨⟨hnames, hnd⟩, hfn⟩, hlen⟩, hkn⟩, room⟩, base⟩, hpr⟩, hnp⟩, hnt⟩, hcl⟩ := h
  have fn : ∀ (i : Nat) (fd : FnDef) (T : List String), fds[i]? = some fd → Ts[i]? = some T →
      (G.fr = true → ∀ y ∈ T, ("$iter_" ++ y) ∉ T) ∧
      match tailOf fd.body with
      | some e => FnOK G fd.name fd (infoOf G.mod φ fd T) (stmtsOf fd.body) e
      | none => FnVoidOK G fd.name fd (infoOf G.mod φ fd T) (stmtsOf fd.body) := by
    intro i fd T hi hT
    have hz : (fds.zip Ts)[i]? = some (fd, T) := List.getElem?_zip_eq_some.mpr ⟨hi, hT⟩
    obtain ⟨hchk, hiter⟩ := hfn _ (List.mem_of_getElem? hz)
    have hc : G.code[i]? = some ⟨mangleFnName G.mod fd.name, (infoOf G.mod φ fd T).c⟩ := by
      have h1 := congrArg (·[i]?) hnames
      have h2 := congrArg (·[i]?) hcode
      simp only [List.getElem?_map, hi, hz, Option.map_some] at h1 h2
      cases hg : G.code[i]? with
      | none => rw [hg] at h1; cases h1
      | some f =>
        rw [hg] at h1 h2
        cases f
        simp only [Option.map_some, Option.some.injEq] at h1 h2
        rw [h1, h2]
    have hcode' : findCode G.code (mangleFnName G.mod fd.name) = some (infoOf G.mod φ fd T).c :=
      findCode_nodup G.code hnd i _ hc
    refine ⟨fun hfr y hy => ?_, ?_⟩
    · simp only [hfr, Bool.not_true, Bool.false_or, List.all_eq_true, Bool.not_eq_eq_eq_not] at hiter
      simpa using hiter y hy
    · rcases hb : fd.body with ⟨bsp, bty, ss, oe⟩
      simp only [infoOf, hb, stmtsOf, tailOf] at hchk hcode' ⊢
      cases oe with
      | some e => exact fnOK_of_check G fd ss e φ [[]] [] [] T ⟨bsp, bty, hb⟩ hcode' hchk phi
      | none => exact fnVoidOK_of_check G fd ss φ [[]] [] [] T ⟨bsp, bty, hb⟩ hcode' hchk phi
  refine ⟨⟨?_, room, base, hpr, hnp, hnt⟩, hcl, fn⟩
  intro g fd hKg hfind
  rw [hprog g] at hfind
  have hsome : (tailOf fd.body).isSome = true := by simpa [hfind] using hkn g (hK g hKg)
  obtain ⟨i, hi⟩ := List.mem_iff_getElem?.mp (List.mem_of_find?_eq_some hfind)
  have hlt : i < Ts.length := hlen ▸ (List.getElem?_eq_some_iff.mp hi).1
  have hg : fd.name = g := by simpa using List.find?_some hfind
  obtain ⟨hit, hfn'⟩ := fn i fd Ts[i] hi (List.getElem?_eq_getElem hlt)
  rcases he : tailOf fd.body with _ | e
  · rw [he] at hsome; cases hsome
  · rw [he] at hfn'
    exact ⟨_, _, e, hg ▸ hfn', hit⟩

section Example9
private def gv (x : String) : Expr := .ident sp0 .int x false false false
private def gcall (f : String) (args : List Expr) : Expr :=
  .call sp0 .int (.ident sp0 (.fn [] .int) f false true false) (args.map fun a => ("", a)) false
private def gprint (es : List Expr) : Stmt :=
  .exprS sp0 (.call sp0 .null (.ident sp0 (.fn [] .null) "println" false false false) (es.map fun e => ("", e)) false)
private def gfn (name : String) (params : List String) (ret : Ty) (stmts : List Stmt) (e : Option Expr) : FnDef :=
  ⟨sp0, name, params.map fun p => ⟨p, .int, false, ""⟩, ret, 0, false, .mk sp0 ret stmts e⟩
private def gif (c : Expr) (ss : List Stmt) : Stmt := .exprS sp0 (.ifE sp0 .null c (.mk sp0 .null ss none) none)
private def gasg (op : InfixOp) (x : String) (e : Expr) : Stmt := .exprS sp0 (.assign sp0 (some op) (gv x) e)

/-- `if n < 2 { return n; }` -/
def fibStmts : List Stmt := [gif (.infix sp0 .bool .lt (gv "n") (.int sp0 2)) [.ret sp0 (some (gv "n"))]]
/-- `fib(n - 1) + fib(n - 2)` -/
def fibE : Expr := .infix sp0 .int .add (gcall "fib" [.infix sp0 .int .sub (gv "n") (.int sp0 1)])
  (gcall "fib" [.infix sp0 .int .sub (gv "n") (.int sp0 2)])
/-- `fn fib(n: int) -> int { if n < 2 { return n; } fib(n - 1) + fib(n - 2) }` -/
def fibFd : FnDef := gfn "fib" ["n"] .int fibStmts (some fibE)
/-- `let i = 0; let acc = 0;`
`loop { i += 1; if i > k { break; } if i % 2 == 0 { continue; } acc += i; }`
`while i > 0 { i -= 1; if i > 3 { continue; } if i < 2 { break; } acc += 100; }` -/
def sumStmts : List Stmt :=
  [ .letS sp0 "i" .int false .int (.int sp0 0), .letS sp0 "acc" .int false .int (.int sp0 0),
    .loopS sp0 (.mk sp0 .null [ gasg .add "i" (.int sp0 1),
       gif (.infix sp0 .bool .gt (gv "i") (gv "k")) [.brk sp0],
       gif (.infix sp0 .bool .eq (.infix sp0 .int .rem (gv "i") (.int sp0 2)) (.int sp0 0)) [.cont sp0],
       gasg .add "acc" (gv "i") ] none),
    .whileS sp0 (.infix sp0 .bool .gt (gv "i") (.int sp0 0)) (.mk sp0 .null [ gasg .sub "i" (.int sp0 1),
       gif (.infix sp0 .bool .gt (gv "i") (.int sp0 3)) [.cont sp0],
       gif (.infix sp0 .bool .lt (gv "i") (.int sp0 2)) [.brk sp0],
       gasg .add "acc" (.int sp0 100) ] none) ]
def sumFd : FnDef := gfn "sumOdd" ["k"] .int sumStmts (some (gv "acc"))
/-- `println("result", x, x > 100);` -/
def repStmts : List Stmt := [gprint [.str sp0 "result", gv "x", .infix sp0 .bool .gt (gv "x") (.int sp0 100)]]
/-- `fn report(x: int) -> int { println("result", x, x > 100); x }` -/
def repFd : FnDef := gfn "report" ["x"] .int repStmts (some (gv "x"))
/-- `fn main() { println(fib(10)); println(report(sumOdd(9)), true, "done"); }` -/
def mainStmts : List Stmt :=
  [gprint [gcall "fib" [.int sp0 10]], gprint [gcall "report" [gcall "sumOdd" [.int sp0 9]], .bool sp0 true, .str sp0 "done"]]
def mainFd : FnDef := gfn "main" [] .null mainStmts none
def progX : Program :=
  [{ name := "main", imports := [], singletons := [], globals := [], nImpls := 0, fns := [fibFd, sumFd, repFd, mainFd] }]

/-- The whole program on the models themselves (kernel evaluation): the specification … -/
example : (match runProgram { prog := progX } 200 with | .ok out _ => out | _ => "?") =
    "55\nresult 225 true\n225 true done\n" := by
  decide +kernel
def φX : String → Option String := fun n =>
  if n = "fib" then some "@main.fib" else if n = "sumOdd" then some "@main.sumOdd"
  else if n = "report" then some "@main.report" else none
def symFib : SCode := cgFn "main" φX fibFd fibStmts (some fibE) [[]] [] []
def symSum : SCode := cgFn "main" φX sumFd sumStmts (some (gv "acc")) [[]] [] []
def symRep : SCode := cgFn "main" φX repFd repStmts (some (gv "x")) [[]] [] []
def symMain : SCode := cgFn "main" φX mainFd mainStmts none [[]] [] []
/-- The VM code: `renameVariables (relocateLabels (cgFn …))` for the four functions. -/
def codeX : Code := [⟨"@main.fib", renameVars (relG symFib)⟩, ⟨"@main.sumOdd", renameVars (relG symSum)⟩,
  ⟨"@main.report", renameVars (relG symRep)⟩, ⟨"@main.main", renameVars (relG symMain)⟩]

/-- A comparison of instruction lists that the kernel can evaluate (the derived `BEq` of `PVal` is
not structural). It answers `false` on two object templates (`.obj`): a program with object literals
compares them with `pvalBeqO` (Example 18). The two derived instances below are global: the later
example sections compare `RInstr`s with them. -/
private def pvalBeq : PVal → PVal → Bool
  | .null, .null => true | .int a, .int b => a == b | .float a, .float b => a == b | .bool a, .bool b => a == b
  | .str a, .str b => a == b | .noneOpt, .noneOpt => true | .emptyList, .emptyList => true
  | .emptyAnyObj, .emptyAnyObj => true | .range0, .range0 => true | .vmFn a, .vmFn b => a == b | _, _ => false
local instance (priority := high) : BEq PVal := ⟨pvalBeq⟩
deriving instance BEq for Hms.Core.Ty
deriving instance BEq for Hms.Core.Comp.Instr

/-- `Comp.compile` on the program, evaluated once for the two examples below. -/
private theorem compiledX : (match compile progX "main" 100 with
    | .ok c => ((c.fns.filter fun f => f.name != "@main.@init").map (fun f => (f.name, f.code))
        == codeX.map (fun f => (f.name, f.code))) &&
      decide ((match runMain c {} 50 20000 with
        | .ok s => (s.st.out, s.stack.length, s.mp, s.calls.length) | _ => ("?", 0, 0, 0)) =
        ("55\nresult 225 true\n225 true done\n", 0, 0, 0))
    | .error _ => false) = true := by decide +kernel

/-- … and the compiled program on the VM print the same (and the VM ends with a clean core). -/
example : (match compile progX "main" 100 with
    | .ok c => (match runMain c {} 50 20000 with
      | .ok s => (s.st.out, s.stack.length, s.mp, s.calls.length) | _ => ("?", 0, 0, 0))
    | .error e => (e, 0, 0, 0)) = ("55\nresult 225 true\n225 true done\n", 0, 0, 0) := by
  have h := compiledX
  generalize compile progX "main" 100 = r at h ⊢
  cases r with
  | error e => cases h
  | ok c => exact of_decide_eq_true (Bool.and_eq_true_iff.mp h).2

/-- The real compiler produces this code: `Comp.compile` gives, for the four functions, exactly
`codeX`, i.e. `compileFn` emits `cgFn …` up to the names of labels and variables, which
`relocateLabels`/`renameVariables` erase (compared instruction by instruction, spans included). -/
example : (match compile progX "main" 100 with
    | .ok c => (c.fns.filter fun f => f.name != "@main.@init").map (fun f => (f.name, f.code))
        == codeX.map (fun f => (f.name, f.code))
    | .error _ => false) = true := by
  have h := compiledX
  generalize compile progX "main" 100 = r at h ⊢
  cases r with
  | error e => cases h
  | ok c => exact (Bool.and_eq_true_iff.mp h).1

/-- The context, in the order of `GCtx`'s fields: program, code, default limits, module `main`, the default VM
state as base state, the three callable functions, frames of at most 6 cells above memory pointer 0, no `for`
loops (`fr = false`). The contexts of the later examples (`GY` … `GC`) are written the same way. -/
def GX : GCtx :=
  ⟨{ prog := progX }, codeX, {}, "main", {}, fun g => g = "fib" ∨ g = "sumOdd" ∨ g = "report", 6, 0, false⟩

private theorem phiX : PhiOK GX φX :=
  phiOK_cons (by decide +kernel) (.inl rfl) fibFd rfl <|
  phiOK_cons (by decide +kernel) (.inr (.inl rfl)) sumFd rfl <|
  phiOK_cons (by decide +kernel) (.inr (.inr rfl)) repFd rfl (phiOK_nil GX)

private theorem chkX : ProgChecked GX φX [fibFd, sumFd, repFd, mainFd]
    [["n", "fib"], ["k", "i", "acc"], ["x", "println"], ["println", "fib", "report", "sumOdd"]] :=
  progChecked_of_check ["fib", "sumOdd", "report"] phiX (fun _ => rfl) (fun g h => by simpa [GX] using h) rfl
    (by decide +kernel)

theorem fnOK_fib : FnOK GX "fib" fibFd
    ⟨renameVars (relG symFib), slotFn (relG symFib), labelIndex symFib, (· ∈ varNames (relG symFib)), ["n", "fib"],
      φX, [[]], [], []⟩ fibStmts fibE :=
  (chkX.fn 0 _ _ rfl rfl).2

theorem fnOK_sum : FnOK GX "sumOdd" sumFd
    ⟨renameVars (relG symSum), slotFn (relG symSum), labelIndex symSum, (· ∈ varNames (relG symSum)),
      ["k", "i", "acc"], φX, [[]], [], []⟩ sumStmts (gv "acc") :=
  (chkX.fn 1 _ _ rfl rfl).2

theorem fnOK_rep : FnOK GX "report" repFd
    ⟨renameVars (relG symRep), slotFn (relG symRep), labelIndex symRep, (· ∈ varNames (relG symRep)),
      ["x", "println"], φX, [[]], [], []⟩ repStmts (gv "x") :=
  (chkX.fn 2 _ _ rfl rfl).2

theorem gx_ok : GX.OK := ⟨chkX.ok, rfl⟩

def stX : St := { module := "main" }
private def isIntV (n : Int) : Except Ctl Val → Bool
  | .ok (.int i) => i.toInt == n
  | _ => false

private theorem spec_fib :
    isIntV 55 (callBody GX.cfg 120 sp0 GX.mod fibFd.params fibFd.body [.int (I64.ofInt 10)] stX).1 = true ∧
    (callBody GX.cfg 120 sp0 GX.mod fibFd.params fibFd.body [.int (I64.ofInt 10)] stX).2.out = "" := by
  decide +kernel

/-- A call through the theorem: specification result `n` and output `out` ↦ the VM run. -/
private theorem callX (g : String) (fd : FnDef) (I : FnInfo) (stmts : List Stmt) (e : Expr) (hK : GX.K g)
    (hfind : findFn GX.cfg.prog GX.mod g = some fd) (hFn : FnOK GX g fd I stmts e) (fuel : Nat) (arg n : Int)
    (out : String)
    (h1 : isIntV n (callBody GX.cfg fuel sp0 GX.mod fd.params fd.body [.int (I64.ofInt arg)] stX).1 = true)
    (h2 : (callBody GX.cfg fuel sp0 GX.mod fd.params fd.body [.int (I64.ofInt arg)] stX).2.out = out) :
    ∃ (i : I64) (mem' : List (Int × Val)) (heap' : Array Cell), i.toInt = n ∧
      ∀ k, ∃ k', execHN codeX {} k' (mkS {} [⟨mangleFnName "main" g, 0⟩] 0 k [⟨.int (I64.ofInt arg), none⟩] []
          ⟨#[], ""⟩) = .next (mkS {} [] 0 (k + k') [⟨.int i, none⟩] mem' ⟨heap', out⟩) := by
  rcases hev : callBody GX.cfg fuel sp0 GX.mod fd.params fd.body [.int (I64.ofInt arg)] stX with ⟨res, st'⟩
  rw [hev] at h1 h2
  cases res with
  | error e => simp [isIntV] at h1
  | ok v =>
    cases v <;> simp [isIntV] at h1
    obtain ⟨_, mem', hrun, _⟩ := call_returns GX gx_ok fuel g fd I stmts e hK hfind hFn sp0 [.int (I64.ofInt arg)] stX
      st' _ [] 0 [] [] ⟨fun _ => HeapInv.empty, rfl, rfl, by decide⟩ (by decide) hev
    simp only at h2
    refine ⟨_, mem', st'.heap, h1, ?_⟩
    have hw : st'.world = ⟨st'.heap, out⟩ := by rw [← h2]; rfl
    rw [hw] at hrun
    exact hrun

/-- `fib(10)` on the VM, through `call_correct`: from the first instruction of `@main.fib` with 10 on
the stack, 177 activations (two recursive calls each, `return n;` in the base case) later the VM is
back with no frame left, memory pointer 0 and 55 on the stack. -/
example : ∃ (i : I64) (mem' : List (Int × Val)) (heap' : Array Cell), i.toInt = 55 ∧
    ∀ k, ∃ k', execHN codeX {} k' (mkS {} [⟨"@main.fib", 0⟩] 0 k [⟨.int (I64.ofInt 10), none⟩] [] ⟨#[], ""⟩) =
      .next (mkS {} [] 0 (k + k') [⟨.int i, none⟩] mem' ⟨heap', ""⟩) := by
  obtain ⟨fuel, hfuel⟩ : ∃ n : Nat, n = 120 := ⟨120, rfl⟩
  have h := callX "fib" fibFd _ _ _ (Or.inl rfl) rfl fnOK_fib fuel 10 55 ""
  subst hfuel
  exact h spec_fib.1 spec_fib.2
end Example9

section ArgsOrderWitness
/-- `fn a() -> int { println("a"); 1 }  fn b() -> int { println("b"); 2 }`
`fn add(x: int, y: int) -> int { x + y }  fn main() { println(add(a(), b())); }` -/
private def v13prog : Program :=
  [{ name := "main", imports := [], singletons := [], globals := [], nImpls := 0,
     fns := [gfn "a" [] .int [gprint [.str sp0 "a"]] (some (.int sp0 1)),
             gfn "b" [] .int [gprint [.str sp0 "b"]] (some (.int sp0 2)),
             gfn "add" ["x", "y"] .int [] (some (.infix sp0 .int .add (gv "x") (gv "y"))),
             gfn "main" [] .null [gprint [gcall "add" [gcall "a" [], gcall "b" []]]] none] }]

/-- The call `add(a(), b())` is outside the fragment only because two arguments are not atoms … -/
example : Frag.okGArgs [("", gcall "a" []), ("", gcall "b" [])] = true ∧
    Frag.oneNonAtom [("", gcall "a" []), ("", gcall "b" [])] = false := by decide

/-- Why at most one argument may have an effect (open finding V13): the specification evaluates
arguments left to right and prints `a` first … -/
theorem args_order_witness_spec :
    (match runProgram { prog := v13prog } 100 with | .ok out _ => out | _ => "?") = "a\nb\n3\n" := by
  decide +kernel
/-- … the compiled code evaluates them right to left (`code(aₙ) … code(a₁)`) and prints `b`
first: with two effectful arguments the statement of `call_args_correct` is false. -/
theorem args_order_witness_vm :
    (match compile v13prog "main" 100 with
      | .ok c => (match runMain c {} 50 1000 with | .ok s => s.st.out | _ => "?")
      | .error e => e) = "b\na\n3\n" := by
  decide +kernel

private def spDiv : Span := ⟨1, 1, 1, 6⟩
private def spRem : Span := ⟨2, 1, 2, 6⟩
/-- `fn add(x: int, y: int) -> int { x + y }  fn main() { println(add(1 / 0, 1 % 0)); }` with the
division on line 1 and the remainder on line 2. -/
private def spanProg : Program :=
  [{ name := "main", imports := [], singletons := [], globals := [], nImpls := 0,
     fns := [gfn "add" ["x", "y"] .int [] (some (.infix sp0 .int .add (gv "x") (gv "y"))),
             gfn "main" [] .null [gprint [gcall "add" [.infix spDiv .int .div (.int sp0 1) (.int sp0 0),
               .infix spRem .int .rem (.int sp0 1) (.int sp0 0)]]] none] }]
private def fatalLine : Hms.Core.Outcome → Option (String × Nat)
  | .fatal kd _ sp _ _ => some (kd, sp.sl)
  | _ => none
private def fatalLineVM : Hms.Core.VM.Outcome → Option (String × Nat)
  | .fatal kd _ sp _ => some (kd, sp.sl)
  | _ => none

/-- Pure arguments are not enough either: both arguments are pure and both fail; the specification
reports the first one's error (the division, line 1), the VM the last one's (the remainder, line 2) —
same kind, different message and span. Hence "all but at most one argument are atoms"
(`Frag.oneNonAtom`) rather than "pure". -/
theorem args_order_witness_fatal :
    fatalLine (runProgram { prog := spanProg } 100) = some ("ValueError", 1) ∧
    (match compile spanProg "main" 100 with
      | .ok c => fatalLineVM (runMain c {} 50 1000)
      | .error _ => none) = some ("ValueError", 2) := by
  decide +kernel
end ArgsOrderWitness

/-! ## 10. `loop`, `break`, `continue`, `return` -/

/-- Statement sequences of the general fragment inside an activation. `loops`: the enclosing loops'
`(break label, continue label)` as in `CState.loops` (`popTries` does nothing without `try`);
`lscopes`: the compiler scopes at the innermost loop, `d ≥ 1` block levels up — the specification's
`inScope` drops exactly the block levels a `break`/`continue` leaves. `return` occurs only where `A.rt`
(not inside a `try` body). -/
theorem gstmts_correct (G : GCtx) (hG : G.OK) (fuel : Nat) (A : Act) (hA : A.OK G)
    (loops : List (String × String)) (lscopes : CScopes) (d : Nat) (ss : List Stmt) (env : CEnv) (spec : St)
    (ip : Nat) (stk : List SVal) (mem : List (Int × Val))
    (hs : Frag.okGSs (!loops.isEmpty) A.rt ss = true) (hT : ∀ x ∈ Frag.identsGSs ss, x ∈ A.T)
    (hws : Frag.wsGSs G.mod A.src A.φ loops ss env = true)
    (hN : ∀ m ∈ codeVars (cgSs G.mod A.src A.φ loops ss env).1, A.N m)
    (hpl : Placed A.lab A.σ A.c ip (cgSs G.mod A.src A.φ loops ss env).1)
    (hd : 1 ≤ d) (hls : lscopes = env.scopes.drop d)
    (hrel : GRel G A env.scopes env.vm spec.scopes mem) (hsp : SpecOK G A.mp spec) :
    SimGS G A loops lscopes d ip (nI (cgSs G.mod A.src A.φ loops ss env).1) stk mem
      (GRel G A (cgSs G.mod A.src A.φ loops ss env).2.scopes (cgSs G.mod A.src A.φ loops ss env).2.vm) spec
      (evalStmts G.cfg fuel ss spec) :=
  simGS_of hG.nofor (((allP G hG.toOK' fuel).pgss A hA loops lscopes d ss env (by rw [hG.nofor]; exact hs) hT hws hN hd).simGS (mem := memOf G mem) hpl hls hrel hsp)

/-- `loop { … }` and `while c { … }` follow the specification's `loopRun` (`cnd = none`: `loop`). The
code is `continue: [code(c); JumpIfFalse break;] body; Jump continue; break:`; the outcome of the whole
loop, after any number of iterations (`loopRun`'s recursion), is simulated with the loop's own scopes
as invariant. -/
theorem loop_correct (G : GCtx) (hG : G.OK) (fuel : Nat) (A : Act) (hA : A.OK G)
    (loops : List (String × String)) (lscopes : CScopes) (d : Nat) (sp : Span) (cnd : Option Expr) (body : Block)
    (env : CEnv) (spec : St) (ip : Nat) (stk : List SVal) (mem : List (Int × Val))
    (stmt : Stmt) (hstmt : stmt = match cnd with | some c => .whileS sp c body | none => .loopS sp body)
    (hs : Frag.okGS (!loops.isEmpty) A.rt stmt = true) (hT : ∀ x ∈ Frag.identsGS stmt, x ∈ A.T)
    (hws : Frag.wsGS G.mod A.src A.φ loops stmt env = true)
    (hN : ∀ m ∈ codeVars (cgS G.mod A.src A.φ loops stmt env).1, A.N m)
    (hpl : Placed A.lab A.σ A.c ip (cgS G.mod A.src A.φ loops stmt env).1)
    (hls : lscopes = env.scopes.drop d)
    (hrel : GRel G A env.scopes env.vm spec.scopes mem) (hsp : SpecOK G A.mp spec) :
    SimGS G A loops lscopes d ip (nI (cgS G.mod A.src A.φ loops stmt env).1) stk mem
      (GRel G A env.scopes env.vm) spec (loopRun G.cfg fuel cnd body spec) := by
  subst hstmt
  exact simGS_of hG.nofor (((allP G hG.toOK' fuel).pgl A hA loops lscopes d sp cnd body env (by rw [hG.nofor]; exact hs) hT hws hN).simGS (mem := memOf G mem) hpl hls hrel hsp)

section Example10
private theorem spec_sum :
    isIntV 225 (callBody GX.cfg 120 sp0 GX.mod sumFd.params sumFd.body [.int (I64.ofInt 9)] stX).1 = true ∧
    (callBody GX.cfg 120 sp0 GX.mod sumFd.params sumFd.body [.int (I64.ofInt 9)] stX).2.out = "" := by
  decide +kernel

/-- `sumOdd(9)` on the VM, through the theorems: the `loop` runs ten times — five `continue`s, four
additions, one `break` — then the `while` nine times — five `continue`s (which re-evaluate the
condition), two additions, one `break`; the VM arrives with `1+3+5+7+9 + 200 = 225` on the caller's
stack, no frame left and memory pointer 0. -/
example : ∃ (i : I64) (mem' : List (Int × Val)) (heap' : Array Cell), i.toInt = 225 ∧
    ∀ k, ∃ k', execHN codeX {} k' (mkS {} [⟨"@main.sumOdd", 0⟩] 0 k [⟨.int (I64.ofInt 9), none⟩] [] ⟨#[], ""⟩) =
      .next (mkS {} [] 0 (k + k') [⟨.int i, none⟩] mem' ⟨heap', ""⟩) := by
  obtain ⟨fuel, hfuel⟩ : ∃ n : Nat, n = 120 := ⟨120, rfl⟩
  have h := callX "sumOdd" sumFd _ _ _ (Or.inr (Or.inl rfl)) rfl fnOK_sum fuel 9 225 ""
  subst hfuel
  exact h spec_sum.1 spec_sum.2
end Example10

/-! ## 11. `println` -/

/-- The specification's `println`: the displayed values joined by spaces and a newline are
appended to the output buffer (`printText`; `none`: a value the model cannot display). -/
theorem println_spec (vals : List Val) (sp : Span) (st : St) :
    callBuiltin "println" vals sp st = match printText st.heap vals with
      | some t => (.ok .null, { st with out := st.out ++ t })
      | none => (.error (.unsupported "display of this value"), st) :=
  println_run vals sp st

/-- The VM's `Call_Val` on the builtin `println` with the arguments below the argument count (first
argument on top): the host call appends the same text to the VM's output buffer, pops callee, count and
arguments, and pushes nothing. -/
theorem println_vm (code : Code) (lim : Limits) (s : VMState) (fn : String) (ip : Nat) (rest : List Frame)
    (mp : Int) (k : Nat) (stk : List SVal) (mem : List (Int × Val)) (out : World) (c : List (RInstr × Span))
    (hf : findCode code fn = some c) (sp : Span) (svs : List SVal) (o1 o2 : Option Org) (t : String)
    (hx : c[ip]? = some (.callVal, sp)) (hn : svs.length < 2 ^ 64)
    (ht : printText out.heap (svs.map (·.v)) = some t) :
    exec1 code lim (mkS s (⟨fn, ip⟩ :: rest) mp k
        (⟨.int (I64.ofInt (svs.length : Int)), o1⟩ :: ⟨.builtin "println", o2⟩ :: (svs ++ stk)) mem out) =
      .next (mkS s (⟨fn, ip + 1⟩ :: rest) mp (k + 1) stk mem ⟨out.heap, out.out ++ t⟩) :=
  mkS_callVal_println hf sp svs o1 o2 t hx hn ht

/-- `println(e₁, …, eₙ);`: the arguments are in the expression fragment (calls included), all but at
most one atoms; the code is `code(eₙ) … code(e₁); GetGlobImm(println); Copy_Push(n); Call_Val`, and the
VM ends with the operand stack as before and the specification's output buffer. -/
theorem println_correct (G : GCtx) (hG : G.OK) (fuel : Nat) (A : Act) (hA : A.OK G)
    (loops : List (String × String)) (lscopes : CScopes) (d : Nat) (sp csp isp : Span) (cty ity : Ty)
    (g f s sw : Bool) (args : List (String × Expr)) (env : CEnv) (spec : St) (ip : Nat) (stk : List SVal)
    (mem : List (Int × Val)) (st : Stmt)
    (hst : st = .exprS sp (.call csp cty (.ident isp ity "println" g f s) args sw))
    (hs : Frag.okGS (!loops.isEmpty) A.rt st = true) (hT : ∀ x ∈ Frag.identsGS st, x ∈ A.T)
    (hws : Frag.wsGS G.mod A.src A.φ loops st env = true)
    (hN : ∀ m ∈ codeVars (cgS G.mod A.src A.φ loops st env).1, A.N m)
    (hpl : Placed A.lab A.σ A.c ip (cgS G.mod A.src A.φ loops st env).1)
    (hd : 1 ≤ d) (hls : lscopes = env.scopes.drop d)
    (hrel : GRel G A env.scopes env.vm spec.scopes mem) (hsp : SpecOK G A.mp spec) :
    SimGS G A loops lscopes d ip (nI (cgS G.mod A.src A.φ loops st env).1) stk mem
      (GRel G A (cgS G.mod A.src A.φ loops st env).2.scopes (cgS G.mod A.src A.φ loops st env).2.vm) spec
      (evalStmt G.cfg fuel st spec) := by
  subst hst
  exact simGS_of hG.nofor (((allP G hG.toOK' fuel).pgs A hA loops lscopes d _ env (by rw [hG.nofor]; exact hs) hT hws hN).simGS (mem := memOf G mem) hpl hls hrel hsp)

section Example11
private theorem spec_rep :
    isIntV 7 (callBody GX.cfg 120 sp0 GX.mod repFd.params repFd.body [.int (I64.ofInt 7)] stX).1 = true ∧
    (callBody GX.cfg 120 sp0 GX.mod repFd.params repFd.body [.int (I64.ofInt 7)] stX).2.out = "result 7 false\n" := by
  decide +kernel

/-- `report(7)` on the VM, through the theorems: `println("result", x, x > 100)` — a string literal,
a variable and a comparison, pushed in reverse, `GetGlobImm(println)`, the count 3, `Call_Val` — leaves
`result 7 false` and a newline in the VM's output buffer, as in the specification's; then 7 is
returned. -/
example : ∃ (i : I64) (mem' : List (Int × Val)) (heap' : Array Cell), i.toInt = 7 ∧
    ∀ k, ∃ k', execHN codeX {} k' (mkS {} [⟨"@main.report", 0⟩] 0 k [⟨.int (I64.ofInt 7), none⟩] [] ⟨#[], ""⟩) =
      .next (mkS {} [] 0 (k + k') [⟨.int i, none⟩] mem' ⟨heap', "result 7 false\n"⟩) := by
  obtain ⟨fuel, hfuel⟩ : ∃ n : Nat, n = 120 := ⟨120, rfl⟩
  have h := callX "report" repFd _ _ _ (Or.inr (Or.inr rfl)) rfl fnOK_rep fuel 7 7 "result 7 false\n"
  subst hfuel
  exact h spec_rep.1 spec_rep.2
end Example11

/-! ## 12. The entry function and the driver `run` -/

/-- A compiled function *without* trailing expression satisfies `FnVoidOK` (as `fn_compiled_ok`). -/
theorem fn_void_compiled_ok (G : GCtx) (fd : FnDef) (stmts : List Stmt) (φ : String → Option String)
    (scopes0 : CScopes) (vm0 : List (String × Nat)) (lm0 : LM) (T : List String) (r : NCode)
    (hbody : ∃ bsp bty, fd.body = .mk bsp bty stmts none)
    (hparams : ∀ p ∈ fd.params, p.isSingleton = false)
    (hrel : relocate (cgFn G.mod φ fd stmts none scopes0 vm0 lm0) = some r)
    (hcode : findCode G.code (mangleFnName G.mod fd.name) = some (renameVars r))
    (hframe : (fnParts G.mod φ fd stmts none scopes0 vm0 lm0).envE.nv ≤ G.F)
    (okS : Frag.okGSs false true stmts = true)
    (wsS : Frag.wsGSs G.mod fd.name φ [] stmts (fnParts G.mod φ fd stmts none scopes0 vm0 lm0).envB = true)
    (tParams : ∀ p ∈ fd.params, p.name ∈ T) (tIdents : ∀ x ∈ Frag.identsGSs stmts, x ∈ T)
    (key : cleanupKey G.mod fd.name ∉ T)
    (outer : ∀ sc ∈ scopes0, ∀ x ∈ T, sc.lookup x = none) (phi : PhiOK G φ) :
    FnVoidOK G fd.name fd
      ⟨renameVars r, slotFn r, labelIndex (cgFn G.mod φ fd stmts none scopes0 vm0 lm0), (· ∈ varNames r), T, φ,
        scopes0, vm0, lm0⟩ stmts :=
  FnVoidOK.of_compiled G fd stmts φ scopes0 vm0 lm0 T r hbody hparams hrel hcode hframe
    (okFSs_of_okGSs _ _ _ _ okS) wsS
    tParams tIdents key outer phi

/-- A call of a function without trailing expression, in particular the entry function `main`
(`SimCallV`): as `call_correct`, except that on normal completion nothing is pushed when the body falls
through (the specification's result is `null`), and the returned value when a `return e;` was
executed. -/
theorem entry_correct (G : GCtx) (hG : G.OK) (fuel : Nat) (g : String) (fd : FnDef) (I : FnInfo)
    (stmts : List Stmt) (hFn : FnVoidOK G g fd I stmts) (sp : Span) (vals : List Val) (st : St)
    (frames : List Frame) (mp : Int) (stk : List SVal) (mem : List (Int × Val)) (hsp : SpecOK G mp st)
    (hmp : 0 ≤ mp) :
    SimCallV G (mangleFnName G.mod g) frames mp vals stk mem st
      (callBody G.cfg fuel sp G.mod fd.params fd.body vals st) :=
  simCallV_of hG.nofor (callV_correct G hG.toOK' fuel g fd I stmts hFn (by rw [hG.nofor]; intro h; cases h) sp vals st
    frames mp stk (memOf G mem) hsp hmp)

/-- The VM's driver (`Core.Run`: poll, then a quantum of instructions) on the entry function, with no
caller frame and no arguments. For every quantum at least the number of instructions the whole run
executes — nested calls included, so that no poll falls inside — `run` ends with `ok`, no frame left
and the specification's output; or with the specification's fatal error (other than its own
`StackOverFlow`) after the specification's output; an exception that reaches the top (no handler
installed) is the fatal error `UncaughtThrow` with its message and span, on both sides. -/
theorem entry_run (G : GCtx) (hG : G.OK) (fuel : Nat) (g : String) (fd : FnDef) (I : FnInfo)
    (stmts : List Stmt) (hFn : FnVoidOK G g fd I stmts) (sp : Span) (st : St) (mp : Int) (stk : List SVal)
    (mem : List (Int × Val)) (hsp : SpecOK G mp st) (hmp : 0 ≤ mp)
    (hstack : stk.length ≤ G.lim.stack) (hcallLim : 1 ≤ G.lim.callStack) :
    match callBody G.cfg fuel sp G.mod fd.params fd.body [] st with
    | (.ok v, st') =>
      ∃ K, ∀ quantum, K ≤ quantum → ∀ vfuel, ∃ s',
        run G.code G.lim quantum none (vfuel + 1) (mkS G.s [⟨mangleFnName G.mod g, 0⟩] mp 0 stk mem st.world) = .ok s' ∧
        s'.st = { G.s.st with out := st'.out, heap := st'.heap } ∧ s'.mp = mp ∧ s'.calls = [] ∧
        (s'.stack = stk ∨ s'.stack = ⟨v, none⟩ :: stk)
    | (.error (.fatal kd m fsp), st') =>
      kd ≠ "StackOverFlow" → ∃ K, ∀ quantum, K ≤ quantum → ∀ vfuel, ∃ s',
        run G.code G.lim quantum none (vfuel + 1) (mkS G.s [⟨mangleFnName G.mod g, 0⟩] mp 0 stk mem st.world) =
          .fatal kd m fsp s' ∧ s'.st = { G.s.st with out := st'.out, heap := st'.heap }
    | (.error (.throw msg tsp), st') =>
      G.s.handlers = [] → ∃ K, ∀ quantum, K ≤ quantum → ∀ vfuel, ∃ s',
        run G.code G.lim quantum none (vfuel + 1) (mkS G.s [⟨mangleFnName G.mod g, 0⟩] mp 0 stk mem st.world) =
          .fatal "UncaughtThrow" msg tsp s' ∧ s'.st = { G.s.st with out := st'.out, heap := st'.heap }
    | _ => True := by
  have h := Sim.entry_run G hG.toOK' fuel g fd I stmts hFn (by rw [hG.nofor]; intro h; cases h) sp st mp stk (memOf G mem)
    hsp hmp hstack hcallLim
  rcases hev : callBody G.cfg fuel sp G.mod fd.params fd.body [] st with ⟨r, st'⟩
  rw [hev] at h
  cases r with
  | error c => cases c <;> exact h
  | ok v =>
    obtain ⟨K, hK⟩ := h
    refine ⟨K, fun q hq vf => ?_⟩
    obtain ⟨s', h1, h2, h3, h4, h5⟩ := hK q hq vf
    refine ⟨s', h1, h2, h3, h4, ?_⟩
    rcases h5 with h5 | ⟨o, ho, h5⟩
    · exact Or.inl h5
    · cases ho hG.nofor; exact Or.inr h5

private def okOut (out : String) : Except Ctl Val × St → Bool
  | (.ok _, st) => st.out == out
  | _ => false

/-- `entry_run` for a program whose specification run has been evaluated (`okOut out … = true`). Over
`Sim.entry_run`, so it serves the programs with `for` loops (section 16 on) as well. -/
theorem entry_out (G : GCtx) (hG : G.OK') (fuel : Nat) (g : String) (fd : FnDef) (I : FnInfo)
    (stmts : List Stmt) (hFn : FnVoidOK G g fd I stmts) (hgh : G.fr = true → ∀ y ∈ I.T, ("$iter_" ++ y) ∉ I.T)
    (sp : Span) (st : St) (mp : Int) (stk : List SVal) (mem : Mem) (hsp : SpecOK G mp st) (hmp : 0 ≤ mp)
    (hstack : stk.length ≤ G.lim.stack) (hcallLim : 1 ≤ G.lim.callStack) (out : String)
    (hs : okOut out (callBody G.cfg fuel sp G.mod fd.params fd.body [] st) = true) :
    ∃ K, ∀ quantum, K ≤ quantum → ∀ vfuel, ∃ s',
      run G.code G.lim quantum none (vfuel + 1) (mkSI G.s [⟨mangleFnName G.mod g, 0⟩] mp 0 stk mem st.world) = .ok s' ∧
      s'.st.out = out ∧ s'.mp = mp ∧ s'.calls = [] := by
  have h := Sim.entry_run G hG fuel g fd I stmts hFn hgh sp st mp stk mem hsp hmp hstack hcallLim
  rcases hev : callBody G.cfg fuel sp G.mod fd.params fd.body [] st with ⟨res, st'⟩
  rw [hev] at h hs
  cases res with
  | error e => simp [okOut] at hs
  | ok v =>
    simp only [okOut, beq_iff_eq] at hs
    obtain ⟨K, hK⟩ := h
    refine ⟨K, fun quantum hq vfuel => ?_⟩
    obtain ⟨s', hrun, hst, hmp', hcalls, _⟩ := hK quantum hq vfuel
    exact ⟨s', hrun, by rw [hst]; exact hs, hmp', hcalls⟩

/-- `entry_out` for the `i`-th function of a checked module, started on an empty core. -/
theorem ProgChecked.out {G : GCtx} {φ : String → Option String} {fds : List FnDef} {Ts : List (List String)}
    (h : ProgChecked G φ fds Ts) (hs : G.s = {}) (i : Nat) (fd : FnDef) (T : List String)
    (hi : fds[i]? = some fd) (hT : Ts[i]? = some T) (hv : tailOf fd.body = none) (fuel : Nat) (sp : Span)
    (out : String)
    (hspec : okOut out (callBody G.cfg fuel sp G.mod fd.params fd.body [] { module := G.mod }) = true) :
    ∃ K, ∀ quantum, K ≤ quantum → ∀ vfuel, ∃ s',
      run G.code G.lim quantum none (vfuel + 1) { calls := [⟨mangleFnName G.mod fd.name, 0⟩] } = .ok s' ∧
      s'.st.out = out ∧ s'.mp = 0 ∧ s'.calls = [] := by
  obtain ⟨hit, hfn⟩ := h.fn i fd T hi hT
  rw [hv] at hfn
  -- `⟨[], ⟨[], 0⟩⟩ : Mem`: no cells, no iterators, next iterator id 0
  have := entry_out G h.ok fuel fd.name fd _ _ hfn hit sp { module := G.mod } 0 [] ⟨[], ⟨[], 0⟩⟩
    ⟨fun _ => HeapInv.empty, rfl, rfl, by simpa using h.ok.base⟩ (Int.le_refl 0) (Nat.zero_le _) h.calls out hspec
  rw [hs] at this
  exact this

section Example12
theorem fnOK_main : FnVoidOK GX "main" mainFd
    ⟨renameVars (relG symMain), slotFn (relG symMain), labelIndex symMain, (· ∈ varNames (relG symMain)),
      ["println", "fib", "report", "sumOdd"], φX, [[]], [], []⟩ mainStmts :=
  (chkX.fn 3 _ _ rfl rfl).2

private theorem spec_main :
    okOut "55\nresult 225 true\n225 true done\n"
      (callBody GX.cfg 200 sp0 GX.mod mainFd.params mainFd.body [] stX) = true := by
  decide +kernel

/-- The whole program through the theorems: `run` on the VM code of `progX`, started on `@main.main`
with an empty core, ends — for every sufficiently large quantum — with `ok`, no frame left, memory
pointer 0 and exactly the specification's output: `fib(10)` by 177 recursive activations, `sumOdd(9)`
by a `loop` and a `while` with `break`/`continue`, three `println`s. -/
example : ∃ K, ∀ quantum, K ≤ quantum → ∀ vfuel, ∃ s',
    run codeX {} quantum none (vfuel + 1) { calls := [⟨"@main.main", 0⟩] } = .ok s' ∧
    s'.st.out = "55\nresult 225 true\n225 true done\n" ∧ s'.mp = 0 ∧ s'.calls = [] := by
  exact chkX.out rfl 3 _ _ rfl rfl rfl 200 sp0 _ spec_main
end Example12

/-! ## 13. What the compiler emits on the general fragment -/

/-- For `e` in `Frag.okGE`, well scoped (variables resolved; callees are functions the compiler knows
— `φOf cs` is what `getMangledFn` answers — and not variables), `compileExpr` appends exactly
`cgE module ρ φ e` — a call `f(a₁, …, aₙ)` is `code(aₙ) ++ … ++ code(a₁) ++ [Call_Imm f']` — and
advances the label counters as `cgE` says. -/
theorem compileExpr_gfrag (fuel : Nat) (e : Expr) (cs : CState)
    (hs : Frag.okGE e = true) (hd : Frag.cdE e ≤ fuel) (hws : Frag.wsGE cs.scopes (φOf cs) e = true) :
    (compileExpr fuel e).run cs =
      ((), updS cs cs.loops (cgE cs.currModule (ρS cs.scopes) (φOf cs) e cs.labelMangle).1
        { envOf cs with lm := (cgE cs.currModule (ρS cs.scopes) (φOf cs) e cs.labelMangle).2 }) := by
  have := (compile_gexpr false fuel).1 e cs (okE_okGE _ _ hs) hd cs.loops [] (envOf cs) hws
  rwa [updS_self, List.nil_append] at this

/-- On `Frag.okGSs il rt` (`break`/`continue` only if `il`, and then the innermost loop was entered at
the current `try` depth; `return` only if `rt`, and then no `try` encloses it — the compiler's
`popTryLabels` emits nothing) `compileStmts` emits `cgSs …` — `break`/`continue`: `Jump` to the
innermost loop's labels; `return e;`: `code(e); Jump cleanup`; a call statement: the call and `Drop`;
loops and `println(…)` as in `loop_correct`, `println_correct` — and scopes, counters and slot count
end as `cgSs` computes them. -/
theorem compileStmts_gfrag (fuel : Nat) (ss : List Stmt) (cs : CState) (il rt : Bool)
    (hrt : rt = true → cs.tryDepth = 0) (hil : il = true → ∃ b c rest, cs.loops = (b, c, cs.tryDepth) :: rest)
    (hs : Frag.okGSs il rt ss = true) (hd : Frag.cdSs ss ≤ fuel)
    (hws : Frag.wsGSs cs.currModule cs.currFn (φOf cs) (loopsOf cs.loops) ss (envOf cs) = true) :
    (compileStmts fuel ss).run cs =
      ((), updS cs cs.loops (cgSs cs.currModule cs.currFn (φOf cs) (loopsOf cs.loops) ss (envOf cs)).1
        (cgSs cs.currModule cs.currFn (φOf cs) (loopsOf cs.loops) ss (envOf cs)).2) := by
  have := compile_fstmt.2.1 _ il rt ss hs fuel cs cs.loops hrt hil hd [] (envOf cs) hws
  rwa [updS_self, List.nil_append] at this

/-- `compileFn` on a function of the general fragment compiled at top level leaves `cgFn …` (its shape:
`fn_compiled_ok`) as the function's entry, with slot count `(partsOf …).envE.nv`; the other functions,
the loop stack, the `try` depth and the `unsupported` flag are as before. `fnBase cs fd`: `cs` with
the function registered — its own name is callable, for recursion. -/
theorem compileFn_gfrag (f2 : Nat) (fd : FnDef) (cs : CState) (bsp : Span) (bty : Ty) (stmts : List Stmt)
    (oe : Option Expr)
    (hbody : fd.body = .mk bsp bty stmts oe) (hparams : ∀ p ∈ fd.params, p.isSingleton = false)
    (hann : fd.hasAnnotation = false) (hloops : cs.loops = [])
    (hs : Frag.okGSs false true stmts = true) (he : ∀ e, oe = some e → Frag.okGE e = true)
    (hd : Frag.cdSs stmts ≤ f2) (hde : ∀ e, oe = some e → Frag.cdE e ≤ f2)
    (hws : Frag.wsGSs cs.currModule fd.name (φOf (fnBase cs fd)) [] stmts (partsOf cs fd stmts oe).envB = true)
    (hwe : ∀ e, oe = some e → Frag.wsGE (partsOf cs fd stmts oe).envS.scopes (φOf (fnBase cs fd)) e = true) :
    ∃ cs', (compileFn (f2 + 2) fd).run cs = ((), cs') ∧
      cs'.fns.lookup (cs.currModule, fd.name) =
        some { name := mangleFnName cs.currModule fd.name,
               code := cgFn cs.currModule (φOf (fnBase cs fd)) fd stmts oe cs.scopes cs.varMangle cs.labelMangle,
               cntVars := (partsOf cs fd stmts oe).envE.nv } ∧
      (∀ k, k ≠ (cs.currModule, fd.name) → cs'.fns.lookup k = cs.fns.lookup k) ∧
      cs'.loops = cs.loops ∧ cs'.tryDepth = cs.tryDepth ∧ cs'.currModule = cs.currModule ∧
      cs'.unsupported = cs.unsupported :=
  Sim.compileFn_gfrag f2 fd cs bsp bty stmts oe hbody hparams hann hloops hs (fun e h => okE_okGE _ _ (he e h)) hd hde hws hwe

section Example13
/-- The compiler state in which pass 2 of `compileProgram` reaches the functions of `progX`. -/
private def csX : CState :=
  { fns := [(("main", "@init"), { name := "@main.@init", code := [] }),
            (("main", "fib"), { name := "@main.fib", code := [] }),
            (("main", "sumOdd"), { name := "@main.sumOdd", code := [] }),
            (("main", "report"), { name := "@main.report", code := [] }),
            (("main", "main"), { name := "@main.main", code := [] })],
    currFn := "@init", currModule := "main" }

/-- The symbolic code used in sections 9–11 is what `compileFn` emits (statement instantiated):
for `sumOdd` — two `let`s, a `loop` and a `while` with `break`/`continue` — … -/
example : (((compileFn 40 sumFd).run csX).2.fns.lookup ("main", "sumOdd")).map (·.code) = some symSum := by
  obtain ⟨cs', hrun, hlk, _⟩ := compileFn_gfrag 38 sumFd csX sp0 .int sumStmts (some (gv "acc")) rfl (by decide) rfl rfl
    (by decide +kernel) (by intro e he; cases he; decide) (by decide +kernel) (by intro e he; cases he; decide +kernel)
    (by decide +kernel) (by intro e he; cases he; decide +kernel)
  rw [hrun]
  exact congrArg (Option.map (·.code)) hlk
/-- … for the recursive `fib` with its `return` … -/
example : (((compileFn 40 fibFd).run csX).2.fns.lookup ("main", "fib")).map (·.code) = some symFib := by
  obtain ⟨cs', hrun, hlk, _⟩ := compileFn_gfrag 38 fibFd csX sp0 .int fibStmts (some fibE) rfl (by decide) rfl rfl
    (by decide +kernel) (by intro e he; cases he; decide +kernel) (by decide +kernel)
    (by intro e he; cases he; decide +kernel) (by decide +kernel) (by intro e he; cases he; decide +kernel)
  rw [hrun]
  exact congrArg (Option.map (·.code)) hlk
/-- … and for `report` with its `println`. -/
example : (((compileFn 40 repFd).run csX).2.fns.lookup ("main", "report")).map (·.code) = some symRep := by
  obtain ⟨cs', hrun, hlk, _⟩ := compileFn_gfrag 38 repFd csX sp0 .int repStmts (some (gv "x")) rfl (by decide) rfl rfl
    (by decide +kernel) (by intro e he; cases he; decide) (by decide +kernel) (by intro e he; cases he; decide +kernel)
    (by decide +kernel) (by intro e he; cases he; decide +kernel)
  rw [hrun]
  exact congrArg (Option.map (·.code)) hlk
end Example13

/-! ## 14. `try` / `catch` / `throw` -/

/-- `SetTryLabel` records, on the handler stack, the catch label in the current function together with
the call depth, the operand-stack height and the memory pointer of the moment. -/
theorem setTry_step (code : Code) (lim : Limits) (s : VMState) (fn : String) (ip : Nat) (rest : List Frame)
    (mp : Int) (k : Nat) (stk : List SVal) (mem : List (Int × Val)) (out : World) (c : List (RInstr × Span))
    (hf : findCode code fn = some c) (tfn : String) (l : Nat) (sp : Span)
    (hx : c[ip]? = some (.setTry tfn l, sp)) :
    exec1 code lim (mkS s (⟨fn, ip⟩ :: rest) mp k stk mem out) =
      .next (mkS (withH s (⟨⟨tfn, l⟩, rest.length + 1, stk.length, mp⟩ :: s.handlers)) (⟨fn, ip + 1⟩ :: rest) mp
        (k + 1) stk mem out) :=
  mkSI_setTry code lim s fn ip rest mp k stk ⟨mem, itOf s⟩ out c hf tfn l sp hx

/-- The handler record is restored: when an exception is raised `frames'` activations deeper than the
`try`, with `xs` more operands and another memory pointer, `Core.Run`'s dispatch drops those frames and
operands, restores the recorded memory pointer, allocates the error object
`{ message, line, column, filename }` and continues at the catch label with a reference to it on the
stack; the handler stays installed until the catch code's own `PopTryLabel`. -/
theorem throw_dispatch (s : VMState) (tfn : String) (tl : Nat) (hmp : Int) (hs : List Handler)
    (frames' : List Frame) (f : Frame) (rest : List Frame) (mp' : Int) (K : Nat) (xs stk : List SVal)
    (mem' : List (Int × Val)) (w' : World) (msg : String) (tsp : Span) :
    dispatch msg tsp (mkS (withH s (⟨⟨tfn, tl⟩, rest.length + 1, stk.length, hmp⟩ :: hs)) (frames' ++ f :: rest) mp' K
        (xs ++ stk) mem' w') =
      .next (mkS (withH s (⟨⟨tfn, tl⟩, rest.length + 1, stk.length, hmp⟩ :: hs)) (⟨tfn, tl⟩ :: rest) hmp K
        (⟨.ref w'.heap.size, none⟩ :: stk) mem' ⟨w'.heap.push (errCell msg tsp), w'.out⟩) :=
  dispatch_mkSI s tfn tl hmp hs frames' f rest mp' K xs stk ⟨mem', itOf s⟩ w' msg tsp

/-- `execHN` — instruction sequences *with* that dispatch — is what the VM's inner loop runs; an
exception no handler encloses is reported as the fatal error `UncaughtThrow`. -/
theorem runQuantum_execHN (code : Code) (lim : Limits) (m n : Nat) (s s' : VMState) :
    (execHN code lim n s = .next s' → runQuantum code lim (n + m) s = runQuantum code lim m s') ∧
    (∀ k msg sp, execHN code lim n s = .intr (.fatal k msg sp) s' →
      runQuantum code lim (n + m) s = .inr (.fatal k msg sp s')) ∧
    (∀ msg sp, execHN code lim n s = .intr (.throw msg sp) s' →
      runQuantum code lim (n + m) s = .inr (.fatal "UncaughtThrow" msg sp s')) :=
  ⟨(Sim.runQuantum_execHN code lim m n s).1 s', fun _ _ _ => (Sim.runQuantum_execHN code lim m n s).2 _ s',
   fun _ _ => (Sim.runQuantum_execHN code lim m n s).2 _ s'⟩

/-- `throw(a);` (`a` an atom): the specification ends the statement with the exception
`(display a, span of the call)`; the VM — `code(a); Throw` — arrives at the `Throw` instruction, whose
interrupt carries the same message and span, with the operand stack, memory and world of the
statement's start. -/
theorem throw_correct (G : GCtx) (hG : G.OK) (fuel : Nat) (A : Act) (hA : A.OK G)
    (loops : List (String × String)) (lscopes : CScopes) (d : Nat) (sp csp isp : Span) (cty ity : Ty)
    (g f s : Bool) (a : String × Expr) (env : CEnv) (spec : St) (ip : Nat) (stk : List SVal)
    (mem : List (Int × Val)) (st : Stmt)
    (hst : st = .exprS sp (.call csp cty (.ident isp ity "throw" g f s) [a] false))
    (hs : Frag.okGS (!loops.isEmpty) A.rt st = true) (hT : ∀ x ∈ Frag.identsGS st, x ∈ A.T)
    (hws : Frag.wsGS G.mod A.src A.φ loops st env = true)
    (hN : ∀ m ∈ codeVars (cgS G.mod A.src A.φ loops st env).1, A.N m)
    (hpl : Placed A.lab A.σ A.c ip (cgS G.mod A.src A.φ loops st env).1)
    (hd : 1 ≤ d) (hls : lscopes = env.scopes.drop d)
    (hrel : GRel G A env.scopes env.vm spec.scopes mem) (hsp : SpecOK G A.mp spec) :
    SimGS G A loops lscopes d ip (nI (cgS G.mod A.src A.φ loops st env).1) stk mem
      (GRel G A (cgS G.mod A.src A.φ loops st env).2.scopes (cgS G.mod A.src A.φ loops st env).2.vm) spec
      (evalStmt G.cfg fuel st spec) := by
  subst hst
  exact simGS_of hG.nofor (((allP G hG.toOK' fuel).pgs A hA loops lscopes d _ env (by rw [hG.nofor]; exact hs) hT hws hN).simGS (mem := memOf G mem) hpl hls hrel hsp)

/-- `try { … } catch e { … }`. Code:
`SetTryLabel(fn, exc); body; PopTryLabel; Jump after; exc: SetVarImm e; PopTryLabel; catch block; after:`.
The body contains no `return` and no `break`/`continue` out of it (the compiler would have to emit
`PopTryLabel`s there: `Frag.okGS`), the module is the entry module (the VM writes `"main"` into the error
object's `filename`, the specification the current module), and the function can name itself (`φ fn`,
for the handler's target). A body that completes ran *under the handler*, which is then removed. When
the body — or any function it calls, at any depth — throws, the VM unwinds to this activation
(`throw_dispatch`), both sides allocate the same error object at the same heap address, bind it to `e`
in a fresh scope and run the catch block, whose outcome is the statement's; variable updates of the
body persist on both sides. -/
theorem try_correct (G : GCtx) (hG : G.OK) (fuel : Nat) (A : Act) (hA : A.OK G)
    (loops : List (String × String)) (lscopes : CScopes) (d : Nat) (sp tsp : Span) (ty : Ty) (tb cb : Block)
    (ci : String) (env : CEnv) (spec : St) (ip : Nat) (stk : List SVal) (mem : List (Int × Val)) (st : Stmt)
    (hst : st = .exprS sp (.tryE tsp ty tb ci cb))
    (hs : Frag.okGS (!loops.isEmpty) A.rt st = true) (hT : ∀ x ∈ Frag.identsGS st, x ∈ A.T)
    (hws : Frag.wsGS G.mod A.src A.φ loops st env = true)
    (hN : ∀ m ∈ codeVars (cgS G.mod A.src A.φ loops st env).1, A.N m)
    (hpl : Placed A.lab A.σ A.c ip (cgS G.mod A.src A.φ loops st env).1)
    (hd : 1 ≤ d) (hls : lscopes = env.scopes.drop d)
    (hrel : GRel G A env.scopes env.vm spec.scopes mem) (hsp : SpecOK G A.mp spec) :
    SimGS G A loops lscopes d ip (nI (cgS G.mod A.src A.φ loops st env).1) stk mem
      (GRel G A (cgS G.mod A.src A.φ loops st env).2.scopes (cgS G.mod A.src A.φ loops st env).2.vm) spec
      (evalStmt G.cfg fuel st spec) := by
  subst hst
  exact simGS_of hG.nofor (((allP G hG.toOK' fuel).pgs A hA loops lscopes d _ env (by rw [hG.nofor]; exact hs) hT hws hN).simGS (mem := memOf G mem) hpl hls hrel hsp)

section Example14
private def gthrow (m : String) (sp : Span) : Stmt :=
  .exprS sp0 (.call sp .never (.ident sp0 (.fn [] .never) "throw" false false false) [("", .str sp0 m)] false)
private def gtry (b : List Stmt) (e : String) (c : List Stmt) : Stmt :=
  .exprS sp0 (.tryE sp0 .null (.mk sp0 .null b none) e (.mk sp0 .null c none))
private def gasgn (x : String) (e : Expr) : Stmt := .exprS sp0 (.assign sp0 none (gv x) e)
private def spThrow : Span := ⟨7, 3, 7, 19⟩

/-- `if x > 2 { throw("too big"); }` -/
def failStmts : List Stmt := [gif (.infix sp0 .bool .gt (gv "x") (.int sp0 2)) [gthrow "too big" spThrow]]
/-- `fn fail(x: int) -> int { if x > 2 { throw("too big"); } x }` -/
def failFd : FnDef := gfn "fail" ["x"] .int failStmts (some (gv "x"))
/-- `let r = 0; try { r = fail(a); println("ok", r); } catch e { println("caught"); r = 0 - 1; }` -/
def safeStmts : List Stmt :=
  [ .letS sp0 "r" .int false .int (.int sp0 0),
    gtry [gasgn "r" (gcall "fail" [gv "a"]), gprint [.str sp0 "ok", gv "r"]] "e"
      [gprint [.str sp0 "caught"], gasgn "r" (.infix sp0 .int .sub (.int sp0 0) (.int sp0 1))] ]
def safeFd : FnDef := gfn "safe" ["a"] .int safeStmts (some (gv "r"))
def main2Stmts : List Stmt := [gprint [gcall "safe" [.int sp0 1]], gprint [gcall "safe" [.int sp0 5]]]
/-- `fn main() { println(safe(1)); println(safe(5)); }` -/
def main2Fd : FnDef := gfn "main" [] .null main2Stmts none
def progY : Program :=
  [{ name := "main", imports := [], singletons := [], globals := [], nImpls := 0, fns := [failFd, safeFd, main2Fd] }]

/-- The whole program on the models themselves: the exception raised in `fail` is caught in `safe`,
on the specification … -/
example : (match runProgram { prog := progY } 200 with | .ok out _ => out | _ => "?") = "ok 1\n1\ncaught\n-1\n" := by
  decide +kernel

def φY : String → Option String := fun n =>
  if n = "fail" then some "@main.fail" else if n = "safe" then some "@main.safe" else none
def symFail : SCode := cgFn "main" φY failFd failStmts (some (gv "x")) [[]] [] []
def symSafe : SCode := cgFn "main" φY safeFd safeStmts (some (gv "r")) [[]] [] []
def symMain2 : SCode := cgFn "main" φY main2Fd main2Stmts none [[]] [] []
def codeY : Code := [⟨"@main.fail", renameVars (relG symFail)⟩, ⟨"@main.safe", renameVars (relG symSafe)⟩,
  ⟨"@main.main", renameVars (relG symMain2)⟩]

local instance (priority := high) : BEq PVal := ⟨pvalBeq⟩
private theorem compiledY : (match compile progY "main" 100 with
    | .ok c => ((c.fns.filter fun f => f.name != "@main.@init").map (fun f => (f.name, f.code))
        == codeY.map (fun f => (f.name, f.code))) &&
      decide ((match runMain c {} 50 20000 with
        | .ok s => (s.st.out, s.stack.length, s.mp, s.handlers.length) | _ => ("?", 0, 0, 0)) =
        ("ok 1\n1\ncaught\n-1\n", 0, 0, 0))
    | .error _ => false) = true := by decide +kernel

/-- … and on the VM, which ends with a clean core (no handler left). -/
example : (match compile progY "main" 100 with
    | .ok c => (match runMain c {} 50 20000 with
      | .ok s => (s.st.out, s.stack.length, s.mp, s.handlers.length) | _ => ("?", 0, 0, 0))
    | .error e => (e, 0, 0, 0)) = ("ok 1\n1\ncaught\n-1\n", 0, 0, 0) := by
  have h := compiledY
  generalize compile progY "main" 100 = r at h ⊢
  cases r with
  | error e => cases h
  | ok c => exact of_decide_eq_true (Bool.and_eq_true_iff.mp h).2

example : (match compile progY "main" 100 with
    | .ok c => (c.fns.filter fun f => f.name != "@main.@init").map (fun f => (f.name, f.code))
        == codeY.map (fun f => (f.name, f.code))
    | .error _ => false) = true := by
  have h := compiledY
  generalize compile progY "main" 100 = r at h ⊢
  cases r with
  | error e => cases h
  | ok c => exact (Bool.and_eq_true_iff.mp h).1

def GY : GCtx := ⟨{ prog := progY }, codeY, {}, "main", {}, fun g => g = "fail" ∨ g = "safe", 6, 0, false⟩

private theorem phiY : PhiOK GY φY :=
  phiOK_cons (by decide +kernel) (Or.inl rfl) failFd rfl <|
  phiOK_cons (by decide +kernel) (Or.inr rfl) safeFd rfl (phiOK_nil GY)

private theorem chkY : ProgChecked GY φY [failFd, safeFd, main2Fd]
    [["x", "throw"], ["a", "r", "e", "fail", "println"], ["println", "safe"]] :=
  progChecked_of_check ["fail", "safe"] phiY (fun _ => rfl) (fun g h => by simpa [GY] using h) rfl
    (by decide +kernel)

theorem gy_ok : GY.OK := ⟨chkY.ok, rfl⟩

theorem fnOK_main2 : FnVoidOK GY "main" main2Fd
    ⟨renameVars (relG symMain2), slotFn (relG symMain2), labelIndex symMain2, (· ∈ varNames (relG symMain2)),
      ["println", "safe"], φY, [[]], [], []⟩ main2Stmts :=
  (chkY.fn 2 _ _ rfl rfl).2

private theorem spec_main2 :
    okOut "ok 1\n1\ncaught\n-1\n" (callBody GY.cfg 200 sp0 GY.mod main2Fd.params main2Fd.body [] stX) = true := by
  decide +kernel

/-- The program through the theorems: in the second call of `safe` the exception is raised two
activations below the handler — inside `fail`, called from the `try` body — with `fail`'s frame on the
call stack and its memory pointer; the dispatch restores `safe`'s, the catch block runs, and `-1` is
printed. -/
example : ∃ K, ∀ quantum, K ≤ quantum → ∀ vfuel, ∃ s',
    run codeY {} quantum none (vfuel + 1) { calls := [⟨"@main.main", 0⟩] } = .ok s' ∧
    s'.st.out = "ok 1\n1\ncaught\n-1\n" ∧ s'.mp = 0 ∧ s'.calls = [] := by
  exact chkY.out rfl 2 _ _ rfl rfl rfl 200 sp0 _ spec_main2
end Example14

/-! ## 15. `match` over literals with a default arm -/

/-- What `compileExpr` emits for `match c { l₁₁ | l₁₂ … => a₁, …, _ => d }` (literal patterns
`Frag.litE`: int, bool, string): with the control value on the stack, for every literal
`Copy_Push l; Eq_PopOnce; Not; JumpIfFalse caseᵢ` (`armTests`), then `Jump default`; the bodies
`caseᵢ: Drop; code(aᵢ); Jump after` (`cgArms`); finally `default: Drop; code(d); Jump after; after:`. -/
theorem compileMatch_frag (fuel : Nat) (sp : Span) (ty : Ty) (c : Expr) (arms : List (List Expr × Expr)) (d : Expr)
    (cs : CState) (hs : Frag.okGE (.matchE sp ty c arms (some d)) = true)
    (hd : Frag.cdE (.matchE sp ty c arms (some d)) ≤ fuel)
    (hws : Frag.wsGE cs.scopes (φOf cs) (.matchE sp ty c arms (some d)) = true) :
    let mod := cs.currModule
    let ρ := ρS cs.scopes
    let φ := φOf cs
    let cc := cgE mod ρ φ c cs.labelMangle
    let after := freshLabel mod cc.2 "match_after"
    let ts := armTests mod sp arms after.2
    let dfl := freshLabel mod ts.2.2 "match_default"
    let bs := cgArms mod ρ φ sp after.1 arms ts.2.1 dfl.2
    let cd := cgE mod ρ φ d bs.2
    (compileExpr fuel (.matchE sp ty c arms (some d))).run cs =
      ((), updS cs cs.loops
        (cc.1 ++ ts.1 ++ [(.jump dfl.1, sp)] ++ bs.1 ++ [(.label dfl.1, sp), (.drop, sp)] ++ cd.1 ++
          [(.jump after.1, sp), (.label after.1, sp)])
        { envOf cs with lm := cd.2 }) := by
  have h := compileExpr_gfrag fuel _ cs hs hd hws
  rw [cgE] at h
  exact h

/-- The specification's `match` (`evalArms`/`anyLit`/`eqM`): the arms are tried in order, the
literals of an arm left to right with the specification's equality (`litsHit`/`armsHit` compute the
first hit); the default arm is evaluated in the state after the control expression; an `unsupported`
comparison never arises for the fragment's values. -/
theorem match_spec (cfg : Cfg) (fuel : Nat) (sp : Span) (ty : Ty) (c : Expr) (arms : List (List Expr × Expr))
    (d : Expr) (st : St) (hl : ∀ a ∈ arms, ∀ l ∈ a.1, Frag.litE l = true) :
    match evalExpr cfg fuel c st with
    | (.error e, st1) => evalExpr cfg (fuel + 1) (.matchE sp ty c arms (some d)) st = (.error e, st1)
    | (.ok v, st1) =>
      evalExpr cfg (fuel + 1) (.matchE sp ty c arms (some d)) st = (.error .timeout, st1) ∨
      (∃ msg, evalExpr cfg (fuel + 1) (.matchE sp ty c arms (some d)) st = (.error (.unsupported msg), st1)) ∨
      (∃ i a f', arms[i]? = some a ∧ armsHit st1.heap v arms = some (some i) ∧ f' < fuel ∧
        evalExpr cfg (fuel + 1) (.matchE sp ty c arms (some d)) st = evalExpr cfg f' a.2 st1) ∨
      (armsHit st1.heap v arms = some none ∧ ∃ f', f' < fuel ∧
        evalExpr cfg (fuel + 1) (.matchE sp ty c arms (some d)) st = evalExpr cfg f' d st1) := by
  rw [evalExpr_matchE]
  rcases evalExpr cfg fuel c st with ⟨r, st1⟩
  cases r with
  | error e => rfl
  | ok v => exact evalArms_spec cfg arms fuel v d st1 hl

/-- The VM's comparison cascade (`armTests`) with the control value `cv` on top of the stack:
`Eq_PopOnce` pops only the literal; the first arm with an equal literal is jumped to (its `case`
label), with none the VM falls through to `Jump default`; the control value is still there — each body
and the default start with `Drop`. -/
theorem match_cascade_vm (G : GCtx) (A : Act) (hA : A.OK G) (sp : Span) (cv : SVal)
    (stk : List SVal) (mem : Mem) (w : World) (arms : List (List Expr × Expr)) (lm : LM) (ip : Nat)
    (hl : ∀ a ∈ arms, ∀ l ∈ a.1, Frag.litE l = true) (hpl : Placed A.lab A.σ A.c ip (armTests G.mod sp arms lm).1) :
    match armsHit w.heap cv.v arms with
    | some (some i) => ∃ nm, (armTests G.mod sp arms lm).2.1[i]? = some nm ∧
        Runs G.fr G.code G.lim G.s A.fn A.rest A.mp ip (cv :: stk) mem w (A.lab nm) (cv :: stk) mem w
    | some none => Runs G.fr G.code G.lim G.s A.fn A.rest A.mp ip (cv :: stk) mem w
        (ip + nI (armTests G.mod sp arms lm).1) (cv :: stk) mem w
    | none => True :=
  armTests_run G A hA sp cv stk mem w arms lm ip hl hpl

/-- `match` expressions: control expression, arm bodies and default may contain calls and further
`match`es; the bodies of the arms not chosen are not executed (no output, no error of theirs). -/
theorem match_correct (G : GCtx) (hG : G.OK) (fuel : Nat) (A : Act) (hA : A.OK G) (sp : Span) (ty : Ty) (c : Expr)
    (arms : List (List Expr × Expr)) (d : Expr) (st : St)
    (ip : Nat) (stk : List SVal) (mem : List (Int × Val)) (lm : LM) (scopes : CScopes) (vm : List (String × Nat))
    (hs : Frag.okGE (.matchE sp ty c arms (some d)) = true)
    (hws : Frag.wsGE scopes A.φ (.matchE sp ty c arms (some d)) = true)
    (hT : ∀ x ∈ Frag.namesGE (.matchE sp ty c arms (some d)), x ∈ A.T)
    (hpl : Placed A.lab A.σ A.c ip (cgE G.mod (ρS scopes) A.φ (.matchE sp ty c arms (some d)) lm).1)
    (hrel : StRel G.mod A.T A.N A.σ G.lim A.mp scopes vm st.scopes mem) (hsp : SpecOK G A.mp st) :
    SimGE G A ip (nI (cgE G.mod (ρS scopes) A.φ (.matchE sp ty c arms (some d)) lm).1) stk mem st
      (match evalExpr G.cfg fuel c st with
        | (.ok v, st1) => evalArms G.cfg fuel v arms (some d) st1
        | (.error e, st1) => (.error e, st1)) := by
  have h := call_expr_correct G hG (fuel + 1) A hA _ st ip stk mem lm scopes vm hs hws hT hpl hrel hsp
  rwa [evalExpr_matchE] at h

/-- The specification's `match` statement: the value of the chosen arm is discarded. -/
theorem match_stmt_spec (cfg : Cfg) (fuel : Nat) (sp msp : Span) (ty : Ty) (c : Expr)
    (arms : List (List Expr × Expr)) (dflt : Option Expr) (st : St) :
    evalStmt cfg (fuel + 2) (.exprS sp (.matchE msp ty c arms dflt)) st =
      match evalExpr cfg fuel c st with
      | (.ok v, st1) =>
        (match evalArms cfg fuel v arms dflt st1 with
          | (.ok _, st2) => (.ok (), st2)
          | (.error e, st2) => (.error e, st2))
      | (.error e, st1) => (.error e, st1) := by
  rw [evalStmt_exprS, evalExpr_matchE]
  rcases evalExpr cfg fuel c st with ⟨r, st1⟩
  cases r <;> rfl

/-- `match` as a statement of type null whose arms and default are statement blocks (`Frag.okGArmsS`;
the code is that of `compileMatch_frag` with blocks, `cgS`/`cgArmsS`). The chosen block runs in its own
scope with the control value already dropped, so a `break`/`continue` inside an arm reaches the
enclosing loop's labels with the operand stack of the statement's start and the specification's scopes
(`inScope` pops the arm's scope), `return` the cleanup label, an exception its handler; a completed arm
jumps behind the `match`, where the relation holds for the `match`'s final counters. -/
theorem match_stmt_correct (G : GCtx) (hG : G.OK) (fuel : Nat) (A : Act) (hA : A.OK G)
    (loops : List (String × String)) (lscopes : CScopes) (d : Nat) (sp msp : Span) (ty : Ty) (c : Expr)
    (arms : List (List Expr × Expr)) (db : Block) (env : CEnv) (spec : St)
    (ip : Nat) (stk : List SVal) (mem : List (Int × Val))
    (stmt : Stmt) (hstmt : stmt = .exprS sp (.matchE msp ty c arms (some (.blockE db))))
    (hs : Frag.okGS (!loops.isEmpty) A.rt stmt = true) (hT : ∀ x ∈ Frag.identsGS stmt, x ∈ A.T)
    (hws : Frag.wsGS G.mod A.src A.φ loops stmt env = true)
    (hN : ∀ m ∈ codeVars (cgS G.mod A.src A.φ loops stmt env).1, A.N m)
    (hpl : Placed A.lab A.σ A.c ip (cgS G.mod A.src A.φ loops stmt env).1)
    (hd : 1 ≤ d) (hls : lscopes = env.scopes.drop d)
    (hrel : GRel G A env.scopes env.vm spec.scopes mem) (hsp : SpecOK G A.mp spec) :
    SimGS G A loops lscopes d ip (nI (cgS G.mod A.src A.φ loops stmt env).1) stk mem
      (GRel G A (cgS G.mod A.src A.φ loops stmt env).2.scopes (cgS G.mod A.src A.φ loops stmt env).2.vm) spec
      (match evalExpr G.cfg fuel c spec with
        | (.ok v, st1) =>
          (match evalArms G.cfg fuel v arms (some (.blockE db)) st1 with
            | (.ok _, st2) => (.ok (), st2)
            | (.error e, st2) => (.error e, st2))
        | (.error e, st1) => (.error e, st1)) := by
  subst hstmt
  have h := ((allP G hG.toOK' (fuel + 2)).pgs A hA loops lscopes d _ env (by rw [hG.nofor]; exact hs) hT hws hN).simGS (stk := stk) (mem := memOf G mem) hpl hls
    hrel hsp
  rw [match_stmt_spec] at h
  exact simGS_of hG.nofor h

section Example15
private def gmatch (ty : Ty) (c : Expr) (arms : List (List Expr × Expr)) (d : Expr) : Expr :=
  .matchE sp0 ty c arms (some d)

/-- `match n { 0 | 1 => 10, 2 => 20 + n, _ => classify(n - 3) + 1 }` -/
def clsE : Expr := gmatch .int (gv "n")
  [ ([.int sp0 0, .int sp0 1], .int sp0 10), ([.int sp0 2], .infix sp0 .int .add (.int sp0 20) (gv "n")) ]
  (.infix sp0 .int .add (gcall "classify" [.infix sp0 .int .sub (gv "n") (.int sp0 3)]) (.int sp0 1))
def clsStmts : List Stmt := [.letS sp0 "r" .int false .int clsE]
def clsFd : FnDef := gfn "classify" ["n"] .int clsStmts (some (gv "r"))
/-- `match n > 2 { true => match "b" { "a" => 1, "b" => classify(n) * 2, _ => 3 }, _ => 0 }`: a `match` on a
boolean whose first arm is a `match` on a string, with a call in an arm. -/
def wordE : Expr := gmatch .int (.infix sp0 .bool .gt (gv "n") (.int sp0 2))
  [ ([.bool sp0 true], gmatch .int (.str sp0 "b")
      [ ([.str sp0 "a"], .int sp0 1), ([.str sp0 "b"], .infix sp0 .int .mul (gcall "classify" [gv "n"]) (.int sp0 2)) ]
      (.int sp0 3)) ]
  (.int sp0 0)
def wordFd : FnDef := gfn "word" ["n"] .int [] (some wordE)
private def gblk (ss : List Stmt) : Expr := .blockE (.mk sp0 .null ss none)
/-- `let i = 0; let acc = 0;`
`loop { i += 1;`
`  match i { 1 | 2 => { acc += 10; } 3 => { continue; } 7 => { break; } _ => { if i > k { return acc; } acc += i; } }`
`  acc += 1; }`: a `match` statement whose arms continue, leave and return from the enclosing loop. -/
def walkStmts : List Stmt :=
  [ .letS sp0 "i" .int false .int (.int sp0 0), .letS sp0 "acc" .int false .int (.int sp0 0),
    .loopS sp0 (.mk sp0 .null [ gasg .add "i" (.int sp0 1),
       .exprS sp0 (.matchE sp0 .null (gv "i")
         [ ([.int sp0 1, .int sp0 2], gblk [gasg .add "acc" (.int sp0 10)]),
           ([.int sp0 3], gblk [.cont sp0]),
           ([.int sp0 7], gblk [.brk sp0]) ]
         (some (gblk [gif (.infix sp0 .bool .gt (gv "i") (gv "k")) [.ret sp0 (some (gv "acc"))],
           gasg .add "acc" (gv "i")]))),
       gasg .add "acc" (.int sp0 1) ] none) ]
def walkFd : FnDef := gfn "walk" ["k"] .int walkStmts (some (gv "acc"))
/-- `fn main() { println(classify(7)); println(word(5)); println(word(1)); println(walk(100)); println(walk(5)); }` -/
def main3Stmts : List Stmt :=
  [gprint [gcall "classify" [.int sp0 7]], gprint [gcall "word" [.int sp0 5]], gprint [gcall "word" [.int sp0 1]],
   gprint [gcall "walk" [.int sp0 100]], gprint [gcall "walk" [.int sp0 5]]]
def main3Fd : FnDef := gfn "main" [] .null main3Stmts none
def progZ : Program :=
  [{ name := "main", imports := [], singletons := [], globals := [], nImpls := 0, fns := [clsFd, wordFd, walkFd, main3Fd] }]

example : (match runProgram { prog := progZ } 200 with | .ok out _ => out | _ => "?") = "12\n46\n0\n40\n33\n" := by
  decide +kernel

def φZ : String → Option String := fun n =>
  if n = "classify" then some "@main.classify" else if n = "word" then some "@main.word"
  else if n = "walk" then some "@main.walk" else none
def symCls : SCode := cgFn "main" φZ clsFd clsStmts (some (gv "r")) [[]] [] []
def symWord : SCode := cgFn "main" φZ wordFd [] (some wordE) [[]] [] []
def symWalk : SCode := cgFn "main" φZ walkFd walkStmts (some (gv "acc")) [[]] [] []
def symMain3 : SCode := cgFn "main" φZ main3Fd main3Stmts none [[]] [] []
def codeZ : Code := [⟨"@main.classify", renameVars (relG symCls)⟩, ⟨"@main.word", renameVars (relG symWord)⟩,
  ⟨"@main.walk", renameVars (relG symWalk)⟩, ⟨"@main.main", renameVars (relG symMain3)⟩]

local instance (priority := high) : BEq PVal := ⟨pvalBeq⟩
private theorem compiledZ : (match compile progZ "main" 100 with
    | .ok c => ((c.fns.filter fun f => f.name != "@main.@init").map (fun f => (f.name, f.code))
        == codeZ.map (fun f => (f.name, f.code))) &&
      decide ((match runMain c {} 50 20000 with
        | .ok s => (s.st.out, s.stack.length, s.mp, s.calls.length) | _ => ("?", 0, 0, 0)) =
        ("12\n46\n0\n40\n33\n", 0, 0, 0))
    | .error _ => false) = true := by decide +kernel

example : (match compile progZ "main" 100 with
    | .ok c => (match runMain c {} 50 20000 with
      | .ok s => (s.st.out, s.stack.length, s.mp, s.calls.length) | _ => ("?", 0, 0, 0))
    | .error e => (e, 0, 0, 0)) = ("12\n46\n0\n40\n33\n", 0, 0, 0) := by
  have h := compiledZ
  generalize compile progZ "main" 100 = r at h ⊢
  cases r with
  | error e => cases h
  | ok c => exact of_decide_eq_true (Bool.and_eq_true_iff.mp h).2

example : (match compile progZ "main" 100 with
    | .ok c => (c.fns.filter fun f => f.name != "@main.@init").map (fun f => (f.name, f.code))
        == codeZ.map (fun f => (f.name, f.code))
    | .error _ => false) = true := by
  have h := compiledZ
  generalize compile progZ "main" 100 = r at h ⊢
  cases r with
  | error e => cases h
  | ok c => exact (Bool.and_eq_true_iff.mp h).1

def GZ : GCtx :=
  ⟨{ prog := progZ }, codeZ, {}, "main", {}, fun g => g = "classify" ∨ g = "word" ∨ g = "walk", 6, 0, false⟩

private theorem phiZ : PhiOK GZ φZ :=
  phiOK_cons (by decide +kernel) (Or.inl rfl) clsFd rfl <|
  phiOK_cons (by decide +kernel) (Or.inr (Or.inl rfl)) wordFd rfl <|
  phiOK_cons (by decide +kernel) (Or.inr (Or.inr rfl)) walkFd rfl (phiOK_nil GZ)

private theorem chkZ : ProgChecked GZ φZ [clsFd, wordFd, walkFd, main3Fd]
    [["n", "r", "classify"], ["n", "classify"], ["k", "i", "acc"], ["println", "classify", "word", "walk"]] :=
  progChecked_of_check ["classify", "word", "walk"] phiZ (fun _ => rfl) (fun g h => by simpa [GZ] using h) rfl
    (by decide +kernel)

theorem gz_ok : GZ.OK := ⟨chkZ.ok, rfl⟩

theorem fnOK_main3 : FnVoidOK GZ "main" main3Fd
    ⟨renameVars (relG symMain3), slotFn (relG symMain3), labelIndex symMain3, (· ∈ varNames (relG symMain3)),
      ["println", "classify", "word", "walk"], φZ, [[]], [], []⟩ main3Stmts :=
  (chkZ.fn 3 _ _ rfl rfl).2

private theorem spec_main3 :
    okOut "12\n46\n0\n40\n33\n" (callBody GZ.cfg 200 sp0 GZ.mod main3Fd.params main3Fd.body [] stX) = true := by
  decide +kernel

/-- The program through the theorems: `classify(7)` recurses through the default arm twice and ends
in the two-literal arm `0 | 1`; `word(5)` takes the `true` arm, whose nested string `match` hits its
second arm and calls `classify(5)` (arm `2` after one recursion); `word(1)` takes the default;
`walk(100)` leaves its loop from the arm `7 => { break; }` after the arm `3 => { continue; }` skipped
an increment, `walk(5)` returns from inside the default arm. -/
example : ∃ K, ∀ quantum, K ≤ quantum → ∀ vfuel, ∃ s',
    run codeZ {} quantum none (vfuel + 1) { calls := [⟨"@main.main", 0⟩] } = .ok s' ∧
    s'.st.out = "12\n46\n0\n40\n33\n" ∧ s'.mp = 0 ∧ s'.calls = [] := by
  exact chkZ.out rfl 3 _ _ rfl rfl rfl 200 sp0 _ spec_main3
end Example15

/-! ## 16. `for x in a..b { … }` with `break` / `continue`

The VM's iterator protocol: `code(a); code(b); Into_Range; Clone; IntoIter; SetVarImm it;
head: GetVarImm it; IteratorAdvance; SetVarImm x; JumpIfFalse after; body; update: Jump head; after:`.
`IntoIter` allocates an iterator over the *snapshot* of the elements in the VM's iterator table, so
the statements from here on thread a memory `Mem` = cells + iterator table, and the contexts (`G.OK'`,
`G.fr = true`) allow `for` loops in every function, nested and in callees. -/

/-- On `for x in a..b { … }` (`Frag.okFS true`: bounds in `Frag.okGE`, body statements of the fragment,
nested `for` loops included) `compileStmt` generates the three labels first, pushes a scope, compiles
the bounds left to right, declares `$iter_x` and the loop variable in that scope, and compiles the body
*without* a scope of its own. -/
theorem compileFor_frag (fuel : Nat) (sp : Span) (name : String) (vty : Ty) (rsp : Span) (a b : Expr) (incl : Bool)
    (bsp : Span) (bty : Ty) (stmts : List Stmt) (cs : CState) (il rt : Bool)
    (hrt : rt = true → cs.tryDepth = 0) (hil : il = true → ∃ b c rest, cs.loops = (b, c, cs.tryDepth) :: rest)
    (hs : Frag.okFS true il rt (.forS sp name vty (.range rsp a b incl) (.mk bsp bty stmts none)) = true)
    (hd : Frag.cdS (.forS sp name vty (.range rsp a b incl) (.mk bsp bty stmts none)) ≤ fuel)
    (hws : Frag.wsGS cs.currModule cs.currFn (φOf cs) (loopsOf cs.loops)
      (.forS sp name vty (.range rsp a b incl) (.mk bsp bty stmts none)) (envOf cs) = true) :
    let mod := cs.currModule
    let φ := φOf cs
    let env := envOf cs
    let head := freshLabel mod env.lm "loop_head"
    let upd := freshLabel mod head.2 "loop_update"
    let after := freshLabel mod upd.2 "loop_end"
    let ca := cgE mod (ρS env.scopes) φ a after.2
    let cb := cgE mod (ρS env.scopes) φ b ca.2
    let fit := freshVar mod { env with scopes := [] :: env.scopes, lm := cb.2 } ("$iter_" ++ name)
    let fhv := freshVar mod fit.2 name
    let cbody := cgSs mod cs.currFn φ ((after.1, upd.1) :: loopsOf cs.loops) stmts fhv.2
    (compileStmt fuel (.forS sp name vty (.range rsp a b incl) (.mk bsp bty stmts none))).run cs =
      ((), updS cs cs.loops
        (ca.1 ++ cb.1 ++ [(.intoRange incl, rsp), (.clone, sp), (.intoIter, sp), (.setVar fit.1, sp), (.label head.1, sp),
            (.getVar fit.1, sp), (.iterAdvance, sp), (.setVar fhv.1, sp), (.jumpIfFalse after.1, sp)] ++ cbody.1 ++
          [(.label upd.1, sp), (.jump head.1, sp), (.label after.1, sp)])
        { cbody.2 with scopes := cbody.2.scopes.tail }) := by
  have h := compile_fstmt.1 _ il rt _ hs fuel cs cs.loops hrt hil hd [] (envOf cs) hws
  rw [updS_self, List.nil_append, cgS] at h
  exact h

/-- The specification's `for` (`forRun`): the bounds are evaluated once, left to right, the elements
of the range are computed once (`rangeElems`: ascending when `a < b`, otherwise descending; the
snapshot); every round runs in a fresh scope that binds the loop variable; `break` ends the loop,
`continue` and a completed body start the next round. -/
theorem for_spec (cfg : Cfg) (fuel : Nat) (sp : Span) (name : String) (vty : Ty) (rsp : Span) (a b : Expr) (incl : Bool)
    (body : Block) (st : St) :
    evalStmt cfg (fuel + 2) (.forS sp name vty (.range rsp a b incl) body) st =
      match evalExpr cfg fuel a st with
      | (.ok x, st1) =>
        (match evalExpr cfg fuel b st1 with
          | (.ok y, st2) =>
            (match x, y with
              | .int x, .int y =>
                if (x.toInt - y.toInt).natAbs > 100000 then (.error (.unsupported "huge range"), st2)
                else forRun cfg (fuel + 1) name ((rangeElems x y incl).map Val.int) body st2
              | _, _ => (.error (.unsupported "range bounds"), st2))
          | (.error c, st2) => (.error c, st2))
      | (.error c, st1) => (.error c, st1) := by
  rw [evalStmt_forS, evalExpr_range]
  rcases evalExpr cfg fuel a st with ⟨r1, st1⟩
  cases r1 with
  | error c => rfl
  | ok x =>
    simp only []
    rcases evalExpr cfg fuel b st1 with ⟨r2, st2⟩
    cases r2 with
    | error c => rfl
    | ok y =>
      cases x <;> cases y <;> try rfl
      rename_i x y
      simp only [iterElems_range]
      by_cases h : (x.toInt - y.toInt).natAbs > 100000
      · simp only [h, if_true]
      · simp only [h, if_false]

theorem for_round_spec (cfg : Cfg) (g : Nat) (name : String) (x : Val) (xs : List Val) (bsp : Span) (bty : Ty)
    (stmts : List Stmt) (s : St) :
    forRun cfg (g + 2) name (x :: xs) (.mk bsp bty stmts none) s =
      match evalStmts cfg g stmts (roundSt name x s) with
      | (.error .brk, s1) => (.ok (), { s1 with scopes := s1.scopes.tail })
      | (.error .cont, s1) => forRun cfg (g + 1) name xs (.mk bsp bty stmts none) { s1 with scopes := s1.scopes.tail }
      | (.ok _, s1) => forRun cfg (g + 1) name xs (.mk bsp bty stmts none) { s1 with scopes := s1.scopes.tail }
      | (.error c, s1) => (.error c, { s1 with scopes := s1.scopes.tail }) :=
  forRun_cons_stmts cfg g name x xs bsp bty stmts s

/-- `IntoIter` on a range: a new iterator `id = nextIter` over the snapshot of the elements, the
closure `1000000 + id` pushed. Go pushes a `ValueIterator` holding a function value
(`value.NewValueIter`); the VM model has no such value and writes it as `Val.closure` with the offset
`1000000`, so that it cannot be taken for an index into the specification's table of lambdas
(`St.closures`). `hsmall`: on a range wider than 100000 `iterElems` (`Hms/Core/Sem.lean`), which `intoIter`
runs as the specification's `for` does (`for_spec`), answers `unsupported "huge range"`. -/
theorem intoIter_step (code : Code) (lim : Limits) (s : VMState) (fn : String) (ip : Nat) (rest : List Frame)
    (mp : Int) (k : Nat) (stk : List SVal) (mem : List (Int × Val)) (out : World) (c : List (RInstr × Span))
    (hf : findCode code fn = some c) (sp : Span) (incl : Bool) (a b : I64) (o : Option Org) (it : ItSt)
    (hx : c[ip]? = some (.intoIter, sp)) (hsmall : ¬ (a.toInt - b.toInt).natAbs > 100000) :
    exec1 code lim (mkS (withIt s it) (⟨fn, ip⟩ :: rest) mp k (⟨.range a b incl, o⟩ :: stk) mem out) =
      .next (mkS (withIt s ⟨(it.next, (rangeElems a b incl).map Val.int) :: it.iters, it.next + 1⟩)
        (⟨fn, ip + 1⟩ :: rest) mp (k + 1) (⟨.closure (1000000 + it.next), none⟩ :: stk) mem out) :=
  mkS_intoIter_range code lim s fn ip rest mp k stk mem out c hf sp incl a b o it hx hsmall

/-- `IteratorAdvance`: with an element left it is pushed above `true` and removed from the iterator; an
exhausted iterator pushes `null` above `false`. -/
theorem iterAdvance_step (code : Code) (lim : Limits) (s : VMState) (fn : String) (ip : Nat) (rest : List Frame)
    (mp : Int) (k : Nat) (stk : List SVal) (mem : List (Int × Val)) (out : World) (c : List (RInstr × Span))
    (hf : findCode code fn = some c) (sp : Span) (o : Option Org) (it : ItSt) (id : Nat)
    (hx : c[ip]? = some (.iterAdvance, sp)) :
    (∀ x xs, it.iters.lookup id = some (x :: xs) →
      exec1 code lim (mkS (withIt s it) (⟨fn, ip⟩ :: rest) mp k (⟨.closure (1000000 + id), o⟩ :: stk) mem out) =
        .next (mkS (withIt s ⟨(id, xs) :: it.iters.filter (·.1 != id), it.next⟩)
          (⟨fn, ip + 1⟩ :: rest) mp (k + 1) (⟨x, none⟩ :: ⟨.bool true, none⟩ :: stk) mem out)) ∧
    (it.iters.lookup id = some [] →
      exec1 code lim (mkS (withIt s it) (⟨fn, ip⟩ :: rest) mp k (⟨.closure (1000000 + id), o⟩ :: stk) mem out) =
        .next (mkS (withIt s it) (⟨fn, ip + 1⟩ :: rest) mp (k + 1) (⟨.null, none⟩ :: ⟨.bool false, none⟩ :: stk) mem out)) :=
  ⟨fun x xs hl => mkS_iterAdvance_cons code lim s fn ip rest mp k stk mem out c hf sp o it id x xs hx hl,
   fun hl => mkS_iterAdvance_nil code lim s fn ip rest mp k stk mem out c hf sp o it id hx hl⟩

/-- `for` loops: after normal completion (the range exhausted, or a `break`) the relation holds for
the scopes of the start and iterators that existed before are untouched (`MemLe … .it`: `ItLe`). Every
round's body runs in the specification's fresh scope with the loop variable bound, and the iterator's
cell — an untracked variable of the activation — keeps its value through the body (calls and nested
loops included). -/
theorem for_correct (G : GCtx) (hG : G.OK') (fuel : Nat) (A : Act) (hA : A.OK G)
    (loops : List (String × String)) (lscopes : CScopes) (d : Nat) (sp : Span) (name : String) (vty : Ty) (rsp : Span)
    (a b : Expr) (incl : Bool) (bsp : Span) (bty : Ty) (stmts : List Stmt) (env : CEnv) (spec : St)
    (ip : Nat) (stk : List SVal) (mem : Mem)
    (stmt : Stmt) (hstmt : stmt = .forS sp name vty (.range rsp a b incl) (.mk bsp bty stmts none))
    (hs : Frag.okFS G.fr (!loops.isEmpty) A.rt stmt = true) (hT : ∀ x ∈ Frag.identsGS stmt, x ∈ A.T)
    (hws : Frag.wsGS G.mod A.src A.φ loops stmt env = true)
    (hN : ∀ m ∈ codeVars (cgS G.mod A.src A.φ loops stmt env).1, A.N m)
    (hpl : Placed A.lab A.σ A.c ip (cgS G.mod A.src A.φ loops stmt env).1)
    (hd : 1 ≤ d) (hls : lscopes = env.scopes.drop d)
    (hrel : Sim.GRel G A env.scopes env.vm spec.scopes mem) (hsp : SpecOK G A.mp spec) :
    Sim.SimGS G A loops lscopes d ip (nI (cgS G.mod A.src A.φ loops stmt env).1) stk mem
      (Sim.GRel G A (cgS G.mod A.src A.φ loops stmt env).2.scopes (cgS G.mod A.src A.φ loops stmt env).2.vm) spec
      (evalStmt G.cfg fuel stmt spec) := by
  subst hstmt
  exact ((allP G hG fuel).pgf A hA loops lscopes d sp name vty rsp a b incl bsp bty stmts env hs hT hws hN).simGS hpl
    hls hrel hsp

/-- `gstmts_correct` on the fragment with `for` loops (`Frag.okFSs G.fr`). -/
theorem fstmts_correct (G : GCtx) (hG : G.OK') (fuel : Nat) (A : Act) (hA : A.OK G)
    (loops : List (String × String)) (lscopes : CScopes) (d : Nat) (ss : List Stmt) (env : CEnv) (spec : St)
    (ip : Nat) (stk : List SVal) (mem : Mem)
    (hs : Frag.okFSs G.fr (!loops.isEmpty) A.rt ss = true) (hT : ∀ x ∈ Frag.identsGSs ss, x ∈ A.T)
    (hws : Frag.wsGSs G.mod A.src A.φ loops ss env = true)
    (hN : ∀ m ∈ codeVars (cgSs G.mod A.src A.φ loops ss env).1, A.N m)
    (hpl : Placed A.lab A.σ A.c ip (cgSs G.mod A.src A.φ loops ss env).1)
    (hd : 1 ≤ d) (hls : lscopes = env.scopes.drop d)
    (hrel : Sim.GRel G A env.scopes env.vm spec.scopes mem) (hsp : SpecOK G A.mp spec) :
    Sim.SimGS G A loops lscopes d ip (nI (cgSs G.mod A.src A.φ loops ss env).1) stk mem
      (Sim.GRel G A (cgSs G.mod A.src A.φ loops ss env).2.scopes (cgSs G.mod A.src A.φ loops ss env).2.vm) spec
      (evalStmts G.cfg fuel ss spec) :=
  ((allP G hG fuel).pgss A hA loops lscopes d ss env hs hT hws hN hd).simGS (mem := mem) hpl hls hrel hsp

/-- `fn_compiled_ok` for functions with `for` loops. -/
theorem fn_compiled_okF (G : GCtx) (fd : FnDef) (stmts : List Stmt) (e : Expr) (φ : String → Option String)
    (scopes0 : CScopes) (vm0 : List (String × Nat)) (lm0 : LM) (T : List String) (r : NCode)
    (hbody : ∃ bsp bty, fd.body = .mk bsp bty stmts (some e))
    (hparams : ∀ p ∈ fd.params, p.isSingleton = false)
    (hrel : relocate (cgFn G.mod φ fd stmts (some e) scopes0 vm0 lm0) = some r)
    (hcode : findCode G.code (mangleFnName G.mod fd.name) = some (renameVars r))
    (hframe : (fnParts G.mod φ fd stmts (some e) scopes0 vm0 lm0).envE.nv ≤ G.F)
    (okS : Frag.okFSs G.fr false true stmts = true) (okE : Frag.okE G.fr e = true)
    (wsS : Frag.wsGSs G.mod fd.name φ [] stmts (fnParts G.mod φ fd stmts (some e) scopes0 vm0 lm0).envB = true)
    (wsE : Frag.wsGE (fnParts G.mod φ fd stmts (some e) scopes0 vm0 lm0).envS.scopes φ e = true)
    (tParams : ∀ p ∈ fd.params, p.name ∈ T) (tIdents : ∀ x ∈ Frag.identsGSs stmts, x ∈ T)
    (tVars : ∀ x ∈ Frag.namesGE e, x ∈ T) (key : cleanupKey G.mod fd.name ∉ T)
    (outer : ∀ sc ∈ scopes0, ∀ x ∈ T, sc.lookup x = none) (phi : PhiOK G φ) :
    FnOK G fd.name fd
      ⟨renameVars r, slotFn r, labelIndex (cgFn G.mod φ fd stmts (some e) scopes0 vm0 lm0), (· ∈ varNames r), T, φ,
        scopes0, vm0, lm0⟩ stmts e :=
  FnOK.of_compiled G fd stmts e φ scopes0 vm0 lm0 T r hbody hparams hrel hcode hframe okS okE wsS wsE
    tParams tIdents tVars key outer phi

/-- `fn_void_compiled_ok` for functions with `for` loops. -/
theorem fn_void_compiled_okF (G : GCtx) (fd : FnDef) (stmts : List Stmt) (φ : String → Option String)
    (scopes0 : CScopes) (vm0 : List (String × Nat)) (lm0 : LM) (T : List String) (r : NCode)
    (hbody : ∃ bsp bty, fd.body = .mk bsp bty stmts none)
    (hparams : ∀ p ∈ fd.params, p.isSingleton = false)
    (hrel : relocate (cgFn G.mod φ fd stmts none scopes0 vm0 lm0) = some r)
    (hcode : findCode G.code (mangleFnName G.mod fd.name) = some (renameVars r))
    (hframe : (fnParts G.mod φ fd stmts none scopes0 vm0 lm0).envE.nv ≤ G.F)
    (okS : Frag.okFSs G.fr false true stmts = true)
    (wsS : Frag.wsGSs G.mod fd.name φ [] stmts (fnParts G.mod φ fd stmts none scopes0 vm0 lm0).envB = true)
    (tParams : ∀ p ∈ fd.params, p.name ∈ T) (tIdents : ∀ x ∈ Frag.identsGSs stmts, x ∈ T)
    (key : cleanupKey G.mod fd.name ∉ T)
    (outer : ∀ sc ∈ scopes0, ∀ x ∈ T, sc.lookup x = none) (phi : PhiOK G φ) :
    FnVoidOK G fd.name fd
      ⟨renameVars r, slotFn r, labelIndex (cgFn G.mod φ fd stmts none scopes0 vm0 lm0), (· ∈ varNames r), T, φ,
        scopes0, vm0, lm0⟩ stmts :=
  FnVoidOK.of_compiled G fd stmts φ scopes0 vm0 lm0 T r hbody hparams hrel hcode hframe okS wsS
    tParams tIdents key outer phi

/-- `call_correct` for functions with `for` loops; the callee's iterators are left in the table,
exhausted or abandoned. The tracked identifiers must not contain an iterator name `$iter_y` of a tracked
`y`. The arguments are on the stack with whatever origins they carry; the result carries none outside
the extended fragment (`OrgOK`). -/
theorem call_correctF (G : GCtx) (hG : G.OK') (fuel : Nat) (g : String) (fd : FnDef) (I : FnInfo)
    (stmts : List Stmt) (e : Expr) (hK : G.K g) (hfind : findFn G.cfg.prog G.mod g = some fd)
    (hFn : FnOK G g fd I stmts e) (hgh : G.fr = true → ∀ y ∈ I.T, ("$iter_" ++ y) ∉ I.T)
    (sp : Span) (svals : List SVal) (st : St) (frames : List Frame) (mp : Int)
    (stk : List SVal) (mem : Mem) (hsp : SpecOK G mp st) (hmp : 0 ≤ mp) :
    Sim.SimCall G (mangleFnName G.mod g) frames mp svals stk mem st
      (callBody G.cfg fuel sp G.mod fd.params fd.body (svals.map (·.v)) st) :=
  (allP G hG fuel).pcall g fd I stmts e hK hfind hFn hgh sp svals st frames mp stk mem hsp hmp

/-- `entry_run` with `for` loops, from a state with any iterator table. -/
theorem entry_runF (G : GCtx) (hG : G.OK') (fuel : Nat) (g : String) (fd : FnDef) (I : FnInfo)
    (stmts : List Stmt) (hFn : FnVoidOK G g fd I stmts) (hgh : G.fr = true → ∀ y ∈ I.T, ("$iter_" ++ y) ∉ I.T)
    (sp : Span) (st : St) (mp : Int) (stk : List SVal)
    (mem : Mem) (hsp : SpecOK G mp st) (hmp : 0 ≤ mp)
    (hstack : stk.length ≤ G.lim.stack) (hcallLim : 1 ≤ G.lim.callStack) :
    match callBody G.cfg fuel sp G.mod fd.params fd.body [] st with
    | (.ok v, st') =>
      ∃ K, ∀ quantum, K ≤ quantum → ∀ vfuel, ∃ s',
        run G.code G.lim quantum none (vfuel + 1) (mkSI G.s [⟨mangleFnName G.mod g, 0⟩] mp 0 stk mem st.world) = .ok s' ∧
        s'.st = { G.s.st with out := st'.out, heap := st'.heap } ∧ s'.mp = mp ∧ s'.calls = [] ∧
        (s'.stack = stk ∨ ∃ o, OrgOK G.fr o ∧ s'.stack = ⟨v, o⟩ :: stk)
    | (.error (.fatal kd m fsp), st') =>
      kd ≠ "StackOverFlow" → ∃ K, ∀ quantum, K ≤ quantum → ∀ vfuel, ∃ s',
        run G.code G.lim quantum none (vfuel + 1) (mkSI G.s [⟨mangleFnName G.mod g, 0⟩] mp 0 stk mem st.world) =
          .fatal kd m fsp s' ∧ s'.st = { G.s.st with out := st'.out, heap := st'.heap }
    | (.error (.throw msg tsp), st') =>
      G.s.handlers = [] → ∃ K, ∀ quantum, K ≤ quantum → ∀ vfuel, ∃ s',
        run G.code G.lim quantum none (vfuel + 1) (mkSI G.s [⟨mangleFnName G.mod g, 0⟩] mp 0 stk mem st.world) =
          .fatal "UncaughtThrow" msg tsp s' ∧ s'.st = { G.s.st with out := st'.out, heap := st'.heap }
    | _ => True :=
  Sim.entry_run G hG fuel g fd I stmts hFn hgh sp st mp stk mem hsp hmp hstack hcallLim

section Example16
private def gfor (x : String) (a b : Expr) (ss : List Stmt) : Stmt :=
  .forS sp0 x .int (.range sp0 a b false) (.mk sp0 .null ss none)

/-- `let acc = 0; for i in 0..n { if i == 3 { continue; } if i > 6 { break; } acc += i; }` -/
def sumToStmts : List Stmt :=
  [ .letS sp0 "acc" .int false .int (.int sp0 0),
    gfor "i" (.int sp0 0) (gv "n")
      [ gif (.infix sp0 .bool .eq (gv "i") (.int sp0 3)) [.cont sp0],
        gif (.infix sp0 .bool .gt (gv "i") (.int sp0 6)) [.brk sp0],
        gasg .add "acc" (gv "i") ] ]
def sumToFd : FnDef := gfn "sumTo" ["n"] .int sumToStmts (some (gv "acc"))
/-- `let c = 0; for i in 0..n { for j in i..n { c += sumTo(j); } }`: nested loops (the inner range
depends on the outer variable), a call — with a loop of its own — in the inner body. -/
def gridStmts : List Stmt :=
  [ .letS sp0 "c" .int false .int (.int sp0 0),
    gfor "i" (.int sp0 0) (gv "n") [ gfor "j" (gv "i") (gv "n") [ gasg .add "c" (gcall "sumTo" [gv "j"]) ] ] ]
def gridFd : FnDef := gfn "grid" ["n"] .int gridStmts (some (gv "c"))
/-- `fn main() { println(sumTo(10)); println(grid(3)); for k in 3..0 { println(k); } }`: the last range
is descending. -/
def main4Stmts : List Stmt :=
  [ gprint [gcall "sumTo" [.int sp0 10]], gprint [gcall "grid" [.int sp0 3]],
    gfor "k" (.int sp0 3) (.int sp0 0) [gprint [gv "k"]] ]
def main4Fd : FnDef := gfn "main" [] .null main4Stmts none
def progW : Program :=
  [{ name := "main", imports := [], singletons := [], globals := [], nImpls := 0, fns := [sumToFd, gridFd, main4Fd] }]

example : (match runProgram { prog := progW } 200 with | .ok out _ => out | _ => "?") = "18\n3\n3\n2\n1\n" := by
  decide +kernel

def φW : String → Option String := fun n =>
  if n = "sumTo" then some "@main.sumTo" else if n = "grid" then some "@main.grid" else none
def symSumTo : SCode := cgFn "main" φW sumToFd sumToStmts (some (gv "acc")) [[]] [] []
def symGrid : SCode := cgFn "main" φW gridFd gridStmts (some (gv "c")) [[]] [] []
def symMain4 : SCode := cgFn "main" φW main4Fd main4Stmts none [[]] [] []
def codeW : Code := [⟨"@main.sumTo", renameVars (relG symSumTo)⟩, ⟨"@main.grid", renameVars (relG symGrid)⟩,
  ⟨"@main.main", renameVars (relG symMain4)⟩]

local instance (priority := high) : BEq PVal := ⟨pvalBeq⟩
private theorem compiledW : (match compile progW "main" 100 with
    | .ok c => ((c.fns.filter fun f => f.name != "@main.@init").map (fun f => (f.name, f.code))
        == codeW.map (fun f => (f.name, f.code))) &&
      decide ((match runMain c {} 50 20000 with
        | .ok s => (s.st.out, s.stack.length, s.mp, s.calls.length) | _ => ("?", 0, 0, 0)) =
        ("18\n3\n3\n2\n1\n", 0, 0, 0))
    | .error _ => false) = true := by decide +kernel

example : (match compile progW "main" 100 with
    | .ok c => (match runMain c {} 50 20000 with
      | .ok s => (s.st.out, s.stack.length, s.mp, s.calls.length) | _ => ("?", 0, 0, 0))
    | .error e => (e, 0, 0, 0)) = ("18\n3\n3\n2\n1\n", 0, 0, 0) := by
  have h := compiledW
  generalize compile progW "main" 100 = r at h ⊢
  cases r with
  | error e => cases h
  | ok c => exact of_decide_eq_true (Bool.and_eq_true_iff.mp h).2

example : (match compile progW "main" 100 with
    | .ok c => (c.fns.filter fun f => f.name != "@main.@init").map (fun f => (f.name, f.code))
        == codeW.map (fun f => (f.name, f.code))
    | .error _ => false) = true := by
  have h := compiledW
  generalize compile progW "main" 100 = r at h ⊢
  cases r with
  | error e => cases h
  | ok c => exact (Bool.and_eq_true_iff.mp h).1

def GW : GCtx := ⟨{ prog := progW }, codeW, {}, "main", {}, fun g => g = "sumTo" ∨ g = "grid", 8, 0, true⟩

private theorem phiW : PhiOK GW φW :=
  phiOK_cons (by decide +kernel) (Or.inl rfl) sumToFd rfl <|
  phiOK_cons (by decide +kernel) (Or.inr rfl) gridFd rfl (phiOK_nil GW)

private theorem chkW : ProgChecked GW φW [sumToFd, gridFd, main4Fd]
    [["n", "acc", "i"], ["n", "c", "i", "j", "sumTo"], ["println", "sumTo", "grid", "k"]] :=
  progChecked_of_check ["sumTo", "grid"] phiW (fun _ => rfl) (fun g h => by simpa [GW] using h) rfl
    (by decide +kernel)

theorem gw_ok : GW.OK' := chkW.ok

theorem fnOK_main4 : FnVoidOK GW "main" main4Fd
    ⟨renameVars (relG symMain4), slotFn (relG symMain4), labelIndex symMain4, (· ∈ varNames (relG symMain4)),
      ["println", "sumTo", "grid", "k"], φW, [[]], [], []⟩ main4Stmts :=
  (chkW.fn 2 _ _ rfl rfl).2

private theorem spec_main4 :
    okOut "18\n3\n3\n2\n1\n" (callBody GW.cfg 200 sp0 GW.mod main4Fd.params main4Fd.body [] stX) = true := by
  decide +kernel

/-- The program through the theorems: `sumTo(10)` skips `i = 3` with `continue` and leaves the loop
at `i = 7` with `break`; `grid(3)` runs two nested loops, the inner range starting at the outer
variable, calling `sumTo` — which allocates an iterator of its own each time — from the inner body;
`main` counts down `3..0`. Nine iterators are allocated in all; none disturbs another. -/
example : ∃ K, ∀ quantum, K ≤ quantum → ∀ vfuel, ∃ s',
    run codeW {} quantum none (vfuel + 1) { calls := [⟨"@main.main", 0⟩] } = .ok s' ∧
    s'.st.out = "18\n3\n3\n2\n1\n" ∧ s'.mp = 0 ∧ s'.calls = [] := by
  exact chkW.out rfl 2 _ _ rfl rfl rfl 200 sp0 _ spec_main4
end Example16

/-! ## 17. Lists: literals, `l[i]`, `l[i] = e`, `l[i] op= e`; sharing by reference

The VM's heap *is* the specification's heap (the `World` of the states: the same cells at the same
addresses), so the relation between list values is the identity on addresses: a list is `.ref a` on
both sides, two variables naming one list hold the same address, and a write through either is seen
through the other. `Index` pushes the element *with its origin* (`Org.listElem a n`); `Assign` writes
through the origin of the value below the top of the stack. Here values with an origin arise in the
value positions of statements (`Frag.okXE`: `let`, right-hand sides, operands of arithmetic), where
`Sim.SimOE` — `Sim.SimGE` with the origin left open — describes them; section 20 admits them in the
other expression positions when `G.fr = true`. -/

/-- A list literal whose elements are atoms is `Cloning_Push []`, then for every element
`code(x); Copy_Push 2; HostCall __internal_list_push` (`cgEls`). -/
theorem compileList_frag (fuel : Nat) (sp : Span) (ty : Ty) (xs : List Expr) (cs : CState)
    (hs : Frag.okGE (.list sp ty xs) = true) (hd : Frag.cdE (.list sp ty xs) ≤ fuel)
    (hws : Frag.wsGE cs.scopes (φOf cs) (.list sp ty xs) = true) :
    (compileExpr fuel (.list sp ty xs)).run cs =
      ((), updS cs cs.loops
        ([(.cloningPush .emptyList, sp)] ++ (cgEls cs.currModule (ρS cs.scopes) sp xs cs.labelMangle).1)
        { envOf cs with lm := (cgEls cs.currModule (ρS cs.scopes) sp xs cs.labelMangle).2 }) := by
  have h := compileExpr_gfrag fuel _ cs hs hd hws
  rwa [cgE] at h

/-- `l[i]` (`Frag.okXE`) is `code(l); code(i); Index`. -/
theorem compileIndex_frag (fuel : Nat) (sp : Span) (ty : Ty) (b i : Expr) (cs : CState)
    (hs : Frag.okXE (.index sp ty b i) = true) (hd : Frag.cdE (.index sp ty b i) ≤ fuel)
    (hws : Frag.wsGE cs.scopes (φOf cs) (.index sp ty b i) = true) :
    let cb := cgE cs.currModule (ρS cs.scopes) (φOf cs) b cs.labelMangle
    let ci := cgE cs.currModule (ρS cs.scopes) (φOf cs) i cb.2
    (compileExpr fuel (.index sp ty b i)).run cs =
      ((), updS cs cs.loops (cb.1 ++ ci.1 ++ [(.index, sp)]) { envOf cs with lm := ci.2 }) := by
  have h := compile_xexpr fuel _ cs hs hd cs.loops [] (envOf cs) hws
  rw [updS_self, List.nil_append, cgE] at h
  exact h

/-- `l[i] = e` is `code(l); code(i); Index; code(e); Assign`, and `l[i] op= e` is
`code(l); code(i); Index; Dup; code(e); op; Assign`. -/
theorem compileIdxAssign_frag (fuel : Nat) (sp asp : Span) (op : Option InfixOp) (isp : Span) (ity : Ty) (b i r : Expr)
    (cs : CState) (fr il rt : Bool)
    (hrt : rt = true → cs.tryDepth = 0) (hil : il = true → ∃ b c rest, cs.loops = (b, c, cs.tryDepth) :: rest)
    (hs : Frag.okFS fr il rt (.exprS sp (.assign asp op (.index isp ity b i) r)) = true)
    (hd : Frag.cdS (.exprS sp (.assign asp op (.index isp ity b i) r)) ≤ fuel)
    (hws : Frag.wsGS cs.currModule cs.currFn (φOf cs) (loopsOf cs.loops)
      (.exprS sp (.assign asp op (.index isp ity b i) r)) (envOf cs) = true) :
    let cl := cgE cs.currModule (ρS cs.scopes) (φOf cs) (.index isp ity b i) cs.labelMangle
    let cr := cgE cs.currModule (ρS cs.scopes) (φOf cs) r cl.2
    (compileStmt fuel (.exprS sp (.assign asp op (.index isp ity b i) r))).run cs =
      ((), updS cs cs.loops (cl.1 ++ opPre op asp ++ cr.1 ++ opPost op asp ++ [(.assign, asp)])
        { envOf cs with lm := cr.2 }) := by
  have h := compile_fstmt.1 _ il rt _ hs fuel cs cs.loops hrt hil hd [] (envOf cs) hws
  rw [updS_self, List.nil_append, cgS_idxAssign] at h
  exact h

/-- The specification's `l[i]` on a list (`indexVal`, = `value.IndexValue`): a negative index counts
from the end (`wrapIndex`); outside the list the fatal error `IndexOutOfBounds` at the span of the index
expression, with the (wrapped) index in the message. -/
theorem index_spec (a : Nat) (k : I64) (sp : Span) (st : St) (xs : List Val) (h : st.heap[a]? = some (.list xs)) :
    indexVal (.ref a) (.int k) sp st =
      match wrapIndex k xs.length with
      | some n => (.ok (xs.getD n .null), st)
      | none => (.error (.fatal "IndexOutOfBounds"
          s!"Index out of bounds: cannot index a list of length {xs.length} with {if k.toInt < 0 then k.toInt + xs.length else k.toInt}" sp), st) :=
  indexVal_list a k sp st xs h

/-- A wrapped index is inside the list: what makes `xs.getD n` of `index_spec` and `xs.set n` of
`write_read_shared` hit an element. -/
theorem wrapIndex_lt (k : I64) (len n : Nat) (h : wrapIndex k len = some n) : n < len := by
  unfold wrapIndex at h
  simp only [] at h
  by_cases hk : k.toInt < 0
  · simp only [hk, if_true] at h
    split at h
    · cases h
    · have h' := Option.some.inj h; omega
  · simp only [hk, if_false] at h
    split at h
    · cases h
    · have h' := Option.some.inj h; omega

example : wrapIndex 1 3 = some 1 ∧ wrapIndex (-1) 3 = some 2 ∧ wrapIndex (-3) 3 = some 0 ∧ wrapIndex 3 3 = none ∧
    wrapIndex (-4) 3 = none := by decide

/-- `Index` on the VM is the specification's `indexVal` on the VM's heap; the value is pushed with the
slot it was read from (`idxOrg`: `Org.listElem a n` for a list, `Org.field a k` for an object). -/
theorem index_vm (code : Code) (lim : Limits) (s : VMState) (fn : String) (ip : Nat)
    (rest : List Frame) (mp : Int) (k : Nat) (stk : List SVal) (mem : List (Int × Val)) (out : World)
    (c : List (RInstr × Span)) (hf : findCode code fn = some c) (sp : Span) (bv iv : Val) (ob oi : Option Org)
    (hx : c[ip]? = some (.index, sp)) :
    exec1 code lim (mkS s (⟨fn, ip⟩ :: rest) mp k (⟨iv, oi⟩ :: ⟨bv, ob⟩ :: stk) mem out) =
      match (indexVal bv iv sp { s.st with heap := out.heap, out := out.out }).1 with
      | .ok v => .next (mkS s (⟨fn, ip + 1⟩ :: rest) mp (k + 1) (⟨v, idxOrg out.heap bv iv⟩ :: stk) mem out)
      | .error e => ctlToRes e (mkS s (⟨fn, ip⟩ :: rest) mp (k + 1) stk mem out) :=
  mkS_index hf sp bv iv ob oi hx

/-- `Assign` on the VM writes the top of the stack through the origin of the value below it
(`assignHeap`: the list cell with element `n` replaced, resp. the object cell with the field replaced). -/
theorem assign_vm (code : Code) (lim : Limits) (s : VMState) (fn : String) (ip : Nat)
    (rest : List Frame) (mp : Int) (k : Nat) (stk : List SVal) (mem : List (Int × Val)) (out : World)
    (c : List (RInstr × Span)) (hf : findCode code fn = some c) (sp : Span) (org : Org) (heap' : Array Cell)
    (dv v : Val) (o : Option Org)
    (hx : c[ip]? = some (.assign, sp)) (hh : assignHeap out.heap org v = some heap') :
    exec1 code lim (mkS s (⟨fn, ip⟩ :: rest) mp k (⟨v, o⟩ :: ⟨dv, some org⟩ :: stk) mem out) =
      .next (mkS s (⟨fn, ip + 1⟩ :: rest) mp (k + 1) stk mem ⟨heap', out.out⟩) :=
  mkS_assign_org hf sp org heap' dv v o hx hh

/-- The specification's `l[i] = e`, `l[i] op= e`: the slot is resolved first (`evalPlace`: `l`, then
`i`, then the bounds check — `IndexOutOfBounds` before the right-hand side runs), then the right-hand
side (for `op=`: the current element, the right-hand side, the operation), then the write. -/
theorem idxAssign_spec (cfg : Cfg) (fuel : Nat) (asp : Span) (op : Option InfixOp) (isp : Span) (ity : Ty)
    (b i r : Expr) (st : St) :
    evalExpr cfg (fuel + 2) (.assign asp op (.index isp ity b i) r) st =
      match evalExpr cfg fuel b st with
      | (.ok bv, st1) =>
        (match evalExpr cfg fuel i st1 with
          | (.ok iv, st2) =>
            (match placeOf bv iv isp st2 with
              | (.ok pl, st0) =>
                (match (match op with
                    | none => evalExpr cfg (fuel + 1) r st0
                    | some o =>
                      (match readPlace pl st0 with
                       | (.ok cur, st0') =>
                         (match evalExpr cfg (fuel + 1) r st0' with
                          | (.ok b, st1) => binOp o cur b asp st1
                          | (.error c, st1) => (.error c, st1))
                       | (.error c, st0') => (.error c, st0'))) with
                 | (.ok v, st2) =>
                   (match writePlace pl v st2 with
                    | (.ok _, st3) => (.ok .null, st3)
                    | (.error c, st3) => (.error c, st3))
                 | (.error c, st2) => (.error c, st2))
              | (.error c, st0) => (.error c, st0))
          | (.error c, st2) => (.error c, st2))
      | (.error c, st1) => (.error c, st1) := by
  rw [evalExpr_assign, evalPlace_index]
  rcases evalExpr cfg fuel b st with ⟨r1, st1⟩
  cases r1 with
  | error c => rfl
  | ok bv =>
    simp only []
    rcases evalExpr cfg fuel i st1 with ⟨r2, st2⟩
    cases r2 <;> rfl

/-- Sharing: a write to element `n` of the list at address `a` — through whichever variable holds
`.ref a` — is what every later read of that address sees (`k` any index that wraps to `n`). -/
theorem write_read_shared (a n : Nat) (k : I64) (v : Val) (sp : Span) (st : St) (xs : List Val)
    (h : st.heap[a]? = some (.list xs)) (hk : wrapIndex k xs.length = some n) :
    ∃ st', writePlace { addr := a, idx := n } v st = (.ok (), st') ∧
      st' = { st with heap := st.heap.setIfInBounds a (.list (xs.set n v)) } ∧
      indexVal (.ref a) (.int k) sp st' = (.ok v, st') := by
  have hn := wrapIndex_lt k _ n hk
  have ha : a < st.heap.size := by
    rcases Nat.lt_or_ge a st.heap.size with h' | h'
    · exact h'
    · rw [Array.getElem?_eq_none h'] at h; cases h
  refine ⟨_, ?_, rfl, ?_⟩
  · unfold writePlace
    simp only [M_bind, readCell_run, h]
    rfl
  · have hc : ({ st with heap := st.heap.setIfInBounds a (.list (xs.set n v)) } : St).heap[a]? =
        some (.list (xs.set n v)) := by
      simp [ha]
    rw [indexVal_list a k sp _ _ hc, List.length_set, hk]
    simp only []
    congr 2
    rw [List.getD_eq_getElem?_getD, List.getElem?_set_self (by omega)]
    rfl

/-- List literals: the specification evaluates the elements left to right and allocates a fresh cell
(`evalExpr_list`); the VM builds the list in place on the same heap and ends with the same reference on
its stack. -/
theorem list_correct (G : GCtx) (hG : G.OK') (fuel : Nat) (A : Act) (hA : A.OK G) (sp : Span) (ty : Ty)
    (xs : List Expr) (st : St) (ip : Nat) (stk : List SVal) (mem : Mem) (lm : LM)
    (scopes : CScopes) (vm : List (String × Nat)) (e : Expr) (he : e = .list sp ty xs)
    (hs : Frag.okGE e = true) (hws : Frag.wsGE scopes A.φ e = true)
    (hT : ∀ x ∈ Frag.namesGE e, x ∈ A.T)
    (hpl : Placed A.lab A.σ A.c ip (cgE G.mod (ρS scopes) A.φ e lm).1)
    (hrel : StRel G.mod A.T A.N A.σ G.lim A.mp scopes vm st.scopes mem) (hsp : SpecOK G A.mp st) :
    Sim.SimGE G A ip (nI (cgE G.mod (ρS scopes) A.φ e lm).1) stk mem st (evalExpr G.cfg fuel e st) := by
  subst he
  exact (allP G hG fuel).pe.simGE A hA _ st ip stk mem lm scopes vm hs hws hT hpl hrel hsp

/-- Element reads and arithmetic over them (`Frag.okXE`, `Sim.SimOE`): the value of `l[i]` — negative
indices wrapped — or the specification's fatal `IndexOutOfBounds` is the VM's; the pushed value carries
some origin. -/
theorem index_correct (G : GCtx) (hG : G.OK') (fuel : Nat) (A : Act) (hA : A.OK G)
    (e : Expr) (st : St) (ip : Nat) (stk : List SVal) (mem : Mem) (lm : LM)
    (scopes : CScopes) (vm : List (String × Nat))
    (hs : Frag.okXE e = true) (hws : Frag.wsGE scopes A.φ e = true)
    (hT : ∀ x ∈ Frag.namesGE e, x ∈ A.T)
    (hpl : Placed A.lab A.σ A.c ip (cgE G.mod (ρS scopes) A.φ e lm).1)
    (hrel : StRel G.mod A.T A.N A.σ G.lim A.mp scopes vm st.scopes mem) (hsp : SpecOK G A.mp st) :
    Sim.SimOE G A ip (nI (cgE G.mod (ρS scopes) A.φ e lm).1) stk mem st (evalExpr G.cfg fuel e st) :=
  (px_all G fuel (fun m _ => (allP G hG m).pe)).simOE A hA e st ip stk mem lm scopes vm hs hws hT hpl hrel hsp

/-- `l[i] = e` and `l[i] op= e` (`idxAssign_spec`): the final heaps are equal (both are the `World` of
the final state), so every alias of the list sees the write (`write_read_shared`);
`IndexOutOfBounds` comes from the bounds check, before the right-hand side. The right-hand side
contains no call (finding V38 stays excluded). -/
theorem idxAssign_correct (G : GCtx) (hG : G.OK') (fuel : Nat) (A : Act) (hA : A.OK G)
    (loops : List (String × String)) (lscopes : CScopes) (d : Nat) (sp asp : Span) (op : Option InfixOp)
    (isp : Span) (ity : Ty) (b i r : Expr) (env : CEnv) (spec : St) (ip : Nat) (stk : List SVal) (mem : Mem)
    (stmt : Stmt) (hstmt : stmt = .exprS sp (.assign asp op (.index isp ity b i) r))
    (hs : Frag.okFS G.fr (!loops.isEmpty) A.rt stmt = true) (hT : ∀ x ∈ Frag.identsGS stmt, x ∈ A.T)
    (hws : Frag.wsGS G.mod A.src A.φ loops stmt env = true)
    (hN : ∀ m ∈ codeVars (cgS G.mod A.src A.φ loops stmt env).1, A.N m)
    (hpl : Placed A.lab A.σ A.c ip (cgS G.mod A.src A.φ loops stmt env).1)
    (hd : 1 ≤ d) (hls : lscopes = env.scopes.drop d)
    (hrel : Sim.GRel G A env.scopes env.vm spec.scopes mem) (hsp : SpecOK G A.mp spec) :
    Sim.SimGS G A loops lscopes d ip (nI (cgS G.mod A.src A.φ loops stmt env).1) stk mem
      (Sim.GRel G A (cgS G.mod A.src A.φ loops stmt env).2.scopes (cgS G.mod A.src A.φ loops stmt env).2.vm) spec
      (evalStmt G.cfg fuel stmt spec) := by
  subst hstmt
  exact ((allP G hG fuel).pgs A hA loops lscopes d _ env hs hT hws hN).simGS (mem := mem) hpl hls hrel hsp

section Example17
private def spIdx : Span := ⟨12, 11, 12, 15⟩
private def tyL : Ty := .list .int
private def gl (x : String) : Expr := .ident sp0 tyL x false false false
private def gidx (l : String) (i : Expr) : Expr := .index sp0 .int (gl l) i
private def gset (op : Option InfixOp) (l : String) (i : Expr) (e : Expr) : Stmt :=
  .exprS sp0 (.assign sp0 op (gidx l i) e)

/-- `let l = [n, 2, 3]; let m = l; m[0] = 10; l[-1] += 4; for i in 0..3 { m[i] = l[i] * 2; }
let s = l[0] + m[1]; let t = s + l[2];`: `m` is an alias of `l`. -/
def buildStmts : List Stmt :=
  [ .letS sp0 "l" tyL false tyL (.list sp0 tyL [gv "n", .int sp0 2, .int sp0 3]),
    .letS sp0 "m" tyL false tyL (gl "l"),
    gset none "m" (.int sp0 0) (.int sp0 10),
    gset (some .add) "l" (.int sp0 (-1)) (.int sp0 4),
    gfor "i" (.int sp0 0) (.int sp0 3) [ gset none "m" (gv "i") (.infix sp0 .int .mul (gidx "l" (gv "i")) (.int sp0 2)) ],
    .letS sp0 "s" .int false .int (.infix sp0 .int .add (gidx "l" (.int sp0 0)) (gidx "m" (.int sp0 1))),
    .letS sp0 "t" .int false .int (.infix sp0 .int .add (gv "s") (gidx "l" (.int sp0 2))) ]
def buildFd : FnDef := gfn "build" ["n"] .int buildStmts (some (gv "t"))
/-- `fn at(k: int) -> int { let l = [1, 2]; let x = l[k]; x }` -/
def atStmts : List Stmt :=
  [ .letS sp0 "l" tyL false tyL (.list sp0 tyL [.int sp0 1, .int sp0 2]),
    .letS sp0 "x" .int false .int (.index spIdx .int (gl "l") (gv "k")) ]
def atFd : FnDef := gfn "at" ["k"] .int atStmts (some (gv "x"))
/-- `fn main() { println(build(1)); println(at(-2)); println(at(2)); }`: the last call fails. -/
def main5Stmts : List Stmt :=
  [ gprint [gcall "build" [.int sp0 1]], gprint [gcall "at" [.int sp0 (-2)]], gprint [gcall "at" [.int sp0 2]] ]
def main5Fd : FnDef := gfn "main" [] .null main5Stmts none
def progL : Program :=
  [{ name := "main", imports := [], singletons := [], globals := [], nImpls := 0, fns := [buildFd, atFd, main5Fd] }]

private def fatalOut : Hms.Core.Outcome → String × String × String × Nat
  | .fatal kd m sp out _ => (out, kd, m, sp.sl)
  | .ok out _ => (out, "ok", "", 0)
  | _ => ("?", "", "", 0)

example : fatalOut (runProgram { prog := progL } 200) =
    ("38\n1\n", "IndexOutOfBounds", "Index out of bounds: cannot index a list of length 2 with 2", 12) := by
  decide +kernel
def φL : String → Option String := fun n =>
  if n = "build" then some "@main.build" else if n = "at" then some "@main.at" else none
def symBuild : SCode := cgFn "main" φL buildFd buildStmts (some (gv "t")) [[]] [] []
def symAt : SCode := cgFn "main" φL atFd atStmts (some (gv "x")) [[]] [] []
def symMain5 : SCode := cgFn "main" φL main5Fd main5Stmts none [[]] [] []
def codeL17 : Code := [⟨"@main.build", renameVars (relG symBuild)⟩, ⟨"@main.at", renameVars (relG symAt)⟩,
  ⟨"@main.main", renameVars (relG symMain5)⟩]

local instance (priority := high) : BEq PVal := ⟨pvalBeq⟩
private theorem compiledL : (match compile progL "main" 100 with
    | .ok c => ((c.fns.filter fun f => f.name != "@main.@init").map (fun f => (f.name, f.code))
        == codeL17.map (fun f => (f.name, f.code))) &&
      decide ((match runMain c {} 50 20000 with
      | .fatal kd m sp s => (s.st.out, kd, m, sp.sl) | _ => ("?", "", "", 0)) =
        ("38\n1\n", "IndexOutOfBounds", "Index out of bounds: cannot index a list of length 2 with 2", 12))
    | .error _ => false) = true := by decide +kernel

example : (match compile progL "main" 100 with
    | .ok c => (match runMain c {} 50 20000 with
      | .fatal kd m sp s => (s.st.out, kd, m, sp.sl) | _ => ("?", "", "", 0))
    | .error e => (e, "", "", 0)) =
    ("38\n1\n", "IndexOutOfBounds", "Index out of bounds: cannot index a list of length 2 with 2", 12) := by
  have h := compiledL
  generalize compile progL "main" 100 = r at h ⊢
  cases r with
  | error e => cases h
  | ok c => exact of_decide_eq_true (Bool.and_eq_true_iff.mp h).2

example : (match compile progL "main" 100 with
    | .ok c => (c.fns.filter fun f => f.name != "@main.@init").map (fun f => (f.name, f.code))
        == codeL17.map (fun f => (f.name, f.code))
    | .error _ => false) = true := by
  have h := compiledL
  generalize compile progL "main" 100 = r at h ⊢
  cases r with
  | error e => cases h
  | ok c => exact (Bool.and_eq_true_iff.mp h).1

def GL : GCtx := ⟨{ prog := progL }, codeL17, {}, "main", {}, fun g => g = "build" ∨ g = "at", 12, 0, true⟩

private theorem phiL : PhiOK GL φL :=
  phiOK_cons (by decide +kernel) (Or.inl rfl) buildFd rfl <|
  phiOK_cons (by decide +kernel) (Or.inr rfl) atFd rfl (phiOK_nil GL)

private theorem chkL : ProgChecked GL φL [buildFd, atFd, main5Fd]
    [["n", "l", "m", "i", "s", "t"], ["k", "l", "x"], ["println", "build", "at"]] :=
  progChecked_of_check ["build", "at"] phiL (fun _ => rfl) (fun g h => by simpa [GL] using h) rfl
    (by decide +kernel)

theorem gl_ok : GL.OK' := chkL.ok

theorem fnOK_main5 : FnVoidOK GL "main" main5Fd
    ⟨renameVars (relG symMain5), slotFn (relG symMain5), labelIndex symMain5, (· ∈ varNames (relG symMain5)),
      ["println", "build", "at"], φL, [[]], [], []⟩ main5Stmts :=
  (chkL.fn 2 _ _ rfl rfl).2

private def fatalIs (out kd m : String) (sp : Span) : Except Ctl Val × St → Bool
  | (.error (.fatal kd' m' sp'), st) => st.out == out && kd' == kd && m' == m && sp' == sp
  | _ => false

private theorem spec_main5 :
    fatalIs "38\n1\n" "IndexOutOfBounds" "Index out of bounds: cannot index a list of length 2 with 2" spIdx
      (callBody GL.cfg 200 sp0 GL.mod main5Fd.params main5Fd.body [] stX) = true := by
  decide +kernel

/-- The program through the theorems: `run` ends with the specification's fatal error —
`IndexOutOfBounds` at the span of `l[k]` in `at`, two activations deep — after the specification's
output. Before that, `build(1)` wrote to a list through the alias `m` (also inside a `for` loop,
reading it through `l`), used a negative index in a compound assignment, and summed elements read
through both names: `38`; `at(-2)` read the first element through a wrapped index. -/
example : ∃ K, ∀ quantum, K ≤ quantum → ∀ vfuel, ∃ s',
    run codeL17 {} quantum none (vfuel + 1) { calls := [⟨"@main.main", 0⟩] } =
      .fatal "IndexOutOfBounds" "Index out of bounds: cannot index a list of length 2 with 2" spIdx s' ∧
    s'.st.out = "38\n1\n" := by
  obtain ⟨fuel, hfuel⟩ : ∃ n : Nat, n = 200 := ⟨200, rfl⟩
  have h := entry_runF GL gl_ok fuel "main" main5Fd _ main5Stmts fnOK_main5 (fun _ => by decide) sp0 stX 0 []
    ⟨[], ⟨[], 0⟩⟩ ⟨fun _ => HeapInv.empty, rfl, rfl, by decide⟩ (by decide) (by decide) (by decide)
  subst hfuel
  have hs := spec_main5
  rcases hev : callBody GL.cfg 200 sp0 GL.mod main5Fd.params main5Fd.body [] stX with ⟨res, st'⟩
  rw [hev] at h hs
  cases res with
  | ok v => simp [fatalIs] at hs
  | error e =>
    cases e <;> try (simp [fatalIs] at hs; done)
    rename_i kd m fsp
    simp only [fatalIs, Bool.and_eq_true, beq_iff_eq] at hs
    obtain ⟨⟨⟨hout, rfl⟩, rfl⟩, rfl⟩ := hs
    obtain ⟨K, hK⟩ := h (by decide)
    refine ⟨K, fun quantum hq vfuel => ?_⟩
    obtain ⟨s', hrun, hst⟩ := hK quantum hq vfuel
    exact ⟨s', hrun, by rw [hst]; exact hout⟩
end Example17

/-! ## 18. Objects: `new { k: e, … }`, `o.f`, `o.f = e`, `o.f op= e`

Objects live on the shared heap like lists (`.ref a` on both sides, aliases see each other's writes).
The VM allocates the object *before* its fields are initialized (a template with `null` fields, then one
`Dup; Member k; code(e); Assign` per field) while the specification allocates afterwards; with pure
initializers (atoms) and distinct field names both end with the same cell at the same address.
`Member` pushes the field's value with its origin `Org.field a k`; `Assign` writes through it. -/

/-- An object literal with atoms as initializers and distinct field names is
`Cloning_Push {k₁: null, …}`, then for every field `Dup; Member k; code(e); Assign` (`cgFields`). -/
theorem compileObj_frag (fuel : Nat) (sp : Span) (ty : Ty) (fs : List (String × Expr)) (cs : CState)
    (hs : Frag.okGE (.obj sp ty fs) = true) (hd : Frag.cdE (.obj sp ty fs) ≤ fuel)
    (hws : Frag.wsGE cs.scopes (φOf cs) (.obj sp ty fs) = true) :
    (compileExpr fuel (.obj sp ty fs)).run cs =
      ((), updS cs cs.loops
        ([(.cloningPush (.obj (fs.map fun f => (f.1, .null))), sp)] ++
          (cgFields cs.currModule (ρS cs.scopes) sp fs cs.labelMangle).1)
        { envOf cs with lm := (cgFields cs.currModule (ρS cs.scopes) sp fs cs.labelMangle).2 }) := by
  have h := compileExpr_gfrag fuel _ cs hs hd hws
  rwa [cgE] at h

/-- `o.f` (`Frag.okXE`) is `code(o); Member f`. -/
theorem compileMember_frag (fuel : Nat) (sp : Span) (ty : Ty) (b : Expr) (name : String) (cs : CState)
    (hs : Frag.okXE (.member sp ty b name .dot) = true) (hd : Frag.cdE (.member sp ty b name .dot) ≤ fuel)
    (hws : Frag.wsGE cs.scopes (φOf cs) (.member sp ty b name .dot) = true) :
    let cb := cgE cs.currModule (ρS cs.scopes) (φOf cs) b cs.labelMangle
    (compileExpr fuel (.member sp ty b name .dot)).run cs =
      ((), updS cs cs.loops (cb.1 ++ [(.member name, sp)]) { envOf cs with lm := cb.2 }) := by
  have h := compile_xexpr fuel _ cs hs hd cs.loops [] (envOf cs) hws
  rw [updS_self, List.nil_append, cgE] at h
  exact h

/-- `o.f = e` is `code(o); Member f; code(e); Assign`, and `o.f op= e` is
`code(o); Member f; Dup; code(e); op; Assign`. -/
theorem compileMemAssign_frag (fuel : Nat) (sp asp : Span) (op : Option InfixOp) (msp : Span) (mty : Ty) (b : Expr)
    (name : String) (r : Expr) (cs : CState) (fr il rt : Bool)
    (hrt : rt = true → cs.tryDepth = 0) (hil : il = true → ∃ b c rest, cs.loops = (b, c, cs.tryDepth) :: rest)
    (hs : Frag.okFS fr il rt (.exprS sp (.assign asp op (.member msp mty b name .dot) r)) = true)
    (hd : Frag.cdS (.exprS sp (.assign asp op (.member msp mty b name .dot) r)) ≤ fuel)
    (hws : Frag.wsGS cs.currModule cs.currFn (φOf cs) (loopsOf cs.loops)
      (.exprS sp (.assign asp op (.member msp mty b name .dot) r)) (envOf cs) = true) :
    let cl := cgE cs.currModule (ρS cs.scopes) (φOf cs) (.member msp mty b name .dot) cs.labelMangle
    let cr := cgE cs.currModule (ρS cs.scopes) (φOf cs) r cl.2
    (compileStmt fuel (.exprS sp (.assign asp op (.member msp mty b name .dot) r))).run cs =
      ((), updS cs cs.loops (cl.1 ++ opPre op asp ++ cr.1 ++ opPost op asp ++ [(.assign, asp)])
        { envOf cs with lm := cr.2 }) := by
  have h := compile_fstmt.1 _ il rt _ hs fuel cs cs.loops hrt hil hd [] (envOf cs) hws
  rw [updS_self, List.nil_append, cgS_memAssign] at h
  exact h

theorem obj_spec (cfg : Cfg) (fuel : Nat) (sp : Span) (ty : Ty) (fs : List (String × Expr)) (st : St) :
    evalExpr cfg (fuel + 1) (.obj sp ty fs) st =
      match evalFields cfg fuel fs st with
      | (.ok vs, st1) => (.ok (.ref st1.heap.size), { st1 with heap := st1.heap.push (.obj vs) })
      | (.error c, st1) => (.error c, st1) :=
  evalExpr_obj cfg fuel sp ty fs st

/-- The specification's `o.f` (`memberVal … .dot`): the data field of an object, else the bound member
(a builtin method: `len`, `push`, …; `start`/`end` of a range). -/
theorem member_spec (b : Val) (name : String) (sp : Span) (st : St) :
    memberVal b name .dot sp st =
      match b with
      | .ref a =>
        (match st.heap[a]? with
          | some (.obj fs) => (match fs.lookup name with
              | some v => (.ok v, st)
              | none => (.ok (.bound b name), st))
          | some _ => (.ok (.bound b name), st)
          | none => (.error (.unsupported "dangling reference"), st))
      | .range x y _ =>
        (if name == "start" then (.ok (.int x), st) else if name == "end" then (.ok (.int y), st)
          else (.ok (.bound b name), st))
      | _ => (.ok (.bound b name), st) :=
  memberVal_dot b name sp st

/-- `Member` on the VM is the specification's `memberVal` on the VM's heap; a data field is pushed with
its origin (`memOrg`: `Org.field a name`). -/
theorem member_vm (code : Code) (lim : Limits) (s : VMState) (fn : String) (ip : Nat)
    (rest : List Frame) (mp : Int) (k : Nat) (stk : List SVal) (mem : List (Int × Val)) (out : World)
    (c : List (RInstr × Span)) (hf : findCode code fn = some c) (sp : Span) (name : String) (bv : Val) (ob : Option Org)
    (hx : c[ip]? = some (.member name, sp)) :
    exec1 code lim (mkS s (⟨fn, ip⟩ :: rest) mp k (⟨bv, ob⟩ :: stk) mem out) =
      match (memberVal bv name .dot sp { s.st with heap := out.heap, out := out.out }).1 with
      | .ok v => .next (mkS s (⟨fn, ip + 1⟩ :: rest) mp (k + 1) (⟨v, memOrg out.heap bv name⟩ :: stk) mem out)
      | .error e => ctlToRes e (mkS s (⟨fn, ip⟩ :: rest) mp (k + 1) stk mem out) :=
  mkS_member hf sp name bv ob hx

/-- The specification's `o.f = e`, `o.f op= e`: the slot first (`o` must be an object with a data field
`f`), then the right-hand side, then the write. -/
theorem memAssign_spec (cfg : Cfg) (fuel : Nat) (asp : Span) (op : Option InfixOp) (msp : Span) (mty : Ty)
    (b : Expr) (name : String) (r : Expr) (st : St) :
    evalExpr cfg (fuel + 2) (.assign asp op (.member msp mty b name .dot) r) st =
      match evalExpr cfg fuel b st with
      | (.ok bv, st1) =>
        (match placeOfM bv name st1 with
          | (.ok pl, st0) =>
            (match (match op with
                | none => evalExpr cfg (fuel + 1) r st0
                | some o =>
                  (match readPlace pl st0 with
                   | (.ok cur, st0') =>
                     (match evalExpr cfg (fuel + 1) r st0' with
                      | (.ok b, st1) => binOp o cur b asp st1
                      | (.error c, st1) => (.error c, st1))
                   | (.error c, st0') => (.error c, st0'))) with
             | (.ok v, st2) =>
               (match writePlace pl v st2 with
                | (.ok _, st3) => (.ok .null, st3)
                | (.error c, st3) => (.error c, st3))
             | (.error c, st2) => (.error c, st2))
          | (.error c, st0) => (.error c, st0))
      | (.error c, st1) => (.error c, st1) := by
  rw [evalExpr_assign, evalPlace_member]
  rcases evalExpr cfg fuel b st with ⟨r1, st1⟩
  cases r1 <;> rfl

/-- `write_read_shared` for a field of an object. -/
theorem field_write_read_shared (a : Nat) (k : String) (v old : Val) (sp : Span) (st : St) (pre post : List (String × Val))
    (h : st.heap[a]? = some (.obj (pre ++ (k, old) :: post)))
    (h1 : k ∉ pre.map (·.1)) (h2 : k ∉ post.map (·.1)) :
    ∃ st', writePlace { addr := a, field := some k } v st = (.ok (), st') ∧
      st' = { st with heap := st.heap.setIfInBounds a (.obj (pre ++ (k, v) :: post)) } ∧
      memberVal (.ref a) k .dot sp st' = (.ok v, st') := by
  have ha : a < st.heap.size := by
    rcases Nat.lt_or_ge a st.heap.size with h' | h'
    · exact h'
    · rw [Array.getElem?_eq_none h'] at h; cases h
  refine ⟨_, ?_, rfl, ?_⟩
  · unfold writePlace
    simp only [M_bind, readCell_run, h]
    show (Except.ok (), _) = (Except.ok (), _)
    rw [setField_eq, setField_append pre k old v post h1 h2]
  · have hc : ({ st with heap := st.heap.setIfInBounds a (.obj (pre ++ (k, v) :: post)) } : St).heap[a]? =
        some (.obj (pre ++ (k, v) :: post)) := by
      simp [ha]
    rw [memberVal_dot]
    simp only [hc, lookup_append_not_mem pre k v post h1]

theorem obj_correct (G : GCtx) (hG : G.OK') (fuel : Nat) (A : Act) (hA : A.OK G) (sp : Span) (ty : Ty)
    (fs : List (String × Expr)) (st : St) (ip : Nat) (stk : List SVal) (mem : Mem) (lm : LM)
    (scopes : CScopes) (vm : List (String × Nat)) (e : Expr) (he : e = .obj sp ty fs)
    (hs : Frag.okGE e = true) (hws : Frag.wsGE scopes A.φ e = true)
    (hT : ∀ x ∈ Frag.namesGE e, x ∈ A.T)
    (hpl : Placed A.lab A.σ A.c ip (cgE G.mod (ρS scopes) A.φ e lm).1)
    (hrel : StRel G.mod A.T A.N A.σ G.lim A.mp scopes vm st.scopes mem) (hsp : SpecOK G A.mp st) :
    Sim.SimGE G A ip (nI (cgE G.mod (ρS scopes) A.φ e lm).1) stk mem st (evalExpr G.cfg fuel e st) := by
  subst he
  exact (allP G hG fuel).pe.simGE A hA _ st ip stk mem lm scopes vm hs hws hT hpl hrel hsp

/-- Field reads: an instance of `index_correct`, which covers all of `Frag.okXE`. -/
theorem member_correct (G : GCtx) (hG : G.OK') (fuel : Nat) (A : Act) (hA : A.OK G) (sp : Span) (ty : Ty)
    (b : Expr) (name : String) (st : St) (ip : Nat) (stk : List SVal) (mem : Mem) (lm : LM)
    (scopes : CScopes) (vm : List (String × Nat)) (e : Expr) (he : e = .member sp ty b name .dot)
    (hs : Frag.okXE e = true) (hws : Frag.wsGE scopes A.φ e = true)
    (hT : ∀ x ∈ Frag.namesGE e, x ∈ A.T)
    (hpl : Placed A.lab A.σ A.c ip (cgE G.mod (ρS scopes) A.φ e lm).1)
    (hrel : StRel G.mod A.T A.N A.σ G.lim A.mp scopes vm st.scopes mem) (hsp : SpecOK G A.mp st) :
    Sim.SimOE G A ip (nI (cgE G.mod (ρS scopes) A.φ e lm).1) stk mem st (evalExpr G.cfg fuel e st) := by
  subst he
  exact index_correct G hG fuel A hA _ st ip stk mem lm scopes vm hs hws hT hpl hrel hsp

/-- `o.f = e` and `o.f op= e`, as `idxAssign_correct`. -/
theorem memAssign_correct (G : GCtx) (hG : G.OK') (fuel : Nat) (A : Act) (hA : A.OK G)
    (loops : List (String × String)) (lscopes : CScopes) (d : Nat) (sp asp : Span) (op : Option InfixOp)
    (msp : Span) (mty : Ty) (b : Expr) (name : String) (r : Expr) (env : CEnv) (spec : St) (ip : Nat)
    (stk : List SVal) (mem : Mem)
    (stmt : Stmt) (hstmt : stmt = .exprS sp (.assign asp op (.member msp mty b name .dot) r))
    (hs : Frag.okFS G.fr (!loops.isEmpty) A.rt stmt = true) (hT : ∀ x ∈ Frag.identsGS stmt, x ∈ A.T)
    (hws : Frag.wsGS G.mod A.src A.φ loops stmt env = true)
    (hN : ∀ m ∈ codeVars (cgS G.mod A.src A.φ loops stmt env).1, A.N m)
    (hpl : Placed A.lab A.σ A.c ip (cgS G.mod A.src A.φ loops stmt env).1)
    (hd : 1 ≤ d) (hls : lscopes = env.scopes.drop d)
    (hrel : Sim.GRel G A env.scopes env.vm spec.scopes mem) (hsp : SpecOK G A.mp spec) :
    Sim.SimGS G A loops lscopes d ip (nI (cgS G.mod A.src A.φ loops stmt env).1) stk mem
      (Sim.GRel G A (cgS G.mod A.src A.φ loops stmt env).2.scopes (cgS G.mod A.src A.φ loops stmt env).2.vm) spec
      (evalStmt G.cfg fuel stmt spec) := by
  subst hstmt
  exact ((allP G hG fuel).pgs A hA loops lscopes d _ env hs hT hws hN).simGS (mem := mem) hpl hls hrel hsp

section Example18
private def tyO : Ty := .obj [("x", .int), ("y", .int)]
private def tyQ : Ty := .obj [("items", tyL), ("k", .int)]
private def go (x : String) : Expr := .ident sp0 tyO x false false false
private def gmem (o : Expr) (f : String) : Expr := .member sp0 .int o f .dot
private def gsetf (op : Option InfixOp) (o : Expr) (f : String) (e : Expr) : Stmt :=
  .exprS sp0 (.assign sp0 op (gmem o f) e)

/-- `let o = new { x: n, y: 2 }; let p = o; p.x = 10; o.y += 5; let l = [1, 2];
let q = new { items: l, k: 0 }; let it = q.items; it[0] = o.x + p.y; let s = l[0] + q.k;`:
`p` is an alias of `o`, `it` and `q.items` are aliases of `l`. -/
def mkStmts : List Stmt :=
  [ .letS sp0 "o" tyO false tyO (.obj sp0 tyO [("x", gv "n"), ("y", .int sp0 2)]),
    .letS sp0 "p" tyO false tyO (go "o"),
    gsetf none (go "p") "x" (.int sp0 10),
    gsetf (some .add) (go "o") "y" (.int sp0 5),
    .letS sp0 "l" tyL false tyL (.list sp0 tyL [.int sp0 1, .int sp0 2]),
    .letS sp0 "q" tyQ false tyQ (.obj sp0 tyQ [("items", gl "l"), ("k", .int sp0 0)]),
    .letS sp0 "it" tyL false tyL (.member sp0 tyL (.ident sp0 tyQ "q" false false false) "items" .dot),
    gset none "it" (.int sp0 0) (.infix sp0 .int .add (gmem (go "o") "x") (gmem (go "p") "y")),
    .letS sp0 "s" .int false .int
      (.infix sp0 .int .add (gidx "l" (.int sp0 0)) (gmem (.ident sp0 tyQ "q" false false false) "k")) ]
def mkFd : FnDef := gfn "mk" ["n"] .int mkStmts (some (gv "s"))
/-- `fn main() { println(mk(1)); }` -/
def main6Stmts : List Stmt := [ gprint [gcall "mk" [.int sp0 1]] ]
def main6Fd : FnDef := gfn "main" [] .null main6Stmts none
def progO : Program :=
  [{ name := "main", imports := [], singletons := [], globals := [], nImpls := 0, fns := [mkFd, main6Fd] }]

example : (match runProgram { prog := progO } 200 with | .ok out _ => out | _ => "?") = "17\n" := by
  decide +kernel

def φO : String → Option String := fun n => if n = "mk" then some "@main.mk" else none
def symMk : SCode := cgFn "main" φO mkFd mkStmts (some (gv "s")) [[]] [] []
def symMain6 : SCode := cgFn "main" φO main6Fd main6Stmts none [[]] [] []
def codeO : Code := [⟨"@main.mk", renameVars (relG symMk)⟩, ⟨"@main.main", renameVars (relG symMain6)⟩]

local instance (priority := high) : BEq PVal := ⟨pvalBeq⟩
private def pvalBeqO : PVal → PVal → Bool
  | .obj a, .obj b => a.length == b.length && (a.zip b).all fun xy => xy.1.1 == xy.2.1 && pvalBeq xy.1.2 xy.2.2
  | a, b => pvalBeq a b
private def instrBeqO : RInstr → RInstr → Bool
  | .cloningPush a, .cloningPush b => pvalBeqO a b
  | x, y => x == y
private def codeBeqO (a b : List (RInstr × Span)) : Bool :=
  a.length == b.length && (a.zip b).all fun xy => instrBeqO xy.1.1 xy.2.1 && xy.1.2 == xy.2.2
private theorem compiledO : (match compile progO "main" 100 with
    | .ok c => ((((c.fns.filter fun f => f.name != "@main.@init").zip codeO).all fun fg =>
        fg.1.name == fg.2.name && codeBeqO fg.1.code fg.2.code) &&
        (c.fns.filter fun f => f.name != "@main.@init").length == codeO.length) &&
      decide ((match runMain c {} 50 20000 with
      | .ok s => (s.st.out, s.stack.length, s.mp, s.calls.length) | _ => ("?", 0, 0, 0)) =
        ("17\n", 0, 0, 0))
    | .error _ => false) = true := by decide +kernel

example : (match compile progO "main" 100 with
    | .ok c => (match runMain c {} 50 20000 with
      | .ok s => (s.st.out, s.stack.length, s.mp, s.calls.length) | _ => ("?", 0, 0, 0))
    | .error e => (e, 0, 0, 0)) = ("17\n", 0, 0, 0) := by
  have h := compiledO
  generalize compile progO "main" 100 = r at h ⊢
  cases r with
  | error e => cases h
  | ok c => exact of_decide_eq_true (Bool.and_eq_true_iff.mp h).2

example : (match compile progO "main" 100 with
    | .ok c => (((c.fns.filter fun f => f.name != "@main.@init").zip codeO).all fun fg =>
        fg.1.name == fg.2.name && codeBeqO fg.1.code fg.2.code) &&
        (c.fns.filter fun f => f.name != "@main.@init").length == codeO.length
    | .error _ => false) = true := by
  have h := compiledO
  generalize compile progO "main" 100 = r at h ⊢
  cases r with
  | error e => cases h
  | ok c => exact (Bool.and_eq_true_iff.mp h).1

def GO : GCtx := ⟨{ prog := progO }, codeO, {}, "main", {}, fun g => g = "mk", 16, 0, false⟩

private theorem phiO : PhiOK GO φO :=
  phiOK_cons (by decide +kernel) rfl mkFd rfl (phiOK_nil GO)

private theorem chkO : ProgChecked GO φO [mkFd, main6Fd]
    [["n", "o", "p", "l", "q", "it", "s"], ["println", "mk"]] :=
  progChecked_of_check ["mk"] phiO (fun _ => rfl) (fun g h => by simpa [GO] using h) rfl
    (by decide +kernel)

theorem go_ok : GO.OK' := chkO.ok

theorem fnOK_main6 : FnVoidOK GO "main" main6Fd
    ⟨renameVars (relG symMain6), slotFn (relG symMain6), labelIndex symMain6, (· ∈ varNames (relG symMain6)),
      ["println", "mk"], φO, [[]], [], []⟩ main6Stmts :=
  (chkO.fn 1 _ _ rfl rfl).2

private theorem spec_main6 :
    okOut "17\n" (callBody GO.cfg 200 sp0 GO.mod main6Fd.params main6Fd.body [] stX) = true := by
  decide +kernel

/-- The program through the theorems: `mk(1)` builds an object, writes to it through the alias `p` and
through `o`, stores a list in a second object, takes the list out of the field again and writes to it,
and reads through all the names: `17`. -/
example : ∃ K, ∀ quantum, K ≤ quantum → ∀ vfuel, ∃ s',
    run codeO {} quantum none (vfuel + 1) { calls := [⟨"@main.main", 0⟩] } = .ok s' ∧
    s'.st.out = "17\n" ∧ s'.mp = 0 ∧ s'.calls = [] := by
  exact chkO.out rfl 1 _ _ rfl rfl rfl 200 sp0 _ spec_main6
end Example18

/-! ## 19. The builtin methods `len` and `push`: `let n = l.len();`, `l.push(x);`

`o.len` on an object with a data field `len` is that field (`member_spec`), so `l.len()` calls the
builtin only if no object on the heap has such a field. The simulation carries this as an invariant,
`HeapInv`: every run of the VM keeps it (it is part of `Runs`), the fragment cannot break it (its
object literals have no field named `len` or `push`), and in the contexts with `G.fr = true` `SpecOK`
asks it of the state the run starts from — trivially true of the empty heap a program starts with. -/

/-- Under the heap invariant `l.len` / `l.push` is the builtin method. -/
theorem method_spec (b : Val) (name : String) (sp : Span) (st : St) (hinv : HeapInv st.heap)
    (hn : name ∈ methNames) :
    memberVal b name .dot sp st = (.ok (.bound b name), st) ∨
      ∃ w, memberVal b name .dot sp st = (.error (.unsupported w), st) :=
  memberVal_method b name sp st hinv hn

theorem len_spec (recv : Val) (sp : Span) (st : St) :
    callMember recv "len" [] sp st =
      match recv with
      | .str s => (.ok (.int (I64.ofInt s.length)), st)
      | .ref a =>
        (match st.heap[a]? with
          | some (.list xs) => (.ok (.int (I64.ofInt xs.length)), st)
          | some _ => (.error (.unsupported "member len"), st)
          | none => (.error (.unsupported "dangling reference"), st))
      | _ => (.error (.unsupported "member len"), st) :=
  callMember_len recv sp st

theorem push_spec (recv v : Val) (sp : Span) (st : St) :
    callMember recv "push" [v] sp st =
      match recv with
      | .ref a =>
        (match st.heap[a]? with
          | some (.list xs) => (.ok .null, { st with heap := st.heap.setIfInBounds a (.list (xs ++ [v])) })
          | some _ => (.error (.unsupported "member push"), st)
          | none => (.error (.unsupported "dangling reference"), st))
      | _ => (.error (.unsupported "member push"), st) :=
  callMember_push recv v sp st

/-- `Call_Val` on the bound method `push` of a list: the element is appended in the same cell of the
same heap; nothing is pushed (the result is `null`). -/
theorem callVal_push_vm (code : Code) (lim : Limits) (s : VMState) (fn : String) (ip : Nat)
    (rest : List Frame) (mp : Int) (k : Nat) (stk : List SVal) (mem : List (Int × Val)) (out : World)
    (c : List (RInstr × Span)) (hf : findCode code fn = some c) (sp : Span) (a : Nat) (xs : List Val) (v : Val)
    (o1 o2 o3 : Option Org)
    (hx : c[ip]? = some (.callVal, sp)) (hcell : out.heap[a]? = some (.list xs)) :
    exec1 code lim (mkS s (⟨fn, ip⟩ :: rest) mp k
        (⟨.int (I64.ofInt 1), o1⟩ :: ⟨.bound (.ref a) "push", o2⟩ :: ⟨v, o3⟩ :: stk) mem out) =
      .next (mkS s (⟨fn, ip + 1⟩ :: rest) mp (k + 1) stk mem
        ⟨out.heap.setIfInBounds a (.list (xs ++ [v])), out.out⟩) :=
  mkS_callVal_push hf sp a xs v o1 o2 o3 hx hcell

/-- `Call_Val` on the bound method `len` is the specification's `callMember` on the VM's heap
(`meth0_vm`, section 21, at `nm := "len"`). -/
theorem callVal_len_vm (code : Code) (lim : Limits) (s : VMState) (fn : String) (ip : Nat)
    (rest : List Frame) (mp : Int) (k : Nat) (stk : List SVal) (mem : List (Int × Val)) (out : World)
    (c : List (RInstr × Span)) (hf : findCode code fn = some c) (sp : Span) (recv : Val) (o1 o2 : Option Org) (n : Val)
    (hx : c[ip]? = some (.callVal, sp))
    (hr : callMember recv "len" [] sp { s.st with heap := out.heap, out := out.out } =
      (.ok n, { s.st with heap := out.heap, out := out.out })) (hn : n ≠ .null) :
    exec1 code lim (mkS s (⟨fn, ip⟩ :: rest) mp k (⟨.int (I64.ofInt 0), o1⟩ :: ⟨.bound recv "len", o2⟩ :: stk) mem out) =
      .next (mkS s (⟨fn, ip + 1⟩ :: rest) mp (k + 1) (⟨n, none⟩ :: stk) mem out) :=
  mkS_callVal_value hf sp "len" recv o1 o2 [] n out hx (by decide) hr hn

/-- `let x = l.len();` is `code(l); Member len; Copy_Push 0; Call_Val; SetVarImm x`. -/
theorem compileLen_frag (fuel : Nat) (sp : Span) (name : String) (vty oty : Ty) (csp : Span) (cty : Ty) (msp : Span)
    (mty : Ty) (b : Expr) (cs : CState) (il rt : Bool)
    (hrt : rt = true → cs.tryDepth = 0) (hil : il = true → ∃ b c rest, cs.loops = (b, c, cs.tryDepth) :: rest)
    (hs : Frag.okFS true il rt (.letS sp name vty false oty (.call csp cty (.member msp mty b "len" .dot) [] false)) = true)
    (hd : Frag.cdS (.letS sp name vty false oty (.call csp cty (.member msp mty b "len" .dot) [] false)) ≤ fuel)
    (hws : Frag.wsGS cs.currModule cs.currFn (φOf cs) (loopsOf cs.loops)
      (.letS sp name vty false oty (.call csp cty (.member msp mty b "len" .dot) [] false)) (envOf cs) = true) :
    let cb := cgE cs.currModule (ρS cs.scopes) (φOf cs) b cs.labelMangle
    let fv := freshVar cs.currModule { envOf cs with lm := cb.2 } name
    (compileStmt fuel (.letS sp name vty false oty (.call csp cty (.member msp mty b "len" .dot) [] false))).run cs =
      ((), updS cs cs.loops
        (cb.1 ++ [(.member "len", msp), (.copyPush (.int 0), csp), (.callVal, csp)] ++ [(.setVar fv.1, sp)])
        { fv.2 with nv := fv.2.nv + 1 }) := by
  have h := compile_fstmt.1 _ il rt _ hs fuel cs cs.loops hrt hil hd [] (envOf cs) hws
  rw [updS_self, List.nil_append, cgS] at h
  exact h

/-- `l.push(x);` is `code(x); code(l); Member push; Copy_Push 1; Call_Val` (the argument first, the
receiver after it; no `Drop`: the call's type is `null`). -/
theorem compilePush_frag (fuel : Nat) (sp csp : Span) (cty : Ty) (msp : Span) (mty : Ty) (b : Expr) (a : String × Expr)
    (cs : CState) (il rt : Bool)
    (hrt : rt = true → cs.tryDepth = 0) (hil : il = true → ∃ b c rest, cs.loops = (b, c, cs.tryDepth) :: rest)
    (hs : Frag.okFS true il rt (.exprS sp (.call csp cty (.member msp mty b "push" .dot) [a] false)) = true)
    (hd : Frag.cdS (.exprS sp (.call csp cty (.member msp mty b "push" .dot) [a] false)) ≤ fuel)
    (hws : Frag.wsGS cs.currModule cs.currFn (φOf cs) (loopsOf cs.loops)
      (.exprS sp (.call csp cty (.member msp mty b "push" .dot) [a] false)) (envOf cs) = true) :
    let ca := cgE cs.currModule (ρS cs.scopes) (φOf cs) a.2 cs.labelMangle
    let cb := cgE cs.currModule (ρS cs.scopes) (φOf cs) b ca.2
    (compileStmt fuel (.exprS sp (.call csp cty (.member msp mty b "push" .dot) [a] false))).run cs =
      ((), updS cs cs.loops (ca.1 ++ cb.1 ++ [(.member "push", msp), (.copyPush (.int 1), csp), (.callVal, csp)])
        { envOf cs with lm := cb.2 }) := by
  have h := compile_fstmt.1 _ il rt _ hs fuel cs cs.loops hrt hil hd [] (envOf cs) hws
  rw [updS_self, List.nil_append, cgS] at h
  exact h

/-- `let x = l.len();` (contexts with `G.fr = true`): the length of the list — or of the string — `l`
evaluates to is bound to `x`. -/
theorem len_correct (G : GCtx) (hG : G.OK') (fuel : Nat) (A : Act) (hA : A.OK G)
    (loops : List (String × String)) (lscopes : CScopes) (d : Nat) (sp : Span) (name : String) (vty oty : Ty)
    (csp : Span) (cty : Ty) (msp : Span) (mty : Ty) (b : Expr) (env : CEnv) (spec : St) (ip : Nat)
    (stk : List SVal) (mem : Mem)
    (stmt : Stmt) (hstmt : stmt = .letS sp name vty false oty (.call csp cty (.member msp mty b "len" .dot) [] false))
    (hs : Frag.okFS G.fr (!loops.isEmpty) A.rt stmt = true) (hT : ∀ x ∈ Frag.identsGS stmt, x ∈ A.T)
    (hws : Frag.wsGS G.mod A.src A.φ loops stmt env = true)
    (hN : ∀ m ∈ codeVars (cgS G.mod A.src A.φ loops stmt env).1, A.N m)
    (hpl : Placed A.lab A.σ A.c ip (cgS G.mod A.src A.φ loops stmt env).1)
    (hd : 1 ≤ d) (hls : lscopes = env.scopes.drop d)
    (hrel : Sim.GRel G A env.scopes env.vm spec.scopes mem) (hsp : SpecOK G A.mp spec) :
    Sim.SimGS G A loops lscopes d ip (nI (cgS G.mod A.src A.φ loops stmt env).1) stk mem
      (Sim.GRel G A (cgS G.mod A.src A.φ loops stmt env).2.scopes (cgS G.mod A.src A.φ loops stmt env).2.vm) spec
      (evalStmt G.cfg fuel stmt spec) := by
  subst hstmt
  exact ((allP G hG fuel).pgs A hA loops lscopes d _ env hs hT hws hN).simGS (mem := mem) hpl hls hrel hsp

/-- `l.push(x);`: the element is appended to the one cell both sides share, so every alias of the list
sees it; the receiver or `x` is an atom (`Frag.okFS`: the VM evaluates the argument before the receiver,
the specification after it). -/
theorem push_correct (G : GCtx) (hG : G.OK') (fuel : Nat) (A : Act) (hA : A.OK G)
    (loops : List (String × String)) (lscopes : CScopes) (d : Nat) (sp csp : Span) (cty : Ty) (msp : Span) (mty : Ty)
    (b : Expr) (a : String × Expr) (env : CEnv) (spec : St) (ip : Nat) (stk : List SVal) (mem : Mem)
    (stmt : Stmt) (hstmt : stmt = .exprS sp (.call csp cty (.member msp mty b "push" .dot) [a] false))
    (hs : Frag.okFS G.fr (!loops.isEmpty) A.rt stmt = true) (hT : ∀ x ∈ Frag.identsGS stmt, x ∈ A.T)
    (hws : Frag.wsGS G.mod A.src A.φ loops stmt env = true)
    (hN : ∀ m ∈ codeVars (cgS G.mod A.src A.φ loops stmt env).1, A.N m)
    (hpl : Placed A.lab A.σ A.c ip (cgS G.mod A.src A.φ loops stmt env).1)
    (hd : 1 ≤ d) (hls : lscopes = env.scopes.drop d)
    (hrel : Sim.GRel G A env.scopes env.vm spec.scopes mem) (hsp : SpecOK G A.mp spec) :
    Sim.SimGS G A loops lscopes d ip (nI (cgS G.mod A.src A.φ loops stmt env).1) stk mem
      (Sim.GRel G A (cgS G.mod A.src A.φ loops stmt env).2.scopes (cgS G.mod A.src A.φ loops stmt env).2.vm) spec
      (evalStmt G.cfg fuel stmt spec) := by
  subst hstmt
  exact ((allP G hG fuel).pgs A hA loops lscopes d _ env hs hT hws hN).simGS (mem := mem) hpl hls hrel hsp

section Example19
private def gmcall (ty : Ty) (l : String) (m : String) (args : List Expr) : Expr :=
  .call sp0 ty (.member sp0 (.fn [] ty) (gl l) m .dot) (args.map fun a => ("", a)) false
private def gpush (l : String) (x : Expr) : Stmt := .exprS sp0 (gmcall .null l "push" [x])

/-- `let l = []; for i in 0..n { let sq = i * i; l.push(sq); } let m = l; m.push(100); let k = l.len();
let last = l[-1]; let s = k + last;` -/
def collectStmts : List Stmt :=
  [ .letS sp0 "l" tyL false tyL (.list sp0 tyL []),
    gfor "i" (.int sp0 0) (gv "n")
      [ .letS sp0 "sq" .int false .int (.infix sp0 .int .mul (gv "i") (gv "i")), gpush "l" (gv "sq") ],
    .letS sp0 "m" tyL false tyL (gl "l"),
    gpush "m" (.int sp0 100),
    .letS sp0 "k" .int false .int (gmcall .int "l" "len" []),
    .letS sp0 "last" .int false .int (gidx "l" (.int sp0 (-1))),
    .letS sp0 "s" .int false .int (.infix sp0 .int .add (gv "k") (gv "last")) ]
def collectFd : FnDef := gfn "collect" ["n"] .int collectStmts (some (gv "s"))
/-- `fn main() { println(collect(4)); }` -/
def main7Stmts : List Stmt := [ gprint [gcall "collect" [.int sp0 4]] ]
def main7Fd : FnDef := gfn "main" [] .null main7Stmts none
def progP : Program :=
  [{ name := "main", imports := [], singletons := [], globals := [], nImpls := 0, fns := [collectFd, main7Fd] }]

example : (match runProgram { prog := progP } 200 with | .ok out _ => out | _ => "?") = "105\n" := by
  decide +kernel

def φP : String → Option String := fun n => if n = "collect" then some "@main.collect" else none
def symCollect : SCode := cgFn "main" φP collectFd collectStmts (some (gv "s")) [[]] [] []
def symMain7 : SCode := cgFn "main" φP main7Fd main7Stmts none [[]] [] []
def codeP : Code := [⟨"@main.collect", renameVars (relG symCollect)⟩, ⟨"@main.main", renameVars (relG symMain7)⟩]

local instance (priority := high) : BEq PVal := ⟨pvalBeq⟩
private theorem compiledP : (match compile progP "main" 100 with
    | .ok c => ((c.fns.filter fun f => f.name != "@main.@init").map (fun f => (f.name, f.code))
        == codeP.map (fun f => (f.name, f.code))) &&
      decide ((match runMain c {} 50 20000 with
        | .ok s => (s.st.out, s.stack.length, s.mp, s.calls.length) | _ => ("?", 0, 0, 0)) =
        ("105\n", 0, 0, 0))
    | .error _ => false) = true := by decide +kernel

example : (match compile progP "main" 100 with
    | .ok c => (match runMain c {} 50 20000 with
      | .ok s => (s.st.out, s.stack.length, s.mp, s.calls.length) | _ => ("?", 0, 0, 0))
    | .error e => (e, 0, 0, 0)) = ("105\n", 0, 0, 0) := by
  have h := compiledP
  generalize compile progP "main" 100 = r at h ⊢
  cases r with
  | error e => cases h
  | ok c => exact of_decide_eq_true (Bool.and_eq_true_iff.mp h).2

example : (match compile progP "main" 100 with
    | .ok c => (c.fns.filter fun f => f.name != "@main.@init").map (fun f => (f.name, f.code))
        == codeP.map (fun f => (f.name, f.code))
    | .error _ => false) = true := by
  have h := compiledP
  generalize compile progP "main" 100 = r at h ⊢
  cases r with
  | error e => cases h
  | ok c => exact (Bool.and_eq_true_iff.mp h).1

def GP : GCtx := ⟨{ prog := progP }, codeP, {}, "main", {}, fun g => g = "collect", 16, 0, true⟩

private theorem phiP : PhiOK GP φP :=
  phiOK_cons (by decide +kernel) rfl collectFd rfl (phiOK_nil GP)

private theorem chkP : ProgChecked GP φP [collectFd, main7Fd]
    [["n", "l", "i", "sq", "m", "k", "last", "s"], ["println", "collect"]] :=
  progChecked_of_check ["collect"] phiP (fun _ => rfl) (fun g h => by simpa [GP] using h) rfl
    (by decide +kernel)

theorem gp_ok : GP.OK' := chkP.ok

theorem fnOK_main7 : FnVoidOK GP "main" main7Fd
    ⟨renameVars (relG symMain7), slotFn (relG symMain7), labelIndex symMain7, (· ∈ varNames (relG symMain7)),
      ["println", "collect"], φP, [[]], [], []⟩ main7Stmts :=
  (chkP.fn 1 _ _ rfl rfl).2

private theorem spec_main7 :
    okOut "105\n" (callBody GP.cfg 200 sp0 GP.mod main7Fd.params main7Fd.body [] stX) = true := by
  decide +kernel

/-- The program through the theorems: `collect(4)` grows a list from empty by `push` inside a `for`
loop, pushes once more through an alias, asks for the length through the first name and reads the last
element with a negative index: `105`. The heap invariant holds of the empty heap the run starts with. -/
example : ∃ K, ∀ quantum, K ≤ quantum → ∀ vfuel, ∃ s',
    run codeP {} quantum none (vfuel + 1) { calls := [⟨"@main.main", 0⟩] } = .ok s' ∧
    s'.st.out = "105\n" ∧ s'.mp = 0 ∧ s'.calls = [] := by
  exact chkP.out rfl 1 _ _ rfl rfl rfl 200 sp0 _ spec_main7
end Example19

/-! ## 20. Cell reads and `l.len()` anywhere an expression may stand; `l.push(e)` with any `e`

In the contexts with `G.fr = true` the expression fragment is `Frag.okE true`: `Frag.okGE` closed under
`l[i]`, `o.f` and `l.len()` in every position — conditions, `match` scrutinees, `for` bounds, arguments
of calls and of `println`, `return`, trailing expressions. A value may then arrive with the origin of
the cell it was read from, also as the result of a call (`return l[i]`): the statements leave the
origin of a pushed value open there (`Sim.OrgOK G.fr o`: `none` when `G.fr = false`, anything
otherwise), and arguments are taken from the stack with whatever origins they carry. Finding V38 stays
excluded: next to a cell read, the later operand calls no function. -/

/-- On the extended expression fragment (`Frag.okE fr`) `compileExpr` emits `cgE …`, cell reads as in
sections 17 and 18. -/
theorem compileExpr_xfrag (fr : Bool) (fuel : Nat) (e : Expr) (cs : CState)
    (hs : Frag.okE fr e = true) (hd : Frag.cdE e ≤ fuel) (hws : Frag.wsGE cs.scopes (φOf cs) e = true) :
    (compileExpr fuel e).run cs =
      ((), updS cs cs.loops (cgE cs.currModule (ρS cs.scopes) (φOf cs) e cs.labelMangle).1
        { envOf cs with lm := (cgE cs.currModule (ρS cs.scopes) (φOf cs) e cs.labelMangle).2 }) := by
  have := (compile_gexpr fr fuel).1 e cs hs hd cs.loops [] (envOf cs) hws
  rwa [updS_self, List.nil_append] at this

theorem compileLenExpr_frag (mod : String) (ρ φ : String → Option String) (csp : Span) (cty : Ty) (msp : Span) (mty : Ty)
    (b : Expr) (lm : LM) :
    cgE mod ρ φ (.call csp cty (.member msp mty b "len" .dot) [] false) lm =
      ((cgE mod ρ φ b lm).1 ++ [(.member "len", msp), (.copyPush (.int 0), csp), (.callVal, csp)], (cgE mod ρ φ b lm).2) := by
  simp only [cgE]

/-- `Frag.okGE` is the part of `Frag.okE fr` without cell reads, for either `fr`. -/
theorem okE_extends (fr : Bool) (e : Expr) (h : Frag.okGE e = true) : Frag.okE fr e = true := okE_okGE fr e h

/-- Expressions of the extended fragment, as `call_expr_correct`; the pushed value carries an origin
only if `G.fr = true`. -/
theorem expr_correctX (G : GCtx) (hG : G.OK') (fuel : Nat) (A : Act) (hA : A.OK G) (e : Expr) (st : St)
    (ip : Nat) (stk : List SVal) (mem : Mem) (lm : LM) (scopes : CScopes) (vm : List (String × Nat))
    (hs : Frag.okE G.fr e = true) (hws : Frag.wsGE scopes A.φ e = true)
    (hT : ∀ x ∈ Frag.namesGE e, x ∈ A.T)
    (hpl : Placed A.lab A.σ A.c ip (cgE G.mod (ρS scopes) A.φ e lm).1)
    (hrel : StRel G.mod A.T A.N A.σ G.lim A.mp scopes vm st.scopes mem) (hsp : SpecOK G A.mp st) :
    Sim.SimGE G A ip (nI (cgE G.mod (ρS scopes) A.φ e lm).1) stk mem st (evalExpr G.cfg fuel e st) :=
  (allP G hG fuel).pe.simGE A hA e st ip stk mem lm scopes vm hs hws hT hpl hrel hsp

/-- Argument lists of the extended fragment: at most one argument is not an atom (finding V13); that
one may be a cell read, and then it is on the stack with its origin. -/
theorem args_correctX (G : GCtx) (hG : G.OK') (fuel : Nat) (A : Act) (hA : A.OK G)
    (args : List (String × Expr)) (st : St) (ip : Nat) (stk : List SVal) (mem : Mem) (lm : LM)
    (scopes : CScopes) (vm : List (String × Nat))
    (hs : Frag.okEArgs G.fr args = true) (hone : Frag.oneNonAtom args = true)
    (hws : Frag.wsGArgs scopes A.φ args = true) (hT : ∀ x ∈ Frag.namesGArgs args, x ∈ A.T)
    (hpl : Placed A.lab A.σ A.c ip (cgArgs G.mod (ρS scopes) A.φ args lm).1)
    (hrel : StRel G.mod A.T A.N A.σ G.lim A.mp scopes vm st.scopes mem) (hsp : SpecOK G A.mp st) :
    Sim.SimArgs G A ip (nI (cgArgs G.mod (ρS scopes) A.φ args lm).1) stk mem st
      (evalList G.cfg fuel (args.map (·.2)) st) :=
  (allP G hG fuel).pargs.simArgs A hA args st ip stk mem lm scopes vm hs hone hws hT hpl hrel hsp

/-- `l.len()` as an expression: an instance of `expr_correctX` (and of `meth0_correct`, section 21, at
`nm := "len"`). -/
theorem lenExpr_correct (G : GCtx) (hG : G.OK') (fuel : Nat) (A : Act) (hA : A.OK G) (csp : Span) (cty : Ty)
    (msp : Span) (mty : Ty) (b : Expr) (st : St)
    (ip : Nat) (stk : List SVal) (mem : Mem) (lm : LM) (scopes : CScopes) (vm : List (String × Nat))
    (e : Expr) (he : e = .call csp cty (.member msp mty b "len" .dot) [] false)
    (hs : Frag.okE G.fr e = true) (hws : Frag.wsGE scopes A.φ e = true)
    (hT : ∀ x ∈ Frag.namesGE e, x ∈ A.T)
    (hpl : Placed A.lab A.σ A.c ip (cgE G.mod (ρS scopes) A.φ e lm).1)
    (hrel : StRel G.mod A.T A.N A.σ G.lim A.mp scopes vm st.scopes mem) (hsp : SpecOK G A.mp st) :
    Sim.SimGE G A ip (nI (cgE G.mod (ρS scopes) A.φ e lm).1) stk mem st (evalExpr G.cfg fuel e st) := by
  subst he
  exact expr_correctX G hG fuel A hA _ st ip stk mem lm scopes vm hs hws hT hpl hrel hsp

section Example20
private def gwhile (c : Expr) (ss : List Stmt) : Stmt := .whileS sp0 c (.mk sp0 .null ss none)
private def glen (l : String) : Expr := gmcall .int l "len" []

/-- `let s = 0; let i = 0; while i < l.len() { if l[i] > 0 { s += l[i]; } i += 1; }` -/
def sumPosStmts : List Stmt :=
  [ .letS sp0 "s" .int false .int (.int sp0 0),
    .letS sp0 "i" .int false .int (.int sp0 0),
    gwhile (.infix sp0 .bool .lt (gv "i") (glen "l"))
      [ gif (.infix sp0 .bool .gt (gidx "l" (gv "i")) (.int sp0 0)) [ gasg .add "s" (gidx "l" (gv "i")) ],
        gasg .add "i" (.int sp0 1) ] ]
def sumPosFd : FnDef := gfn "sumPos" ["l"] .int sumPosStmts (some (gv "s"))
/-- `fn first(l: [int]) -> int { l[0] }`: the result is a cell read. -/
def firstFd : FnDef := gfn "first" ["l"] .int [] (some (gidx "l" (.int sp0 0)))
/-- `fn dbl(x: int) -> int { x * 2 }` -/
def dblFd : FnDef := gfn "dbl" ["x"] .int [] (some (.infix sp0 .int .mul (gv "x") (.int sp0 2)))
/-- `fn main() { let l = [3, -1, 4]; l.push(first(l) + l.len()); println(l[3]); println(sumPos(l));
println(dbl(l[1])); }` -/
def main8Stmts : List Stmt :=
  [ .letS sp0 "l" tyL false tyL (.list sp0 tyL [.int sp0 3, .int sp0 (-1), .int sp0 4]),
    gpush "l" (.infix sp0 .int .add (gcall "first" [gl "l"]) (glen "l")),
    gprint [gidx "l" (.int sp0 3)],
    gprint [gcall "sumPos" [gl "l"]],
    gprint [gcall "dbl" [gidx "l" (.int sp0 1)]] ]
def main8Fd : FnDef := gfn "main" [] .null main8Stmts none
def progQ : Program :=
  [{ name := "main", imports := [], singletons := [], globals := [], nImpls := 0,
     fns := [sumPosFd, firstFd, dblFd, main8Fd] }]

example : (match runProgram { prog := progQ } 200 with | .ok out _ => out | _ => "?") = "6\n13\n-2\n" := by
  decide +kernel

def φQ : String → Option String := fun n =>
  if n = "sumPos" then some "@main.sumPos" else if n = "first" then some "@main.first"
  else if n = "dbl" then some "@main.dbl" else none
def symSumPos : SCode := cgFn "main" φQ sumPosFd sumPosStmts (some (gv "s")) [[]] [] []
def symFirst : SCode := cgFn "main" φQ firstFd [] (some (gidx "l" (.int sp0 0))) [[]] [] []
def symDbl : SCode := cgFn "main" φQ dblFd [] (some (.infix sp0 .int .mul (gv "x") (.int sp0 2))) [[]] [] []
def symMain8 : SCode := cgFn "main" φQ main8Fd main8Stmts none [[]] [] []
def codeQ : Code := [⟨"@main.sumPos", renameVars (relG symSumPos)⟩, ⟨"@main.first", renameVars (relG symFirst)⟩,
  ⟨"@main.dbl", renameVars (relG symDbl)⟩, ⟨"@main.main", renameVars (relG symMain8)⟩]

local instance (priority := high) : BEq PVal := ⟨pvalBeq⟩
private theorem compiledQ : (match compile progQ "main" 100 with
    | .ok c => ((c.fns.filter fun f => f.name != "@main.@init").map (fun f => (f.name, f.code))
        == codeQ.map (fun f => (f.name, f.code))) &&
      decide ((match runMain c {} 50 20000 with
        | .ok s => (s.st.out, s.stack.length, s.mp, s.calls.length) | _ => ("?", 0, 0, 0)) =
        ("6\n13\n-2\n", 0, 0, 0))
    | .error _ => false) = true := by decide +kernel

example : (match compile progQ "main" 100 with
    | .ok c => (match runMain c {} 50 20000 with
      | .ok s => (s.st.out, s.stack.length, s.mp, s.calls.length) | _ => ("?", 0, 0, 0))
    | .error e => (e, 0, 0, 0)) = ("6\n13\n-2\n", 0, 0, 0) := by
  have h := compiledQ
  generalize compile progQ "main" 100 = r at h ⊢
  cases r with
  | error e => cases h
  | ok c => exact of_decide_eq_true (Bool.and_eq_true_iff.mp h).2

example : (match compile progQ "main" 100 with
    | .ok c => (c.fns.filter fun f => f.name != "@main.@init").map (fun f => (f.name, f.code))
        == codeQ.map (fun f => (f.name, f.code))
    | .error _ => false) = true := by
  have h := compiledQ
  generalize compile progQ "main" 100 = r at h ⊢
  cases r with
  | error e => cases h
  | ok c => exact (Bool.and_eq_true_iff.mp h).1

def GQ : GCtx :=
  ⟨{ prog := progQ }, codeQ, {}, "main", {}, fun g => g = "sumPos" ∨ g = "first" ∨ g = "dbl", 12, 0, true⟩

private theorem phiQ : PhiOK GQ φQ :=
  phiOK_cons (by decide +kernel) (Or.inl rfl) sumPosFd rfl <|
  phiOK_cons (by decide +kernel) (Or.inr (Or.inl rfl)) firstFd rfl <|
  phiOK_cons (by decide +kernel) (Or.inr (Or.inr rfl)) dblFd rfl (phiOK_nil GQ)

private theorem chkQ : ProgChecked GQ φQ [sumPosFd, firstFd, dblFd, main8Fd]
    [["l", "s", "i"], ["l"], ["x"], ["println", "sumPos", "first", "dbl", "l"]] :=
  progChecked_of_check ["sumPos", "first", "dbl"] phiQ (fun _ => rfl) (fun g h => by simpa [GQ] using h) rfl
    (by decide +kernel)

theorem gq_ok : GQ.OK' := chkQ.ok

theorem fnOK_main8 : FnVoidOK GQ "main" main8Fd
    ⟨renameVars (relG symMain8), slotFn (relG symMain8), labelIndex symMain8, (· ∈ varNames (relG symMain8)),
      ["println", "sumPos", "first", "dbl", "l"], φQ, [[]], [], []⟩ main8Stmts :=
  (chkQ.fn 3 _ _ rfl rfl).2

private theorem spec_main8 :
    okOut "6\n13\n-2\n" (callBody GQ.cfg 200 sp0 GQ.mod main8Fd.params main8Fd.body [] stX) = true := by
  decide +kernel

/-- The program through the theorems: `main` pushes `first(l) + l.len()` — a call whose result is a
cell read, plus a method call — onto the list, prints an element, the sum `sumPos(l)` — whose `while`
condition is `i < l.len()` and whose `if` condition reads `l[i]` — and `dbl(l[1])`, a call with a cell
read as its argument. -/
example : ∃ K, ∀ quantum, K ≤ quantum → ∀ vfuel, ∃ s',
    run codeQ {} quantum none (vfuel + 1) { calls := [⟨"@main.main", 0⟩] } = .ok s' ∧
    s'.st.out = "6\n13\n-2\n" ∧ s'.mp = 0 ∧ s'.calls = [] := by
  exact chkQ.out rfl 3 _ _ rfl rfl rfl 200 sp0 _ spec_main8
end Example20

/-! ## 21. Options and strings

`?e` (`Some`), `none`, and `+`, `==`, `!=` on strings are in the expression fragment since sections
3–5; `s.len()` is the method `len` of section 19 on a string. Here: `o.is_some()` and `o.is_none()` as
expressions (`meth0`: methods that read only, never yield `null`, fail only as unsupported).

`unwrap`/`unwrap_or` are *not* in the simulated fragment: a builtin's `null` result is not pushed by
`Call_Val` (finding V28, `/repo/homescript/runtime/execute.go:131-135`), so `(?null).unwrap()` in a
value position leaves the VM's stack one short while the specification goes on
(`unwrap_null_witness`); whether the payload is `null` is not visible in the program text. Their
instructions are described (`unwrap_vm_some`, `unwrap_vm_none`, `unwrap_vm_null`, `unwrapOr_vm`). -/

/-- `o.is_some()` / `o.is_none()` in the specification: a boolean on an option, unsupported on any other
value; the state is not touched. -/
theorem isSome_spec (nm : String) (hnm : nm = "is_some" ∨ nm = "is_none") (recv : Val) (sp : Span) (st : St) :
    (∃ o, recv = .opt o ∧
      callMember recv nm [] sp st = (.ok (.bool (if nm = "is_some" then o.isSome else o.isNone)), st)) ∨
      (∃ w, ∀ st' : St, st'.heap = st.heap → callMember recv nm [] sp st' = (.error (.unsupported w), st')) :=
  callMember_opt0 nm hnm recv sp st

/-- `Call_Val` on a bound method without arguments whose result is not `null`: the specification's
`callMember` on the VM's heap, the value pushed. -/
theorem meth0_vm (code : Code) (lim : Limits) (s : VMState) (fn : String) (ip : Nat)
    (rest : List Frame) (mp : Int) (k : Nat) (stk : List SVal) (mem : List (Int × Val)) (out : World)
    (c : List (RInstr × Span)) (hf : findCode code fn = some c) (sp : Span) (nm : String) (recv : Val)
    (o1 o2 : Option Org) (n : Val)
    (hx : c[ip]? = some (.callVal, sp))
    (hr : callMember recv nm [] sp { s.st with heap := out.heap, out := out.out } =
      (.ok n, { s.st with heap := out.heap, out := out.out })) (hn : n ≠ .null) :
    exec1 code lim (mkS s (⟨fn, ip⟩ :: rest) mp k (⟨.int (I64.ofInt 0), o1⟩ :: ⟨.bound recv nm, o2⟩ :: stk) mem out) =
      .next (mkS s (⟨fn, ip + 1⟩ :: rest) mp (k + 1) (⟨n, none⟩ :: stk) mem out) :=
  mkS_callVal_value hf sp nm recv o1 o2 [] n out hx (by decide) hr hn

/-- `o.is_some()`, `o.is_none()`, `x.len()` as expressions: instances of `expr_correctX`
(`Frag.okE true` allows `b.m()` for `m ∈ meth0`). -/
theorem meth0_correct (G : GCtx) (hG : G.OK') (fuel : Nat) (A : Act) (hA : A.OK G) (csp : Span) (cty : Ty)
    (msp : Span) (mty : Ty) (b : Expr) (nm : String) (st : St)
    (ip : Nat) (stk : List SVal) (mem : Mem) (lm : LM) (scopes : CScopes) (vm : List (String × Nat))
    (e : Expr) (he : e = .call csp cty (.member msp mty b nm .dot) [] false)
    (hs : Frag.okE G.fr e = true) (hws : Frag.wsGE scopes A.φ e = true)
    (hT : ∀ x ∈ Frag.namesGE e, x ∈ A.T)
    (hpl : Placed A.lab A.σ A.c ip (cgE G.mod (ρS scopes) A.φ e lm).1)
    (hrel : StRel G.mod A.T A.N A.σ G.lim A.mp scopes vm st.scopes mem) (hsp : SpecOK G A.mp st) :
    Sim.SimGE G A ip (nI (cgE G.mod (ρS scopes) A.φ e lm).1) stk mem st (evalExpr G.cfg fuel e st) := by
  subst he
  exact expr_correctX G hG fuel A hA _ st ip stk mem lm scopes vm hs hws hT hpl hrel hsp

theorem unwrap_spec (o : Option Val) (sp : Span) (st : St) :
    callMember (.opt o) "unwrap" [] sp st =
      match o with
      | some v => (.ok v, st)
      | none => (.error (.throw "Called 'unwrap' on a 'null' option value" sp), st) := by
  cases o <;> rfl

/-- The specification's `unwrap_or` is total; the default is a value already (evaluated before the call). -/
theorem unwrapOr_spec (o : Option Val) (d : Val) (sp : Span) (st : St) :
    callMember (.opt o) "unwrap_or" [d] sp st = (.ok (o.getD d), st) := rfl

theorem unwrap_vm_some (code : Code) (lim : Limits) (s : VMState) (fn : String) (ip : Nat)
    (rest : List Frame) (mp : Int) (k : Nat) (stk : List SVal) (mem : List (Int × Val)) (out : World)
    (c : List (RInstr × Span)) (hf : findCode code fn = some c) (sp : Span) (v : Val) (o1 o2 : Option Org)
    (hx : c[ip]? = some (.callVal, sp)) (hv : v ≠ .null) :
    exec1 code lim (mkS s (⟨fn, ip⟩ :: rest) mp k
        (⟨.int (I64.ofInt 0), o1⟩ :: ⟨.bound (.opt (some v)) "unwrap", o2⟩ :: stk) mem out) =
      .next (mkS s (⟨fn, ip + 1⟩ :: rest) mp (k + 1) (⟨v, none⟩ :: stk) mem out) :=
  mkS_callVal_value hf sp "unwrap" _ o1 o2 [] v out hx (by decide) rfl hv

/-- `Call_Val` on `unwrap` of `none`: the exception `Called 'unwrap' on a 'null' option value` at the span
of the call — an interrupt `Core.Run` dispatches to the innermost handler (`throw_dispatch`). -/
theorem unwrap_vm_none (code : Code) (lim : Limits) (s : VMState) (fn : String) (ip : Nat)
    (rest : List Frame) (mp : Int) (k : Nat) (stk : List SVal) (mem : List (Int × Val)) (out : World)
    (c : List (RInstr × Span)) (hf : findCode code fn = some c) (sp : Span) (o1 o2 : Option Org)
    (hx : c[ip]? = some (.callVal, sp)) :
    exec1 code lim (mkS s (⟨fn, ip⟩ :: rest) mp k
        (⟨.int (I64.ofInt 0), o1⟩ :: ⟨.bound (.opt none) "unwrap", o2⟩ :: stk) mem out) =
      .intr (.throw "Called 'unwrap' on a 'null' option value" sp) (mkS s (⟨fn, ip⟩ :: rest) mp (k + 1) stk mem out) :=
  mkS_callVal_bound hf sp "unwrap" (.opt none) o1 o2 []
    (.error (.throw "Called 'unwrap' on a 'null' option value" sp)) out hx (by decide) rfl

/-- `Call_Val` on `unwrap` of `some null`: *nothing is pushed* (finding V28). -/
theorem unwrap_vm_null (code : Code) (lim : Limits) (s : VMState) (fn : String) (ip : Nat)
    (rest : List Frame) (mp : Int) (k : Nat) (stk : List SVal) (mem : List (Int × Val)) (out : World)
    (c : List (RInstr × Span)) (hf : findCode code fn = some c) (sp : Span) (o1 o2 : Option Org)
    (hx : c[ip]? = some (.callVal, sp)) :
    exec1 code lim (mkS s (⟨fn, ip⟩ :: rest) mp k
        (⟨.int (I64.ofInt 0), o1⟩ :: ⟨.bound (.opt (some .null)) "unwrap", o2⟩ :: stk) mem out) =
      .next (mkS s (⟨fn, ip + 1⟩ :: rest) mp (k + 1) stk mem out) :=
  mkS_callVal_bound hf sp "unwrap" (.opt (some .null)) o1 o2 [] (.ok .null) out hx
    (by decide) rfl

/-- `Call_Val` on `unwrap_or(d)`: the payload or the default, pushed unless it is `null`. -/
theorem unwrapOr_vm (code : Code) (lim : Limits) (s : VMState) (fn : String) (ip : Nat)
    (rest : List Frame) (mp : Int) (k : Nat) (stk : List SVal) (mem : List (Int × Val)) (out : World)
    (c : List (RInstr × Span)) (hf : findCode code fn = some c) (sp : Span) (o : Option Val) (d : Val)
    (o1 o2 o3 : Option Org)
    (hx : c[ip]? = some (.callVal, sp)) (hv : o.getD d ≠ .null) :
    exec1 code lim (mkS s (⟨fn, ip⟩ :: rest) mp k
        (⟨.int (I64.ofInt 1), o1⟩ :: ⟨.bound (.opt o) "unwrap_or", o2⟩ :: ⟨d, o3⟩ :: stk) mem out) =
      .next (mkS s (⟨fn, ip + 1⟩ :: rest) mp (k + 1) (⟨o.getD d, none⟩ :: stk) mem out) :=
  mkS_callVal_value hf sp "unwrap_or" _ o1 o2 [⟨d, o3⟩] _ out hx
    (show 1 < 2 ^ 64 by decide) rfl hv

section Example21
private def tyOI : Ty := .opt .int
private def gopt (x : String) : Expr := .ident sp0 tyOI x false false false
private def gm0 (ty : Ty) (b : Expr) (m : String) : Expr := .call sp0 ty (.member sp0 (.fn [] ty) b m .dot) [] false
private def gasgn' (x : String) (e : Expr) : Stmt := .exprS sp0 (.assign sp0 none (gv x) e)

/-- `let o = ?null; let x = o.unwrap(); println(1);` -/
private def wStmts : List Stmt :=
  [ .letS sp0 "o" (.opt .null) false (.opt .null) (.pre sp0 (.opt .null) .some (.null sp0)),
    .letS sp0 "x" .null false .null (gm0 .null (.ident sp0 (.opt .null) "o" false false false) "unwrap"),
    gprint [.int sp0 1] ]
private def wProg : Program :=
  [{ name := "main", imports := [], singletons := [], globals := [], nImpls := 0,
     fns := [gfn "main" [] .null wStmts none] }]

/-- Finding V28 on `unwrap`: with a `null` payload the specification completes (output `1`), the VM
panics with a stack underflow — `Call_Val` pushed nothing for `SetVarImm x` to pop. -/
theorem unwrap_null_witness :
    (match runProgram { prog := wProg } 200 with | .ok out _ => out | _ => "?") = "1\n" ∧
    (match compile wProg "main" 100 with
      | .ok c => (match runMain c {} 50 20000 with | .panic w _ => w | _ => "?")
      | .error e => e) = "stack underflow" := by
  constructor <;> decide +kernel

/-- `let r = "none"; if o.is_some() { r = "some"; }` -/
def describeStmts : List Stmt :=
  [ .letS sp0 "r" .str false .str (.str sp0 "none"),
    gif (gm0 .bool (gopt "o") "is_some") [ gasgn' "r" (.str sp0 "some") ] ]
def describeFd : FnDef := gfn "describe" ["o"] .str describeStmts (some (gv "r"))
/-- `fn main() { let a = ?5; let b = none; println(describe(a) + "/" + describe(b)); let s = "ab" + "cd";
println(s.len()); println(s == "abcd"); println(b.is_none()); }` -/
def main9Stmts : List Stmt :=
  [ .letS sp0 "a" tyOI false tyOI (.pre sp0 tyOI .some (.int sp0 5)),
    .letS sp0 "b" tyOI false tyOI (.none sp0),
    gprint [.infix sp0 .str .add (.infix sp0 .str .add (gcall "describe" [gopt "a"]) (.str sp0 "/"))
      (gcall "describe" [gopt "b"])],
    .letS sp0 "s" .str false .str (.infix sp0 .str .add (.str sp0 "ab") (.str sp0 "cd")),
    gprint [gm0 .int (gv "s") "len"],
    gprint [.infix sp0 .bool .eq (gv "s") (.str sp0 "abcd")],
    gprint [gm0 .bool (gopt "b") "is_none"] ]
def main9Fd : FnDef := gfn "main" [] .null main9Stmts none
def progR : Program :=
  [{ name := "main", imports := [], singletons := [], globals := [], nImpls := 0, fns := [describeFd, main9Fd] }]

example : (match runProgram { prog := progR } 200 with | .ok out _ => out | _ => "?") =
    "some/none\n4\ntrue\ntrue\n" := by
  decide +kernel

def φR : String → Option String := fun n => if n = "describe" then some "@main.describe" else none
def symDescribe : SCode := cgFn "main" φR describeFd describeStmts (some (gv "r")) [[]] [] []
def symMain9 : SCode := cgFn "main" φR main9Fd main9Stmts none [[]] [] []
def codeR : Code := [⟨"@main.describe", renameVars (relG symDescribe)⟩, ⟨"@main.main", renameVars (relG symMain9)⟩]

local instance (priority := high) : BEq PVal := ⟨pvalBeq⟩
private theorem compiledR : (match compile progR "main" 100 with
    | .ok c => ((c.fns.filter fun f => f.name != "@main.@init").map (fun f => (f.name, f.code))
        == codeR.map (fun f => (f.name, f.code))) &&
      decide ((match runMain c {} 50 20000 with
        | .ok s => (s.st.out, s.stack.length, s.mp, s.calls.length) | _ => ("?", 0, 0, 0)) =
        ("some/none\n4\ntrue\ntrue\n", 0, 0, 0))
    | .error _ => false) = true := by decide +kernel

example : (match compile progR "main" 100 with
    | .ok c => (match runMain c {} 50 20000 with
      | .ok s => (s.st.out, s.stack.length, s.mp, s.calls.length) | _ => ("?", 0, 0, 0))
    | .error e => (e, 0, 0, 0)) = ("some/none\n4\ntrue\ntrue\n", 0, 0, 0) := by
  have h := compiledR
  generalize compile progR "main" 100 = r at h ⊢
  cases r with
  | error e => cases h
  | ok c => exact of_decide_eq_true (Bool.and_eq_true_iff.mp h).2

example : (match compile progR "main" 100 with
    | .ok c => (c.fns.filter fun f => f.name != "@main.@init").map (fun f => (f.name, f.code))
        == codeR.map (fun f => (f.name, f.code))
    | .error _ => false) = true := by
  have h := compiledR
  generalize compile progR "main" 100 = r at h ⊢
  cases r with
  | error e => cases h
  | ok c => exact (Bool.and_eq_true_iff.mp h).1

def GR : GCtx := ⟨{ prog := progR }, codeR, {}, "main", {}, fun g => g = "describe", 12, 0, true⟩

private theorem phiR : PhiOK GR φR :=
  phiOK_cons (by decide +kernel) rfl describeFd rfl (phiOK_nil GR)

private theorem chkR : ProgChecked GR φR [describeFd, main9Fd]
    [["o", "r"], ["println", "describe", "a", "b", "s"]] :=
  progChecked_of_check ["describe"] phiR (fun _ => rfl) (fun g h => by simpa [GR] using h) rfl
    (by decide +kernel)

theorem gr_ok : GR.OK' := chkR.ok

theorem fnOK_main9 : FnVoidOK GR "main" main9Fd
    ⟨renameVars (relG symMain9), slotFn (relG symMain9), labelIndex symMain9, (· ∈ varNames (relG symMain9)),
      ["println", "describe", "a", "b", "s"], φR, [[]], [], []⟩ main9Stmts :=
  (chkR.fn 1 _ _ rfl rfl).2

private theorem spec_main9 :
    okOut "some/none\n4\ntrue\ntrue\n" (callBody GR.cfg 200 sp0 GR.mod main9Fd.params main9Fd.body [] stX) = true := by
  decide +kernel

/-- The program through the theorems: options built with `?5` and `none`, passed to a function that
tests them with `is_some()` in an `if` condition; strings concatenated with `+` (also the results of
two calls), measured with `len()`, compared with `==`; `is_none()` as a `println` argument. -/
example : ∃ K, ∀ quantum, K ≤ quantum → ∀ vfuel, ∃ s',
    run codeR {} quantum none (vfuel + 1) { calls := [⟨"@main.main", 0⟩] } = .ok s' ∧
    s'.st.out = "some/none\n4\ntrue\ntrue\n" ∧ s'.mp = 0 ∧ s'.calls = [] := by
  exact chkR.out rfl 1 _ _ rfl rfl rfl 200 sp0 _ spec_main9
end Example21

/-! ## 22. Casts `e as T` to a scalar type

`e as T` is `code(e); Cast(T, perform_cast=true)`. Both sides run the same function on the operand —
`castVal castFuel v T true "" sp` (`value.DeepCast`) —, the VM on its own state. For the target types
of `Frag.castTyOK` (`int`, `float`, `bool`, `str`, `null`, `range`, `any`) it converts between
`bool`/`int`/`float`, passes a value of the target kind through, and answers everything else with the
catchable cast exception (`Cast error: Incompatible values: …`, at the span of the cast); it looks at
the heap only to name the kind of a container in that message and changes nothing (`cast_scalar`).
Casts to list, object and option types build new containers and stay outside the simulated fragment
(`cast_correct_full`). -/

theorem compileCast_frag (fuel : Nat) (sp : Span) (ty : Ty) (e : Expr) (cs : CState)
    (hs : Frag.okE true (.cast sp ty e) = true) (hd : Frag.cdE (.cast sp ty e) ≤ fuel)
    (hws : Frag.wsGE cs.scopes (φOf cs) (.cast sp ty e) = true) :
    (compileExpr fuel (.cast sp ty e)).run cs =
      ((), updS cs cs.loops
        ((cgE cs.currModule (ρS cs.scopes) (φOf cs) e cs.labelMangle).1 ++ [(.cast ty true, sp)])
        { envOf cs with lm := (cgE cs.currModule (ρS cs.scopes) (φOf cs) e cs.labelMangle).2 }) := by
  have h := compileExpr_xfrag true fuel _ cs hs hd hws
  rwa [cgE] at h

theorem cast_spec (cfg : Cfg) (fuel : Nat) (sp : Span) (ty : Ty) (e : Expr) (st : St) :
    evalExpr cfg (fuel + 1) (.cast sp ty e) st =
      match evalExpr cfg fuel e st with
      | (.ok v, st1) => castVal castFuel v ty true "" sp st1
      | (.error c, st1) => (.error c, st1) :=
  evalExpr_cast cfg fuel sp ty e st

/-- A cast to a scalar type leaves the state as it is, its result depends on the heap only, and an
error is the catchable cast exception or lies outside the model (a dangling reference, `int64(f)` of a
float outside the `int64` range). -/
theorem cast_scalar (v : Val) (ty : Ty) (hty : Frag.castTyOK ty = true) (sp : Span) (st : St) :
    (castVal castFuel v ty true "" sp st).2 = st ∧
    (∀ st' : St, st'.heap = st.heap →
      castVal castFuel v ty true "" sp st' = ((castVal castFuel v ty true "" sp st).1, st')) ∧
    (∀ c st', castVal castFuel v ty true "" sp st = (.error c, st') →
      (∃ msg tsp, c = .throw msg tsp) ∨ ∃ w, c = .unsupported w) := by
  obtain ⟨hHO, hErr⟩ := castVal_scalar v ty hty sp
  exact ⟨hHO.state st, fun st' h => hHO st st' h, fun c st' h => hErr st c st' h⟩

theorem cast_vm (code : Code) (lim : Limits) (s : VMState) (fn : String) (ip : Nat)
    (rest : List Frame) (mp : Int) (k : Nat) (stk : List SVal) (mem : List (Int × Val)) (out : World)
    (c : List (RInstr × Span)) (hf : findCode code fn = some c) (sp : Span) (ty : Ty) (allow : Bool) (v v' : Val)
    (o : Option Org) (hx : c[ip]? = some (.cast ty allow, sp))
    (hr : castVal castFuel v ty allow "" sp { s.st with heap := out.heap, out := out.out } =
      (.ok v', { s.st with heap := out.heap, out := out.out })) :
    exec1 code lim (mkS s (⟨fn, ip⟩ :: rest) mp k (⟨v, o⟩ :: stk) mem out) =
      .next (mkS s (⟨fn, ip + 1⟩ :: rest) mp (k + 1) (⟨v', none⟩ :: stk) mem out) :=
  mkS_cast_ok hf sp ty allow v v' o hx hr

/-- The VM's `Cast`, conversion impossible: the catchable exception interrupt with the message and span
of `castVal`; the operand is popped, the instruction pointer stays (the dispatch of `Core.Run` takes
over). -/
theorem cast_vm_throw (code : Code) (lim : Limits) (s : VMState) (fn : String) (ip : Nat)
    (rest : List Frame) (mp : Int) (k : Nat) (stk : List SVal) (mem : List (Int × Val)) (out : World)
    (c : List (RInstr × Span)) (hf : findCode code fn = some c) (sp : Span) (ty : Ty) (allow : Bool) (v : Val)
    (o : Option Org) (msg : String) (tsp : Span) (hx : c[ip]? = some (.cast ty allow, sp))
    (hr : castVal castFuel v ty allow "" sp { s.st with heap := out.heap, out := out.out } =
      (.error (.throw msg tsp), { s.st with heap := out.heap, out := out.out })) :
    exec1 code lim (mkS s (⟨fn, ip⟩ :: rest) mp k (⟨v, o⟩ :: stk) mem out) =
      .intr (.throw msg tsp) (mkS s (⟨fn, ip⟩ :: rest) mp (k + 1) stk mem out) :=
  mkS_cast_throw hf sp ty allow v o msg tsp hx hr

/-- The cast step at full strength: *any* target type — also list, object and option types, where
`castVal` allocates the converted containers. Not proved: it needs `castVal`'s frame property and the
preservation of `HeapInv` through the mutual recursion
`castVal`/`castList`/`castFields`/`deepCloneFields`; the two sides still run the same function on the
same heap. -/
def cast_correct_full : Prop :=
  ∀ (G : GCtx) (A : Act), A.OK G → ∀ (n : Nat) (sp : Span) (ty : Ty) (e : Expr)
    (st : St) (ip : Nat) (stk : List SVal) (mem : Mem) (lm : LM) (scopes : CScopes),
    Placed A.lab A.σ A.c ip (cgE G.mod (ρS scopes) A.φ (.cast sp ty e) lm).1 →
    SpecOK G A.mp st →
    Sim.SimGE G A ip (nI (cgE G.mod (ρS scopes) A.φ e lm).1) stk mem st (evalExpr G.cfg n e st) →
    Sim.SimGE G A ip (nI ((cgE G.mod (ρS scopes) A.φ e lm).1 ++ [(.cast ty true, sp)])) stk mem st
      (evalExpr G.cfg (n + 1) (.cast sp ty e) st)

/-- `cast_correct_full` restricted to `Frag.castTyOK`, given the simulation of `e`: the specification's
converted value is what the VM leaves on its stack; the specification's cast exception (message and
span) is the interrupt the VM raises at the `Cast` instruction, with the operand popped and memory as
the operand left it. -/
theorem cast_correct_partial (G : GCtx) (A : Act) (hA : A.OK G) (n : Nat) (sp : Span) (ty : Ty) (e : Expr)
    (hty : Frag.castTyOK ty = true)
    (st : St) (ip : Nat) (stk : List SVal) (mem : Mem) (lm : LM) (scopes : CScopes)
    (hpl : Placed A.lab A.σ A.c ip (cgE G.mod (ρS scopes) A.φ (.cast sp ty e) lm).1)
    (he : Sim.SimGE G A ip (nI (cgE G.mod (ρS scopes) A.φ e lm).1) stk mem st (evalExpr G.cfg n e st)) :
    Sim.SimGE G A ip (nI ((cgE G.mod (ρS scopes) A.φ e lm).1 ++ [(.cast ty true, sp)])) stk mem st
      (evalExpr G.cfg (n + 1) (.cast sp ty e) st) := by
  -- `he` becomes the first link of a `SimM` chain at the expression level, its operand `a` read with whatever
  -- origin `oa` it has; the second link is the one-instruction rule `SimM.cast` on `⟨a, oa⟩`, whose result carries
  -- no origin; `SimM.simGE` reads `SimGE` back off the chain.
  have h := ((SimM.of_simGE (L := .expr G A) (I := .none G A) (pre := []) fun _ _ => he).mono
      fun _a _st1 _mem1 _ys _ => QGE.oe).seq fun a _st1 _mem1 _ys ⟨oa, hys⟩ =>
    hys ▸ (SimM.cast (st := _) (mem := _) hA sp ty hty a oa).mono
      fun _v _st2 _mem2 _ys _ hys' => (⟨_, OrgOK.none _, hys'⟩ : QGE G [] _ _ _ _)
  rw [cgE] at hpl
  rw [evalExpr]
  exact h.simGE hpl trivial

/-- Scalar casts anywhere an expression may stand (`G.fr = true`): an instance of `expr_correctX` —
`Frag.okE true` is closed under `e as T` for `Frag.castTyOK T`, so casts occur in conditions,
arguments, `return`, right-hand sides, inside `try` (where the cast exception is caught). -/
theorem castExpr_correct (G : GCtx) (hG : G.OK') (fuel : Nat) (A : Act) (hA : A.OK G) (sp : Span) (ty : Ty)
    (e0 : Expr) (st : St)
    (ip : Nat) (stk : List SVal) (mem : Mem) (lm : LM) (scopes : CScopes) (vm : List (String × Nat))
    (e : Expr) (he : e = .cast sp ty e0)
    (hs : Frag.okE G.fr e = true) (hws : Frag.wsGE scopes A.φ e = true)
    (hT : ∀ x ∈ Frag.namesGE e, x ∈ A.T)
    (hpl : Placed A.lab A.σ A.c ip (cgE G.mod (ρS scopes) A.φ e lm).1)
    (hrel : StRel G.mod A.T A.N A.σ G.lim A.mp scopes vm st.scopes mem) (hsp : SpecOK G A.mp st) :
    Sim.SimGE G A ip (nI (cgE G.mod (ρS scopes) A.φ e lm).1) stk mem st (evalExpr G.cfg fuel e st) := by
  subst he
  exact expr_correctX G hG fuel A hA _ st ip stk mem lm scopes vm hs hws hT hpl hrel hsp

section Example22
private def spCast : Span := ⟨3, 5, 3, 12⟩
private def gcast (sp : Span) (ty : Ty) (e : Expr) : Expr := .cast sp ty e

/-- `castVal` on the scalars: `true as int = 1`, `5 as bool = true`, `0 as bool = false`; a string is not an
`int`: the cast exception. -/
example :
    (match castVal castFuel (.bool true) .int true "" sp0 {} with | (.ok (.int i), _) => i.toInt | _ => -1) = 1 ∧
    (match castVal castFuel (.int 5) .bool true "" sp0 {} with | (.ok (.bool b), _) => b | _ => false) = true ∧
    (match castVal castFuel (.int 0) .bool true "" sp0 {} with | (.ok (.bool b), _) => b | _ => true) = false ∧
    (match castVal castFuel (.str "x") .int true "" spCast {} with
      | (.error (.throw m sp), _) => (m, sp.sl) | _ => ("?", 0)) =
      ("Cast error: Incompatible values: a value of type 'string' is not compatible with a value of type 'int'", 3) := by
  refine ⟨?_, ?_, ?_, ?_⟩ <;> decide +kernel

/-- `fn toInt(v: any) -> int { v as int }` -/
def toIntE : Expr := gcast spCast .int (gv "v")
def toIntFd : FnDef := gfn "toInt" ["v"] .int [] (some toIntE)
/-- `let b = n as bool; let k = (b as int) + ((n > 2) as int);` -/
def flagStmts : List Stmt :=
  [ .letS sp0 "b" .bool false .bool (gcast sp0 .bool (gv "n")),
    .letS sp0 "k" .int false .int
      (.infix sp0 .int .add (gcast sp0 .int (.ident sp0 .bool "b" false false false))
        (gcast sp0 .int (.infix sp0 .bool .gt (gv "n") (.int sp0 2)))) ]
def flagFd : FnDef := gfn "flag" ["n"] .int flagStmts (some (gv "k"))
/-- `let r = 0; try { r = toInt(v); println("ok", r); } catch e { println("caught"); r = 0 - 1; }` -/
def safe2Stmts : List Stmt :=
  [ .letS sp0 "r" .int false .int (.int sp0 0),
    gtry [gasgn "r" (gcall "toInt" [gv "v"]), gprint [.str sp0 "ok", gv "r"]] "e"
      [gprint [.str sp0 "caught"], gasgn "r" (.infix sp0 .int .sub (.int sp0 0) (.int sp0 1))] ]
def safe2Fd : FnDef := gfn "safe" ["v"] .int safe2Stmts (some (gv "r"))
/-- `fn main() { println(flag(5)); println(safe(true)); println(safe("x")); }` -/
def main10Stmts : List Stmt :=
  [ gprint [gcall "flag" [.int sp0 5]], gprint [gcall "safe" [.bool sp0 true]], gprint [gcall "safe" [.str sp0 "x"]] ]
def main10Fd : FnDef := gfn "main" [] .null main10Stmts none
def progC : Program :=
  [{ name := "main", imports := [], singletons := [], globals := [], nImpls := 0,
     fns := [toIntFd, flagFd, safe2Fd, main10Fd] }]

example : (match runProgram { prog := progC } 200 with | .ok out _ => out | _ => "?") =
    "2\nok 1\n1\ncaught\n-1\n" := by
  decide +kernel

def φC : String → Option String := fun n =>
  if n = "toInt" then some "@main.toInt" else if n = "flag" then some "@main.flag"
  else if n = "safe" then some "@main.safe" else none
def symToInt : SCode := cgFn "main" φC toIntFd [] (some toIntE) [[]] [] []
def symFlag : SCode := cgFn "main" φC flagFd flagStmts (some (gv "k")) [[]] [] []
def symSafe2 : SCode := cgFn "main" φC safe2Fd safe2Stmts (some (gv "r")) [[]] [] []
def symMain10 : SCode := cgFn "main" φC main10Fd main10Stmts none [[]] [] []
def codeC : Code := [⟨"@main.toInt", renameVars (relG symToInt)⟩, ⟨"@main.flag", renameVars (relG symFlag)⟩,
  ⟨"@main.safe", renameVars (relG symSafe2)⟩, ⟨"@main.main", renameVars (relG symMain10)⟩]

local instance (priority := high) : BEq PVal := ⟨pvalBeq⟩
/-- The target types of `Cast` are compared constructor by constructor (the derived `BEq` of the nested type `Ty`
is not evaluated by the kernel). -/
private def tyBeqC : Ty → Ty → Bool
  | .int, .int | .float, .float | .bool, .bool | .str, .str | .null, .null | .range, .range | .any, .any => true
  | _, _ => false
private def instrBeqC : RInstr → RInstr → Bool
  | .cast t a, .cast t' a' => tyBeqC t t' && a == a'
  | x, y => x == y
private def codeBeqC (a b : List (RInstr × Span)) : Bool :=
  a.length == b.length && (a.zip b).all fun xy => instrBeqC xy.1.1 xy.2.1 && xy.1.2 == xy.2.2
private theorem compiledC : (match compile progC "main" 100 with
    | .ok c => ((((c.fns.filter fun f => f.name != "@main.@init").zip codeC).all fun fg =>
        fg.1.name == fg.2.name && codeBeqC fg.1.code fg.2.code) &&
        (c.fns.filter fun f => f.name != "@main.@init").length == codeC.length) &&
      decide ((match runMain c {} 50 20000 with
      | .ok s => (s.st.out, s.stack.length, s.mp, s.handlers.length) | _ => ("?", 0, 0, 0)) =
        ("2\nok 1\n1\ncaught\n-1\n", 0, 0, 0))
    | .error _ => false) = true := by decide +kernel

example : (match compile progC "main" 100 with
    | .ok c => (match runMain c {} 50 20000 with
      | .ok s => (s.st.out, s.stack.length, s.mp, s.handlers.length) | _ => ("?", 0, 0, 0))
    | .error e => (e, 0, 0, 0)) = ("2\nok 1\n1\ncaught\n-1\n", 0, 0, 0) := by
  have h := compiledC
  generalize compile progC "main" 100 = r at h ⊢
  cases r with
  | error e => cases h
  | ok c => exact of_decide_eq_true (Bool.and_eq_true_iff.mp h).2

example : (match compile progC "main" 100 with
    | .ok c => (((c.fns.filter fun f => f.name != "@main.@init").zip codeC).all fun fg =>
        fg.1.name == fg.2.name && codeBeqC fg.1.code fg.2.code) &&
        (c.fns.filter fun f => f.name != "@main.@init").length == codeC.length
    | .error _ => false) = true := by
  have h := compiledC
  generalize compile progC "main" 100 = r at h ⊢
  cases r with
  | error e => cases h
  | ok c => exact (Bool.and_eq_true_iff.mp h).1

def GC : GCtx :=
  ⟨{ prog := progC }, codeC, {}, "main", {}, fun g => g = "toInt" ∨ g = "flag" ∨ g = "safe", 12, 0, true⟩

private theorem phiC : PhiOK GC φC :=
  phiOK_cons (by decide +kernel) (Or.inl rfl) toIntFd rfl <|
  phiOK_cons (by decide +kernel) (Or.inr (Or.inl rfl)) flagFd rfl <|
  phiOK_cons (by decide +kernel) (Or.inr (Or.inr rfl)) safe2Fd rfl (phiOK_nil GC)

private theorem chkC : ProgChecked GC φC [toIntFd, flagFd, safe2Fd, main10Fd]
    [["v"], ["n", "b", "k"], ["v", "r", "e", "toInt", "println"], ["println", "flag", "safe"]] :=
  progChecked_of_check ["toInt", "flag", "safe"] phiC (fun _ => rfl) (fun g h => by simpa [GC] using h) rfl
    (by decide +kernel)

theorem gc_ok : GC.OK' := chkC.ok

theorem fnOK_main10 : FnVoidOK GC "main" main10Fd
    ⟨renameVars (relG symMain10), slotFn (relG symMain10), labelIndex symMain10, (· ∈ varNames (relG symMain10)),
      ["println", "flag", "safe"], φC, [[]], [], []⟩ main10Stmts :=
  (chkC.fn 3 _ _ rfl rfl).2

private theorem spec_main10 :
    okOut "2\nok 1\n1\ncaught\n-1\n" (callBody GC.cfg 200 sp0 GC.mod main10Fd.params main10Fd.body [] stX) = true := by
  decide +kernel

/-- The program through the theorems: `flag(5)` converts an `int` to `bool`, a `bool` variable and a
comparison to `int` inside an addition: `2`; `safe(true)` casts `true` to `1` in `toInt`; in
`safe("x")` the cast in `toInt` — one activation below the `try` — raises the cast exception, which
`Core.Run` dispatches to the handler of `safe`: `caught`, `-1`. -/
example : ∃ K, ∀ quantum, K ≤ quantum → ∀ vfuel, ∃ s',
    run codeC {} quantum none (vfuel + 1) { calls := [⟨"@main.main", 0⟩] } = .ok s' ∧
    s'.st.out = "2\nok 1\n1\ncaught\n-1\n" ∧ s'.mp = 0 ∧ s'.calls = [] := by
  exact chkC.out rfl 3 _ _ rfl rfl rfl 200 sp0 _ spec_main10
end Example22

/-! ## 23. Compound assignment to cells and `?e` by name; what stays outside, with witnesses

`l[i] op= e` and `o.f op= e` are the case `op = some o` of `idxAssign_correct` / `memAssign_correct`
(sections 17, 18), `?e` is the prefix operator `some` of the expression fragment (sections 3–5, 20):
the statements are repeated for these constructs alone, with the instruction the compiler adds
(`Duplicate` of the resolved cell pointer, `Some`). Three constructs stay outside the simulation, each
with a kernel-checked witness of the reason: `unwrap_or` (finding V28), `for` over a list, function
values. -/

/-- `l[i] op= e`: the target is compiled *once* — `code(l); code(i); Index` leaves the element with
the pointer to its cell — and duplicated: `Duplicate; code(e); op; Assign`. -/
theorem compileIdxCompound_frag (fuel : Nat) (sp asp : Span) (o : InfixOp) (isp : Span) (ity : Ty) (b i r : Expr)
    (cs : CState) (fr il rt : Bool)
    (hrt : rt = true → cs.tryDepth = 0) (hil : il = true → ∃ b c rest, cs.loops = (b, c, cs.tryDepth) :: rest)
    (hs : Frag.okFS fr il rt (.exprS sp (.assign asp (some o) (.index isp ity b i) r)) = true)
    (hd : Frag.cdS (.exprS sp (.assign asp (some o) (.index isp ity b i) r)) ≤ fuel)
    (hws : Frag.wsGS cs.currModule cs.currFn (φOf cs) (loopsOf cs.loops)
      (.exprS sp (.assign asp (some o) (.index isp ity b i) r)) (envOf cs) = true) :
    let cl := cgE cs.currModule (ρS cs.scopes) (φOf cs) (.index isp ity b i) cs.labelMangle
    let cr := cgE cs.currModule (ρS cs.scopes) (φOf cs) r cl.2
    (compileStmt fuel (.exprS sp (.assign asp (some o) (.index isp ity b i) r))).run cs =
      ((), updS cs cs.loops (cl.1 ++ [(.dup, asp)] ++ cr.1 ++ (arithI o).map (·, asp) ++ [(.assign, asp)])
        { envOf cs with lm := cr.2 }) :=
  compileIdxAssign_frag fuel sp asp (some o) isp ity b i r cs fr il rt hrt hil hs hd hws

theorem compileMemCompound_frag (fuel : Nat) (sp asp : Span) (o : InfixOp) (msp : Span) (mty : Ty) (b : Expr)
    (name : String) (r : Expr) (cs : CState) (fr il rt : Bool)
    (hrt : rt = true → cs.tryDepth = 0) (hil : il = true → ∃ b c rest, cs.loops = (b, c, cs.tryDepth) :: rest)
    (hs : Frag.okFS fr il rt (.exprS sp (.assign asp (some o) (.member msp mty b name .dot) r)) = true)
    (hd : Frag.cdS (.exprS sp (.assign asp (some o) (.member msp mty b name .dot) r)) ≤ fuel)
    (hws : Frag.wsGS cs.currModule cs.currFn (φOf cs) (loopsOf cs.loops)
      (.exprS sp (.assign asp (some o) (.member msp mty b name .dot) r)) (envOf cs) = true) :
    let cl := cgE cs.currModule (ρS cs.scopes) (φOf cs) (.member msp mty b name .dot) cs.labelMangle
    let cr := cgE cs.currModule (ρS cs.scopes) (φOf cs) r cl.2
    (compileStmt fuel (.exprS sp (.assign asp (some o) (.member msp mty b name .dot) r))).run cs =
      ((), updS cs cs.loops (cl.1 ++ [(.dup, asp)] ++ cr.1 ++ (arithI o).map (·, asp) ++ [(.assign, asp)])
        { envOf cs with lm := cr.2 }) :=
  compileMemAssign_frag fuel sp asp (some o) msp mty b name r cs fr il rt hrt hil hs hd hws

/-- The VM's `Duplicate` copies the top of the stack *with its origin*: after it the cell pointer is
there twice — one copy is consumed by the operation, the other by `Assign`. -/
theorem dup_vm (code : Code) (lim : Limits) (s : VMState) (fn : String) (ip : Nat)
    (rest : List Frame) (mp : Int) (k : Nat) (stk : List SVal) (mem : List (Int × Val)) (out : World)
    (c : List (RInstr × Span)) (hf : findCode code fn = some c) (sp : Span) (x : SVal)
    (hx : c[ip]? = some (.dup, sp)) :
    exec1 code lim (mkS s (⟨fn, ip⟩ :: rest) mp k (x :: stk) mem out) =
      .next (mkS s (⟨fn, ip + 1⟩ :: rest) mp (k + 1) (x :: x :: stk) mem out) :=
  mkS_dup hf sp x hx

/-- `idxAssign_correct` at `op = some o`: the slot is resolved once, before the right-hand side
(`idxAssign_spec`); `o` is an arithmetic, comparison or bit operator and `e` calls no function
(finding V38). -/
theorem idxCompound_correct (G : GCtx) (hG : G.OK') (fuel : Nat) (A : Act) (hA : A.OK G)
    (loops : List (String × String)) (lscopes : CScopes) (d : Nat) (sp asp : Span) (o : InfixOp)
    (isp : Span) (ity : Ty) (b i r : Expr) (env : CEnv) (spec : St) (ip : Nat) (stk : List SVal) (mem : Mem)
    (stmt : Stmt) (hstmt : stmt = .exprS sp (.assign asp (some o) (.index isp ity b i) r))
    (hs : Frag.okFS G.fr (!loops.isEmpty) A.rt stmt = true) (hT : ∀ x ∈ Frag.identsGS stmt, x ∈ A.T)
    (hws : Frag.wsGS G.mod A.src A.φ loops stmt env = true)
    (hN : ∀ m ∈ codeVars (cgS G.mod A.src A.φ loops stmt env).1, A.N m)
    (hpl : Placed A.lab A.σ A.c ip (cgS G.mod A.src A.φ loops stmt env).1)
    (hd : 1 ≤ d) (hls : lscopes = env.scopes.drop d)
    (hrel : Sim.GRel G A env.scopes env.vm spec.scopes mem) (hsp : SpecOK G A.mp spec) :
    Sim.SimGS G A loops lscopes d ip (nI (cgS G.mod A.src A.φ loops stmt env).1) stk mem
      (Sim.GRel G A (cgS G.mod A.src A.φ loops stmt env).2.scopes (cgS G.mod A.src A.φ loops stmt env).2.vm) spec
      (evalStmt G.cfg fuel stmt spec) :=
  idxAssign_correct G hG fuel A hA loops lscopes d sp asp (some o) isp ity b i r env spec ip stk mem stmt hstmt hs hT hws
    hN hpl hd hls hrel hsp

/-- `memAssign_correct` at `op = some o`. -/
theorem memCompound_correct (G : GCtx) (hG : G.OK') (fuel : Nat) (A : Act) (hA : A.OK G)
    (loops : List (String × String)) (lscopes : CScopes) (d : Nat) (sp asp : Span) (o : InfixOp)
    (msp : Span) (mty : Ty) (b : Expr) (name : String) (r : Expr) (env : CEnv) (spec : St) (ip : Nat)
    (stk : List SVal) (mem : Mem)
    (stmt : Stmt) (hstmt : stmt = .exprS sp (.assign asp (some o) (.member msp mty b name .dot) r))
    (hs : Frag.okFS G.fr (!loops.isEmpty) A.rt stmt = true) (hT : ∀ x ∈ Frag.identsGS stmt, x ∈ A.T)
    (hws : Frag.wsGS G.mod A.src A.φ loops stmt env = true)
    (hN : ∀ m ∈ codeVars (cgS G.mod A.src A.φ loops stmt env).1, A.N m)
    (hpl : Placed A.lab A.σ A.c ip (cgS G.mod A.src A.φ loops stmt env).1)
    (hd : 1 ≤ d) (hls : lscopes = env.scopes.drop d)
    (hrel : Sim.GRel G A env.scopes env.vm spec.scopes mem) (hsp : SpecOK G A.mp spec) :
    Sim.SimGS G A loops lscopes d ip (nI (cgS G.mod A.src A.φ loops stmt env).1) stk mem
      (Sim.GRel G A (cgS G.mod A.src A.φ loops stmt env).2.scopes (cgS G.mod A.src A.φ loops stmt env).2.vm) spec
      (evalStmt G.cfg fuel stmt spec) :=
  memAssign_correct G hG fuel A hA loops lscopes d sp asp (some o) msp mty b name r env spec ip stk mem stmt hstmt hs hT
    hws hN hpl hd hls hrel hsp

/-- Non-vacuity: the compound assignments `l[-1] += 4` of `progL` (section 17) and `o.y += 5` of `progO`
(section 18), both run through the theorems there, are statements of the fragment, and their code
carries the `Duplicate`. -/
example :
    Frag.okFS true false true (gset (some .add) "l" (.int sp0 (-1)) (.int sp0 4)) = true ∧
    Frag.okFS false false true (gsetf (some .add) (go "o") "y" (.int sp0 5)) = true ∧
    (((cgS "main" "build" φL [] (gset (some .add) "l" (.int sp0 (-1)) (.int sp0 4)) ⟨[[("l", "@main.l.0")]], [], [], 0⟩).1.map
      (·.1)) == [.getVar "@main.l.0", .copyPush (.int (-1)), .index, .dup, .copyPush (.int 4), .add, .assign]) = true := by
  refine ⟨by decide +kernel, by decide +kernel, by decide +kernel⟩

theorem compileSome_frag (mod : String) (ρ φ : String → Option String) (sp : Span) (ty : Ty) (e : Expr) (lm : LM) :
    cgE mod ρ φ (.pre sp ty .some e) lm = ((cgE mod ρ φ e lm).1 ++ [(.some, sp)], (cgE mod ρ φ e lm).2) := by
  simp only [cgE, preI]

theorem some_spec (cfg : Cfg) (fuel : Nat) (sp : Span) (ty : Ty) (e : Expr) (st : St) :
    evalExpr cfg (fuel + 1) (.pre sp ty .some e) st =
      match evalExpr cfg fuel e st with
      | (.ok v, st1) => (.ok (.opt (some v)), st1)
      | (.error c, st1) => (.error c, st1) := by
  rw [evalExpr_pre]
  rcases evalExpr cfg fuel e st with ⟨r, st1⟩
  cases r <;> rfl

/-- `?e`: an instance of `expr_correctX` (for `e` without calls and cell reads also of
`compiled_pure_correct`); the VM's `Some` wraps the operand the code of `e` left on the stack. -/
theorem some_correct (G : GCtx) (hG : G.OK') (fuel : Nat) (A : Act) (hA : A.OK G) (sp : Span) (ty : Ty)
    (e0 : Expr) (st : St)
    (ip : Nat) (stk : List SVal) (mem : Mem) (lm : LM) (scopes : CScopes) (vm : List (String × Nat))
    (e : Expr) (he : e = .pre sp ty .some e0)
    (hs : Frag.okE G.fr e = true) (hws : Frag.wsGE scopes A.φ e = true)
    (hT : ∀ x ∈ Frag.namesGE e, x ∈ A.T)
    (hpl : Placed A.lab A.σ A.c ip (cgE G.mod (ρS scopes) A.φ e lm).1)
    (hrel : StRel G.mod A.T A.N A.σ G.lim A.mp scopes vm st.scopes mem) (hsp : SpecOK G A.mp st) :
    Sim.SimGE G A ip (nI (cgE G.mod (ρS scopes) A.φ e lm).1) stk mem st (evalExpr G.cfg fuel e st) := by
  subst he
  exact expr_correctX G hG fuel A hA _ st ip stk mem lm scopes vm hs hws hT hpl hrel hsp

/-- Non-vacuity: `?5` of `progR` (section 21) and `?f(x)` with a call inside are in the fragment; the
code of `?5`. -/
example :
    Frag.okE true (.pre sp0 (.opt .int) .some (.int sp0 5)) = true ∧
    Frag.okE false (.pre sp0 (.opt .int) .some (gcall "f" [gv "x"])) = true ∧
    (((cgE "main" (fun _ => none) (fun _ => none) (.pre sp0 (.opt .int) .some (.int sp0 5)) []).1.map (·.1)) ==
      [.copyPush (.int 5), .some]) = true := by
  refine ⟨by decide +kernel, by decide +kernel, by decide +kernel⟩

section Witnesses23
private def progOf (ss : List Stmt) : Program :=
  [{ name := "main", imports := [], singletons := [], globals := [], nImpls := 0, fns := [gfn "main" [] .null ss none] }]

/-- `let o = ?null; let x = o.unwrap_or(null); println(1);` -/
private def uoStmts : List Stmt :=
  [ .letS sp0 "o" (.opt .null) false (.opt .null) (.pre sp0 (.opt .null) .some (.null sp0)),
    .letS sp0 "x" .null false .null
      (.call sp0 .null (.member sp0 (.fn [.null] .null) (.ident sp0 (.opt .null) "o" false false false) "unwrap_or" .dot)
        [("", .null sp0)] false),
    gprint [.int sp0 1] ]

/-- Finding V28 on `unwrap_or` (why `o.unwrap_or(d)` is not in the simulated fragment): when the
result is `null` the specification completes (output `1`), the VM panics with a stack underflow —
`Call_Val` pushed nothing for `SetVarImm x` to pop. Whether the result is `null` is not visible in the
program text. -/
theorem unwrapOr_null_witness :
    (match runProgram { prog := progOf uoStmts } 200 with | .ok out _ => out | _ => "?") = "1\n" ∧
    (match compile (progOf uoStmts) "main" 100 with
      | .ok c => (match runMain c {} 50 20000 with | .panic w _ => w | _ => "?")
      | .error e => e) = "stack underflow" := by
  constructor <;> decide +kernel

/-- `let l = [1, 2]; for x in l { println(x); } let m = [3]; println(m);` -/
private def flStmts : List Stmt :=
  [ .letS sp0 "l" tyL false tyL (.list sp0 tyL [.int sp0 1, .int sp0 2]),
    .forS sp0 "x" .int (gl "l") (.mk sp0 .null [gprint [gv "x"]] none),
    .letS sp0 "m" tyL false tyL (.list sp0 tyL [.int sp0 3]),
    gprint [gl "m"] ]

/-- Why `for x in l` over a list is not in the simulated fragment: the two sides print the same, but
`Clone` allocates a cell for the snapshot of `l` that the specification does not have (`iterElems`
reads the list in place), so after the loop the list `m` lives at address 2 on the VM and at address 1
in the specification. The simulation of sections 17–22 identifies the two heaps; this loop needs a
relation up to a renaming of addresses throughout. Iteration itself is covered: `for_correct` runs the
rounds over an arbitrary element list. -/
theorem forList_snapshot_witness :
    ((fun r : Except Ctl Val × St => (r.2.out, r.2.heap.size))
      (callBody { prog := progOf flStmts } 200 sp0 "main" [] (.mk sp0 .null flStmts none) [] stX)) = ("1\n2\n[3]\n", 2) ∧
    (match compile (progOf flStmts) "main" 100 with
      | .ok c => (match runMain c {} 50 20000 with | .ok s => (s.st.out, s.st.heap.size) | _ => ("?", 0))
      | .error e => (e, 0)) = ("1\n2\n[3]\n", 3) := by
  constructor <;> decide +kernel

/-- `let f = fn(a: int) -> int { a };` -/
private def fLet : Stmt := .letS sp0 "f" (.fn [.int] .int) false (.fn [.int] .int)
  (.lambda sp0 (.fn [.int] .int) [⟨"a", .int, false, ""⟩] .int (.mk sp0 .int [] (some (gv "a"))))
/-- `let f = fn(a: int) -> int { a }; println(f(2));` -/
private def fvStmts : List Stmt :=
  [ fLet, gprint [.call sp0 .int (.ident sp0 (.fn [.int] .int) "f" false false false) [("", .int sp0 2)] false] ]

/-- Why `Call_Val` through a function value is not in the simulated fragment: both sides print `2`,
but `f` holds `closure 0` — an index into the state's closure table — in the specification and
`fn "" "@main.$lambda_0"`, the name of a separately compiled function, on the VM. The simulation
relates memory cells and stack operands to the specification's values by equality; function values
need a value relation (and the frame equations a growing closure table) throughout. -/
theorem fnValue_repr_witness :
    (match runProgram { prog := progOf fvStmts } 200 with | .ok out _ => out | _ => "?") = "2\n" ∧
    (match compile (progOf fvStmts) "main" 100 with
      | .ok c => (match runMain c {} 50 20000 with | .ok s => s.st.out | _ => "?")
      | .error e => e) = "2\n" ∧
    (match (evalStmts { prog := progOf fvStmts } 50 [fLet] stX).2.scopes with
      | [[("f", .closure 0)]] => true | _ => false) = true ∧
    (match compile (progOf fvStmts) "main" 100 with
      | .ok c => c.fns.any fun f => f.name == "@main.main" &&
          f.code.any fun i => match i.1 with | .copyPush (.vmFn "@main.$lambda_0") => true | _ => false
      | .error _ => false) = true ∧
    ∀ (st : St) (n : String), pvalToVal st (.vmFn n) = (.fn "" n, st) := by
  refine ⟨by decide +kernel, by decide +kernel, by decide +kernel, by decide +kernel, fun _ _ => rfl⟩
end Witnesses23

end HmsProofs.C01VM
