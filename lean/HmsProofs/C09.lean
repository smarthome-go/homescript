import HmsProofs.Lemmas.VMRun
/-!
# C09 — configured resource limits are enforced as interrupts

Statements about the VM model `Hms.Core.VM` (`step`, `runQuantum`, `run`), for all code, all limits, all fuel.
`PollReach code lim quantum cancelAt s₀ p`: `p` is a state in which `run`, started in `s₀`, performs a poll
(`run_describes_reach`); `Reach … s₀ s`: `s` is such a state or one of the states of the quantum of instructions that
follows a poll that passed. The "run indefinitely" clause is `HmsProofs.C02.balanced`, for checked code.
-/
namespace HmsProofs.C09
open Hms.Core Hms.Core.Comp Hms.Core.VM Hms.Core.BcCheck
open HmsProofs.Lemmas.VMStep HmsProofs.Lemmas.VMRun

abbrev Reach := @HmsProofs.Lemmas.VMRun.Reach
abbrev PollReach := @HmsProofs.Lemmas.VMRun.PollReach
abbrev maxPush := HmsProofs.Lemmas.VMRun.maxPush

/-- One instruction (`Core.runInstruction`) grows the operand stack by at most `maxPush i ≤ 1` entries and the call
stack by at most one frame; an interrupt leaves both at most as large as before. `maxPush` is 1 for `copyPush`,
`cloningPush`, `dup`, `getVar`, `getGlob`, `iterAdvance` (pops the iterator, pushes two values), 0 otherwise. -/
theorem push_bound (code : Code) (lim : Limits) (s : VMState) (i : RInstr) (sp : Span) :
    maxPush i ≤ 1 ∧
    (∀ s', step code lim s i sp = .next s' →
      s'.stack.length ≤ s.stack.length + maxPush i ∧ s'.calls.length ≤ s.calls.length + 1) ∧
    (∀ x s', step code lim s i sp = .intr x s' →
      s'.stack.length ≤ s.stack.length ∧ s'.calls.length ≤ s.calls.length) := by
  have h := step_bound code lim s i sp
  refine ⟨maxPush_le_one i, ?_, ?_⟩
  · intro s' e; rw [e] at h; exact ⟨h.1, h.2.1⟩
  · intro x s' e; rw [e] at h; exact ⟨h.1, h.2.1⟩

/-- C09, bounded overshoot: wherever the VM executes an instruction or polls, the operand stack holds at most
`quantum` entries more than the limit (or than it held initially). The poll compares the size with the limit only
every `quantum` instructions, and each instruction (the push of the error object by the exception dispatch included)
adds at most one entry. -/
theorem stack_bound (code : Code) (lim : Limits) (quantum : Nat) (cancelAt : Option Nat) (s₀ s : VMState)
    (h : Reach code lim quantum cancelAt s₀ s) :
    s.stack.length ≤ max s₀.stack.length lim.stack + quantum := by
  have := (reach_bound h).1; omega

/-- `stack_bound` with twice the overshoot. -/
theorem stack_bound_two (code : Code) (lim : Limits) (quantum : Nat) (cancelAt : Option Nat) (s₀ s : VMState)
    (h : Reach code lim quantum cancelAt s₀ s) :
    s.stack.length ≤ max s₀.stack.length lim.stack + 2 * quantum := by
  have := stack_bound code lim quantum cancelAt s₀ s h; omega

/-- The same for the call stack: at most `quantum` frames above the limit. -/
theorem callstack_bound (code : Code) (lim : Limits) (quantum : Nat) (cancelAt : Option Nat) (s₀ s : VMState)
    (h : Reach code lim quantum cancelAt s₀ s) :
    s.calls.length ≤ max s₀.calls.length lim.callStack + quantum := by
  have := (reach_bound h).2.1; omega

/-- `PollReach` is about `run`: from every poll state `p` of the run from `s₀`, `run` continues as
`run` from `p` with the remaining fuel. -/
theorem run_describes_reach (code : Code) (lim : Limits) (quantum : Nat) (cancelAt : Option Nat) (s₀ p : VMState)
    (h : PollReach code lim quantum cancelAt s₀ p) :
    ∃ k, ∀ fuel, run code lim quantum cancelAt (fuel + k) s₀ = run code lim quantum cancelAt fuel p := by
  induction h with
  | start => exact ⟨0, fun _ => rfl⟩
  | next hp hpass hq ih =>
    obtain ⟨k, hk⟩ := ih
    refine ⟨k + 1, fun fuel => ?_⟩
    have e : fuel + (k + 1) = (fuel + 1) + k := by omega
    rw [e, hk, run_pass hpass, hq]

/-- After every `addMp` the memory pointer is below the limit, or the instruction answers the
fatal interrupt `OutOfMemoryError` (never a panic). -/
theorem memory_bound_addMp (code : Code) (lim : Limits) (s : VMState) (n : Int) (sp : Span) :
    (∃ s', step code lim s (.addMp n) sp = .next s' ∧ s'.mp = s.mp + n ∧ s'.mp < (lim.memory : Int))
    ∨ (∃ msg s', step code lim s (.addMp n) sp = .intr (.fatal "OutOfMemoryError" msg sp) s'
        ∧ (lim.memory : Int) ≤ s.mp + n) := by
  rcases step_addMp code lim s n sp with ⟨h1, h2⟩ | ⟨h1, msg, h2⟩
  · left; exact ⟨_, h2, by simp, by simpa using h1⟩
  · right; exact ⟨msg, _, h2, h1⟩

/-- `getVar k` touches memory only at index `mp - k`, and only if `0 ≤ mp - k < lim.memory`;
otherwise — exactly then — it answers the panic "memory index" (the Go VM's slice index out of
range). `HmsProofs.C02.hcheck_sound_partial` excludes that case for checked code. -/
theorem memory_bound_getVar (code : Code) (lim : Limits) (s : VMState) (k : Nat) (sp : Span) :
    (step code lim s (.getVar k) sp = .panic "memory index" s
        ↔ ¬ (0 ≤ s.mp - (k : Int) ∧ s.mp - (k : Int) < (lim.memory : Int)))
    ∧ (∀ s', step code lim s (.getVar k) sp = .next s' →
        ∃ v, memGet s (s.mp - (k : Int)) = some v ∧ s' = advance (push1 s v)) := by
  rcases step_getVar code lim s k sp with ⟨h1, h2⟩ | ⟨h1, ⟨v, hv, h2⟩ | ⟨hv, h2⟩⟩
  · rw [h2]; exact ⟨⟨fun _ => h1, fun _ => rfl⟩, by intro s' e; cases e⟩
  · rw [h2]; exact ⟨⟨fun e => (by cases e), fun hn => absurd h1 hn⟩, by intro s' e; cases e; exact ⟨v, hv, rfl⟩⟩
  · rw [h2]; exact ⟨⟨fun e => (by simp at e), fun hn => absurd h1 hn⟩, by intro s' e; cases e⟩

/-- `setVar k` writes only the cell `mp - k`, and only if `0 ≤ mp - k < lim.memory`; otherwise
— exactly then, if there is an operand — it answers the panic "memory index". -/
theorem memory_bound_setVar (code : Code) (lim : Limits) (s : VMState) (k : Nat) (sp : Span)
    (x : SVal) (rest : List SVal) (hs : s.stack = x :: rest) :
    (step code lim s (.setVar k) sp = .panic "memory index" s
        ↔ ¬ (0 ≤ s.mp - (k : Int) ∧ s.mp - (k : Int) < (lim.memory : Int)))
    ∧ (∀ s', step code lim s (.setVar k) sp = .next s' →
        s' = advance (memSet { s with stack := rest } (s.mp - (k : Int)) x.v)) := by
  rcases step_setVar code lim s k sp with ⟨h1, _⟩ | ⟨x', rest', hs', ⟨h1, h2⟩ | ⟨h1, h2⟩⟩
  · rw [hs] at h1; cases h1
  · rw [h2]; exact ⟨⟨fun _ => h1, fun _ => rfl⟩, by intro s' e; cases e⟩
  · rw [hs] at hs'; cases hs'
    rw [h2]; exact ⟨⟨fun e => (by cases e), fun hn => absurd h1 hn⟩, by intro s' e; cases e; rfl⟩

/-- C09, memory stays within the configured size: if initially the memory pointer is below the limit and the cells
lie in `[0, lim.memory)` (`MemOK`, true of a fresh core), then so in every reachable state, and at most `lim.memory`
cells are in use. -/
theorem memory_bound (code : Code) (lim : Limits) (quantum : Nat) (cancelAt : Option Nat) (s₀ s : VMState)
    (h : Reach code lim quantum cancelAt s₀ s) (h0 : MemOK lim s₀) :
    s.mp < (lim.memory : Int) ∧ (∀ kv ∈ s.mem, 0 ≤ kv.1 ∧ kv.1 < (lim.memory : Int))
      ∧ s.mem.length ≤ lim.memory := by
  have hok := (reach_bound h).2.2 h0
  exact ⟨hok.1, hok.2.1, hok.length_le⟩

/-- A fresh core (only `calls` set) satisfies `MemOK`, the hypothesis of `memory_bound`, whenever the memory limit is
positive. -/
theorem memOK_fresh (lim : Limits) (h : 0 < lim.memory) (calls : List Frame) :
    MemOK lim { calls := calls } := by
  refine ⟨by simpa using h, by simp, by simp⟩

/-- C09, exceeding a limit is answered by the corresponding fatal interrupt, not by `Outcome.panic` (a Go panic). A
poll that finds the operand stack or the call stack above its limit ends the run with `fatal "StackOverFlow"` in the
polled state, for every amount of fuel; an `addMp` that takes the memory pointer to the limit ends the run's quantum
with `fatal "OutOfMemoryError"`. -/
theorem limit_interrupt_not_panic (code : Code) (lim : Limits) (quantum : Nat) (cancelAt : Option Nat)
    (s : VMState) :
    (PollExceeds lim cancelAt s →
      ∃ msg sp, ∀ fuel, run code lim quantum cancelAt (fuel + 1) s = .fatal "StackOverFlow" msg sp (pollState s))
    ∧ (∀ f rest c n sp, s.calls = f :: rest → findCode code f.fn = some c → c[f.ip]? = some (.addMp n, sp) →
        (lim.memory : Int) ≤ s.mp + n →
        ∃ msg s', s'.mp = s.mp + n ∧
          ∀ k, runQuantum code lim (k + 1) s = .inr (.fatal "OutOfMemoryError" msg sp s')) := by
  refine ⟨run_exceeds code lim quantum cancelAt s, fun f rest c n sp hc hf hi h => ?_⟩
  obtain ⟨msg, s', h1, _, _, h4⟩ := runQuantum_oom hc hf hi h
  exact ⟨msg, s', h1, h4⟩

/-- A poll has one of three answers: terminate (cancelled), `StackOverFlow` (a limit is exceeded),
or the run goes on. -/
theorem poll_cases (lim : Limits) (cancelAt : Option Nat) (s : VMState) (h : s.calls ≠ []) :
    cancelled cancelAt (pollState s) = true ∨ PollExceeds lim cancelAt s ∨ PollPass lim cancelAt s :=
  poll_trichotomy lim cancelAt s h

/-- A fatal outcome comes from a poll that found a limit exceeded (then it is `StackOverFlow` in the polled state) or
from an instruction of the quantum after a poll that passed (a fatal of a builtin, `OutOfMemoryError`, an uncaught
throw). -/
theorem fatal_origin (code : Code) (lim : Limits) (quantum : Nat) (cancelAt : Option Nat) (fuel : Nat)
    (s₀ : VMState) (k msg : String) (sp : Span) (s : VMState)
    (h : run code lim quantum cancelAt fuel s₀ = .fatal k msg sp s) :
    ∃ p, PollReach code lim quantum cancelAt s₀ p ∧
      ((PollExceeds lim cancelAt p ∧ k = "StackOverFlow" ∧ s = pollState p)
        ∨ (PollPass lim cancelAt p ∧ runQuantum code lim quantum (pollState p) = .inr (.fatal k msg sp s))) := by
  obtain ⟨p, hp, ⟨hx, _, _, h⟩ | h⟩ := run_origin_stopped h (.inl ⟨_, _, _, _, rfl⟩)
  · cases h; exact ⟨p, hp, .inl ⟨hx, rfl, rfl⟩⟩
  · exact ⟨p, hp, .inr h⟩

/-- C09, a program that stays within the limits is never stopped by them: if at every poll of the run the operand
stack and the call stack are within their limits, a fatal outcome was raised by an instruction executed after a poll
that passed, not by a poll. -/
theorem no_false_stop (code : Code) (lim : Limits) (quantum : Nat) (cancelAt : Option Nat) (fuel : Nat)
    (s₀ : VMState) (k msg : String) (sp : Span) (s : VMState)
    (hwithin : ∀ p, PollReach code lim quantum cancelAt s₀ p →
      p.stack.length ≤ lim.stack ∧ p.calls.length ≤ lim.callStack)
    (h : run code lim quantum cancelAt fuel s₀ = .fatal k msg sp s) :
    ∃ p, PollReach code lim quantum cancelAt s₀ p ∧ PollPass lim cancelAt p ∧
      runQuantum code lim quantum (pollState p) = .inr (.fatal k msg sp s) := by
  obtain ⟨p, hp, ⟨⟨_, _, hx⟩, _, _⟩ | ⟨hpass, hq⟩⟩ := fatal_origin code lim quantum cancelAt fuel s₀ k msg sp s h
  · have := hwithin p hp; omega
  · exact ⟨p, hp, hpass, hq⟩

/-- Fuel only bounds the number of polls of the model's `run`: more fuel does not change an outcome other than
`outOfFuel`. -/
theorem fuel_monotone (code : Code) (lim : Limits) (quantum : Nat) (cancelAt : Option Nat) (fuel k : Nat)
    (s : VMState) (o : VM.Outcome) (h : run code lim quantum cancelAt fuel s = o)
    (hne : ∀ s', o ≠ .outOfFuel s') : run code lim quantum cancelAt (fuel + k) s = o := by
  induction fuel generalizing s with
  | zero => rw [run_zero] at h; exact absurd h.symm (hne s)
  | succ fuel ih =>
    have e : fuel + 1 + k = (fuel + k) + 1 := by omega
    rw [e]
    by_cases hn : s.calls = []
    · rw [run_nil hn] at h ⊢; exact h
    · rcases poll_trichotomy lim cancelAt s hn with hc | hx | hp
      · rw [run_cancelled hn hc] at h ⊢; exact h
      · obtain ⟨msg, sp, e1⟩ := run_exceeds code lim quantum cancelAt s hx
        rw [e1] at h ⊢; exact h
      · rw [run_pass hp] at h ⊢
        cases hq : runQuantum code lim quantum (pollState s) with
        | inl s' =>
          simp only [hq] at h ⊢
          exact ih s' h
        | inr o' => simp only [hq] at h ⊢; exact h

section Examples

private def sp0 : Span := ⟨0, 0, 0, 0⟩
private def mk (l : List RInstr) : FnCode := l.map (·, sp0)

private def pushes : Code := [{ name := "main", code := mk (List.replicate 8 (.copyPush (.int 7))) }]
private def limS : Limits := { callStack := 10, stack := 1, memory := 10 }
/-- Start with the operand stack exactly at the limit. -/
private def sAt : VMState := { calls := [⟨"main", 0⟩], stack := [⟨.null, none⟩] }

/-- The bound of `stack_bound` is attained: with limit 1 and quantum 3 the run is stopped by
`StackOverFlow` with `1 + 3` entries on the stack — an overshoot of exactly one quantum. -/
theorem stack_bound_tight :
    (match run pushes limS 3 none 5 sAt with
      | .fatal k _ _ s => k == "StackOverFlow" && s.stack.length == limS.stack + 3
      | _ => false) = true := by decide

/-- `Reach` is inhabited beyond the initial state: the state after the first quantum has 4 entries (`stack_bound`
says `≤ max 1 1 + 3`). -/
example : ∃ s, Reach pushes limS 3 none sAt s ∧ s.stack.length = 4 := by
  have hd : (match runQuantum pushes limS 3 (pollState sAt) with
      | .inl s => s.stack.length == 4 | .inr _ => false) = true := by decide
  cases h : runQuantum pushes limS 3 (pollState sAt) with
  | inr o => rw [h] at hd; cases hd
  | inl s =>
    rw [h] at hd
    refine ⟨s, ⟨s, .next .start ⟨by decide, by decide, by decide, by decide⟩ h, Or.inl rfl⟩, by simpa using hd⟩

/-- Exceeding the memory limit is `OutOfMemoryError`. -/
example : (match run [{ name := "main", code := mk [.addMp 20, .ret] }] limS 3 none 5 { calls := [⟨"main", 0⟩] } with
      | .fatal k _ _ s => k == "OutOfMemoryError" && s.mp == 20
      | _ => false) = true := by decide

/-- Exceeding the call-stack limit (unbounded recursion) is `StackOverFlow` with at most
`quantum` frames of overshoot. -/
example : (match run [{ name := "f", code := mk [.callImm "f", .ret] }] { callStack := 4, stack := 5, memory := 5 } 3 none 9
        { calls := [⟨"f", 0⟩] } with
      | .fatal k _ _ s => k == "StackOverFlow" && decide (s.calls.length ≤ 4 + 3)
      | _ => false) = true := by decide

/-- A loop of bounded stack use is not stopped: 40 polls of a 3-instruction loop under limit 1. -/
example : (match run [{ name := "main", code := mk [.copyPush (.int 1), .drop, .jump 0] }]
        { callStack := 1, stack := 1, memory := 1 } 3 none 40 { calls := [⟨"main", 0⟩] } with
      | .outOfFuel s => s.stack.length == 0 && s.polls == 40
      | _ => false) = true := by decide +kernel

/-- A fatal that is not the poll's: an uncaught `throw` (cf. `fatal_origin`). -/
example : (match run [{ name := "main", code := mk [.copyPush (.str "x"), .throw] }] limS 3 none 5 { calls := [⟨"main", 0⟩] } with
      | .fatal k _ _ _ => k == "UncaughtThrow"
      | _ => false) = true := by decide

/-- Discrepancy, by design of the poll: the limit is only looked at every `quantum` instructions, so a program may
hold more entries than the limit between two polls and complete normally. Here the stack reaches 3 under limit 1 and
the run ends `ok`. -/
theorem exceeded_between_polls_unnoticed :
    (match run [{ name := "main", code := mk [.copyPush (.int 1), .copyPush (.int 1), .copyPush (.int 1), .drop, .drop, .drop, .ret] }]
        { callStack := 1, stack := 1, memory := 1 } 50 none 5 { calls := [⟨"main", 0⟩] } with
      | .ok s => s.stack.length == 0
      | _ => false) = true := by decide

/-- Discrepancy: "never by crashing the host" needs the bytecode checker. `addMp` with a negative operand is not
checked against 0, so hand-made code can move the memory pointer below 0 and the next slot access is the panic
"memory index" (a Go slice index out of range). `hcheck` rejects this code (`HmsProofs.C02`). -/
theorem unchecked_code_can_panic :
    (match run [{ name := "main", code := mk [.addMp (-1), .getVar 0, .ret] }] limS 3 none 5 { calls := [⟨"main", 0⟩] } with
      | .panic why _ => why == "memory index"
      | _ => false) = true
    ∧ hcheck [{ name := "main", code := mk [.addMp (-1), .getVar 0, .ret] }] = false := by decide

end Examples

end HmsProofs.C09
