import Hms.Mod.Graph
import Hms.Mod.Link
import HmsProofs.Lemmas.ModImport
import HmsProofs.Lemmas.ModCycle
import HmsProofs.Lemmas.ModLink
import HmsProofs.Lemmas.ModInit
/-!
# C15 — modules are isolated and linked by name and visibility

The model (`Hms/Mod/*`) mirrors `analyzer/topLevel.go importItem`, `analyzer/importGraph.go` (as repaired
by A8), `compiler/compiler.go compileProgram` + `compiler/util.go getMangledFn/getMangled` (as repaired by
V31), `interpreter/topLevel.go importItem` (as repaired by V24). The tie to the Go code is checked on every
run by `props/C15.py`.
-/
namespace HmsProofs.C15
open Hms.Mod

/-- An item that the consulted tables do not have with the requested kind, or have without `pub`, is refused
(≥ 1 diagnostic of a refusing class); an importable item raises nothing except "already exists in current
scope" when the name is taken. -/
theorem import_decision_item (t c : Tables) (it : ImpItem) :
    (itemLegal t it = false → ∃ d ∈ (importOne t c it).1, d.isRefusal = true) ∧
    (itemLegal t it = true →
      (importOne t c it).1 = (match it.kind with | .type => dupType c it.name | .normal => dupValue c it.name)) :=
  ⟨importOne_illegal t c it, importOne_legal t c it⟩

/-- `importItem` as a whole (`rec` = the recursive analysis of the target): a module the host does not know
gives `nomodule` at the statement; a requested item missing, of the wrong kind or private gives a refusing
diagnostic at the statement; if every item is importable and new the statement adds nothing. A first-time import
that closes an import cycle is `import_decision_cyclic`; a module importing itself (`imp.target == name`) is in
neither. -/
theorem import_decision (ms : Modules) (rec : AState → String → AState) (name : String)
    (st : AState) (idx : Nat) (imp : Import) :
    (findMod ms imp.target = none → ⟨.nomodule, name, some idx⟩ ∈ (importStmt ms rec name st idx imp).diags) ∧
    (∀ t, findMod ms imp.target = some t → (imp.target == name) = false →
      ∀ tt, (stateBeforeItems ms rec name st idx imp).get imp.target = some tt →
        ((∃ it ∈ imp.items, itemLegal tt it = false) →
          ∃ d ∈ (importStmt ms rec name st idx imp).diags,
            d.module = name ∧ d.stmt = some idx ∧ d.cls.isRefusal = true) ∧
        ((∀ it ∈ imp.items, itemLegal tt it = true) →
          freshItems (((stateBeforeItems ms rec name st idx imp).get name).getD Tables.fresh) imp.items = true →
          (importStmt ms rec name st idx imp).diags = (stateBeforeItems ms rec name st idx imp).diags)) :=
  by
  refine ⟨fun h => ?_, fun t h hne tt ht => ?_⟩
  · unfold importStmt
    simp only [h]
    rw [set_diags]
    exact mem_addDiags List.mem_cons_self
  · rw [importStmt_found h]
    simp only [hne, ht, Bool.false_eq_true, if_false]
    refine ⟨fun hbad => ?_, fun hok hfresh => ?_⟩
    · obtain ⟨c, hc, hr⟩ := importItems_illegal tt _ imp.items hbad
      exact ⟨⟨c, name, some idx⟩, List.mem_append_right _ (List.mem_map.mpr ⟨c, hc, rfl⟩), rfl, rfl, hr⟩
    · rw [importItems_legal tt _ imp.items hok hfresh, List.map_nil, List.append_nil]

/-- A first-time import that puts the importing module on an import cycle is reported as cyclic. -/
theorem import_decision_cyclic (ms : Modules) (rec : AState → String → AState) (name : String)
    (st : AState) (idx : Nat) (imp : Import) (t : Module) (h : findMod ms imp.target = some t)
    (hnew : ((st.set name { ((st.get name).getD Tables.fresh) with importsModules := ((st.get name).getD Tables.fresh).importsModules ++ [imp.target] }).get imp.target).isSome = false)
    (hc : importGraphIsCyclic (rec (st.set name { ((st.get name).getD Tables.fresh) with importsModules := ((st.get name).getD Tables.fresh).importsModules ++ [imp.target] }) imp.target).adj name = true) :
    ⟨.cyclic, name, some idx⟩ ∈ (importStmt ms rec name st idx imp).diags := by
  rw [importStmt_found h]
  apply List.mem_append_left
  unfold stateBeforeItems
  simp only [hnew, hc, Bool.false_eq_true, if_false, if_true]
  exact mem_addDiags (List.mem_singleton.mpr rfl)

/-- A private function, a missing item, a wrong kind, a missing module and a legal import, decided by the
whole analysis of a two-module graph. -/
example :
    let a : Module := { name := "a", imports := [], inits := [("x", "a.x")], bodies := [], items := [⟨.glob, "x", true⟩, ⟨.type, "T", true⟩, ⟨.fn, "f", false⟩, ⟨.fn, "main", false⟩] }
    let main : Module := { name := "main", inits := [], bodies := [], items := [⟨.fn, "main", false⟩], imports := [⟨"a", [⟨"x", .normal⟩, ⟨"T", .type⟩]⟩, ⟨"a", [⟨"f", .normal⟩]⟩, ⟨"a", [⟨"g", .normal⟩, ⟨"x", .type⟩]⟩, ⟨"zz", [⟨"q", .normal⟩]⟩] }
    analyze [main, a] =
      [⟨.privfn, "main", some 1⟩, ⟨.noitem, "main", some 2⟩, ⟨.notype, "main", some 2⟩, ⟨.nomodule, "main", some 3⟩] := by
  decide +kernel

/-- `importGraphIsCyclic` (with the visited set of the repair A8) reports a cycle iff the start module can
be reached from itself along at least one import edge. -/
theorem cycle_check_correct (adj : Adj) (start : String) :
    importGraphIsCyclic adj start = true ↔ Path adj start start :=
  Hms.Mod.cycle_check_correct adj start

/-- Every module is expanded at most once, so `number of modules + 1` levels of recursion suffice. -/
theorem cycle_check_terminates (adj : Adj) (start : String) (fuel : Nat) (h : adj.length + 1 ≤ fuel) :
    (cyclicFrom adj start fuel [start] start).1 = importGraphIsCyclic adj start := by
  rw [Bool.eq_iff_iff, cycle_check_correct]
  exact cyclicFrom_correct adj start fuel
    (Nat.lt_of_lt_of_le (Nat.lt_succ_of_le (Hms.Pos.Imports.white_keys_le adj [start])) h)

/-- Finding A8: without the visited set the search does not return on `main → a → b → a`. -/
theorem cycle_check_counterexample_A8 :
    ∀ fuel, cyclicFromUnfixed [("main", ["a"]), ("a", ["b"]), ("b", ["a"])] "main" fuel "main" = none
  | 0 => rfl
  | fuel + 1 => by
    have hl : List.lookup "main" [("main", ["a"]), ("a", ["b"]), ("b", ["a"])] = some ["a"] := rfl
    have hne : ("a" == "main") = false := rfl
    simp only [cyclicFromUnfixed, hl, List.foldl_cons, List.foldl_nil, hne, Bool.false_eq_true, if_false]
    exact (unfixed_two_cycle (b := "b") rfl rfl rfl rfl fuel).1

/-- VM start-up (`NewVM` runs the entry module's `@init`, then the host spawns `main`): every module's
globals are initialised exactly once, before `main`, in whatever order the compiler visited the modules. -/
theorem init_once_vm (ms ord : Modules) (entry : String) (hd : namesDistinct ms = true) (ho : ord.Perm ms)
    (he : (findMod ms entry).isSome = true) :
    (∀ m ∈ ms, (startup ord entry).count (.init m.name) = 1) ∧
    (startup ord entry).getLast? = some .main ∧ (startup ord entry).count .main = 1 :=
  Hms.Mod.init_once_vm ms ord entry hd ho he

/-- The entry module's `@init` calls every other module's `@init` exactly once and its own never; every
`@init` ends with `Return`. The proof does not use `he`. -/
theorem init_calls_once (ms ord : Modules) (entry : String) (hd : namesDistinct ms = true) (ho : ord.Perm ms)
    (e : Module) (he : e ∈ ms) (hn : e.name = entry) (m : Module) (hm : m ∈ ms) :
    (initOf ord entry e).count (.callInit m.name) = (if m.name = entry then 0 else 1) ∧
    (initOf ord entry m).getLast? = some .ret :=
  ⟨Hms.Mod.init_calls_once ms ord entry hd ho e he hn m hm, Hms.Mod.init_nonempty ord entry m⟩

/-- Finding V31: unrepaired, the `@init` of an imported module without globals is empty, and the VM panics
the host when the entry `@init` calls it. -/
theorem init_counterexample_V31 :
    ∃ ms : Modules, namesDistinct ms = true ∧ startupPanicsUnfixed ms "main" = true :=
  Hms.Mod.init_counterexample_V31

/-- Finding V24: the unrepaired interpreter executes (and so re-initialises) a module once per import
statement, twice in a diamond; the repaired one once. -/
theorem init_counterexample_V24 :
    ∃ ms : Modules, namesDistinct ms = true ∧
      (treeExecsUnfixed ms 10 "main").count "a" = 2 ∧ ((treeExecs ms 10 [] "main").1).count "a" = 1 := by
  refine ⟨[{ name := "main", imports := [⟨"b", [⟨"f", .normal⟩]⟩, ⟨"c", [⟨"g", .normal⟩]⟩],
             items := [⟨.fn, "main", false⟩], inits := [], bodies := [("main", [.call "f", .call "g"])] },
           { name := "b", imports := [⟨"a", [⟨"h", .normal⟩]⟩], items := [⟨.fn, "f", true⟩, ⟨.fn, "main", false⟩],
             inits := [], bodies := [("f", [.call "h"]), ("main", [])] },
           { name := "c", imports := [⟨"a", [⟨"h", .normal⟩]⟩], items := [⟨.fn, "g", true⟩, ⟨.fn, "main", false⟩],
             inits := [], bodies := [("g", [.call "h"]), ("main", [])] },
           { name := "a", imports := [], items := [⟨.glob, "x", false⟩, ⟨.fn, "h", true⟩, ⟨.fn, "main", false⟩],
             inits := [("x", "a.x")], bodies := [("h", [.bump "x", .say "a.h" ["x"]]), ("main", [])] }], ?_, ?_, ?_⟩
  · decide +kernel
  · decide +kernel
  · decide +kernel

/-- Every name that resolves lexically is linked to that definition, for all module graphs. False without
`noCrossModuleClash` (finding V22): `link_correct_full_is_false`. -/
def link_correct_full : Prop :=
  ∀ (ms ord any : Modules), namesDistinct ms = true → ord.Perm ms → any.Perm ms →
    ∀ m ∈ ms, ∀ n d : String,
      (resolveFn ms m n = some d → linkFn any m n = some d) ∧
      (resolveGlob ms m n = some d → linkGlob ord n = some d)

/-- Every call and global reference in module `m` is linked to `m`'s own or explicitly imported definition,
in whatever orders the compiler visits the modules, provided no two modules clash on a name
(`noCrossModuleClash`: the hypothesis finding V22 costs). The proof does not use `hd`. -/
theorem link_correct_partial (ms ord any : Modules) (hd : namesDistinct ms = true)
    (hc : noCrossModuleClash ms = true) (ho : ord.Perm ms) (ha : any.Perm ms)
    (m : Module) (hm : m ∈ ms) (n d : String) :
    (resolveFn ms m n = some d → linkFn any m n = some d) ∧
    (resolveGlob ms m n = some d → linkGlob ord n = some d) :=
  Hms.Mod.link_correct_partial ms ord any hd hc ho ha m hm n d

/-- Hence an accepted program (every name resolves lexically) runs its functions against the globals of
their defining modules, as lexical per-module resolution prescribes. -/
theorem run_isolated_partial (ms ord any : Modules) (hd : namesDistinct ms = true)
    (hc : noCrossModuleClash ms = true) (hcl : closed ms = true) (ho : ord.Perm ms) (ha : any.Perm ms)
    (fuel : Nat) : runLinked ms ord any fuel = runLex ms fuel :=
  runMain_eq_lex (R := linked ord any) (Hms.Mod.link_correct_partial ms ord any hd hc ho ha) hcl fuel

/-- Finding V22, globals: two modules with a private global of the same name; which one both functions
print depends on the visiting order, and under the first order it is not what the source says. -/
theorem link_counterexample_V22_global :
    ∃ ms ord₁ ord₂ : Modules, namesDistinct ms = true ∧ closed ms = true ∧ ord₁.Perm ms ∧ ord₂.Perm ms ∧
      runLinked ms ord₁ ms 100 ≠ runLinked ms ord₂ ms 100 ∧ runLinked ms ord₁ ms 100 ≠ runLex ms 100 :=
  Hms.Mod.link_counterexample_V22_global

/-- Finding V22, functions: `main` imports `g` from `a`, `b` has a private `g`. -/
theorem link_counterexample_V22_fn :
    ∃ ms any₁ any₂ : Modules, namesDistinct ms = true ∧ closed ms = true ∧ any₁.Perm ms ∧ any₂.Perm ms ∧
      runLinked ms ms any₁ 100 ≠ runLinked ms ms any₂ 100 :=
  Hms.Mod.link_counterexample_V22_fn

theorem link_correct_full_is_false : ¬ link_correct_full := by
  intro h
  -- `a` and `b` both define the global `x`; `a`'s own `x` must be linked to `a` under every order
  let a : Module := { name := "a", imports := [], items := [⟨.glob, "x", false⟩], inits := [], bodies := [] }
  let b : Module := { name := "b", imports := [], items := [⟨.glob, "x", false⟩], inits := [], bodies := [] }
  have := (h [a, b] [a, b] [a, b] (by decide +kernel) (List.Perm.refl _) (List.Perm.refl _) a List.mem_cons_self "x" "a").2 (by decide +kernel)
  revert this
  decide +kernel

/-- Non-vacuity of `link_correct_partial`/`run_isolated_partial`: a three-module graph with imports of
functions and globals, a diamond, and private functions of the same name in two modules. -/
example :
    let a : Module := { name := "a", imports := [], inits := [("x", "a.x")], items := [⟨.glob, "x", true⟩, ⟨.fn, "g", true⟩, ⟨.fn, "h", false⟩, ⟨.fn, "main", false⟩], bodies := [("g", [.say "a.g" ["x"], .bump "x", .call "h"]), ("h", [.say "a.h" []]), ("main", [])] }
    let b : Module := { name := "b", imports := [⟨"a", [⟨"g", .normal⟩, ⟨"x", .normal⟩]⟩], inits := [("y", "b.y")], items := [⟨.glob, "y", true⟩, ⟨.fn, "f", true⟩, ⟨.fn, "h", false⟩, ⟨.fn, "main", false⟩], bodies := [("f", [.say "b.f" ["x", "y"], .call "g", .call "h"]), ("h", [.say "b.h" []]), ("main", [])] }
    let main : Module := { name := "main", inits := [], items := [⟨.fn, "main", false⟩], imports := [⟨"a", [⟨"g", .normal⟩, ⟨"x", .normal⟩]⟩, ⟨"b", [⟨"f", .normal⟩, ⟨"y", .normal⟩]⟩], bodies := [("main", [.say "main" ["x", "y"], .call "f", .call "g", .say "main" ["x", "y"]])] }
    namesDistinct [main, a, b] = true ∧ noCrossModuleClash [main, a, b] = true ∧ closed [main, a, b] = true ∧
      runLex [main, a, b] 100 =
        some "main a.x b.y\nb.f a.x b.y\na.g a.x\na.h\nb.h\na.g a.x!\na.h\nmain a.x!! b.y\n" := by
  decide +kernel

end HmsProofs.C15
