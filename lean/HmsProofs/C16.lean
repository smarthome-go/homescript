import Hms.Conc.Invoke
import HmsProofs.Lemmas.ConcProtocol
import HmsProofs.Lemmas.ConcInvoke
/-!
# C16 — host invocations on one VM are correct, repeatable and leave no residue

The model is `Hms/Conc/Invoke.lean` (host layer) on top of `Hms/Conc/Protocol.lean` (the `Wait` protocol
as repaired by V18/V19/H1). Everything is stated for all value types, globals types, programs (callee
bodies are arbitrary functions) and invocation histories.
-/
namespace HmsProofs.C16
open Hms.Conc

/-- Reversal, pre-push and the callee's pops bind parameter `i` to argument `i`, and leave the stack empty. -/
theorem args_in_order {V : Type} (args : List V) :
    popN args.length (prePush (invert args)) = (args, []) :=
  popN_prePush_invert args

/-- On a VM that has not failed, a valid call runs the callee's body on exactly the host's arguments and
the current globals. -/
theorem body_sees_args {V G : Type} (prog : Prog V G) (s : VMState V G) (c : Call V) (sg : FnSig)
    (hsig : prog.sig c.fn = some sg) (hlen : c.args.length = sg.params)
    (hq : s.quiescent) (hc : s.proto.cancelled = false) :
    (invoke Cfg.fixed prog s c).1.globals = (prog.body c.fn c.args s.globals).globals
      ∧ (invoke Cfg.fixed prog s c).2.2 = (prog.body c.fn c.args s.globals).out := by
  simp only [invoke_quiescent prog s c sg hsig hlen hq, invokeSpec_live prog s c sg hlen hc]
  split <;> exact ⟨rfl, rfl⟩

/-- The host receives the value the callee left on top of its stack if it passes the declared return type's
assertion (otherwise the host call panics: never a wrong value); a function whose declared type carries no
value yields `nil`; the finished core holds nothing but that value. -/
theorem result_is_stack_top {V G : Type} (prog : Prog V G) (s : VMState V G) (c : Call V) (sg : FnSig)
    (hsig : prog.sig c.fn = some sg) (hlen : c.args.length = sg.params)
    (hq : s.quiescent) (hc : s.proto.cancelled = false) (v : Option V)
    (hb : (prog.body c.fn c.args s.globals).res = .ret v) :
    (invoke Cfg.fixed prog s c).2.1 =
        (if sg.hasValue then
          match v with
          | some x => if prog.typeOk c.fn x then .ret (some x) else .hostPanic "return type assertion failed"
          | none => .hostPanic "index out of range"
        else .ret none)
      ∧ (invoke Cfg.fixed prog s c).1.last = some { stack := v.toList, frames := 0 } := by
  simp only [invoke_quiescent prog s c sg hsig hlen hq, invokeSpec_live prog s c sg hlen hc, hb]
  cases v <;> simp [handleTermination]

/-- Globals persist: what one call's body leaves is what the next call's body receives. -/
theorem globals_persist {V G : Type} (prog : Prog V G) (s : VMState V G) (c₁ c₂ : Call V) (sg₁ sg₂ : FnSig)
    (h₁ : prog.sig c₁.fn = some sg₁) (l₁ : c₁.args.length = sg₁.params)
    (h₂ : prog.sig c₂.fn = some sg₂) (l₂ : c₂.args.length = sg₂.params)
    (hq : s.quiescent) (hc : s.proto.cancelled = false) (v : Option V)
    (hb : (prog.body c₁.fn c₁.args s.globals).res = .ret v) :
    let s₁ := (invoke Cfg.fixed prog s c₁).1
    (invoke Cfg.fixed prog s₁ c₂).1.globals
      = (prog.body c₂.fn c₂.args (prog.body c₁.fn c₁.args s.globals).globals).globals := by
  intro s₁
  have hq₁ : s₁.quiescent := invoke_preserves_quiescent prog s c₁ hq
  have hg : s₁.globals = (prog.body c₁.fn c₁.args s.globals).globals :=
    (body_sees_args prog s c₁ sg₁ h₁ l₁ hq hc).1
  rw [(body_sees_args prog s₁ c₂ sg₂ h₂ l₂ hq₁ (invoke_return_live prog s c₁ sg₁ h₁ l₁ hq hc v hb)).1, hg]

/-- Every invocation runs on a fresh core: the answer of a call (result up to the core number, output,
globals afterwards, finished core) depends on the VM only through its globals and its cancelled flag, so
nothing of an earlier core (stack, frames, handlers, core list, counters) is visible to it. -/
theorem fresh_core_isolated {V G : Type} (prog : Prog V G) (s₁ s₂ : VMState V G) (c : Call V)
    (hq₁ : s₁.quiescent) (hq₂ : s₂.quiescent)
    (hg : s₁.globals = s₂.globals) (hc : s₁.proto.cancelled = s₂.proto.cancelled) :
    let r₁ := invoke Cfg.fixed prog s₁ c
    let r₂ := invoke Cfg.fixed prog s₂ c
    r₁.2.1.anon = r₂.2.1.anon ∧ r₁.2.2 = r₂.2.2 ∧ r₁.1.globals = r₂.1.globals ∧
      (∀ sg, prog.sig c.fn = some sg → c.args.length = sg.params → r₁.1.last = r₂.1.last) := by
  intro r₁ r₂
  rcases invoke_cases prog c with ⟨_, hbad, e⟩ | ⟨sg, _, _, e⟩
  · simp only [r₁, r₂, e]
    exact ⟨trivial, trivial, hg, fun sg h l => absurd l (hbad sg h)⟩
  · simp only [r₁, r₂, e _ hq₁, e _ hq₂, invokeSpec, hg, hc]
    refine ⟨?_, trivial, trivial, fun _ _ _ => trivial⟩
    split <;> rfl

/-- After every call of every history the core list is empty again. -/
theorem cores_empty_after_wait {V G : Type} (prog : Prog V G) (cs : List (Call V)) (s : VMState V G)
    (hq : s.quiescent) : (runHistory Cfg.fixed prog s cs).1.proto.listed = [] :=
  (history_quiescent prog s cs hq).1.1

/-- After every call of every history the cores lock can be taken: no read lock is left behind, `Wait` is
not inside. -/
theorem lock_free_after_wait {V G : Type} (prog : Prog V G) (cs : List (Call V)) (s : VMState V G)
    (hq : s.quiescent) :
    (runHistory Cfg.fixed prog s cs).1.proto.lockFree = true ∧ (runHistory Cfg.fixed prog s cs).1.proto.leaked = 0 :=
  have h := (history_quiescent prog s cs hq).1
  ⟨quiescent_lockFree h, h.2.1⟩

/-- No call of any history blocks (`blocked`: `spawnCore` cannot take the cores lock, or `Wait` does not
return). -/
theorem never_blocks {V G : Type} (prog : Prog V G) (cs : List (Call V)) (s : VMState V G)
    (hq : s.quiescent) : ∀ r ∈ (runHistory Cfg.fixed prog s cs).2, r.1 ≠ .blocked :=
  (history_quiescent prog s cs hq).2

/-- After a failed call the VM answers every later call, never with a value: a valid call gets the
termination interrupt, an ill-formed one a host panic. -/
theorem after_failure_answers {V G : Type} (prog : Prog V G) (s : VMState V G) (c : Call V)
    (cs : List (Call V)) (hq : s.quiescent) (hf : (invoke Cfg.fixed prog s c).2.1.isFailure = true) :
    ∀ r ∈ (runHistory Cfg.fixed prog (invoke Cfg.fixed prog s c).1 cs).2,
      r.1 ≠ .blocked ∧ r.1.isRet = false := by
  -- a quiescent, cancelled VM stays so and answers no call with a value
  refine (runHistory_invariant prog (P := fun s => s.quiescent ∧ s.proto.cancelled = true) ?_ cs _
    ⟨invoke_preserves_quiescent prog s c hq, invoke_failure_cancels prog s c hq hf⟩).2
  intro s d ⟨hq, hc⟩
  refine ⟨⟨invoke_preserves_quiescent prog s d hq, invoke_cancelled_mono prog s d hq hc⟩,
    invoke_not_blocked prog s d hq, ?_⟩
  rcases invoke_cases prog d with ⟨_, _, e⟩ | ⟨sg, hsig, hlen, _⟩
  · rw [e]; rfl
  · rw [(invoke_on_cancelled prog s d sg hsig hlen hq hc).1]; rfl

/-- Every history of invocations is a run of the protocol's transition system, so the invariants proved
over all interleavings (C10, C17) hold along it. Callee bodies cannot fabricate a termination (`hterm`). -/
theorem invocations_are_protocol_runs {V G : Type} (prog : Prog V G) (cs : List (Call V)) (s : VMState V G)
    (hterm : ∀ f a g k m, (prog.body f a g).res ≠ .fail .terminate k m)
    (hr : Reach Cfg.fixed s.proto) (hq : s.quiescent) :
    Reach Cfg.fixed (runHistory Cfg.fixed prog s cs).1.proto :=
  (runHistory_invariant prog (P := fun s => Reach Cfg.fixed s.proto ∧ s.quiescent) (Q := fun _ => True)
    (fun s c ⟨hr, hq⟩ => ⟨⟨invoke_reach prog s c hterm hr hq.2.2, invoke_preserves_quiescent prog s c hq⟩,
      trivial⟩) cs s ⟨hr, hq⟩).1.1

/-! ## Non-vacuity -/

def demo : Prog Int Int where
  sig := fun f => match f with
    | "sub" => some ⟨2, true⟩ | "bump" => some ⟨0, true⟩ | "boom" => some ⟨0, true⟩ | "nul" => some ⟨0, false⟩
    | _ => none
  body := fun f args g => match f, args with
    | "sub", [a, b] => ⟨g, "", .ret (some (a - b))⟩
    | "bump", [] => ⟨g + 1, "b", .ret (some (g + 1))⟩
    | "boom", [] => ⟨g, "", .fail .fatal "UncaughtThrow" "bang"⟩
    | _, _ => ⟨g + 100, "", .ret none⟩
  typeOk := fun _ _ => true

def demoHistory : List (Call Int) :=
  [⟨"sub", [10, 3]⟩, ⟨"bump", []⟩, ⟨"bump", []⟩, ⟨"nul", []⟩, ⟨"boom", []⟩, ⟨"sub", [1, 1]⟩, ⟨"bump", []⟩]

example : (VMState.init (V := Int) (0 : Int)).quiescent := by simp [VMState.quiescent, VMState.init, PState.init, WaitPc.active]

/-- Argument order (10 - 3 = 7), persistent globals (1, 2), a `null` function, a failure and the answers
after it. -/
example : ((runHistory Cfg.fixed demo (VMState.init 0) demoHistory).2.map (·.1)) =
    [.ret (some 7), .ret (some 1), .ret (some 2), .ret none, .exc 4 .fatal "UncaughtThrow" "bang",
     .exc 5 .terminate "-" "context canceled", .exc 6 .terminate "-" "context canceled"] := by decide +kernel

/-- Finding V18: unrepaired, `Wait` returns from its interrupt path with the read lock held, and the call
after a failed call blocks forever. -/
theorem v18_counterexample :
    ((runHistory ⟨true, true, false⟩ demo (VMState.init 0)
        [⟨"sub", [10, 3]⟩, ⟨"boom", []⟩, ⟨"sub", [1, 1]⟩]).2.map (·.1)) =
      [.ret (some 7), .exc 1 .fatal "UncaughtThrow" "bang", .blocked] := by decide +kernel

end HmsProofs.C16
