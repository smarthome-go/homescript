import Hms.Conc.Protocol
import Hms.Conc.Spawn
import HmsProofs.Lemmas.ConcProtocol
import HmsProofs.Lemmas.ConcSpawn
/-!
# C17 — spawned threads run to completion, are waited for, and do not race

Invariants over all interleavings of the protocol model `Hms/Conc/Protocol.lean` (`Cfg.fixed`: as repaired
by V18, V19, H1), i.e. over every state reachable by `Step`.

The claim is partial: the theorems cover the locking and signalling protocol. Freedom from data races in
Go's memory model and the behaviour of the Go scheduler are facts about the real runtime, which the check
samples under the race detector.
-/
namespace HmsProofs.C17
open Hms.Conc

/-- A spawned function runs with the argument values given at the spawn: the compiler pushes the arguments
last-to-first, `Opcode_Spawn` pops them prepending, `spawnCoreInternal` pre-pushes them, the callee pops one
per parameter, and the spawning core's stack is left as it was. The new core is running and listed, so
`Wait` will wait for it. -/
theorem spawn_runs_with_args {V : Type} (st args : List V) (s : PState) :
    (let popped := spawnPop args.length (callPush st args) []
     popN args.length (prePush popped.1) = (args, []) ∧ popped.2 = st)
    ∧ s.spawn.core s.n = .running .idle ∧ s.n ∈ s.spawn.listed :=
  ⟨spawn_binds_args st args, by simp [PState.spawn], by simp [PState.spawn]⟩

/-- A live core stays on the list until `Wait` has taken its signal or has dropped the whole list on an
interrupt. -/
theorem spawned_core_stays_listed (s : PState) (hr : Reach Cfg.fixed s) (c : Nat)
    (hl : (s.core c).isLive = true) : c ∈ s.listed ∨ s.dropped = true :=
  (reach_inv hr).waiting.live_listed c hl

/-- When `Wait` returns `nil`, having never dropped cores on an earlier interrupt, every core ever spawned
has run to completion and its `nil` signal has been received. -/
theorem wait_after_all (s s' : PState) (hr : Reach Cfg.fixed s) (hw : waitStep Cfg.fixed s = some s')
    (hret : s'.wait = .returned none) (hd : s'.dropped = false) :
    ∀ c, c < s'.n → s'.core c = .received none := by
  have hi := reach_inv hr
  cases waitStep_cases hw with
  | top _ e | sleeping _ e | toSleep _ _ e | skip _ _ _ _ _ e | remove _ _ _ _ _ e | relock _ _ e
  | cancel _ _ _ _ e => subst e; cases hret
  | recv _ _ sg _ _ e => subst e; cases sg <;> cases hret
  | retNone h hl e =>
    subst e
    intro c hc
    have hdead : (s.core c).isLive ≠ true := fun hlive =>
      (hi.waiting.live_listed c hlive).elim (by rw [hl]; nofun) (by rw [hd]; nofun)
    cases hcs : s.core c with
    | absent => exact absurd ((hi.cores.absent_iff c).mp hcs) (Nat.not_le.mpr hc)
    | running _ | sending _ | signalled _ => exact absurd (by rw [hcs]; rfl) hdead
    | received sg =>
      cases sg with
      | none => rfl
      | some i => exact (hi.waiting.recv_intr c i hcs).elim (by rw [h]; nofun) (by rw [hd]; nofun)

/-- `Wait` reports the first interrupt and cancels the rest: when it returns `(c, i)` the context is
cancelled, the list is dropped, `i` is what core `c` signalled, and (on the first such return) no other
core's interrupt has been received; the others see the cancellation at their next poll
(`C10.core_can_signal`). -/
theorem first_fatal_cancels_rest (s s' : PState) (hr : Reach Cfg.fixed s) (hw : waitStep Cfg.fixed s = some s')
    (c : Nat) (i : Intr) (hret : s'.wait = .returned (some (c, i))) :
    s'.cancelled = true ∧ s'.listed = [] ∧ s'.core c = .received (some i)
      ∧ (s.dropped = false → ∀ d j, d ≠ c → s'.core d ≠ .received (some j)) := by
  have hi := reach_inv hr
  cases waitStep_cases hw with
  | top _ e | sleeping _ e | toSleep _ _ e | retNone _ _ e | skip _ _ _ _ _ e | remove _ _ _ _ _ e
  | relock _ _ e => subst e; cases hret
  | recv _ _ sg _ _ e => subst e; cases sg <;> cases hret
  | cancel c' i' h hl e =>
    subst e
    simp only [WaitPc.returned.injEq, Option.some.injEq, Prod.mk.injEq] at hret
    obtain ⟨rfl, rfl⟩ := hret
    refine ⟨rfl, rfl, hi.waiting.taken_received _ _ (by rw [h]; rfl), ?_⟩
    intro hd d j hne hcd
    rcases hi.waiting.recv_intr d j hcd with h1 | h1
    · rw [h] at h1; cases h1; exact hne rfl
    · rw [hd] at h1; cases h1

/-- A core inside a write to the globals holds the mutex exclusively, a core inside a read holds it shared
and nobody writes; only the exclusive holder's transition changes the globals; the core list changes only
while nobody holds its lock in read mode. -/
theorem shared_state_locked (s : PState) (hr : Reach Cfg.fixed s) :
    (∀ c, s.core c = .running .wr →
        s.gWriter = some c ∧ ∀ d, d ≠ c → s.core d ≠ .running .wr ∧ s.core d ≠ .running .rd)
    ∧ (∀ c, s.core c = .running .rd → s.gReader c = true ∧ s.gWriter = none)
    ∧ (∀ s', Step Cfg.fixed s s' → s'.gVersion ≠ s.gVersion → ∃ c, s.core c = .running .wr ∧ s.gWriter = some c)
    ∧ (∀ s', Step Cfg.fixed s s' → s'.listed ≠ s.listed → s.wait.holdsR = false ∧ s.leaked = 0) := by
  have hi := reach_inv hr
  refine ⟨?_, ?_, ?_, ?_⟩
  · intro c hc
    have hw := (hi.mutex.wr_iff c).mp (congrArg CoreSt.gpc hc)
    refine ⟨hw, fun d hne => ⟨?_, ?_⟩⟩
    · intro hd
      have := (hi.mutex.wr_iff d).mp (congrArg CoreSt.gpc hd)
      rw [hw] at this; cases this; exact hne rfl
    · intro hd
      have h1 := (hi.mutex.rd_iff d).mp (congrArg CoreSt.gpc hd)
      rw [hi.mutex.wr_excl c hw d] at h1; cases h1
  · intro c hc
    have hr := (hi.mutex.rd_iff c).mp (congrArg CoreSt.gpc hc)
    refine ⟨hr, ?_⟩
    cases hg : s.gWriter with
    | none => rfl
    | some w => rw [hi.mutex.wr_excl w hg c] at hr; cases hr
  · exact fun s' hs hne => (step_changes hs).1.elim (absurd · hne) fun ⟨c, hc⟩ =>
      ⟨c, hc, (hi.mutex.wr_iff c).mp (congrArg CoreSt.gpc hc)⟩
  · exact fun s' hs hne => (step_changes hs).2.1.resolve_left hne

/-- Every run of the executable interleaving model (any program table, any schedule) is a path of the
transition system. -/
theorem model_runs_are_interleavings (progs : List (List Act)) (sched : List Nat) :
    Reach Cfg.fixed (runSys Cfg.fixed sched (Sys.start progs)).proto :=
  runSys_reach sched _ (start_reach progs)

/-! ## Non-vacuity -/

def demoProgs : List (List Act) :=
  [[.print "m0", .spawn 1, .spawn 2, .gwrite, .print "m1"],
   [.print "a0", .gwrite, .spawn 3, .print "a1"],
   [.gread, .print "b0"],
   [.print "c0", .gwrite]]

def demoRun (seed : Nat) : Sys := runSys Cfg.fixed (schedule seed 400) (Sys.start demoProgs)

/-- Two schedules: `Wait` returns `nil` after all four cores; the outputs are one multiset in two orders. -/
example : (demoRun 1).proto.wait = .returned none ∧ (demoRun 7).proto.wait = .returned none
    ∧ (demoRun 1).proto.n = 4 ∧ (demoRun 1).out ≠ (demoRun 7).out
    ∧ (demoRun 1).out.isPerm (demoRun 7).out = true := by decide +kernel

/-- A failing worker: `Wait` returns its fatal interrupt and the context is cancelled. -/
example : (runSys Cfg.fixed (schedule 3 400) (Sys.start [[.spawn 1, .print "m", .print "m"], [.fail]])).proto.wait
    = .returned (some (1, .fatal)) := by decide +kernel

/-- Finding H1: unrepaired, `Wait` computes the shortened list before taking the write lock, and a core
spawned in between is dropped from it. Cores 0 and 1; core 0 finishes; `Wait` takes its `nil` (stale list
[1]); core 1 spawns core 2 (list [0, 1, 2]); `Wait` installs [1]; core 1 finishes; `Wait` collects it and
returns `nil` although core 2 is still running. -/
def h1Trace (cfg : Cfg) : PState :=
  let s0 := { PState.init.spawn.spawn with wait := .top }
  let s1 := { s0 with core := upd s0.core 0 (sent cfg none) }
  let s2 := waitRun cfg 2 s1                       -- top → scan [0,1] → received 0, wants the write lock
  let s3 := s2.spawn                               -- core 1 spawns core 2
  let s4 := waitRun cfg 3 s3                       -- install the list, re-lock, poll core 1 (still running)
  let s5 := { s4 with core := upd s4.core 1 (sent cfg none) }
  waitRun cfg 12 s5

/-- Under the configuration with the stale list (`staleFilter`) the conclusion of `wait_after_all` fails in the state
`h1Trace` computes. That this state is `Reach`able is not part of the statement. -/
theorem h1_counterexample :
    (h1Trace ⟨true, false, true⟩).wait = .returned none ∧ (h1Trace ⟨true, false, true⟩).core 2 = .running .idle
      ∧ (h1Trace ⟨true, false, true⟩).dropped = false := by decide

/-- Under `Cfg.fixed` the same schedule keeps `Wait` waiting for core 2. -/
example : (h1Trace Cfg.fixed).wait ≠ .returned none ∧ (h1Trace Cfg.fixed).listed = [2] := by decide

end HmsProofs.C17
