import Hms.Pos.Render
import HmsProofs.Lemmas.LexLoc
/-! Lemmas for C08: real positions render safely. -/
namespace HmsProofs.Lemmas.PosRender
open Hms.Lex Hms.Pos HmsProofs.Lemmas.LexLoc

theorem splitLines_ne_nil (s : List Char) : splitLines s ≠ [] := by
  induction s with
  | nil => simp [splitLines]
  | cons c cs ih =>
    simp only [splitLines]
    split
    · simp
    · split <;> simp

theorem splitLines_cons_of_ne {c : Char} (h : c ≠ '\n') (cs : List Char) :
    ∃ l ls, splitLines cs = l :: ls ∧ splitLines (c :: cs) = (c :: l) :: ls := by
  cases hs : splitLines cs with
  | nil => exact absurd hs (splitLines_ne_nil cs)
  | cons l ls => exact ⟨l, ls, rfl, by simp only [splitLines, h, if_false, hs]⟩

/-- `len(strings.Split(s, "\n")) = 1 + strings.Count(s, "\n")`. -/
theorem splitLines_length (s : List Char) : (splitLines s).length = 1 + s.count '\n' := by
  induction s with
  | nil => rfl
  | cons c cs ih =>
    by_cases h : c = '\n'
    · subst h
      simp only [splitLines, if_true, List.length_cons, ih, List.count_cons_self]
      omega
    · obtain ⟨l, ls, hs, hc⟩ := splitLines_cons_of_ne h cs
      rw [hc, List.count_cons_of_ne h, ← ih, hs]
      rfl

theorem line_length_le (src : List Char) {line : List Char} (hmem : line ∈ splitLines src) :
    line.length ≤ src.length := by
  induction src generalizing line with
  | nil =>
    rw [splitLines, List.mem_singleton] at hmem
    subst hmem
    exact Nat.le_refl _
  | cons c cs ih =>
    by_cases hc : c = '\n'
    · rw [splitLines, if_pos hc, List.mem_cons] at hmem
      rcases hmem with rfl | hm
      · exact Nat.zero_le _
      · exact Nat.le_succ_of_le (ih hm)
    · obtain ⟨l, ls, hs, he⟩ := splitLines_cons_of_ne hc cs
      rw [he, List.mem_cons] at hmem
      rw [hs] at ih
      rcases hmem with rfl | hm
      · exact Nat.succ_le_succ (ih List.mem_cons_self)
      · exact Nat.le_succ_of_le (ih (List.mem_cons_of_mem _ hm))

theorem advanceBy_line (l : Loc) (s : List Char) : (l.advanceBy s).line = l.line + s.count '\n' := by
  induction s generalizing l with
  | nil => rfl
  | cons c s ih =>
    rw [Loc.advanceBy, ih]
    by_cases h : c = '\n'
    · subst h
      simp only [Loc.advance, if_true, List.count_cons_self]
      omega
    · simp only [Loc.advance, h, if_false, List.count_cons_of_ne h]

theorem advanceBy_col_of_no_newline (l : Loc) (s : List Char) (h : s.count '\n' = 0) :
    (l.advanceBy s).col = l.col + s.length := by
  induction s generalizing l with
  | nil => rfl
  | cons c s ih =>
    have hc : c ≠ '\n' := fun e => by subst e; simp at h
    rw [List.count_cons_of_ne hc] at h
    simp only [Loc.advanceBy, ih _ h, List.length_cons, Loc.advance, hc, if_false]
    omega

/-- The line of `strings.Split` that the position after `pre` lies on is at least as long as the
column of that position says. -/
theorem col_le_line (pre rest : List Char) (l : Loc) :
    ∃ line, (splitLines (pre ++ rest))[pre.count '\n']? = some line
      ∧ (l.advanceBy pre).col ≤ (if pre.count '\n' = 0 then l.col else 1) + line.length := by
  induction pre generalizing l with
  | nil =>
    cases hs : splitLines rest with
    | nil => exact absurd hs (splitLines_ne_nil rest)
    | cons x xs => exact ⟨x, by simp [hs], by simp [Loc.advanceBy]⟩
  | cons c pre ih =>
    obtain ⟨line, h1, h2⟩ := ih (l.advance c)
    by_cases h : c = '\n'
    · subst h
      refine ⟨line, by simpa [splitLines] using h1, ?_⟩
      have hcol : (l.advance '\n').col = 1 := rfl
      rw [List.count_cons_self, if_neg (Nat.succ_ne_zero _), Loc.advanceBy]
      split at h2 <;> omega
    · obtain ⟨x, xs, hs, he⟩ := splitLines_cons_of_ne h (pre ++ rest)
      have hcol : (l.advance c).col = l.col + 1 := by simp only [Loc.advance, h, if_false]
      rw [List.cons_append, he, List.count_cons_of_ne h, Loc.advanceBy]
      rw [hs] at h1
      cases hk : pre.count '\n' with
      | zero =>
        rw [hk] at h1 h2
        cases h1
        exact ⟨c :: line, rfl, by simp only [if_true, List.length_cons] at h2 ⊢; omega⟩
      | succ k =>
        rw [hk] at h1 h2
        exact ⟨line, h1, h2⟩

/-- `int(a - b) + 1` is not negative when `b ≤ a + 1` and `a` is far from the 63-bit limit. -/
theorem nonneg_usub_succ {a b : Nat} (h : b ≤ a + 1) (ha : a < two63 - 1) :
    nonneg (iadd (usub a b) 1) = true := by
  unfold nonneg iadd usub two64 at *
  unfold two63 at *
  simp only [decide_eq_true_eq]
  omega

theorem padOK_of_small {sc : Nat} (hb : sc < two63 - 6) : padOK sc = true := by
  unfold padOK nonneg iadd two64 at *
  unfold two63 at *
  simp only [decide_eq_true_eq]
  omega

/-- A real position lies on one of the lines of the text, within that line or just behind its end. -/
theorem locAt_on_line (src : List Char) (i : Nat) (hi : i ≤ src.length) :
    1 ≤ (Spec.locAt src i).line
      ∧ (Spec.locAt src i).line ≤ (splitLines src).length
      ∧ ∃ line, (splitLines src)[(Spec.locAt src i).line - 1]? = some line
          ∧ (Spec.locAt src i).col ≤ 1 + line.length := by
  have hsplit : src = src.take i ++ src.drop i := (List.take_append_drop i src).symm
  have hloc : Spec.locAt src i = Loc.start.advanceBy (src.take i) := by
    rw [locAt_eq_locOf _ _ hi, start_advanceBy]
  have hline : (Spec.locAt src i).line = 1 + (src.take i).count '\n' := by
    rw [hloc, advanceBy_line]; rfl
  have hcnt : (src.take i).count '\n' ≤ src.count '\n' := (List.take_sublist i src).count_le '\n'
  obtain ⟨line, h1, h2⟩ := col_le_line (src.take i) (src.drop i) Loc.start
  rw [← hsplit] at h1
  rw [← hloc] at h2
  have hstart : Loc.start.col = 1 := rfl
  have hcol : (Spec.locAt src i).col ≤ 1 + line.length := by
    rw [hstart] at h2; split at h2 <;> omega
  refine ⟨by omega, by rw [splitLines_length]; omega, line, ?_, hcol⟩
  rw [hline]; simpa using h1

theorem locAt_col_le (src : List Char) (i : Nat) (hi : i ≤ src.length) :
    (Spec.locAt src i).col ≤ src.length + 1 := by
  obtain ⟨_, _, line, h1, h2⟩ := locAt_on_line src i hi
  have := line_length_le src (List.mem_of_getElem? h1)
  omega

theorem col_mono_same_line (src : List Char) (i j : Nat) (hij : i ≤ j) (hj : j ≤ src.length)
    (hl : (Spec.locAt src i).line = (Spec.locAt src j).line) :
    (Spec.locAt src i).col ≤ (Spec.locAt src j).col := by
  have hi : i ≤ src.length := by omega
  have e1 : Spec.locAt src i = locOf (src.take i) := locAt_eq_locOf _ _ hi
  have e2 : Spec.locAt src j = locOf (src.take j) := locAt_eq_locOf _ _ hj
  have hsplit : src.take j = src.take i ++ (src.take j).drop i := by
    have := (List.take_append_drop i (src.take j)).symm
    rw [List.take_take, Nat.min_eq_left hij] at this
    exact this
  have e3 : locOf (src.take j) = (locOf (src.take i)).advanceBy ((src.take j).drop i) := by
    rw [locOf_advanceBy, ← hsplit]
  rw [e1, e2, e3] at hl ⊢
  rw [advanceBy_line] at hl
  have h0 : ((src.take j).drop i).count '\n' = 0 := by omega
  rw [advanceBy_col_of_no_newline _ _ h0]
  omega

theorem length_le_byteLen (l : List Char) : l.length ≤ byteLen l := by
  induction l with
  | nil => simp [byteLen]
  | cons c cs ih =>
    have := Char.utf8Size_pos c
    simp [byteLen] at ih ⊢
    omega

theorem byteLen_le (l : List Char) : byteLen l ≤ 4 * l.length := by
  induction l with
  | nil => simp [byteLen]
  | cons c cs ih =>
    have := Char.utf8Size_le_four c
    simp [byteLen] at ih ⊢
    omega

/-- `bl` gives plausible byte lengths: every rune of a line takes between 1 and 4 bytes (true of
UTF-8 and of Go's decoding of invalid UTF-8, where an invalid byte becomes one U+FFFD). -/
def ByteLens (bl : Nat → Nat) (src : List Char) : Prop :=
  ∀ k line, (splitLines src)[k]? = some line → line.length ≤ bl k ∧ bl k ≤ 4 * line.length

theorem byteLens_utf8 (src : List Char) : ByteLens (lineBytes src) src := by
  intro k line h
  simp only [lineBytes, h, Option.getD_some]
  exact ⟨length_le_byteLen line, byteLen_le line⟩

/-- The size bound under which the 64-bit arithmetic of the renderers cannot wrap: 2^32 runes. -/
def sizeBound : Nat := 4294967296

/-- A span whose ends are real positions, start not after end, renders with both renderers —
whatever the encoding makes of the byte lengths of the lines. -/
theorem render_safe_with (bl : Nat → Nat) (src : List Char) (sp : Span) (hbl : ByteLens bl src)
    (hsize : src.length < sizeBound) (hin : InText src sp) (hord : Ordered sp) :
    renderErrOK src sp = true ∧ renderDiagOKWith bl src sp = true := by
  obtain ⟨hi, hj, hs, he⟩ := hin
  unfold Ordered at hord
  obtain ⟨a1, a2, line, a4, a5⟩ := locAt_on_line src sp.start.idx hi
  have a3 := locAt_col_le src sp.start.idx hi
  have b3 := locAt_col_le src sp.stop.idx hj
  rw [← hs] at a1 a2 a3 a4 a5
  rw [← he] at b3
  obtain ⟨h1, h2⟩ := hbl _ line a4
  have h3 := line_length_le src (List.mem_of_getElem? a4)
  -- every number involved is at most four times the size bound, far below 2^63
  have hnum : sp.start.col < two63 - 6 ∧ sp.stop.col < two63 - 1
      ∧ sp.start.col ≤ bl (sp.start.line - 1) + 1 ∧ bl (sp.start.line - 1) < two63 - 1 := by
    unfold sizeBound at hsize
    unfold two63
    omega
  have hlines : linesOK (splitLines src).length sp.start.line = true := decide_eq_true ⟨a1, a2⟩
  have hpad : padOK sp.start.col = true := padOK_of_small hnum.1
  have hsame : sp.start.line = sp.stop.line → repeatSpanOK sp.stop.col sp.start.col = true := by
    intro hl
    have := col_mono_same_line src sp.start.idx sp.stop.idx hord hj (by rw [← hs, ← he]; exact hl)
    rw [← hs, ← he] at this
    exact nonneg_usub_succ (Nat.le_succ_of_le this) hnum.2.1
  have hmulti : multiLineOKWith bl src sp.start.line sp.start.col = true := by
    rw [multiLineOKWith, a4]
    exact nonneg_usub_succ hnum.2.2.1 hnum.2.2.2
  constructor
  · unfold renderErrOK
    rw [hlines, hpad]
    by_cases hl : sp.start.line = sp.stop.line
    · simp [hl, hsame hl]
    · simp [hl]
  · -- a real position is not on line 0, so this is not the whole-file case
    rw [renderDiagOKWith, if_neg fun hw => Nat.ne_of_gt a1 hw.1, hlines, hpad]
    by_cases hl : sp.start.line = sp.stop.line
    · by_cases hc : sp.start.col = sp.stop.col
      · simp [hl, hc]
      · simp [hl, hc, hsame hl]
    · simp [hl, hmulti]

theorem render_safe (src : List Char) (sp : Span) (hsize : src.length < sizeBound)
    (hin : InText src sp) (hord : Ordered sp) :
    renderErrOK src sp = true ∧ renderDiagOK src sp = true :=
  render_safe_with (lineBytes src) src sp (byteLens_utf8 src) hsize hin hord

theorem render_diag_whole_file (src : List Char) (sp : Span) (h : WholeFile sp) :
    renderDiagOK src sp = true := by
  obtain ⟨h1, h2⟩ := h
  unfold renderDiagOK renderDiagOKWith
  simp [h1, h2, Loc.zero]

end HmsProofs.Lemmas.PosRender
