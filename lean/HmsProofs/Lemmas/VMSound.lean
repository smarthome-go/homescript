import HmsProofs.Lemmas.VMCheck
/-!
`VMCheck.step_sound` lifted to the instruction loop (`iter`, `runQuantum`) and to `run`; balance of the operand stack
and of the memory pointer per activation.
-/
namespace HmsProofs.Lemmas.VMSound
open Hms.Core.VM Hms.Core.BcCheck
open HmsProofs.Lemmas.VMStep HmsProofs.Lemmas.VMRun HmsProofs.Lemmas.VMCheck

variable {code : Code} {A : List FnAnn} {lim : Limits} {q : Nat} {ca : Option Nat} {n d : Nat}
  {s s' s₀ p : VMState}

/-- The state `runQuantum` hands to `step`. -/
def tick (s : VMState) : VMState := { s with steps := s.steps + 1 }

/-- The panics `VMStep.Benign False` rules out (`not_excluded`), as the theorems of C02 name them. -/
def Excluded (why : String) : Prop :=
  why = "stack underflow" ∨ why = "handler stack underflow" ∨ why = "memory index" ∨ why = "label at run time"

theorem not_excluded {why : String} (h : Benign False why) : ¬ Excluded why :=
  fun e => e.elim h.1 fun e => e.elim h.2.1 fun e => e.elim h.2.2.1 h.2.2.2

/-- Checked code never falls off the end of a function (`.back`), and a panic outcome is a panic of the executed
instruction: never "non-existent routine" or "no frame for the handler". The run theorems use `¬ Excluded why` only. -/
def IterOK (code : Code) (A : List FnAnn) (lim : Limits) (s : VMState) (bs0 : List Base) : IterRes → Prop
  | .cont s' => ∃ bs', InvB code A s' bs' ∧ Rel bs0 bs'
  | .back _ => False
  | .done o => ∀ why st, o = .panic why st →
      ¬ Excluded why ∧ ∃ i sp, step code lim (tick s) i sp = .panic why st

theorem iter_sound (hv : verify code A = true) {bs0 : List Base}
    (hinv : InvB code A s bs0) (lim : Limits) (hlim : s.mp < (lim.memory : Int))
    (hdyn : DynOK code A lim (tick s)) : IterOK code A lim s bs0 (iter code lim s) := by
  rcases iter_cases code lim s with ⟨_, h⟩ | ⟨f, rest, hc, ⟨hnf, _⟩ | ⟨c, hf, hcne, ⟨hnone, _⟩ | ⟨i, sp, hi, h⟩⟩⟩
  · rw [h]; intro why st e; cases e
  · -- the function of the running frame exists and is not empty
    obtain ⟨c, i, sp, hfc, hi⟩ := hinv.instr hv hc
    rcases hnf with hnf | hnf
    · rw [hfc] at hnf; cases hnf
    · rw [hfc] at hnf; cases hnf; simp at hi
  · obtain ⟨c', i, sp, hfc, hi⟩ := hinv.instr hv hc
    rw [hf] at hfc; cases hfc
    rw [hnone] at hi; cases hi
  · rw [h]
    -- the invariant does not look at the instruction counter
    have hs : Sound code A bs0 (step code lim { s with steps := s.steps + 1 } i sp) :=
      step_sound hv (s := tick s) hinv hc hf hi lim hlim hdyn
    generalize hr : step code lim { s with steps := s.steps + 1 } i sp = r at hs ⊢
    cases r with
    | next s' => exact hs
    | panic why st => exact fun _ _ e => by cases e; exact ⟨not_excluded hs, i, sp, hr⟩
    | intr x s' =>
      cases x with
      | fatal k msg fsp => exact fun _ _ e => nomatch e
      | term => exact fun _ _ e => nomatch e
      | throw msg tsp =>
        obtain ⟨htot, hcont⟩ := hs msg tsp rfl
        show IterOK code A lim s bs0 (throwTo s' msg tsp)
        cases ht : throwTo s' msg tsp with
        | cont s'' => exact hcont s'' ht
        | back s'' => exact absurd ht throwTo_not_back
        | done o =>
          intro why st e
          subst e
          rcases htot with hnil | ⟨s'', hs''⟩
          · rw [throwTo_nil msg tsp hnil] at ht; cases ht
          · rw [hs''] at ht; cases ht

def DynAlong (code : Code) (A : List FnAnn) (lim : Limits) (n : Nat) (s : VMState) : Prop :=
  ∀ k s1, k < n → runQuantum code lim k s = .inl s1 → DynOK code A lim (tick s1)

theorem DynAlong.head (h : DynAlong code A lim (n + 1) s) : DynOK code A lim (tick s) :=
  h 0 s (by omega) rfl

theorem DynAlong.tail (h : DynAlong code A lim (n + 1) s) (hi : iter code lim s = .cont s') : DynAlong code A lim n s' := by
  intro k s1 hk hq
  refine h (k + 1) s1 (by omega) ?_
  rw [runQuantum_succ, hi]; exact hq

theorem runQuantum_sound (hv : verify code A = true) (lim : Limits) :
    ∀ (n : Nat) (s : VMState), Inv code A s → MemOK lim s → DynAlong code A lim n s →
      (∀ s', runQuantum code lim n s = .inl s' → Inv code A s' ∧ MemOK lim s')
      ∧ (∀ why st, runQuantum code lim n s = .inr (.panic why st) → ¬ Excluded why)
  | 0, s, hinv, hmem, _ => by
    refine ⟨?_, ?_⟩
    · intro s' h; simp only [runQuantum_zero, Sum.inl.injEq] at h; subst h; exact ⟨hinv, hmem⟩
    · intro why st h; simp [runQuantum_zero] at h
  | n + 1, s, hinv, hmem, hdyn => by
    obtain ⟨bs0, hb⟩ := hinv
    have hit := iter_sound hv hb lim hmem.1 hdyn.head
    have hbd := iter_bound code lim s
    rw [runQuantum_succ]
    cases hi : iter code lim s with
    | cont s1 =>
      rw [hi] at hit
      obtain ⟨bs', hb', _⟩ := hit
      exact runQuantum_sound hv lim n s1 ⟨bs', hb'⟩ (((hbd s1).1 hi).2.2 hmem) (hdyn.tail hi)
    | back s1 => rw [hi] at hit; exact hit.elim
    | done o =>
      rw [hi] at hit
      refine ⟨fun s' h => (by cases h), ?_⟩
      intro why st h
      simp only [Sum.inr.injEq] at h
      exact (hit why st h).1

/-- The hypothesis of the whole-run theorem: in every state in which `run` executes an
instruction, a dynamic call conforms to its call site. -/
def DynReach (code : Code) (A : List FnAnn) (lim : Limits) (q : Nat) (ca : Option Nat) (s₀ : VMState) : Prop :=
  ∀ p, PollReach code lim q ca s₀ p → PollPass lim ca p → DynAlong code A lim q (pollState p)

theorem pollReach_inv (hv : verify code A = true) (h0 : Inv code A s₀) (hm : MemOK lim s₀)
    (hdyn : DynReach code A lim q ca s₀) (h : PollReach code lim q ca s₀ p) : Inv code A p ∧ MemOK lim p := by
  induction h with
  | start => exact ⟨h0, hm⟩
  | next hp hpass hq ih =>
    -- `Inv` and `MemOK` do not look at the poll counter
    exact (runQuantum_sound hv lim q (pollState _) ih.1 ih.2 (hdyn _ hp hpass)).1 _ hq

/-- **Checked code never stack-panics.** `run` on checked code, from a state that satisfies the
invariant, never ends in one of the four excluded panics. -/
theorem run_sound (hv : verify code A = true) (lim : Limits) (q : Nat)
    (ca : Option Nat) (fuel : Nat) (s₀ : VMState) (hinv : Inv code A s₀) (hm : MemOK lim s₀)
    (hdyn : DynReach code A lim q ca s₀) (why : String) (st : VMState)
    (h : run code lim q ca fuel s₀ = .panic why st) : ¬ Excluded why := by
  -- a panic is raised by an instruction, after a poll that passed
  obtain ⟨p, hp, ⟨_, _, _, h⟩ | ⟨hpass, hq⟩⟩ := run_origin_stopped h (.inr ⟨_, _, rfl⟩)
  · cases h
  · obtain ⟨hi, hmp⟩ := pollReach_inv hv hinv hm hdyn hp
    exact (runQuantum_sound hv lim q (pollState p) hi hmp (hdyn p hp hpass)).2 why st hq

/-- `s₂` is reached from `s₁` by instructions (including exception dispatch) of the activation
that runs at call depth `d` and of the activations it calls: the call depth never drops below
`d`. The side conditions of `iter_sound` are part of the path. -/
inductive Path (code : Code) (A : List FnAnn) (lim : Limits) (d : Nat) : VMState → VMState → Prop
  | refl (s : VMState) : Path code A lim d s s
  | step {s s1 s2 : VMState} : Path code A lim d s s1 → s1.mp < (lim.memory : Int) →
      DynOK code A lim (tick s1) → iter code lim s1 = .cont s2 → d ≤ s2.calls.length → Path code A lim d s s2

theorem path_bases (hv : verify code A = true)
    {s₁ s₂ : VMState} {bs₁ : List Base} (h1 : InvB code A s₁ bs₁) (hd : s₁.calls.length = d)
    (hp : Path code A lim d s₁ s₂) : ∃ bs₂ pre, InvB code A s₂ bs₂ ∧ bs₂ = pre ++ bs₁ := by
  induction hp with
  | refl => exact ⟨bs₁, [], h1, rfl⟩
  | step _ hmp hdyn hit hdepth ih =>
    obtain ⟨bs, pre, hb, rfl⟩ := ih
    have := iter_sound hv hb lim hmp hdyn
    rw [hit] at this
    obtain ⟨bs', hb', hrel⟩ := this
    rcases hrel with ⟨Bn, rfl⟩ | ⟨pre', he⟩
    · exact ⟨_, Bn :: pre, hb', rfl⟩
    · obtain ⟨p, hp'⟩ := List.suffix_of_suffix_length_le ⟨pre, rfl⟩ ⟨pre', he.symm⟩
        (by rw [hb'.length, h1.length, hd]; exact hdepth)
      exact ⟨bs', p, hb', hp'.symm⟩

/-- **Balance.** Two states of one activation at the same instruction index have the same
operand-stack height and the same memory pointer. -/
theorem balanced {code : Code} {A : List FnAnn} (hv : verify code A = true) {lim : Limits}
    {s₁ s₂ : VMState} (h1 : Inv code A s₁) (hp : Path code A lim s₁.calls.length s₁ s₂)
    (hd : s₂.calls.length = s₁.calls.length) {f₁ f₂ : Frame} {r₁ r₂ : List Frame}
    (hc1 : s₁.calls = f₁ :: r₁) (hc2 : s₂.calls = f₂ :: r₂) (hf : f₂ = f₁) :
    s₂.stack.length = s₁.stack.length ∧ s₂.mp = s₁.mp := by
  obtain ⟨bs₁, hb1⟩ := h1
  obtain ⟨bs₂, pre, hb2, he⟩ := path_bases hv hb1 rfl hp
  have hpre : pre = [] := by
    have := congrArg List.length he
    rw [List.length_append, hb2.length, hb1.length, hd] at this
    exact List.eq_nil_of_length_eq_zero (by omega)
  subst hpre
  simp only [List.nil_append] at he
  subst he hf
  obtain ⟨c, fa, a, B, bs, hd', e1, cx1⟩ := hb1.unpack hv hc1
  obtain ⟨c', fa', a', B', bs', hd'', e2, cx2⟩ := hb2.unpack hv hc2
  rw [e1] at e2; cases e2
  have := cx1.look
  rw [cx2.look] at this; cases this
  have := cx1.pt
  rw [cx2.pt] at this; cases this
  exact ⟨by rw [← cx1.hh, ← cx2.hh], by rw [cx1.mp, cx2.mp]⟩

theorem Path.head {s1 s2 : VMState}
    (hmp : s.mp < (lim.memory : Int)) (hdyn : DynOK code A lim (tick s)) (hit : iter code lim s = .cont s1)
    (hd : d ≤ s1.calls.length) (hp : Path code A lim d s1 s2) : Path code A lim d s s2 := by
  induction hp with
  | refl => exact .step (.refl s) hmp hdyn hit hd
  | step _ hmp' hdyn' hit' hd' ih => exact .step ih hmp' hdyn' hit' hd'

/-- `n` loop iterations that stay at call depth `≥ d` and within the memory limit: builds a `Path`
by evaluation, for concrete examples. -/
def pathRun (code : Code) (lim : Limits) (d : Nat) : Nat → VMState → Option VMState
  | 0, s => some s
  | n + 1, s =>
    if s.mp < (lim.memory : Int) then
      match iter code lim s with
      | .cont s' => if d ≤ s'.calls.length then pathRun code lim d n s' else none
      | _ => none
    else none

theorem path_of_pathRun {code : Code} {A : List FnAnn} {lim : Limits} {d : Nat}
    (hdyn : ∀ s, DynOK code A lim s) : ∀ (n : Nat) (s s' : VMState),
    pathRun code lim d n s = some s' → Path code A lim d s s' := by
  intro n s s' h
  fun_induction pathRun code lim d n s with
  | case1 s => cases h; exact .refl _
  | case2 n s hmp s1 hit hd ih => exact .head hmp (hdyn _) hit hd (ih h)
  | case3 | case4 | case5 => cases h

end HmsProofs.Lemmas.VMSound
