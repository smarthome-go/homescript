import HmsProofs.Lemmas.SimHCall
import HmsProofs.Lemmas.SimHFor
namespace HmsProofs.Sim
open Hms.Core

theorem pgs_zero (G : GCtx) : PGS G 0 := by
  intro A _ loops lscopes d s env _ _ _ _ ip stk mem spec _ _ _ _ _ _
  rw [evalStmt]
  exact True.intro

theorem pgf_zero (G : GCtx) : PGF G 0 := by
  intro A _ loops lscopes d sp name vty rsp a b incl bsp bty stmts env _ _ _ _ _ ip stk mem spec _ _ _ _ _ _
  rw [evalStmt]
  exact True.intro

theorem pgss_zero (G : GCtx) : PGSs G 0 := by
  intro A _ loops lscopes d ss env _ _ _ _ _ ip stk mem spec _ _ _ _ _ _
  rw [evalStmts]
  exact True.intro

theorem pgbs_zero (G : GCtx) : PGBS G 0 := by
  intro A hA loops lscopes d b env _ _ _ _ ip stk mem spec _ _ _ _ _ _
  rw [inScope_run, evalBlock]; exact True.intro

theorem pgl_zero (G : GCtx) : PGL G 0 := by
  intro A hA loops lscopes d sp cnd body env _ _ _ _ _ ip stk mem spec _ _ _ _ _ _
  rw [loopRun]; exact True.intro

theorem pcall_zero (G : GCtx) : PCall G 0 := by
  intro g fd I stmts e _ _ _ _ sp vals st frames mp stk mem _ _
  rw [callBody]
  exact True.intro

structure AllP (G : GCtx) (n : Nat) : Prop where
  pe : PE G n
  pargs : PArgs G n
  pcall : PCall G n
  pgs : PGS G n
  pgss : PGSs G n
  pgbs : PGBS G n
  pgl : PGL G n
  pgf : PGF G n

/-- Strong induction on the specification's fuel, generalizing the context: it covers the recursion between functions and
the change of context — another handler stack — inside a `try` body. -/
theorem allP (G : GCtx) (hG : G.OK') : ∀ n, AllP G n := by
  intro n
  induction n using Nat.strongRecOn generalizing G with
  | _ n ih =>
    cases n with
    | zero => exact ⟨pe_zero G, pargs_zero G, pcall_zero G, pgs_zero G, pgss_zero G, pgbs_zero G, pgl_zero G, pgf_zero G⟩
    | succ k =>
      have hk := ih k (Nat.lt_succ_self k) G hG
      have hpgf : PGF G (k + 1) :=
        pgf_step G k (fun m hm => (ih m (by omega) G hG).pe) (fun m hm => (ih m (by omega) G hG).pgss)
      refine ⟨?_, ?_, ?_, ?_, ?_, ?_, ?_, hpgf⟩
      · exact pe_step G hG k (fun m hm => (ih m (by omega) G hG).pe) (fun m hm => (ih m (by omega) G hG).pargs)
          (fun m hm => (ih m (by omega) G hG).pcall)
      · exact pargs_step G k hk.pe hk.pargs
      · exact pcall_step G hG k (fun m hm => (ih m (by omega) G hG).pgss) (fun m hm => (ih m (by omega) G hG).pe)
      · exact pgs_step G hG k (fun m hm => (ih m (by omega) G hG).pe) (fun m hm => (ih m (by omega) G hG).pargs) hk.pgl
          (fun m hm => (ih m (by omega) G hG).pgbs)
          (fun m hm hs => (ih m (by omega) (G.withH hs) (hG.withH hs)).pgbs)
          (fun m hm => (ih m (by omega) G hG).pgss) hpgf
      · exact pgss_step G k hk.pgs hk.pgss
      · exact pgbs_step G k hk.pgss
      · exact pgl_step G k hk.pe hk.pgbs hk.pgl

end HmsProofs.Sim
