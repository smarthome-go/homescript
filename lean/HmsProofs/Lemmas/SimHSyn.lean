import HmsProofs.Lemmas.SimHDefs
/-!
# Syntactic facts about the general fragment: variables, scoping, the arms of a `match`
-/
namespace HmsProofs.Sim
open Hms.Core

theorem varsG_pure :
    (∀ (e : Expr), Frag.pureE e = true → Frag.varsGE e = Frag.varsE e ∧ Frag.callsGE e = []) ∧
    (∀ (b : Block), Frag.pureB b = true → Frag.varsGB b = Frag.varsB b ∧ Frag.callsGB b = []) := by
  refine Frag.pureE.mutual_induct_unfolding
    (motive_1 := fun e ok => ok = true → Frag.varsGE e = Frag.varsE e ∧ Frag.callsGE e = [])
    (motive_2 := fun b ok => ok = true → Frag.varsGB b = Frag.varsB b ∧ Frag.callsGB b = [])
    ?int ?bool ?str ?null ?none ?grouped ?ident ?pre ?infixE ?ifE ?other ?block ?blockOther
  case int | bool | str | null | none | ident => intros; exact ⟨rfl, rfl⟩
  case other | blockOther => intros; contradiction
  case grouped | pre | block =>
    intros; rename_i ih hp
    simpa only [Frag.varsGE, Frag.varsE, Frag.callsGE, Frag.varsGB, Frag.varsB, Frag.callsGB] using ih hp
  case infixE =>
    intro sp ty op l r ihl ihr hp
    rw [Bool.and_eq_true] at hp
    simp only [Frag.varsGE, Frag.varsE, Frag.callsGE, (ihl hp.1).1, (ihl hp.1).2, (ihr hp.2).1, (ihr hp.2).2,
      List.append_nil, and_self]
  case ifE =>
    intro sp ty c t e ihc iht ihe hp
    simp only [Bool.and_eq_true] at hp
    simp only [Frag.varsGE, Frag.varsE, Frag.callsGE, (ihc hp.1.1).1, (ihc hp.1.1).2, (iht hp.1.2).1, (iht hp.1.2).2,
      (ihe hp.2).1, (ihe hp.2).2, List.append_nil, and_self]

theorem varsGE_pure (e : Expr) (h : Frag.pureE e = true) : Frag.varsGE e = Frag.varsE e :=
  (varsG_pure.1 e h).1

theorem resolved_append {scopes : CScopes} {xs ys : List String} :
    Frag.resolved scopes (xs ++ ys) = true ↔ Frag.resolved scopes xs = true ∧ Frag.resolved scopes ys = true := by
  simp [Frag.resolved, List.all_append]

theorem callsOK_append {scopes : CScopes} {φ : String → Option String} {xs ys : List String} :
    Frag.callsOK scopes φ (xs ++ ys) = true ↔ Frag.callsOK scopes φ xs = true ∧ Frag.callsOK scopes φ ys = true := by
  simp [Frag.callsOK, List.all_append]

theorem atom_pure (e : Expr) (h : Frag.atomE e = true) : Frag.pureE e = true := by
  fun_induction Frag.atomE e with
  | case1 | case2 | case3 | case4 | case5 => rfl
  | case6 => simpa only [Frag.pureE] using h
  | case7 sp e ih => simpa only [Frag.pureE] using ih h
  | case8 => contradiction

theorem ρS_push (scopes : CScopes) : ρS ([] :: scopes) = ρS scopes := by
  funext x
  simp [ρS, List.findSome?_cons]

theorem resolved_push (scopes : CScopes) (xs : List String) :
    Frag.resolved ([] :: scopes) xs = Frag.resolved scopes xs := by
  simp [Frag.resolved, ρS_push]

theorem callsOK_push (scopes : CScopes) (φ : String → Option String) (xs : List String) :
    Frag.callsOK ([] :: scopes) φ xs = Frag.callsOK scopes φ xs := by
  simp [Frag.callsOK, ρS_push]

theorem ws_append {scopes : CScopes} {φ : String → Option String} {v₁ v₂ c₁ c₂ : List String} :
    (Frag.resolved scopes (v₁ ++ v₂) && Frag.callsOK scopes φ (c₁ ++ c₂)) = true ↔
      (Frag.resolved scopes v₁ && Frag.callsOK scopes φ c₁) = true ∧
      (Frag.resolved scopes v₂ && Frag.callsOK scopes φ c₂) = true := by
  simp only [Bool.and_eq_true, resolved_append, callsOK_append]
  exact ⟨fun ⟨⟨a, b⟩, c, d⟩ => ⟨⟨a, c⟩, b, d⟩, fun ⟨⟨a, c⟩, b, d⟩ => ⟨⟨a, b⟩, c, d⟩⟩

theorem okE_call_inv (fr : Bool) (sp ty base args sw) (h : Frag.okE fr (.call sp ty base args sw) = true) :
    (∃ isp ity name g f si, base = .ident isp ity name g f si ∧ sw = false ∧ name ≠ "throw" ∧
      name ≠ "println" ∧ Frag.okEArgs fr args = true ∧ Frag.oneNonAtom args = true) ∨
    (∃ msp mty b nm, base = .member msp mty b nm .dot ∧ args = [] ∧ sw = false ∧ fr = true ∧ nm ∈ meth0 ∧
      Frag.okE fr b = true) := by
  cases base
  case ident isp ity name g f si =>
    left
    cases sw
    · simp only [Frag.okE, Bool.and_eq_true, bne_iff_ne, ne_eq] at h
      exact ⟨isp, ity, name, g, f, si, rfl, rfl, h.1.1.1, h.1.1.2, h.1.2, h.2⟩
    · exact absurd h Bool.false_ne_true
  case member msp mty b nm mop =>
    right
    match mop, args, sw, h with
    | .dot, [], false, h =>
      simp only [Frag.okE, Bool.and_eq_true, List.contains_iff_mem] at h
      exact ⟨msp, mty, b, nm, rfl, rfl, rfl, h.1.1, h.1.2, h.2⟩
  all_goals exact absurd h Bool.false_ne_true

theorem armTests_length (mod : String) (sp : Span) : ∀ (arms : List (List Expr × Expr)) (lm : LM),
    (armTests mod sp arms lm).2.1.length = arms.length := by
  intro arms
  induction arms with
  | nil => intro lm; rfl
  | cons a rest ih => intro lm; simp [armTests, ih]

theorem okEArms_mem (fr : Bool) : ∀ (arms : List (List Expr × Expr)), Frag.okEArms fr arms = true →
    ∀ a ∈ arms, (∀ l ∈ a.1, Frag.litE l = true) ∧ Frag.okE fr a.2 = true := by
  intro arms
  induction arms with
  | nil => intro _ a ha; simp at ha
  | cons x xs ih =>
    intro h a ha
    simp only [Frag.okEArms, Bool.and_eq_true, List.all_eq_true] at h
    rcases List.mem_cons.mp ha with rfl | ha
    · exact ⟨h.1.1, h.1.2⟩
    · exact ih h.2 a ha

theorem wsGArms_mem (scopes : CScopes) (φ : String → Option String) : ∀ (arms : List (List Expr × Expr)),
    Frag.resolved scopes (Frag.varsGArms arms) = true → Frag.callsOK scopes φ (Frag.callsGArms arms) = true →
    ∀ a ∈ arms, Frag.wsGE scopes φ a.2 = true := by
  intro arms
  induction arms with
  | nil => intro _ _ a ha; simp at ha
  | cons x xs ih =>
    intro h1 h2 a ha
    simp only [Frag.varsGArms] at h1
    simp only [Frag.callsGArms] at h2
    rw [resolved_append] at h1
    rw [callsOK_append] at h2
    rcases List.mem_cons.mp ha with rfl | ha
    · simp only [Frag.wsGE, Bool.and_eq_true]; exact ⟨h1.1, h2.1⟩
    · exact ih h1.2 h2.2 a ha

theorem okFArmsS_lits (fr il rt : Bool) : ∀ (arms : List (List Expr × Expr)), Frag.okFArmsS fr il rt arms = true →
    ∀ a ∈ arms, ∀ l ∈ a.1, Frag.litE l = true := by
  intro arms
  induction arms with
  | nil => intro _ a ha; simp at ha
  | cons a0 rest iha =>
    intro hok a ha
    obtain ⟨lits0, act0⟩ := a0
    cases act0 <;> try (simp [Frag.okFArmsS] at hok; done)
    simp only [Frag.okFArmsS, Bool.and_eq_true, List.all_eq_true] at hok
    rcases List.mem_cons.mp ha with rfl | ha
    · exact hok.1.1
    · exact iha hok.2 a ha

end HmsProofs.Sim
