import Hms.Conc.Poll
/-! Everything is a bound on the clock: a cycle advances it by at most its budget, and by at least one unless
the call stack is empty, so the loop ends and stops within one quantum of the cancellation. The
interpreter's loop `treeRun` is the same loop with a quantum of one (`treeRun_eq_run`), so it has no
lemmas of its own. The `fun_induction` cases are numbered in the order of the branches of `inner` and
`run`: the ones that take an argument `ih` are the branches that go round again. -/
namespace Hms.Conc

def CycleOut.time {σ : Type} : CycleOut σ → Nat
  | .again _ t => t
  | .done _ t => t

theorem inner_time {σ : Type} (m : Machine σ) (T c t : Nat) (s : σ) :
    t ≤ (inner m T c t s).time ∧ (inner m T c t s).time ≤ t + c ∧
      (0 < c → inner m T c t s = .done none t ∨ t < (inner m T c t s).time) := by
  fun_induction inner m T c t s with
  | case1 => exact ⟨Nat.le_refl _, Nat.le_refl _, nofun⟩
  | case2 => exact ⟨Nat.le_refl _, Nat.le_add_right .., fun _ => .inl rfl⟩
  | case3 | case5 | case7 => simp only [CycleOut.time]; exact ⟨by omega, by omega, fun _ => .inr (by omega)⟩
  | case4 _ _ _ _ _ _ _ ih | case6 _ _ _ _ _ _ _ _ ih => exact ⟨by omega, by omega, fun _ => .inr (by omega)⟩

/-- Whatever the machine does, the core stops before time `T + quantum` (or at its entry time if
that is later): at most `quantum - 1` steps are executed at or after the cancellation. -/
theorem run_time_bound {σ : Type} (m : Machine σ) (quantum T fuel t p : Nat) (tr : List Nat) (s : σ) (r : RunOut)
    (h : run m quantum T fuel t p tr s = some r) : r.t ≤ max t (T + quantum - 1) := by
  fun_induction run m quantum T fuel t p tr s with
  | case1 => cases h
  | case2 | case3 | case4 => cases h; exact Nat.le_max_left ..
  | case5 _ t _ _ s _ _ _ s' t' hin ih =>
    have := inner_time m T quantum t s
    rw [hin] at this
    have := ih h
    simp only [CycleOut.time] at *
    omega
  | case6 _ t _ _ s _ _ _ sg t' hin =>
    have := inner_time m T quantum t s
    rw [hin] at this
    cases h
    simp only [CycleOut.time] at *
    omega

/-- With a non-zero quantum the loop always ends: `T + 1` outer iterations suffice from time 0. -/
theorem run_fuel_suffices {σ : Type} (m : Machine σ) (quantum T : Nat) (hq : 0 < quantum) (fuel t p : Nat)
    (tr : List Nat) (s : σ) (hf : T + 1 ≤ fuel + t) (h0 : 0 < fuel) :
    (run m quantum T fuel t p tr s).isSome = true := by
  fun_induction run m quantum T fuel t p tr s with
  | case1 => omega
  | case2 | case3 | case4 | case6 => rfl
  | case5 fuel t _ _ s _ _ _ s' t' hin ih =>
    -- the cycle came back with its budget not empty, so the clock has advanced
    have hp := (inner_time m T quantum t s).2.2 hq
    rw [hin] at hp
    have : t < t' := hp.resolve_left nofun
    exact ih (by omega) (by omega)

theorem run_stops {σ : Type} (m : Machine σ) (quantum T : Nat) (hq : 0 < quantum) (s : σ) :
    ∃ r, run m quantum T (T + 1) 0 0 [] s = some r ∧ r.t < T + quantum := by
  obtain ⟨r, hr⟩ := Option.isSome_iff_exists.mp
    (run_fuel_suffices m quantum T hq (T + 1) 0 0 [] s (Nat.le_refl _) (Nat.succ_pos T))
  have := run_time_bound m quantum T _ _ _ _ _ _ hr
  exact ⟨r, hr, by omega⟩

theorem run_cancelled_at_poll {σ : Type} (m : Machine σ) (quantum T fuel t p : Nat) (tr : List Nat) (s : σ)
    (he : m.empty s = false) (hT : T ≤ t) :
    run m quantum T (fuel + 1) t p tr s = some ⟨some .terminate, t, p + 1, tr ++ [m.obs s]⟩ := by
  simp [run, he, hT]

/-- The tree-walking interpreter as a core: a node visit is an instruction, the `try` depth the
handler stack, and there are neither frames to pop nor limits. -/
def TreeMachine.toMachine {σ : Type} (m : TreeMachine σ) : Machine σ where
  empty := m.finished
  frameEnd := fun _ => false
  popFrame := id
  step := fun s _ => m.visit s false
  handlers := m.tryDepth
  catch_ := m.catch_
  overLimit := fun _ => false
  obs := m.obs

/-- The interpreter's loop is the core's loop with a quantum of one: it polls before every step, so
its polls are counted by the clock. -/
theorem treeRun_eq_run {σ : Type} (m : TreeMachine σ) (T fuel t : Nat) (tr : List Nat) (s : σ) :
    treeRun m T fuel t tr s = run m.toMachine 1 T fuel t t tr s := by
  fun_induction treeRun m T fuel t tr s with
  | case1 => rfl
  | case2 | case3 | case4 | case5 | case6 | case7 =>
    simp only [run, inner, TreeMachine.toMachine, Bool.false_eq_true, if_false, if_true, *]

end Hms.Conc
