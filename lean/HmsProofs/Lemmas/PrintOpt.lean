import Hms.Print.Optimize
import HmsProofs.Lemmas.SemStep
/-! The optimizer model preserves the specification semantics. The optimised configuration differs from the original
in the program only. Of the fourteen mutually recursive evaluators two read the program: `evalExpr` (through
`resolveFn`, of whose answer it keeps the module only) and `applyFn` (through `findFn`, whose answer has its body cut
to the kept prefix, which evaluates alike: `evalBlock_takeThrough`). Everything else is the induction on the fuel,
carried through all fourteen at once (`SimAt`). -/
namespace HmsProofs.Lemmas.Print
open Hms.Core Hms.Print HmsProofs.Sim

/-- The hypothesis of `optimize_preserves`: a statement whose recorded type is `never` does not
complete normally — whatever the fuel and the state, its evaluation ends in a control transfer
(`break`, `continue`, `return`, `throw`), a fatal error or by running out of fuel. -/
def NeverDiverges (cfg : Cfg) (isNever : Stmt → Bool) : Prop :=
  ∀ (fuel : Nat) (s : Stmt) (st : St) (u : Unit) (st' : St),
    isNever s = true → evalStmt cfg fuel s st ≠ (.ok u, st')

theorem takeThrough_length (isNever : Stmt → Bool) (stmts : List Stmt) :
    (takeThrough isNever stmts).length = keptCount (stmts.map isNever) := by
  induction stmts with
  | nil => rfl
  | cons s ss ih =>
    simp only [takeThrough, List.map_cons, keptCount]
    split <;> simp [ih]; omega

theorem takeThrough_prefix (isNever : Stmt → Bool) (stmts : List Stmt) :
    takeThrough isNever stmts <+: stmts := by
  induction stmts with
  | nil => exact List.prefix_refl _
  | cons s ss ih =>
    simp only [takeThrough]
    split
    · exact ⟨ss, rfl⟩
    · exact (List.prefix_cons_inj s).mpr ih

theorem evalStmts_takeThrough (cfg : Cfg) (isNever : Stmt → Bool) (h : NeverDiverges cfg isNever) :
    ∀ (stmts : List Stmt) (fuel : Nat) (st : St),
      evalStmts cfg fuel (takeThrough isNever stmts) st = evalStmts cfg fuel stmts st
  | [], _, _ => rfl
  | _ :: _, 0, _ => by simp [evalStmts]
  | s :: ss, fuel + 1, st => by
    rw [takeThrough]
    split <;> rw [evalStmts_cons, evalStmts_cons] <;> rcases hres : evalStmt cfg fuel s st with ⟨_ | u, st'⟩
    · rfl
    · exact absurd hres (h fuel s st u st' ‹_›)
    · rfl
    · exact evalStmts_takeThrough cfg isNever h ss fuel st'

theorem evalBlock_takeThrough (cfg : Cfg) (isNever : Stmt → Bool) (h : NeverDiverges cfg isNever)
    (sp sp' : Span) (ty ty' : Ty) (stmts : List Stmt) (e : Option Expr) (fuel : Nat) :
    evalBlock cfg fuel (.mk sp ty (takeThrough isNever stmts) e) = evalBlock cfg fuel (.mk sp' ty' stmts e) := by
  cases fuel with
  | zero => simp [evalBlock]
  | succ fuel =>
    funext st
    cases e
    · rw [evalBlock_stmts, evalBlock_stmts, evalStmts_takeThrough cfg isNever h]
    · rw [evalBlock_tail, evalBlock_tail, evalStmts_takeThrough cfg isNever h]

theorem evalBlock_optimize (cfg : Cfg) (isNever : Stmt → Bool) (h : NeverDiverges cfg isNever)
    (b : Block) (fuel : Nat) : evalBlock cfg fuel (optimizeBlock isNever b) = evalBlock cfg fuel b := by
  cases b
  exact evalBlock_takeThrough cfg isNever h ..

theorem find_optModule (isNever : Stmt → Bool) (p : Program) (module : String) :
    (optimizeProgram isNever p).find? (·.name == module)
      = (p.find? (·.name == module)).map (optimizeModule isNever) := by
  unfold optimizeProgram
  rw [List.find?_map]
  rfl

theorem findFn_optimize (isNever : Stmt → Bool) (p : Program) (module name : String) :
    findFn (optimizeProgram isNever p) module name
      = (findFn p module name).map (optimizeFn isNever) := by
  unfold findFn
  rw [find_optModule]
  cases p.find? (·.name == module) with
  | none => rfl
  | some m =>
    simp only [Option.map_some, optimizeModule]
    rw [List.find?_map]
    rfl

theorem resolveFn_optimize (isNever : Stmt → Bool) (p : Program) (module name : String) :
    resolveFn (optimizeProgram isNever p) module name
      = (resolveFn p module name).map (fun mf => (mf.1, optimizeFn isNever mf.2)) := by
  unfold resolveFn
  rw [findFn_optimize, find_optModule]
  cases findFn p module name with
  | some f => rfl
  | none =>
    simp only [Option.map_none]
    cases p.find? (·.name == module) with
    | none => rfl
    | some m =>
      simp only [Option.map_some, optimizeModule]
      rw [List.map_findSome?]
      congr 1
      funext imp
      rw [Function.comp_apply]
      split
      · rw [findFn_optimize]
        cases findFn p imp.fromModule name <;> rfl
      · rfl

theorem resolveFn_fst_optimize (isNever : Stmt → Bool) (p : Program) (a b : String) :
    (resolveFn (optimizeProgram isNever p) a b).map (·.1) = (resolveFn p a b).map (·.1) := by
  rw [resolveFn_optimize]
  cases resolveFn p a b <;> rfl

def optCfg (isNever : Stmt → Bool) (cfg : Cfg) : Cfg :=
  { cfg with prog := optimizeProgram isNever cfg.prog }

theorem callBody_optimize (cfg : Cfg) (isNever : Stmt → Bool) (h : NeverDiverges cfg isNever)
    (fuel : Nat) (sp : Span) (m : String) (params : List Param) (body : Block) (vals : List Val) :
    callBody cfg fuel sp m params (optimizeBlock isNever body) vals = callBody cfg fuel sp m params body vals := by
  cases fuel with
  | zero => simp [callBody]
  | succ fuel =>
    cases body with
    | mk bsp bty stmts e =>
      simp only [callBody, optimizeBlock]
      -- `callBody` evaluates the body under a span and type of its own: the second span and type of
      -- `evalBlock_takeThrough`
      rw [evalBlock_takeThrough cfg isNever h _ ⟨0,0,0,0⟩ _ .null]

structure SimAt (cfg' cfg : Cfg) (n : Nat) : Prop where
  expr : ∀ e, evalExpr cfg' n e = evalExpr cfg n e
  list : ∀ es, evalList cfg' n es = evalList cfg n es
  fields : ∀ fs, evalFields cfg' n fs = evalFields cfg n fs
  arms : ∀ v as d, evalArms cfg' n v as d = evalArms cfg n v as d
  anyLit : ∀ v ls, anyLit cfg' n v ls = anyLit cfg n v ls
  place : ∀ e, evalPlace cfg' n e = evalPlace cfg n e
  call : ∀ sp b as, evalCall cfg' n sp b as = evalCall cfg n sp b as
  apply : ∀ sp f vs, applyFn cfg' n sp f vs = applyFn cfg n sp f vs
  body : ∀ sp m ps b vs, callBody cfg' n sp m ps b vs = callBody cfg n sp m ps b vs
  block : ∀ b, evalBlock cfg' n b = evalBlock cfg n b
  stmts : ∀ ss, evalStmts cfg' n ss = evalStmts cfg n ss
  stmt : ∀ s, evalStmt cfg' n s = evalStmt cfg n s
  loop : ∀ c b, loopRun cfg' n c b = loopRun cfg n c b
  for_ : ∀ nm xs b, forRun cfg' n nm xs b = forRun cfg n nm xs b

/-- `evalExpr` and `applyFn` read the program themselves, `callBody` reads the call limit; the other eleven reach the
configuration only through calls at the smaller fuel. -/
theorem simAt_succ {cfg' cfg : Cfg} {n : Nat} (ih : SimAt cfg' cfg n)
    (hexpr : ∀ e, evalExpr cfg' (n+1) e = evalExpr cfg (n+1) e)
    (happly : ∀ sp f vs, applyFn cfg' (n+1) sp f vs = applyFn cfg (n+1) sp f vs)
    (hl : cfg'.callLimit = cfg.callLimit) :
    SimAt cfg' cfg (n+1) where
  expr := hexpr
  apply := happly
  body sp m ps b vs := by cases b; simp only [callBody, ih.block, hl]
  list es := by cases es <;> simp only [evalList, ih.expr, ih.list]
  fields fs := by
    cases fs with
    | nil => simp only [evalFields]
    | cons f fs => obtain ⟨k, e⟩ := f; simp only [evalFields, ih.expr, ih.fields]
  arms v as d := by
    cases as with
    | nil => cases d <;> simp only [evalArms, ih.expr]
    | cons a as => obtain ⟨lits, act⟩ := a; simp only [evalArms, ih.expr, ih.arms, ih.anyLit]
  anyLit v ls := by cases ls <;> simp only [anyLit, ih.expr, ih.anyLit]
  place e := by cases e <;> simp only [evalPlace, ih.expr, ih.place]
  call sp b as := by simp only [evalCall, ih.expr, ih.list, ih.apply]
  block b := by cases b; simp only [evalBlock, ih.expr, ih.stmts]
  stmts ss := by cases ss <;> simp only [evalStmts, ih.stmt, ih.stmts]
  stmt s := by cases s <;> simp only [evalStmt, ih.expr, ih.list, ih.loop, ih.for_]
  loop c b := by simp only [loopRun, ih.expr, ih.block, ih.loop]
  for_ nm xs b := by cases xs <;> simp only [forRun, ih.block, ih.for_]

theorem evalExpr_congr {cfg' cfg : Cfg} {n : Nat} (ih : SimAt cfg' cfg n)
    (hres : ∀ a b, (resolveFn cfg'.prog a b).map (·.1) = (resolveFn cfg.prog a b).map (·.1)) :
    ∀ e, evalExpr cfg' (n+1) e = evalExpr cfg (n+1) e := by
  intro e
  cases e
  case ident sp ty name g f s =>
    funext st
    simp only [evalExpr, M_bind, M_get]
    have h := hres st.module name
    rcases h1 : resolveFn cfg'.prog st.module name with _ | ⟨m1, f1⟩ <;>
      rcases h2 : resolveFn cfg.prog st.module name with _ | ⟨m2, f2⟩ <;>
      simp only [h1, h2, Option.map_none, Option.map_some, reduceCtorEq, Option.some.injEq] at h
    · rfl
    · subst h; rfl
  all_goals simp only [evalExpr, ih.expr, ih.list, ih.fields, ih.arms, ih.place, ih.call, ih.block]

theorem applyFn_step (cfg : Cfg) (isNever : Stmt → Bool) (hnd : NeverDiverges cfg isNever) (n : Nat)
    (ih : SimAt (optCfg isNever cfg) cfg n) :
    ∀ sp f vs, applyFn (optCfg isNever cfg) (n+1) sp f vs = applyFn cfg (n+1) sp f vs := by
  intro sp f vs
  cases f
  case fn m name =>
    simp only [applyFn, optCfg, findFn_optimize]
    cases findFn cfg.prog m name with
    | none => rfl
    | some fd =>
      simp only [Option.map_some, optimizeFn]
      have := ih.body sp m fd.params (optimizeBlock isNever fd.body) vs
      simp only [optCfg] at this
      rw [this, callBody_optimize cfg isNever hnd]
  all_goals simp only [applyFn, ih.body]

theorem simAt_all (cfg : Cfg) (isNever : Stmt → Bool) (hnd : NeverDiverges cfg isNever) :
    ∀ n, SimAt (optCfg isNever cfg) cfg n := by
  intro n
  induction n with
  -- without fuel every evaluator stops before it reads the configuration
  | zero => constructor <;> intros <;> rfl
  | succ n ih =>
    exact simAt_succ ih (evalExpr_congr ih (resolveFn_fst_optimize isNever cfg.prog))
      (applyFn_step cfg isNever hnd n ih) rfl

theorem runProgram_optimize (cfg : Cfg) (isNever : Stmt → Bool) (hnd : NeverDiverges cfg isNever)
    (fuel : Nat) (entry : String) :
    runProgram (optCfg isNever cfg) fuel entry = runProgram cfg fuel entry := by
  have hs := simAt_all cfg isNever hnd fuel
  unfold runProgram
  simp only [hs.expr, hs.apply]
  simp only [optCfg, findFn_optimize]
  have hfor : ∀ {β : Type} (f : Module → β → M (ForInStep β)) (b : β),
      forIn (optimizeProgram isNever cfg.prog) b f = forIn cfg.prog b (fun m => f (optimizeModule isNever m)) := by
    intro β f b
    unfold optimizeProgram
    rw [List.forIn_map]
  rw [hfor]
  cases findFn cfg.prog "main" entry with
  | none => rfl
  | some fd => rfl

/-! An instance of the hypothesis, and why it is needed. -/

def isControl : Stmt → Bool
  | .ret .. | .brk _ | .cont _ => true
  | _ => false

/-- The three control statements never complete normally, in any program: for them the
hypothesis of `optimize_preserves` is a theorem. -/
theorem control_never_diverges (cfg : Cfg) : NeverDiverges cfg isControl := by
  intro fuel s st u st' hs
  have thr : ∀ (c : Ctl) (s1 : St), (throwCtl c : M Unit) s1 ≠ (.ok u, st') := by
    intro c s1 h; cases h
  cases fuel with
  | zero => exact thr _ _
  | succ fuel =>
    cases s <;> simp only [isControl, Bool.false_eq_true] at hs
    case ret sp e =>
      cases e with
      | none => exact thr _ _
      | some e =>
        rw [evalStmt_ret]
        rcases evalExpr cfg fuel e st with ⟨_ | _, _⟩ <;> exact nofun
    case brk sp => exact thr _ _
    case cont sp => exact thr _ _

def sp0 : Span := ⟨0, 0, 0, 0⟩

/-- `match 0 { 1 => { return; } }` as the analyzer recorded it before the repair of finding A5: no default
arm, every arm diverges, recorded type `never` — but no arm matches and the match completes. -/
def a5Match : Stmt :=
  .exprS sp0 (.matchE sp0 .never (.int sp0 0)
    [([.int sp0 1], .blockE (.mk sp0 .never [.ret sp0 none] none))] none)

/-- Live code after it: `1 / 0;` (the fatal error shows that it ran). -/
def a5Live : Stmt := .exprS sp0 (.infix sp0 .int .div (.int sp0 1) (.int sp0 0))

def a5Block : Block := .mk sp0 .never [a5Match, a5Live] none

def isOk : Except Ctl Val × St → Bool
  | (.ok _, _) => true
  | _ => false

def isFatal : Except Ctl Val × St → Bool
  | (.error (.fatal ..), _) => true
  | _ => false

end HmsProofs.Lemmas.Print
