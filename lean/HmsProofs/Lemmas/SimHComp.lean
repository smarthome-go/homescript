import HmsProofs.Lemmas.SimHSyn
/-!
# The compiler on the expressions of the general fragment: `compileExpr` emits `cgE`; the fuel
`cdE`, `cdS` the compiler model needs (statements: `SimHComp2`, functions: `SimHComp3`)
-/
namespace HmsProofs.Sim
open Hms.Core Hms.Core.Comp

namespace Frag
def cdEls : List Expr → Nat
  | [] => 1
  | x :: xs => max (depthE x) (cdEls xs)
def litsLen : List (List Expr × Expr) → Nat
  | [] => 0
  | a :: as => max a.1.length (litsLen as)
mutual
/-- The "compile depth" of an expression: a fuel with which `compileExpr` gets through it. Every nested call of the
compiler model costs one; argument and element lists cost their length besides, for `compileExprs` and its like. -/
def cdE : Expr → Nat
  | .grouped _ e => cdE e + 1
  | .pre _ _ _ e => cdE e + 1
  | .cast _ _ e => cdE e + 1
  | .infix _ _ _ l r => max (cdE l) (cdE r) + 1
  | .ifE _ _ c t (some e) => max (cdE c) (max (cdB t) (cdB e)) + 1
  | .call _ _ (.member _ _ b _ _) args _ => max (cdE b + 2) (cdArgs args + args.length + 2)
  | .call _ _ _ args _ => cdArgs args + args.length + 2
  | .matchE _ _ c arms (some d) => max (cdE c) (max (cdE d) (cdArms arms + arms.length + litsLen arms + 3)) + 1
  | .list _ _ xs => cdEls xs + xs.length + 2
  | .index _ _ b i => max (cdE b) (cdE i) + 1
  | .obj _ _ fs => cdEls (fs.map (·.2)) + fs.length + 2
  | .member _ _ b _ _ => cdE b + 1
  | _ => 1
def cdArms : List (List Expr × Expr) → Nat
  | [] => 1
  | a :: as => max (cdE a.2) (cdArms as)
def cdB : Block → Nat
  | .mk _ _ _ (some e) => cdE e + 1
  | _ => 1
def cdArgs : List (String × Expr) → Nat
  | [] => 1
  | a :: as => max (cdE a.2) (cdArgs as)
end

mutual
def cdS : Stmt → Nat
  | .letS _ _ _ _ _ e => cdE e + 2
  | .exprS _ e => cdX e + 1
  | .whileS _ c body => max (cdE c) (cdBS body) + 1
  | .loopS _ body => cdBS body + 1
  | .forS _ _ _ (.range _ a b _) (.mk _ _ stmts _) => max (max (cdE a) (cdE b) + 1) (cdSs stmts + 1) + 1
  | .ret _ (some e) => cdE e + 1
  | _ => 1
/-- `cdE` for the expression of an expression statement. -/
def cdX : Expr → Nat
  | .assign _ _ (.index isp ity b i) r => max (cdE (.index isp ity b i)) (cdE r) + 1
  | .assign _ _ (.member msp mty b name mop) r => max (cdE (.member msp mty b name mop)) (cdE r) + 1
  | .assign _ _ _ r => cdE r + 1
  | .ifE _ _ c t (some eb) => max (cdE c) (max (cdBS t) (cdBS eb)) + 1
  | .ifE _ _ c t none => max (cdE c) (cdBS t) + 1
  | .call _ _ (.member _ _ b _ _) args _ => max (cdE b + 1) (cdArgs args + args.length + 1) + 1
  | .call _ _ _ args _ => cdArgs args + args.length + 2
  | .tryE _ _ t _ c => max (cdBS t) (cdBS c) + 2
  | .matchE _ _ c arms (some (.blockE db)) =>
    max (cdE c) (max (cdBS db + 1) (cdArmsS arms + arms.length + litsLen arms + 3)) + 1
  | _ => 1
def cdSs : List Stmt → Nat
  | [] => 1
  | s :: ss => max (cdS s) (cdSs ss) + 1
def cdBS : Block → Nat
  | .mk _ _ stmts _ => cdSs stmts + 1
def cdArmsS : List (List Expr × Expr) → Nat
  | (_, .blockE b) :: rest => max (cdBS b + 1) (cdArmsS rest)
  | _ :: rest => cdArmsS rest
  | [] => 1
end
end Frag

theorem pure_bridge :
    (∀ (e : Expr), Frag.pureE e = true → Frag.okGE e = true ∧ Frag.cdE e = Frag.depthE e) ∧
    (∀ (b : Block), Frag.pureB b = true → Frag.okGB b = true ∧ Frag.cdB b = Frag.depthB b) := by
  refine Frag.pureE.mutual_induct_unfolding
    (motive_1 := fun e ok => ok = true → Frag.okGE e = true ∧ Frag.cdE e = Frag.depthE e)
    (motive_2 := fun b ok => ok = true → Frag.okGB b = true ∧ Frag.cdB b = Frag.depthB b)
    ?int ?bool ?str ?null ?none ?grouped ?ident ?pre ?infixE ?ifE ?other ?block ?blockOther
  case int | bool | str | null | none => intros; exact ⟨rfl, rfl⟩
  case ident => intro sp ty name g f si h; exact ⟨h, rfl⟩
  case other | blockOther => intros; contradiction
  case grouped | pre | block =>
    intros; rename_i ih hp
    simp only [Frag.okGE, Frag.okGB, Frag.cdE, Frag.cdB, Frag.depthE, Frag.depthB, (ih hp).1, (ih hp).2, and_self]
  case infixE =>
    intro sp ty op l r ihl ihr hp
    have hp' := hp
    rw [Bool.and_eq_true] at hp'
    simp only [Frag.okGE, Frag.pureE, hp, Bool.true_or, Frag.cdE, Frag.depthE, (ihl hp'.1).2, (ihr hp'.2).2, and_self]
  case ifE =>
    intro sp ty c t e ihc iht ihe hp
    simp only [Bool.and_eq_true] at hp
    simp only [Frag.okGE, Frag.cdE, Frag.depthE, (ihc hp.1.1).1, (ihc hp.1.1).2, (iht hp.1.2).1, (iht hp.1.2).2,
      (ihe hp.2).1, (ihe hp.2).2, Bool.and_self, and_self]

/-- What `getMangledFn` answers in state `cs`. -/
def φOf (cs : CState) (name : String) : Option String :=
  match cs.fns.lookup (cs.currModule, name) with
  | some f => some f.name
  | none => (cs.fns.find? fun p => p.1.2 == name).map (·.2.name)

theorem getMangledFn_run (name : String) (cs : CState) : (getMangledFn name).run cs = (φOf cs name, cs) := by
  unfold getMangledFn φOf
  show (match cs.fns.lookup (cs.currModule, name) with
    | some f => (pure (some f.name) : C (Option String))
    | none => pure ((cs.fns.find? fun (p : (String × String) × SFn) => p.1.2 == name).map
      (fun (x : (String × String) × SFn) => x.2.name))).run cs = _
  cases cs.fns.lookup (cs.currModule, name) <;> rfl

theorem find_name_map (fns : List ((String × String) × SFn))
    (g : (String × String) × SFn → (String × String) × SFn)
    (hk : ∀ p, (g p).1 = p.1) (hn : ∀ p, (g p).2.name = p.2.name) (name : String) :
    ((fns.map g).find? fun p => p.1.2 == name).map (·.2.name) =
      (fns.find? fun p => p.1.2 == name).map (·.2.name) := by
  induction fns with
  | nil => rfl
  | cons p rest ih =>
    simp only [List.map_cons, List.find?_cons, hk]
    cases (p.1.2 == name)
    · exact ih
    · simp [hn]

theorem φOf_updS (cs : CState) (L) (c0 : SCode) (env : CEnv) : φOf (updS cs L c0 env) = φOf cs := by
  funext name
  unfold φOf
  have hmod : (updS cs L c0 env).currModule = cs.currModule := rfl
  rw [hmod]
  have hl := lookup_map_upd cs.fns (cs.currModule, cs.currFn) (cs.currModule, name)
    (fun f => { f with code := f.code ++ c0, cntVars := f.cntVars + env.nv })
  have hfns : (updS cs L c0 env).fns = cs.fns.map fun p =>
      if p.1 == (cs.currModule, cs.currFn) then
        (p.1, (fun f : SFn => { f with code := f.code ++ c0, cntVars := f.cntVars + env.nv }) p.2) else p := rfl
  rw [hfns, hl, find_name_map cs.fns _ (by intro p; split <;> rfl) (by intro p; split <;> rfl)]
  generalize cs.fns.lookup (cs.currModule, name) = o
  by_cases hk : (cs.currModule, name) = (cs.currModule, cs.currFn)
  · rw [if_pos hk]; cases o <;> rfl
  · rw [if_neg hk]

theorem getMangledFn_run_S (name : String) (cs : CState) (L) (c0 : SCode) (env : CEnv) :
    (getMangledFn name).run (updS cs L c0 env) = (φOf cs name, updS cs L c0 env) := by
  rw [getMangledFn_run, φOf_updS]

def cgEs (mod : String) (ρ φ : String → Option String) : List Expr → LM → SCode × LM
  | [], lm => ([], lm)
  | e :: es, lm =>
    ((cgE mod ρ φ e lm).1 ++ (cgEs mod ρ φ es (cgE mod ρ φ e lm).2).1, (cgEs mod ρ φ es (cgE mod ρ φ e lm).2).2)

theorem cgEs_append (mod : String) (ρ φ : String → Option String) : ∀ (xs ys : List Expr) (lm : LM),
    cgEs mod ρ φ (xs ++ ys) lm =
      ((cgEs mod ρ φ xs lm).1 ++ (cgEs mod ρ φ ys (cgEs mod ρ φ xs lm).2).1,
       (cgEs mod ρ φ ys (cgEs mod ρ φ xs lm).2).2) := by
  intro xs
  induction xs with
  | nil => intro ys lm; simp [cgEs]
  | cons x xs ih => intro ys lm; simp only [List.cons_append, cgEs, ih, List.append_assoc]

/-- `compileExprs` runs over the reversed arguments: that is `cgArgs`. -/
theorem cgEs_rev_args (mod : String) (ρ φ : String → Option String) : ∀ (args : List (String × Expr)) (lm : LM),
    cgEs mod ρ φ (args.reverse.map (·.2)) lm = cgArgs mod ρ φ args lm := by
  intro args
  induction args with
  | nil => intro lm; rfl
  | cons a as ih =>
    intro lm
    rw [List.reverse_cons, List.map_append, cgEs_append, ih, cgArgs]
    simp [cgEs]

/-- With fuel `fuel` the compiler appends exactly `cgE … e` to the function being compiled, whatever loop stack, code
and environment it starts from, if `e` is well-scoped there. -/
def CompGE (fuel : Nat) (e : Expr) (cs : CState) : Prop :=
  ∀ (L : List (String × String × Nat)) (c0 : SCode) (env : CEnv), Frag.wsGE env.scopes (φOf cs) e = true →
    (compileExpr fuel e).run (updS cs L c0 env) =
      ((), updS cs L (c0 ++ (cgE cs.currModule (ρS env.scopes) (φOf cs) e env.lm).1)
        { env with lm := (cgE cs.currModule (ρS env.scopes) (φOf cs) e env.lm).2 })

def CompGB (fuel : Nat) (b : Block) (cs : CState) : Prop :=
  ∀ (L : List (String × String × Nat)) (c0 : SCode) (env : CEnv),
    (Frag.resolved env.scopes (Frag.varsGB b) && Frag.callsOK env.scopes (φOf cs) (Frag.callsGB b)) = true →
    (compileBlock fuel b true).run (updS cs L c0 env) =
      ((), updS cs L (c0 ++ (cgB cs.currModule (ρS env.scopes) (φOf cs) b env.lm).1)
        { env with lm := (cgB cs.currModule (ρS env.scopes) (φOf cs) b env.lm).2 })

theorem wsGE_of_pure (scopes : CScopes) (φ : String → Option String) (e : Expr) (h : Frag.pureE e = true) :
    Frag.wsGE scopes φ e = Frag.resolved scopes (Frag.varsE e) := by
  have := varsG_pure.1 e h
  simp only [Frag.wsGE, this.1, this.2, Frag.callsOK, List.all_nil, Bool.and_true]

/-- `CompGE` for a pure expression, in terms of `cpE` (the elements of list and object literals are compiled by it). -/
def CompPE (fuel : Nat) (e : Expr) (cs : CState) : Prop :=
  ∀ (L : List (String × String × Nat)) (c0 : SCode) (env : CEnv), Frag.resolved env.scopes (Frag.varsE e) = true →
    (compileExpr fuel e).run (updS cs L c0 env) =
      ((), updS cs L (c0 ++ (cpE cs.currModule (ρS env.scopes) e env.lm).1)
        { env with lm := (cpE cs.currModule (ρS env.scopes) e env.lm).2 })

theorem CompGE.toPure {fuel : Nat} {e : Expr} {cs : CState} (h : CompGE fuel e cs) (hp : Frag.pureE e = true) :
    CompPE fuel e cs := by
  intro L c0 env hv
  rw [← cgE_of_pure _ _ (φOf cs) _ _ hp]
  exact h L c0 env (by rw [wsGE_of_pure _ _ _ hp]; exact hv)

theorem compileExprs_seq (cs : CState) (M : Nat) : ∀ (es : List Expr) (fuel : Nat),
    (∀ e ∈ es, ∀ f, M ≤ f → f < fuel → CompGE f e cs) → M + es.length + 1 ≤ fuel →
    ∀ (L : List (String × String × Nat)) (c0 : SCode) (env : CEnv),
      (∀ e ∈ es, Frag.wsGE env.scopes (φOf cs) e = true) →
      (compileExprs fuel es).run (updS cs L c0 env) =
        ((), updS cs L (c0 ++ (cgEs cs.currModule (ρS env.scopes) (φOf cs) es env.lm).1)
          { env with lm := (cgEs cs.currModule (ρS env.scopes) (φOf cs) es env.lm).2 }) := by
  intro es
  induction es with
  | nil =>
    intro fuel _ hf L c0 env _
    obtain ⟨f, rfl⟩ := Nat.exists_eq_add_of_le' (show 1 ≤ fuel by simp at hf; omega)
    rw [compileExprs]
    simp [cgEs]
    rfl
  | cons e es ih =>
    intro fuel hall hf L c0 env hws
    obtain ⟨f, rfl⟩ := Nat.exists_eq_add_of_le' (show 1 ≤ fuel by simp at hf; omega)
    simp only [List.length_cons] at hf
    rw [compileExprs]
    have h1 := hall e (by simp) f (by omega) (by omega) L c0 env (hws e (by simp))
    refine bind_run h1 ?_
    have h2 := ih f (fun e' he' f' hM hf' => hall e' (by simp [he']) f' hM (by omega)) (by omega) L
      (c0 ++ (cgE cs.currModule (ρS env.scopes) (φOf cs) e env.lm).1)
      { env with lm := (cgE cs.currModule (ρS env.scopes) (φOf cs) e env.lm).2 }
      (fun e' he' => hws e' (by simp [he']))
    rw [h2]
    simp only [cgEs, List.append_assoc]

theorem max_add_le {a b k n : Nat} : max a b + k ≤ n ↔ a + k ≤ n ∧ b + k ≤ n := by omega

theorem cdE_pos (e : Expr) : 1 ≤ Frag.cdE e := by
  unfold Frag.cdE; split <;> omega

theorem okEArgs_mem (fr : Bool) : ∀ (args : List (String × Expr)), Frag.okEArgs fr args = true →
    ∀ a ∈ args, Frag.okE fr a.2 = true := by
  intro args
  induction args with
  | nil => intro _ a ha; simp at ha
  | cons x xs ih =>
    intro h a ha
    simp only [Frag.okEArgs, Bool.and_eq_true] at h
    rcases List.mem_cons.mp ha with rfl | ha
    · exact h.1
    · exact ih h.2 a ha

theorem cdArgs_mem : ∀ (args : List (String × Expr)), ∀ a ∈ args, Frag.cdE a.2 ≤ Frag.cdArgs args := by
  intro args
  induction args with
  | nil => intro a ha; simp at ha
  | cons x xs ih =>
    intro a ha
    simp only [Frag.cdArgs]
    rcases List.mem_cons.mp ha with rfl | ha
    · omega
    · have := ih a ha; omega

theorem wsGArgs_mem (scopes : CScopes) (φ : String → Option String) : ∀ (args : List (String × Expr)),
    Frag.resolved scopes (Frag.varsGArgs args) = true → Frag.callsOK scopes φ (Frag.callsGArgs args) = true →
    ∀ a ∈ args, Frag.wsGE scopes φ a.2 = true := by
  intro args
  induction args with
  | nil => intro _ _ a ha; simp at ha
  | cons x xs ih =>
    intro h1 h2 a ha
    simp only [Frag.varsGArgs] at h1
    simp only [Frag.callsGArgs] at h2
    rw [resolved_append] at h1
    rw [callsOK_append] at h2
    rcases List.mem_cons.mp ha with rfl | ha
    · simp only [Frag.wsGE, Bool.and_eq_true]; exact ⟨h1.1, h2.1⟩
    · exact ih h1.2 h2.2 a ha

theorem compileArgs_run (fr : Bool) (cs : CState) (args : List (String × Expr)) (fuel : Nat)
    (hall : ∀ f, f < fuel → ∀ (e : Expr), Frag.okE fr e = true → Frag.cdE e ≤ f → CompGE f e cs)
    (hok : Frag.okEArgs fr args = true) (hf : Frag.cdArgs args + args.length + 1 ≤ fuel)
    (L : List (String × String × Nat)) (c0 : SCode) (env : CEnv)
    (hv : Frag.resolved env.scopes (Frag.varsGArgs args) = true)
    (hc : Frag.callsOK env.scopes (φOf cs) (Frag.callsGArgs args) = true) :
    (compileExprs fuel (args.reverse.map (·.2))).run (updS cs L c0 env) =
      ((), updS cs L (c0 ++ (cgArgs cs.currModule (ρS env.scopes) (φOf cs) args env.lm).1)
        { env with lm := (cgArgs cs.currModule (ρS env.scopes) (φOf cs) args env.lm).2 }) := by
  have h := compileExprs_seq cs (Frag.cdArgs args) (args.reverse.map (·.2)) fuel
    (by
      intro e he f' hM hf'
      simp only [List.mem_map, List.mem_reverse] at he
      obtain ⟨a, ha, rfl⟩ := he
      have := cdArgs_mem args a ha
      exact hall f' hf' a.2 (okEArgs_mem fr args hok a ha) (by omega))
    (by simp only [List.length_map, List.length_reverse]; omega) L c0 env
    (by
      intro e he
      simp only [List.mem_map, List.mem_reverse] at he
      obtain ⟨a, ha, rfl⟩ := he
      exact wsGArgs_mem env.scopes (φOf cs) args hv hc a ha)
  rwa [cgEs_rev_args] at h

theorem compileListElems_run (cs : CState) (sp : Span) : ∀ (xs : List Expr) (fuel : Nat),
    (∀ f e, f < fuel → Frag.pureE e = true → Frag.depthE e ≤ f → CompPE f e cs) →
    xs.all Frag.pureE = true → Frag.cdEls xs + xs.length + 1 ≤ fuel →
    ∀ (L : List (String × String × Nat)) (c0 : SCode) (env : CEnv),
      Frag.resolved env.scopes (xs.flatMap Frag.varsE) = true →
      (compileListElems fuel sp xs).run (updS cs L c0 env) =
        ((), updS cs L (c0 ++ (cgEls cs.currModule (ρS env.scopes) sp xs env.lm).1)
          { env with lm := (cgEls cs.currModule (ρS env.scopes) sp xs env.lm).2 }) := by
  intro xs
  induction xs with
  | nil =>
    intro fuel _ _ hf L c0 env _
    obtain ⟨f, rfl⟩ := Nat.exists_eq_add_of_le' (show 1 ≤ fuel by simp [Frag.cdEls] at hf; omega)
    rw [compileListElems]
    simp [cgEls]
    rfl
  | cons x xs ih =>
    intro fuel hall hp hf L c0 env hres
    simp only [List.all_cons, Bool.and_eq_true] at hp
    simp only [Frag.cdEls, List.length_cons] at hf
    rw [List.flatMap_cons, resolved_append] at hres
    obtain ⟨hres1, hres2⟩ := hres
    obtain ⟨f, rfl⟩ := Nat.exists_eq_add_of_le' (show 1 ≤ fuel by omega)
    rw [compileListElems]
    refine bind_run (hall f x (by omega) hp.1 (by omega) L c0 env hres1) ?_
    refine bind_run (emit_run_S ..) ?_
    refine bind_run (emit_run_S ..) ?_
    have h2 := ih f (fun f' e hf' => hall f' e (by omega)) hp.2 (by omega) L
      (c0 ++ (cpE cs.currModule (ρS env.scopes) x env.lm).1 ++ [(Instr.copyPush (PVal.int 2), sp)] ++
        [(Instr.hostCall "__internal_list_push", sp)])
      { env with lm := (cpE cs.currModule (ρS env.scopes) x env.lm).2 } hres2
    rw [h2]
    simp only [cgEls, List.append_assoc, List.cons_append, List.nil_append]

theorem dedup_nodup {β} (zs : List (String × β)) (acc : List (String × β))
    (hnd : (zs.map (·.1)).Nodup) (hdis : ∀ k ∈ zs.map (·.1), k ∉ acc.map (·.1)) :
    zs.foldl (fun acc (kv : String × β) => acc.filter (·.1 != kv.1) ++ [(kv.1, kv.2)]) acc = acc ++ zs := by
  induction zs generalizing acc with
  | nil => simp
  | cons z zs ih =>
    simp only [List.map_cons, List.nodup_cons] at hnd
    have hz : acc.filter (·.1 != z.1) = acc := by
      apply List.filter_eq_self.mpr
      intro a ha
      have : a.1 ≠ z.1 := fun e => hdis z.1 (by simp) (List.mem_map.mpr ⟨a, ha, e⟩)
      simpa using this
    simp only [List.foldl_cons, hz]
    rw [ih _ hnd.2]
    · simp
    · intro k hk hmem
      simp only [List.map_append, List.map_cons, List.map_nil, List.mem_append, List.mem_singleton] at hmem
      rcases hmem with h | h
      · exact hdis k (by simp [hk]) h
      · subst h; exact hnd.1 hk

theorem compileObjFields_run (cs : CState) (sp : Span) : ∀ (fs : List (String × Expr)) (fuel : Nat),
    (∀ f e, f < fuel → Frag.pureE e = true → Frag.depthE e ≤ f → CompPE f e cs) →
    fs.all (fun f => Frag.pureE f.2) = true → Frag.cdEls (fs.map (·.2)) + fs.length + 1 ≤ fuel →
    ∀ (L : List (String × String × Nat)) (c0 : SCode) (env : CEnv),
      Frag.resolved env.scopes (fs.flatMap fun f => Frag.varsE f.2) = true →
      (compileObjFields fuel sp fs).run (updS cs L c0 env) =
        ((), updS cs L (c0 ++ (cgFields cs.currModule (ρS env.scopes) sp fs env.lm).1)
          { env with lm := (cgFields cs.currModule (ρS env.scopes) sp fs env.lm).2 }) := by
  intro fs
  induction fs with
  | nil =>
    intro fuel _ _ hf L c0 env _
    obtain ⟨f, rfl⟩ := Nat.exists_eq_add_of_le' (show 1 ≤ fuel by simp [Frag.cdEls] at hf; omega)
    rw [compileObjFields]
    simp [cgFields]
    rfl
  | cons x fs ih =>
    obtain ⟨k, x⟩ := x
    intro fuel hall hp hf L c0 env hres
    simp only [List.all_cons, Bool.and_eq_true] at hp
    simp only [List.map_cons, Frag.cdEls, List.length_cons] at hf
    rw [List.flatMap_cons, resolved_append] at hres
    obtain ⟨hres1, hres2⟩ := hres
    obtain ⟨f, rfl⟩ := Nat.exists_eq_add_of_le' (show 1 ≤ fuel by omega)
    rw [compileObjFields]
    refine bind_run (emit_run_S ..) ?_
    refine bind_run (emit_run_S ..) ?_
    refine bind_run (hall f x (by omega) hp.1 (by omega) L _ env hres1) ?_
    refine bind_run (emit_run_S ..) ?_
    have h2 := ih f (fun f' e hf' => hall f' e (by omega)) hp.2 (by omega) L
      (c0 ++ [(Instr.dup, sp)] ++ [(Instr.member k, sp)] ++ (cpE cs.currModule (ρS env.scopes) x env.lm).1 ++
        [(Instr.assign, sp)])
      { env with lm := (cpE cs.currModule (ρS env.scopes) x env.lm).2 } hres2
    rw [h2]
    simp only [cgFields, List.append_assoc, List.cons_append, List.nil_append]

theorem compileLit_run (f : Nat) (l : Expr) (h : Frag.litE l = true) (cs : CState) (L) (c0 : SCode) (env : CEnv) :
    (compileExpr (f + 1) l).run (updS cs L c0 env) = ((), updS cs L (c0 ++ litCode l) env) := by
  cases l <;> simp [Frag.litE] at h <;> (rw [compileExpr]; exact emit_run_S _ _ _ _ _ _)

theorem compileLitTests_run (cs : CState) (sp : Span) (name : String) : ∀ (lits : List Expr) (fuel : Nat),
    (∀ l ∈ lits, Frag.litE l = true) → lits.length + 2 ≤ fuel →
    ∀ (L : List (String × String × Nat)) (c0 : SCode) (env : CEnv),
      (compileLitTests fuel sp name lits).run (updS cs L c0 env) =
        ((), updS cs L (c0 ++ litTests sp name lits) env) := by
  intro lits
  induction lits with
  | nil =>
    intro fuel _ hf L c0 env
    obtain ⟨f, rfl⟩ := Nat.exists_eq_add_of_le' (show 1 ≤ fuel by omega)
    rw [compileLitTests]
    simp [litTests]
    rfl
  | cons l ls ih =>
    intro fuel hl hf L c0 env
    simp only [List.length_cons] at hf
    obtain ⟨f, rfl⟩ := Nat.exists_eq_add_of_le' (show 2 ≤ fuel by omega)
    rw [compileLitTests]
    refine bind_run (compileLit_run f l (hl l (by simp)) cs L c0 env) ?_
    refine bind_run (emit_run_S ..) ?_
    refine bind_run (emit_run_S ..) ?_
    refine bind_run (emit_run_S ..) ?_
    rw [ih (f + 1) (fun l' h' => hl l' (by simp [h'])) (by omega)]
    simp only [litTests, List.append_assoc, List.cons_append, List.nil_append]

theorem compileArmTests_run (cs : CState) (sp : Span) : ∀ (arms : List (List Expr × Expr)) (fuel : Nat),
    (∀ a ∈ arms, ∀ l ∈ a.1, Frag.litE l = true) → Frag.litsLen arms + arms.length + 3 ≤ fuel →
    ∀ (L : List (String × String × Nat)) (c0 : SCode) (env : CEnv),
      (compileArmTests fuel sp arms).run (updS cs L c0 env) =
        ((armTests cs.currModule sp arms env.lm).2.1,
         updS cs L (c0 ++ (armTests cs.currModule sp arms env.lm).1)
          { env with lm := (armTests cs.currModule sp arms env.lm).2.2 }) := by
  intro arms
  induction arms with
  | nil =>
    intro fuel _ hf L c0 env
    obtain ⟨f, rfl⟩ := Nat.exists_eq_add_of_le' (show 1 ≤ fuel by omega)
    rw [compileArmTests]
    simp [armTests]
    rfl
  | cons a rest ih =>
    intro fuel hl hf L c0 env
    simp only [List.length_cons, Frag.litsLen] at hf
    obtain ⟨f, rfl⟩ := Nat.exists_eq_add_of_le' (show 1 ≤ fuel by omega)
    obtain ⟨lits, act⟩ := a
    rw [compileArmTests]
    refine bind_run (mangleLabel_run_S ..) ?_
    refine bind_run (compileLitTests_run cs sp _ lits f (hl (lits, act) (by simp)) (by simp at hf ⊢; omega) _ _ _) ?_
    refine bind_run (ih f (fun a' h' => hl a' (by simp [h'])) (by omega) _ _ _) ?_
    simp only [armTests, List.append_assoc]
    rfl

theorem compileArmBodies_run (cs : CState) (sp : Span) (after : String) (M : Nat) :
    ∀ (arms : List (List Expr × Expr)) (nms : List String) (fuel : Nat), arms.length = nms.length →
    (∀ a ∈ arms, ∀ f, M ≤ f → f < fuel → CompGE f a.2 cs) → M + arms.length + 1 ≤ fuel →
    ∀ (L : List (String × String × Nat)) (c0 : SCode) (env : CEnv),
      (∀ a ∈ arms, Frag.wsGE env.scopes (φOf cs) a.2 = true) →
      (compileArmBodies fuel sp after (arms.zip nms)).run (updS cs L c0 env) =
        ((), updS cs L (c0 ++ (cgArms cs.currModule (ρS env.scopes) (φOf cs) sp after arms nms env.lm).1)
          { env with lm := (cgArms cs.currModule (ρS env.scopes) (φOf cs) sp after arms nms env.lm).2 }) := by
  intro arms
  induction arms with
  | nil =>
    intro nms fuel hlen _ hf L c0 env _
    obtain ⟨f, rfl⟩ := Nat.exists_eq_add_of_le' (show 1 ≤ fuel by omega)
    cases nms with
    | cons _ _ => simp at hlen
    | nil =>
      rw [List.zip_nil_left, compileArmBodies]
      simp [cgArms]
      rfl
  | cons a rest ih =>
    intro nms fuel hlen hall hf L c0 env hws
    cases nms with
    | nil => simp at hlen
    | cons nm nms =>
      simp only [List.length_cons] at hf hlen
      obtain ⟨f, rfl⟩ := Nat.exists_eq_add_of_le' (show 1 ≤ fuel by omega)
      obtain ⟨lits, act⟩ := a
      rw [List.zip_cons_cons, compileArmBodies]
      refine bind_run (emit_run_S ..) ?_
      refine bind_run (emit_run_S ..) ?_
      refine bind_run (hall (lits, act) (by simp) f (by omega) (by omega) L _ env (hws _ (by simp))) ?_
      refine bind_run (emit_run_S ..) ?_
      have h2 := ih nms f (by omega) (fun a' h' f' hM hf' => hall a' (by simp [h']) f' hM (by omega)) (by omega) L
        (c0 ++ [(Instr.label nm, sp)] ++ [(Instr.drop, sp)] ++
            (cgE cs.currModule (ρS env.scopes) (φOf cs) act env.lm).1 ++ [(Instr.jump after, sp)])
        { env with lm := (cgE cs.currModule (ρS env.scopes) (φOf cs) act env.lm).2 }
        (fun a' h' => hws a' (by simp [h']))
      rw [h2]
      simp only [cgArms, List.append_assoc, List.cons_append, List.nil_append]

theorem cdArms_mem : ∀ (arms : List (List Expr × Expr)), ∀ a ∈ arms, Frag.cdE a.2 ≤ Frag.cdArms arms := by
  intro arms
  induction arms with
  | nil => intro a ha; simp at ha
  | cons x xs ih =>
    intro a ha
    simp only [Frag.cdArms]
    rcases List.mem_cons.mp ha with rfl | ha
    · omega
    · have := ih a ha; omega

theorem updS_push (cs : CState) (L) (c0 : SCode) (env : CEnv) :
    ({ updS cs L c0 env with scopes := [] :: (updS cs L c0 env).scopes } : CState) =
      updS cs L c0 { env with scopes := [] :: env.scopes } := rfl

section
variable {fuel : Nat} {cs : CState}

theorem CompGE.grouped {e : Expr} (sp : Span) (h : CompGE fuel e cs) : CompGE (fuel + 1) (.grouped sp e) cs := by
  intro L c0 env hws
  rw [compileExpr, cgE]
  exact h L c0 env hws

theorem CompGE.pre {e : Expr} (sp : Span) (ty : Ty) (op : PrefixOp) (h : CompGE fuel e cs) :
    CompGE (fuel + 1) (.pre sp ty op e) cs := by
  intro L c0 env hws
  have h1 := h L c0 env hws
  cases op <;>
    (rw [compileExpr, cgE]
     refine bind_run h1 ?_
     rw [emit_run_S, List.append_assoc]; rfl)

theorem CompGE.cast {e : Expr} (sp : Span) (ty : Ty) (h : CompGE fuel e cs) : CompGE (fuel + 1) (.cast sp ty e) cs := by
  intro L c0 env hws
  rw [compileExpr, cgE]
  refine bind_run (h L c0 env hws) ?_
  rw [emit_run_S, List.append_assoc]

theorem CompGE.member {b : Expr} (sp : Span) (ty : Ty) (name : String) (h : CompGE fuel b cs) :
    CompGE (fuel + 1) (.member sp ty b name .dot) cs := by
  intro L c0 env hws
  rw [compileExpr, cgE]
  refine bind_run (h L c0 env (by simpa [Frag.wsGE, Frag.varsGE, Frag.callsGE] using hws)) ?_
  simp only []
  rw [emit_run_S, List.append_assoc]

theorem CompGE.index {b i : Expr} (sp : Span) (ty : Ty) (hb : CompGE fuel b cs) (hi : CompGE fuel i cs) :
    CompGE (fuel + 1) (.index sp ty b i) cs := by
  intro L c0 env hws
  simp only [Frag.wsGE, Frag.varsGE, Frag.callsGE, ws_append] at hws
  rw [compileExpr, cgE]
  refine bind_run (hb L c0 env hws.1) ?_
  refine bind_run (hi L _ _ hws.2) ?_
  rw [emit_run_S]
  simp only [List.append_assoc]

theorem CompGE.arith {op : InfixOp} {l r : Expr} (sp : Span) (ty : Ty) (hlog : Frag.isLogical op = false)
    (hl : CompGE fuel l cs) (hr : CompGE fuel r cs) : CompGE (fuel + 1) (.infix sp ty op l r) cs := by
  intro L c0 env hws
  simp only [Frag.wsGE, Frag.varsGE, Frag.callsGE, ws_append] at hws
  have hor : op ≠ .or := by intro h; subst h; simp [Frag.isLogical] at hlog
  have hand : op ≠ .and := by intro h; subst h; simp [Frag.isLogical] at hlog
  rw [compileExpr, cgE]
  · refine bind_run (hl L c0 env hws.1) ?_
    refine bind_run (hr L _ _ hws.2) ?_
    rw [arith_run_S _ _ _ _ _ _ hlog]
    simp only [List.append_assoc]
  all_goals (intro h; first | exact hor h | exact hand h)
end

theorem compile_gexpr (fr : Bool) : ∀ (fuel : Nat),
    (∀ (e : Expr) (cs : CState), Frag.okE fr e = true → Frag.cdE e ≤ fuel → CompGE fuel e cs) ∧
    (∀ (b : Block) (cs : CState), Frag.okEB fr b = true → Frag.cdB b ≤ fuel → CompGB fuel b cs) := by
  intro fuel
  -- Strong induction on the fuel and not induction on the expression: arguments, elements and arms are compiled by
  -- `compileExprs` and `compileArmBodies`, which spend fuel on the list itself, so a sub-expression is met at some
  -- smaller fuel that depends on its place; `compileExprs_seq`, `compileArmBodies_run` ask for all fuels below.
  induction fuel using Nat.strongRecOn with
  | _ fuel ih =>
  cases fuel with
  | zero =>
    constructor
    · intro e cs _ hd; have := cdE_pos e; omega
    · intro b cs _ hd; obtain ⟨_, _, _, oe⟩ := b; cases oe <;> simp [Frag.cdB] at hd
  | succ fuel =>
    have ihE := fun f (hf : f ≤ fuel) => (ih f (by omega)).1
    have ihB := (ih fuel (by omega)).2
    have ihP : ∀ f e, f < fuel + 1 → Frag.pureE e = true → Frag.depthE e ≤ f → ∀ cs, CompPE f e cs :=
      fun f e hf hp hd cs => (ihE f (by omega) e cs (okE_okGE fr e (pure_bridge.1 e hp).1)
        ((pure_bridge.1 e hp).2 ▸ hd)).toPure hp
    constructor
    · intro e cs hok hd L c0 env hws
      cases e <;> try (simp only [Frag.okE, Bool.false_eq_true] at hok)
      case int | bool | str | null | none => rw [compileExpr, cgE]; exact emit_run_S ..
      case ident sp ty name g f si =>
        simp only [Bool.and_eq_true, Bool.not_eq_eq_eq_not, Bool.not_true] at hok
        obtain ⟨⟨rfl, _⟩, rfl⟩ := hok
        simp only [Frag.wsGE, Frag.varsGE, Frag.resolved, List.all_cons, List.all_nil, Bool.and_true,
          Bool.and_eq_true] at hws
        obtain ⟨m, hm⟩ := Option.isSome_iff_exists.mp hws.1
        rw [compileExpr, cgE]
        refine bind_run (getMangled_run_S ..) ?_
        rw [hm]
        exact emit_run_S ..
      case grouped sp e =>
        simp only [Frag.cdE] at hd
        exact (ihE fuel (Nat.le_refl _) e cs hok (by omega)).grouped sp L c0 env hws
      case pre sp ty op e =>
        simp only [Frag.cdE] at hd
        exact (ihE fuel (Nat.le_refl _) e cs hok (by omega)).pre sp ty op L c0 env hws
      case cast sp ty e =>
        simp only [Bool.and_eq_true] at hok
        simp only [Frag.cdE] at hd
        exact (ihE fuel (Nat.le_refl _) e cs hok.2 (by omega)).cast sp ty L c0 env hws
      case «infix» sp ty op l r =>
        have hlr : Frag.okE fr l = true ∧ Frag.okE fr r = true := by
          simp only [Frag.pureE, Bool.or_eq_true, Bool.and_eq_true] at hok
          rcases hok with ⟨hl, hr⟩ | ⟨⟨⟨_, hl⟩, hr⟩, _⟩
          · exact ⟨okE_okGE fr l (pure_bridge.1 l hl).1, okE_okGE fr r (pure_bridge.1 r hr).1⟩
          · exact ⟨hl, hr⟩
        simp only [Frag.cdE, max_add_le] at hd
        have hL := ihE fuel (Nat.le_refl _) l cs hlr.1 (by omega)
        have hR := ihE fuel (Nat.le_refl _) r cs hlr.2 (by omega)
        cases hlog : Frag.isLogical op
        · exact CompGE.arith sp ty hlog hL hR L c0 env hws
        simp only [Frag.wsGE, Frag.varsGE, Frag.callsGE, ws_append] at hws
        cases op <;> try (simp only [Frag.isLogical, Bool.false_eq_true] at hlog)
        case or =>
          rw [compileExpr, cgE]
          refine bind_run (mangleLabel_run_S ..) ?_
          refine bind_run (mangleLabel_run_S ..) ?_
          refine bind_run (hL _ _ _ hws.1) ?_
          refine bind_run (emit_run_S ..) ?_
          refine bind_run (emit_run_S ..) ?_
          refine bind_run (hR _ _ _ hws.2) ?_
          refine bind_run (emit_run_S ..) ?_
          refine bind_run (emit_run_S ..) ?_
          refine bind_run (emit_run_S ..) ?_
          rw [emit_run_S]
          simp only [List.append_assoc, List.cons_append, List.nil_append]
        case and =>
          rw [compileExpr, cgE]
          refine bind_run (mangleLabel_run_S ..) ?_
          refine bind_run (mangleLabel_run_S ..) ?_
          refine bind_run (hL _ _ _ hws.1) ?_
          refine bind_run (emit_run_S ..) ?_
          refine bind_run (hR _ _ _ hws.2) ?_
          refine bind_run (emit_run_S ..) ?_
          refine bind_run (emit_run_S ..) ?_
          refine bind_run (emit_run_S ..) ?_
          rw [emit_run_S]
          simp only [List.append_assoc, List.cons_append, List.nil_append]
      case ifE sp ty c t el =>
        cases el with
        | none => simp [Frag.okE] at hok
        | some eb =>
          simp only [Frag.okE, Bool.and_eq_true] at hok
          obtain ⟨⟨hc, ht⟩, he⟩ := hok
          simp only [Frag.cdE, max_add_le] at hd
          simp only [Frag.wsGE, Frag.varsGE, Frag.callsGE, ws_append] at hws
          rw [compileExpr, cgE]
          refine bind_run (ihE fuel (Nat.le_refl _) c cs hc (by omega) L c0 env hws.1) ?_
          refine bind_run (mangleLabel_run_S ..) ?_
          refine bind_run (mangleLabel_run_S ..) ?_
          refine bind_run (emit_run_S ..) ?_
          refine bind_run (ihB t cs ht (by omega) _ _ _ hws.2.1) ?_
          refine bind_run (emit_run_S ..) ?_
          simp only []
          refine bind_run (emit_run_S ..) ?_
          refine bind_run (ihB eb cs he (by omega) _ _ _ hws.2.2) ?_
          rw [emit_run_S]
          simp only [List.append_assoc, List.cons_append, List.nil_append, Option.isSome_some, if_true]
      case list sp ty xs =>
        simp only [Frag.cdE] at hd
        simp only [Frag.wsGE, Frag.varsGE, Bool.and_eq_true] at hws
        have hpure : xs.all Frag.pureE = true := by
          simp only [List.all_eq_true] at hok ⊢
          exact fun x hx => atom_pure x (hok x hx)
        rw [compileExpr, cgE]
        refine bind_run (emit_run_S ..) ?_
        rw [compileListElems_run cs sp xs fuel (fun f e hf hp hd => ihP f e (by omega) hp hd cs) hpure (by omega) L _ env
          hws.1]
        simp only [List.append_assoc]
      case obj sp ty fs =>
        simp only [Frag.cdE] at hd
        simp only [Frag.wsGE, Frag.varsGE, Bool.and_eq_true] at hws
        simp only [Bool.and_eq_true, decide_eq_true_eq] at hok
        obtain ⟨⟨hat, hnd⟩, _⟩ := hok
        have hpure : fs.all (fun f => Frag.pureE f.2) = true := by
          simp only [List.all_eq_true] at hat ⊢
          exact fun x hx => atom_pure x.2 (hat x hx)
        have hded : (fs.map fun (x : String × Expr) => (x.1, PVal.null)).foldl
            (fun acc (x : String × PVal) => acc.filter (·.1 != x.1) ++ [(x.1, x.2)]) [] =
            fs.map fun f => (f.1, PVal.null) := by
          rw [dedup_nodup _ [] (by simpa [List.map_map, Function.comp_def] using hnd) (by simp)]
          simp
        rw [compileExpr, cgE]
        simp only []
        rw [show (List.map (fun (x : String × Expr) => match x with | (k, _) => (k, PVal.null)) fs) =
          fs.map fun (x : String × Expr) => (x.1, PVal.null) from rfl]
        rw [show (List.foldl (fun acc (x : String × PVal) => match x with
            | (k, v) => List.filter (fun x => x.1 != k) acc ++ [(k, v)]) []
            (fs.map fun (x : String × Expr) => (x.1, PVal.null))) = fs.map fun f => (f.1, PVal.null) from hded]
        refine bind_run (emit_run_S ..) ?_
        rw [compileObjFields_run cs sp fs fuel (fun f e hf hp hd => ihP f e (by omega) hp hd cs) hpure
          (by simpa using hd) L _ env hws.1]
        simp only [List.append_assoc]
      case matchE sp ty c arms dflt =>
        cases dflt with
        | none => simp [Frag.okE] at hok
        | some d =>
          simp only [Frag.okE, Bool.and_eq_true] at hok
          obtain ⟨⟨hc, harms⟩, hdd⟩ := hok
          simp only [Frag.cdE, Nat.add_assoc, max_add_le] at hd
          simp only [Frag.wsGE, Frag.varsGE, Frag.callsGE, ws_append] at hws
          obtain ⟨hwc, hwa, hwd⟩ := hws
          rw [Bool.and_eq_true] at hwa
          rw [compileExpr, cgE]
          refine bind_run (ihE fuel (Nat.le_refl _) c cs hc (by omega) L c0 env hwc) ?_
          refine bind_run (mangleLabel_run_S ..) ?_
          refine bind_run (compileArmTests_run cs sp arms fuel
            (fun a ha => (okEArms_mem fr arms harms a ha).1) (by omega) _ _ _) ?_
          refine bind_run (mangleLabel_run_S ..) ?_
          simp only [Option.isSome_some, if_true]
          refine bind_run (emit_run_S ..) ?_
          refine bind_run (compileArmBodies_run cs sp _ (Frag.cdArms arms) arms _ fuel
            (armTests_length _ _ _ _).symm
            (fun a ha f' hM _ => ihE f' (by omega) a.2 cs (okEArms_mem fr arms harms a ha).2
              (by have := cdArms_mem arms a ha; omega))
            (by omega) _ _ _ (wsGArms_mem env.scopes (φOf cs) arms hwa.1 hwa.2)) ?_
          simp only []
          refine bind_run (emit_run_S ..) ?_
          refine bind_run (emit_run_S ..) ?_
          refine bind_run (ihE fuel (Nat.le_refl _) d cs hdd (by omega) _ _ _ hwd) ?_
          refine bind_run (emit_run_S ..) ?_
          rw [emit_run_S]
          simp only [List.append_assoc, List.cons_append, List.nil_append]
      case index sp ty b i =>
        simp only [Bool.and_eq_true] at hok
        simp only [Frag.cdE, max_add_le] at hd
        exact CompGE.index sp ty (ihE fuel (Nat.le_refl _) b cs hok.1.1.2 (by omega))
          (ihE fuel (Nat.le_refl _) i cs hok.1.2 (by omega)) L c0 env hws
      case member sp ty b name mop =>
        cases mop <;> try (simp [Frag.okE] at hok; done)
        simp only [Frag.okE, Bool.and_eq_true] at hok
        simp only [Frag.cdE] at hd
        exact (ihE fuel (Nat.le_refl _) b cs hok.2 (by omega)).member sp ty name L c0 env hws
      case call sp ty base args sw =>
        rcases okE_call_inv fr _ _ _ _ _ hok with
          ⟨isp, ity, name, g, f, si, rfl, rfl, hthrow, hprint, hoka, hone⟩ | ⟨msp, mty, b, nm, rfl, rfl, rfl, hfr, _, hb⟩
        rotate_left
        · -- a method of `meth0` on a value: `l.len()`, `o.is_some()`, `o.is_none()`
          simp only [Frag.cdE] at hd
          obtain ⟨f, rfl⟩ := Nat.exists_eq_add_of_le' (show 1 ≤ fuel by have := cdE_pos b; omega)
          have hB := ihE f (by omega) b cs hb (by omega) L c0 env
            (by simpa [Frag.wsGE, Frag.varsGE, Frag.callsGE, Frag.varsGArgs, Frag.callsGArgs] using hws)
          rw [compileExpr, cgE]
          simp only [List.reverse_nil, List.map_nil]
          rw [compileExprs]
          refine bind_run (cs1 := updS cs L c0 env) (x := ()) rfl ?_
          simp only [Bool.false_eq_true, if_false]
          rw [compileExpr]
          refine bind_run (bind_run hB (emit_run_S ..)) ?_
          refine bind_run (emit_run_S ..) ?_
          rw [emit_run_S]
          simp only [List.length_nil, List.append_assoc, List.cons_append, List.nil_append]
          rfl
        simp only [Frag.cdE] at hd
        simp only [Frag.wsGE, Frag.varsGE, Frag.callsGE, Bool.and_eq_true] at hws
        obtain ⟨hv, hcs⟩ := hws
        have hcs' : Frag.callsOK env.scopes (φOf cs) ([name] ++ Frag.callsGArgs args) = true := hcs
        rw [callsOK_append] at hcs'
        obtain ⟨hname, hcargs⟩ := hcs'
        simp only [Frag.callsOK, List.all_cons, List.all_nil, Bool.and_true, Bool.and_eq_true,
          Option.isNone_iff_eq_none] at hname
        obtain ⟨hρ, hφ⟩ := hname
        obtain ⟨fm, hfm⟩ := Option.isSome_iff_exists.mp hφ
        have hargs := compileArgs_run fr cs args fuel (fun f hf e => ihE f (by omega) e cs) hoka (by omega) L c0 env
          hv hcargs
        rw [compileExpr, cgE]
        refine bind_run hargs ?_
        have hth : (name == "throw") = false := by simpa using hthrow
        simp only [hth, Bool.false_eq_true, if_false]
        refine bind_run (getMangled_run_S ..) ?_
        rw [hρ]
        simp only []
        refine bind_run (getMangledFn_run_S ..) ?_
        rw [hfm]
        simp only []
        rw [emit_run_S]
        simp only [Option.getD_some, List.append_assoc]
    · intro b cs hok hd L c0 env hws
      obtain ⟨sp, ty, stmts, oe⟩ := b
      cases stmts with
      | cons _ _ => simp [Frag.okEB] at hok
      | nil =>
        cases oe with
        | none => simp [Frag.okEB] at hok
        | some e =>
          simp only [Frag.okEB] at hok
          simp only [Frag.cdB] at hd
          have hfuel : ∃ f', fuel = f' + 1 := ⟨fuel - 1, by have := cdE_pos e; omega⟩
          obtain ⟨f', rfl⟩ := hfuel
          have h1 := ihE (f' + 1) (Nat.le_refl _) e cs hok (by omega) L c0 { env with scopes := [] :: env.scopes }
            (by rw [Frag.wsGE, resolved_push, callsOK_push]; exact hws)
          simp only [ρS_push] at h1
          rw [compileBlock, cgB]
          simp only [if_true]
          refine bind_run (cs1 := updS cs L c0 { env with scopes := [] :: env.scopes }) rfl ?_
          refine bind_run (cs1 := updS cs L c0 { env with scopes := [] :: env.scopes })
            (by rw [compileStmts]; rfl) ?_
          refine bind_run h1 ?_
          rfl

/-- `Frag.okXE` (cell reads `l[i]`, `o.f` and arithmetic over them) and, below, the value positions `Frag.okV fr` both lie
in `Frag.okE true`, whatever `fr`. -/
theorem compile_xexpr (fuel : Nat) (e : Expr) (cs : CState) (hok : Frag.okXE e = true) (hd : Frag.cdE e ≤ fuel) :
    CompGE fuel e cs :=
  (compile_gexpr true fuel).1 e cs (okE_of_okXE e hok) hd

theorem compile_vexpr (fr : Bool) (fuel : Nat) (e : Expr) (cs : CState) (hok : Frag.okV fr e = true)
    (hd : Frag.cdE e ≤ fuel) : CompGE fuel e cs :=
  (compile_gexpr true fuel).1 e cs (okE_of_okV e hok) hd

end HmsProofs.Sim
