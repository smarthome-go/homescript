import Hms.Core.VM
import Hms.Core.BcCheck
/-!
Size effects of one instruction of `VM.step` on the operand stack, the call stack, the handler stack and the
memory pointer, for C09 (limits) and C02 (bytecode checker). `Moved` relates the states an instruction goes
through while it pops and pushes to its initial state. Every claim about an answer of `step` is an
`Answer N I P`; `Benign` is the clause for the panics wherever the checker is served.
-/
namespace HmsProofs.Lemmas.VMStep
open Hms.Core Hms.Core.Comp Hms.Core.VM Hms.Core.BcCheck

variable {s s' s1 : VMState} {k j k' j' p q : Nat}

@[simp] theorem advance_stack (s : VMState) : (advance s).stack = s.stack := by
  unfold advance; split <;> rfl
@[simp] theorem advance_handlers (s : VMState) : (advance s).handlers = s.handlers := by
  unfold advance; split <;> rfl
@[simp] theorem advance_mp (s : VMState) : (advance s).mp = s.mp := by
  unfold advance; split <;> rfl
@[simp] theorem advance_mem (s : VMState) : (advance s).mem = s.mem := by
  unfold advance; split <;> rfl

@[simp] theorem push1_stack (s : VMState) (v : Val) (o : Option Org) :
    (push1 s v o).stack = ⟨v, o⟩ :: s.stack := rfl
@[simp] theorem push1_calls (s : VMState) (v : Val) (o : Option Org) : (push1 s v o).calls = s.calls := rfl
@[simp] theorem push1_handlers (s : VMState) (v : Val) (o : Option Org) :
    (push1 s v o).handlers = s.handlers := rfl
@[simp] theorem push1_mp (s : VMState) (v : Val) (o : Option Org) : (push1 s v o).mp = s.mp := rfl
@[simp] theorem push1_mem (s : VMState) (v : Val) (o : Option Org) : (push1 s v o).mem = s.mem := rfl

theorem pop1_some {x : SVal} (h : pop1 s = some (x, s')) :
    s.stack = x :: s'.stack ∧ s' = { s with stack := s'.stack } := by
  unfold pop1 at h; split at h
  · rename_i y rest hs; cases h; exact ⟨hs, rfl⟩
  · cases h

theorem pop1_none (h : pop1 s = none) : s.stack = [] := by
  unfold pop1 at h; split at h
  · cases h
  · assumption

theorem runM_def {α} (s : VMState) (m : M α) : runM s m = ((m s.st).1, { s with st := (m s.st).2 }) := rfl

theorem runM_eq {α} {s s' : VMState} {m : M α} {r : Except Ctl α} (h : runM s m = (r, s')) :
    s' = { s with st := s'.st } := by
  rw [runM_def] at h; cases h; rfl

def advCalls : List Frame → List Frame
  | f :: rest => { f with ip := f.ip + 1 } :: rest
  | [] => []

@[simp] theorem advance_calls (s : VMState) : (advance s).calls = advCalls s.calls := by
  unfold advance advCalls; split <;> simp_all

@[simp] theorem advCalls_length (c : List Frame) : (advCalls c).length = c.length := by
  unfold advCalls; split <;> simp

@[simp] theorem advance_calls_length (s : VMState) : (advance s).calls.length = s.calls.length := by
  rw [advance_calls, advCalls_length]

theorem advance_calls_cons (s : VMState) (f : Frame) (rest : List Frame) (h : s.calls = f :: rest) :
    (advance s).calls = { f with ip := f.ip + 1 } :: rest := by
  rw [advance_calls, h]; rfl

def Keeps (s s' : VMState) : Prop := s'.handlers = s.handlers ∧ s'.mp = s.mp ∧ s'.mem = s.mem

theorem Keeps.rfl : Keeps s s := ⟨Eq.refl _, Eq.refl _, Eq.refl _⟩

theorem Keeps.advance (h : Keeps s s') : Keeps s (advance s') := by
  unfold Keeps; rw [advance_handlers, advance_mp, advance_mem]; exact h

/-- From `s` to `s'` the operand stack has changed in length as by `k` pops and `j` pushes; call stack, handlers,
memory pointer and memory are the same. -/
def Moved (s : VMState) (k j : Nat) (s' : VMState) : Prop :=
  s'.stack.length + k = s.stack.length + j ∧ s'.calls = s.calls ∧ Keeps s s'

theorem Moved.refl (s : VMState) : Moved s 0 0 s := ⟨rfl, rfl, .rfl⟩

theorem Moved.trans (h : Moved s k j s') (h' : Moved s' k' j' s1) : Moved s (k + k') (j + j') s1 := by
  obtain ⟨h1, h2, h3, h4, h5⟩ := h
  obtain ⟨g1, g2, g3, g4, g5⟩ := h'
  exact ⟨by omega, g2.trans h2, g3.trans h3, g4.trans h4, g5.trans h5⟩

theorem Moved.le (h : Moved s k 0 s') : k ≤ s.stack.length := by have := h.1; omega

theorem Moved.stack {rest : List SVal} (h : rest.length + k = s.stack.length + j) :
    Moved s k j { s with stack := rest } := ⟨h, rfl, .rfl⟩

theorem Moved.drop2 {a b : SVal} {rest : List SVal} (hs : s.stack = a :: b :: rest) :
    Moved s 2 0 { s with stack := rest } := .stack (by rw [hs]; rfl)

theorem Moved.push1 (h : Moved s k j s') (v : Val) (o : Option Org) : Moved s k (j + 1) (push1 s' v o) :=
  ⟨by have := h.1; simp only [push1_stack, List.length_cons]; omega, h.2⟩

theorem Moved.pop1 {x : SVal} (h : pop1 s = some (x, s')) : Moved s 1 0 s' := by
  obtain ⟨h1, h2⟩ := pop1_some h
  rw [h2]; exact .stack (by rw [h1]; rfl)

theorem popN_some : ∀ {n : Nat} {s s' : VMState} {xs : List Val}, popN n s = some (xs, s') →
    s.stack.length = n + s'.stack.length ∧ s' = { s with stack := s'.stack }
  | 0, s, s', xs, h => by simp [popN] at h; rw [← h.2]; exact ⟨(Nat.zero_add _).symm, rfl⟩
  | n + 1, s, s', xs, h => by
    cases hp : pop1 s with
    | none => simp [popN, hp] at h
    | some p =>
      cases hq : popN n p.2 with
      | none => simp [popN, hp, hq] at h
      | some q =>
        simp [popN, hp, hq] at h
        obtain ⟨h1, h1'⟩ := pop1_some hp
        obtain ⟨h2, h2'⟩ := popN_some hq
        rw [← h.2]
        exact ⟨by rw [h1, List.length_cons, h2]; omega, by rw [h2', h1']⟩

theorem Moved.popN {n : Nat} {xs : List Val} (h : VM.popN n s = some (xs, s')) : Moved s n 0 s' := by
  obtain ⟨h1, h2⟩ := popN_some h
  rw [h2]; exact .stack (by omega)

theorem popN_none : ∀ {n : Nat} {s : VMState}, popN n s = none → s.stack.length < n
  | 0, s, h => by simp [popN] at h
  | n + 1, s, h => by
    cases hp : pop1 s with
    | none => have := pop1_none hp; simp [this]
    | some p =>
      have h1 := (Moved.pop1 hp).1
      cases hq : popN n p.2 with
      | none => have := popN_none hq; omega
      | some q => simp [popN, hp, hq] at h

theorem Moved.runM {α} {m : M α} {r : Except Ctl α} (h : Moved s k j s') (e : runM s' m = (r, s1)) :
    Moved s k j s1 := by
  rw [runM_eq e]; exact h

/-- One clause per constructor of `StepRes`; the clause for a panic sees the message only. `SimpleSpec`, `StrictSpec`,
`VMRun.Bound` and `VMCheck.Sound` are of this form. -/
def Answer (N : VMState → Prop) (I : Interrupt → VMState → Prop) (P : String → Prop) : StepRes → Prop
  | .next s => N s
  | .intr i s => I i s
  | .panic why _ => P why

theorem Answer.mono_of_eq {N N' : VMState → Prop} {I I' : Interrupt → VMState → Prop} {P P' : String → Prop}
    {r : StepRes} (h : Answer N I P r) (hN : ∀ s, r = .next s → N s → N' s)
    (hI : ∀ i s, r = .intr i s → I i s → I' i s) (hP : ∀ w s, r = .panic w s → P w → P' w) : Answer N' I' P' r := by
  cases r with
  | next s => exact hN s rfl h
  | intr i s => exact hI i s rfl h
  | panic w s => exact hP w s rfl h

theorem Answer.mono {N N' : VMState → Prop} {I I' : Interrupt → VMState → Prop} {P P' : String → Prop} {r : StepRes}
    (h : Answer N I P r) (hN : ∀ s, N s → N' s) (hI : ∀ i s, I i s → I' i s) (hP : ∀ w, P w → P' w) :
    Answer N' I' P' r :=
  h.mono_of_eq (fun s _ => hN s) (fun i s _ => hI i s) (fun w _ _ => hP w)

/-- `why` is none of the panics the checker excludes; "stack underflow" is admitted where `u` holds. With
`u := False` this is `¬ VMSound.Excluded why`, the form the theorems of C02 state (`VMSound.not_excluded`). -/
def Benign (u : Prop) (why : String) : Prop :=
  (why = "stack underflow" → u) ∧ why ≠ "handler stack underflow" ∧ why ≠ "memory index"
    ∧ why ≠ "label at run time"

theorem Benign.mono {u u' : Prop} {why : String} (h : Benign u why) (hu : u → u') : Benign u' why :=
  ⟨fun e => hu (h.1 e), h.2⟩

theorem Benign.underflow {u : Prop} (h : u) : Benign u "stack underflow" := by simp [Benign, h]

theorem Answer.panic {N : VMState → Prop} {I : Interrupt → VMState → Prop} {u : Prop} {why : String} {st : VMState}
    (h : Benign False why := by simp [Benign]) : Answer N I (Benign u) (.panic why st) :=
  h.mono False.elim

theorem Answer.ctl {N : VMState → Prop} {I : Interrupt → VMState → Prop} {P : String → Prop} (c : Ctl) (s' : VMState)
    (hI : ∀ x, I x s') (hP : ∀ w, Benign False w → P w) : Answer N I P (ctlToRes c s') := by
  cases c
  case throw | fatal => exact hI _
  case unsupported w =>
    -- `simp` does not decide `"unsupported: " ++ w = "…"` on `String`; on the lists of characters the first differs
    refine hP _ ⟨?_, ?_, ?_, ?_⟩ <;> intro h <;> have := congrArg String.toList h <;> simp at this
  all_goals exact hP _ (by simp [Benign])

/-- What an instruction with `simpleEff i = some (p, q)` does. With fewer than `p` operands it may panic with
"stack underflow" but need not: `loadSingleton` touches its operand only when the host provides a value, so
completing does not show that `p` operands were there. -/
def SimpleSpec (s : VMState) (p q : Nat) : StepRes → Prop :=
  Answer (fun s' => s'.stack.length + p = s.stack.length + q ∧ s'.calls = advCalls s.calls ∧ Keeps s s')
       (fun _ s' => p ≤ s.stack.length ∧ s.stack.length ≤ s'.stack.length + p ∧ s'.stack.length ≤ s.stack.length
          ∧ s'.calls = s.calls ∧ Keeps s s')
       (Benign (s.stack.length < p))

theorem length_lt_two {α} {l : List α} (h : ∀ a b r, l = a :: b :: r → False) : l.length < 2 := by
  match l with
  | [] | [_] => simp
  | a :: b :: r => exact (h a b r rfl).elim

namespace SimpleSpec

theorem next (h : Moved s k j s') (e : q + k = p + j) : SimpleSpec s p q (.next (advance s')) := by
  obtain ⟨h1, h2, h3⟩ := h
  exact ⟨by rw [advance_stack]; omega, by rw [advance_calls, h2], h3.advance⟩

theorem intr (h : Moved s k 0 s') (hk : k ≤ p) (hp : p ≤ s.stack.length) (x : Interrupt) :
    SimpleSpec s p q (.intr x s') :=
  ⟨hp, by have := h.1; omega, by have := h.1; omega, h.2⟩

theorem underflow {st : VMState} (h : s.stack.length < p) : SimpleSpec s p q (.panic "stack underflow" st) :=
  Benign.underflow h

theorem ctl (h : Moved s k 0 s') (hk : k ≤ p) (hp : p ≤ s.stack.length) (c : Ctl) :
    SimpleSpec s p q (ctlToRes c s') :=
  Answer.ctl c s' (intr (q := q) h hk hp) fun _ h => h.mono False.elim

theorem underflow_pop1 {st : VMState} (h : VM.pop1 s = none) : SimpleSpec s (p + 1) q (.panic "stack underflow" st) :=
  underflow (by rw [pop1_none h]; exact Nat.succ_pos p)

theorem of_ite {c : Prop} [Decidable c] {a b : StepRes} (ha : SimpleSpec s p q a) (hb : SimpleSpec s p q b) :
    SimpleSpec s p q (if c then a else b) := by
  split <;> assumption

end SimpleSpec

theorem binArith_spec (op : InfixOp) (s : VMState) (sp : Span) : SimpleSpec s 2 1 (binArith op s sp) := by
  unfold binArith
  split
  · have hm := Moved.drop2 ‹_›
    refine .of_ite (.panic) ?_
    split
    · exact .next (.push1 (hm.runM ‹_›) _ _) rfl
    · exact .ctl (hm.runM ‹_›) (Nat.le_refl 2) hm.le _
  · exact .underflow (length_lt_two ‹_›)

/-- The result of the file, read off `step` opcode by opcode: each branch is a chain of `Moved` steps closed by
`SimpleSpec.next`, `.ctl` or `.underflow`. `VMRun.step_bound` and `VMCheck.step_sound` rest on it. -/
theorem simple_spec (code : Code) (lim : Limits) (s : VMState) (i : RInstr) (sp : Span) (p q : Nat)
    (h : simpleEff i = some (p, q)) : SimpleSpec s p q (step code lim s i sp) := by
  cases i <;> cases h <;> simp only [step]
  case nop => exact .next (.refl s) rfl
  case copyPush pv | cloningPush pv =>
    have h0 : Moved s 0 0 { s with st := (pvalToVal s.st pv).2 } := .refl s
    exact .next (.push1 h0 _ _) rfl
  case clone =>
    split
    · have hm := Moved.pop1 ‹_›
      split
      · exact .next (.push1 hm _ _) rfl
      · exact .panic
    · exact .underflow_pop1 ‹_›
  case drop | setGlob =>
    split
    · have hm := Moved.pop1 ‹_›
      exact .next hm rfl
    · exact .underflow_pop1 ‹_›
  case dup =>
    split
    · exact .next (.stack (k := 0) (j := 1) rfl) rfl
    · rename_i hs
      exact .underflow (by rw [hs]; exact Nat.one_pos)
  case loadSingleton =>
    split
    · exact .next (.refl s) rfl
    · split
      · have hm := Moved.pop1 ‹_›
        split
        · exact .next (.push1 (hm.runM ‹_›) _ _) rfl
        · exact .ctl (hm.runM ‹_›) (Nat.le_refl 1) hm.le _
      · exact .underflow_pop1 ‹_›
  case getGlob =>
    split
    · exact .next (.push1 (.refl s) _ _) rfl
    · exact .of_ite (.next (.push1 (.refl s) _ _) rfl) (.panic)
  case assign =>
    split
    · have hm := Moved.drop2 ‹_›
      split
      · split
        · exact .next hm rfl
        · exact .panic
      · split
        · exact .next hm rfl
        · exact .next hm rfl
        · exact .panic
      · exact .next hm rfl
    · exact .underflow (length_lt_two ‹_›)
  case cast | member | memberAnyobj | intoIter =>
    split
    · have hm := Moved.pop1 ‹_›
      split
      · have h1 := hm.runM ‹_›
        exact .next (.push1 h1 _ _) rfl
      · exact .ctl (hm.runM ‹_›) (Nat.le_refl 1) hm.le _
    · exact .underflow_pop1 ‹_›
  case neg | not =>
    split
    · exact .next (.push1 (.pop1 ‹_›) _ _) rfl
    · exact .next (.push1 (.pop1 ‹_›) _ _) rfl
    · exact .panic
    · exact .underflow_pop1 ‹_›
  case some =>
    split
    · exact .next (.push1 (.pop1 ‹_›) _ _) rfl
    · exact .underflow_pop1 ‹_›
  case add | sub | mul | pow | div | rem | eq | lt | gt | le | ge | shl | shr | bitOr | bitAnd | bitXor =>
    exact binArith_spec _ s sp
  case eqPopOnce =>
    split
    · rename_i l r rest hs
      have hm : Moved s 1 0 { s with stack := r :: rest } := .stack (by rw [hs]; rfl)
      have h2 : 2 ≤ s.stack.length := by rw [hs]; exact Nat.le_add_left 2 _
      split
      · exact .next (.push1 (hm.runM ‹_›) _ _) rfl
      · exact .ctl (hm.runM ‹_›) (Nat.le_succ 1) h2 _
    · exact .underflow (length_lt_two ‹_›)
  case index =>
    split
    · have hm := Moved.drop2 ‹_›
      split
      · exact .next (.push1 (hm.runM ‹_›) _ _) rfl
      · exact .ctl (hm.runM ‹_›) (Nat.le_refl 2) hm.le _
    · exact .underflow (length_lt_two ‹_›)
  case unwrap =>
    split
    · exact .next (.push1 (.pop1 ‹_›) _ _) rfl
    · have hm := Moved.pop1 ‹_›
      exact .intr hm (Nat.le_refl 1) hm.le _
    · exact .panic
    · exact .underflow_pop1 ‹_›
  case importI => exact .panic
  case intoRange =>
    split
    · have hm := Moved.drop2 ‹_›
      exact .next (.push1 hm _ _) rfl
    · exact .panic
    · exact .underflow (length_lt_two ‹_›)
  case iterAdvance =>
    split
    · have hm := Moved.pop1 ‹_›
      split
      · exact .next (.push1 (.push1 hm _ _) _ _) rfl
      · exact .next (.push1 (.push1 hm _ _) _ _) rfl
      · exact .panic
    · exact .panic
    · exact .underflow_pop1 ‹_›
end HmsProofs.Lemmas.VMStep
