import Hms.Parse.Normal
import HmsProofs.Lemmas.PrattFuel
import HmsProofs.Lemmas.PrattSound
import HmsProofs.Lemmas.PrattComplete
import HmsProofs.Lemmas.PrattDropTC
/-! The forms C07 uses, and the entry point `parseExpr` against `parseE`: a successful parse does not depend on the fuel
beyond `2 * length + 1`, so the completeness theorem of C07, stated for "enough fuel", applies to it. -/
namespace HmsProofs.Lemmas.Pratt
open Hms Hms.Pratt

/-- Soundness: whatever `parseE` returns is a normal tree; the consumed
input `c` is a token sequence of that tree up to trailing commas in argument lists (`Flat`); and
the remaining input binds no tighter than the context or the tree's right spine. -/
theorem parseE_sound_flat (prec : Prec) (fuel p : Nat) (ts rest : List TokKind) (t : Tree)
    (h : parseE prec fuel p ts = .ok (t, rest)) :
    ∃ c, ts = c ++ rest ∧ Flat t c ∧ normal prec p t = true ∧ headLbp prec rest ≤ p
      ∧ rightSpineOK prec (headLbp prec rest) t = true :=
  (run_of_ok h).sound

/-- Re-parsing the canonical text of a parse result gives the same result (trailing commas are
the only information the tree drops). -/
theorem parseE_reparse (prec : Prec) (hs : TableSane prec) (fuel p : Nat) (ts rest : List TokKind)
    (t : Tree) (h : parseE prec fuel p ts = .ok (t, rest)) :
    ∃ n, ∀ fuel', n ≤ fuel' → parseE prec fuel' p (flatten t ++ rest) = .ok (t, rest) := by
  obtain ⟨c, _, _, hn, hr, hsp⟩ := parseE_sound_flat prec fuel p ts rest t h
  exact ⟨_, (complete_E hs t p rest hn hsp (.stop hr)).ok⟩

end HmsProofs.Lemmas.Pratt

namespace HmsProofs.Lemmas.Print
open Hms Hms.Pratt HmsProofs.Lemmas.Pratt

theorem parseExpr_of_parseE (prec : Prec) {n : Nat} {ts : List TokKind} {r : Tree × List TokKind}
    (h : parseE prec n 0 ts = .ok r) : parseExpr prec ts = .ok r :=
  ok_fuel_independent h (by omega)

theorem parseE_of_parseExpr (prec : Prec) {ts : List TokKind} {r : Tree × List TokKind}
    (h : parseExpr prec ts = .ok r) : parseE prec (2 * ts.length + 2) 0 ts = .ok r := h

end HmsProofs.Lemmas.Print
