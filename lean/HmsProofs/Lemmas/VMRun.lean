import HmsProofs.Lemmas.VMSpecial
import HmsProofs.Lemmas.VMLoop
/-!
Along `runQuantum` and `run`, on `iter` and the poll lemmas of `VMLoop`: growth bounds, reachable states, where an
outcome comes from. For C09 (resource limits) and, through `VMCheck`, C02.
-/
namespace HmsProofs.Lemmas.VMRun
open Hms.Core Hms.Core.Comp Hms.Core.VM Hms.Core.BcCheck HmsProofs.Lemmas.VMStep

variable {code : Code} {lim : Limits} {q : Nat} {ca : Option Nat} {fuel : Nat} {s s' s₀ p : VMState}

/-- A bound on the net growth of the operand stack by one instruction. -/
def maxPush : RInstr → Nat
  | .copyPush _ | .cloningPush _ | .dup | .getVar _ | .getGlob _ | .iterAdvance => 1
  | _ => 0

theorem maxPush_le_one (i : RInstr) : maxPush i ≤ 1 := by
  unfold maxPush; split <;> omega

theorem simpleEff_maxPush {i : RInstr} {pops pushes : Nat} (h : simpleEff i = some (pops, pushes)) :
    pushes ≤ pops + maxPush i := by
  cases i <;> cases h <;> simp [maxPush]

/-- The memory pointer is below the limit and the cells lie at distinct indices in `[0, limit)`. The memory pointers
recorded in the installed handlers are bounded too: an exception restores them. -/
def MemOK (lim : Limits) (s : VMState) : Prop :=
  s.mp < (lim.memory : Int) ∧ (∀ kv ∈ s.mem, 0 ≤ kv.1 ∧ kv.1 < (lim.memory : Int))
    ∧ (s.mem.map Prod.fst).Nodup ∧ (∀ h ∈ s.handlers, h.mp < (lim.memory : Int))

theorem MemOK.handler_lt (h : MemOK lim s) {x : Handler} (hx : x ∈ s.handlers) : x.mp < (lim.memory : Int) :=
  h.2.2.2 x hx

theorem MemOK.change (h : MemOK lim s) (hmp : s'.mp < (lim.memory : Int))
    (hmem : s'.mem = s.mem) (hh : ∀ x ∈ s'.handlers, x ∈ s.handlers ∨ x.mp = s.mp) : MemOK lim s' := by
  refine ⟨hmp, hmem ▸ h.2.1, hmem ▸ h.2.2.1, fun x hx => ?_⟩
  rcases hh x hx with hx | hx
  · exact h.handler_lt hx
  · rw [hx]; exact h.1

theorem MemOK.of_keeps (h : MemOK lim s) (hk : Keeps s s') : MemOK lim s' :=
  h.change (hk.2.1 ▸ h.1) hk.2.2 fun _ hx => .inl (hk.1 ▸ hx)

theorem MemOK.memSet {abs : Int} {v : Val} (h : MemOK lim s)
    (h0 : 0 ≤ abs) (h1 : abs < (lim.memory : Int)) : MemOK lim (VM.memSet s abs v) := by
  obtain ⟨hmp, hk, hn, hh⟩ := h
  refine ⟨hmp, ?_, ?_, hh⟩
  · intro kv hkv
    simp only [VM.memSet, List.mem_cons, List.mem_filter] at hkv
    rcases hkv with rfl | ⟨hm, _⟩
    · exact ⟨h0, h1⟩
    · exact hk kv hm
  · simp only [VM.memSet, List.map_cons, List.nodup_cons]
    refine ⟨?_, ?_⟩
    · simp only [List.mem_map, List.mem_filter, not_exists, not_and]
      rintro ⟨k, w⟩ ⟨_, hne⟩ rfl
      simp at hne
    · exact (hn.sublist ((List.filter_sublist).map Prod.fst))

/-- The indices of the cells are distinct elements of `[0, lim.memory)`. -/
theorem MemOK.length_le (h : MemOK lim s) : s.mem.length ≤ lim.memory := by
  obtain ⟨_, hk, hn, _⟩ := h
  have := hn.length_le_of_subset (l₂ := (List.range lim.memory).map Nat.cast) fun x hx => by
    obtain ⟨kv, hkv, rfl⟩ := List.mem_map.1 hx
    have := hk kv hkv
    exact List.mem_map.2 ⟨kv.1.toNat, List.mem_range.2 (by omega), Int.toNat_of_nonneg this.1⟩
  simpa using this

/-- After an interrupt, memory is claimed within the limit only for a throw, the one after which the run goes on. -/
def Bound (lim : Limits) (s : VMState) (k : Nat) : StepRes → Prop :=
  Answer (fun s' => s'.stack.length ≤ s.stack.length + k ∧ s'.calls.length ≤ s.calls.length + 1
          ∧ (MemOK lim s → MemOK lim s'))
       (fun x s' => s'.stack.length ≤ s.stack.length ∧ s'.calls.length ≤ s.calls.length
          ∧ ((∃ msg sp, x = .throw msg sp) → MemOK lim s → MemOK lim s'))
       (fun _ => True)

theorem Bound.of_simple {pops pushes k : Nat} {r : StepRes} (h : SimpleSpec s pops pushes r)
    (hq : pushes ≤ pops + k) : Bound lim s k r :=
  h.mono (fun s' ⟨h2, h3, h4⟩ => ⟨by omega, by rw [h3]; simp, fun hok => hok.of_keeps h4⟩)
    (fun _ s' ⟨_, _, h3, h4, h5⟩ => ⟨h3, by rw [h4]; exact Nat.le_refl _, fun _ hok => hok.of_keeps h5⟩)
    (fun _ _ => trivial)

theorem step_bound (code : Code) (lim : Limits) (s : VMState) (i : RInstr) (sp : Span) :
    Bound lim s (maxPush i) (step code lim s i sp) := by
  cases hse : simpleEff i with
  | some pq => exact .of_simple (simple_spec code lim s i sp pq.1 pq.2 hse) (simpleEff_maxPush hse)
  | none =>
    cases i <;> simp only [simpleEff, reduceCtorEq] at hse
    case spawn | label => trivial
    case callImm f =>
      rw [step_callImm]
      exact ⟨by simp [maxPush], by simp, fun h => h.of_keeps (Keeps.advance .rfl)⟩
    case ret =>
      rw [step_ret]
      exact ⟨by simp [maxPush], by simp; omega, fun h => h⟩
    case jump l =>
      rcases hc : s.calls with _ | ⟨f, rest⟩
      · simp [step, hc, Bound, Answer]
      · rw [step_jump hc]
        exact ⟨by simp [maxPush], by simp [hc], fun h => h⟩
    case jumpIfFalse l =>
      rcases step_jumpIfFalse code lim s l sp with ⟨_, h⟩ | ⟨x, tl, hs, h⟩
      · rw [h]; trivial
      · refine h.mono ?_ (fun _ _ h => h.elim) (fun _ _ => trivial)
        rintro s' ⟨h1, h2, h3⟩
        refine ⟨by rw [h1, hs, List.length_cons]; omega, ?_, fun hok => hok.of_keeps h2⟩
        rcases h3 with h3 | ⟨f, fr, h3, h4⟩
        · rw [h3]; simp
        · rw [h4, h3]; simp
    case throw =>
      rcases step_throw code lim s sp with ⟨_, h⟩ | ⟨x, tl, hs, h⟩
      · rw [h]; trivial
      · refine h.mono (fun _ h => h.elim) ?_ (fun _ _ => trivial)
        rintro x s' ⟨h1, h2, h3⟩
        refine ⟨by rw [h1, hs, List.length_cons]; omega, ?_, fun _ hok => hok.of_keeps h2⟩
        rcases h3 with h3 | h3 <;> rw [h3] <;> simp
    case setTry fn l =>
      rw [step_setTry]
      refine ⟨by simp [maxPush], by simp, fun h => h.change (by simpa using h.1) (by simp) ?_⟩
      simp only [advance_handlers, List.mem_cons]
      rintro x (rfl | hx)
      · exact .inr rfl
      · exact .inl hx
    case popTry =>
      rcases hh : s.handlers with _ | ⟨h, rest⟩
      · rw [step_popTry_nil hh]; trivial
      · rw [step_popTry hh]
        exact ⟨by simp [maxPush], by simp, fun h => h.change (by simpa using h.1) (by simp)
          fun x hx => .inl (by rw [hh]; exact List.mem_cons_of_mem _ (by simpa using hx))⟩
    case addMp n =>
      rcases step_addMp code lim s n sp with ⟨h1, h2⟩ | ⟨h1, msg, h2⟩
      · rw [h2]
        exact ⟨by simp [maxPush], by simp, fun h => h.change (by simpa using h1) (by simp)
          fun x hx => .inl (by simpa using hx)⟩
      · rw [h2]
        refine ⟨by simp, by simp, ?_⟩
        rintro ⟨_, _, h⟩; cases h
    case getVar k =>
      rcases step_getVar code lim s k sp with ⟨_, h⟩ | ⟨_, ⟨v, _, h⟩ | ⟨_, h⟩⟩
      · rw [h]; trivial
      · rw [h]; exact ⟨by simp [maxPush], by simp, fun hok => hok.of_keeps (Keeps.advance .rfl)⟩
      · rw [h]; trivial
    case setVar k =>
      rcases step_setVar code lim s k sp with ⟨_, h⟩ | ⟨x, rest, hs, ⟨_, h⟩ | ⟨⟨h0, h1⟩, h⟩⟩
      · rw [h]; trivial
      · rw [h]; trivial
      · rw [h]
        refine ⟨by simp [memSet, hs]; omega, by simp [memSet], ?_⟩
        intro hok
        have : MemOK lim ({ s with stack := rest } : VMState) := hok
        exact (MemOK.memSet (v := x.v) this h0 h1).of_keeps (Keeps.advance .rfl)
    case hostCall name =>
      rcases step_hostCall code lim s name sp with ⟨argc, o, rest, _, h⟩ | ⟨_, h⟩
      · exact .of_simple h.simple (by unfold hostResults; split <;> omega)
      · rw [h]; trivial
    case callVal =>
      rcases step_callVal code lim s sp with ⟨argc, o, m, name, o', rest, hs, h⟩ | ⟨argc, o, f, o', rest, _, _, q, hq, h⟩ | ⟨_, h⟩ | ⟨_, h⟩
      · rw [h]
        exact ⟨by simp [hs]; omega, by simp, fun hok => hok.of_keeps (Keeps.advance .rfl)⟩
      · exact .of_simple h.simple (by omega)
      · rw [h]; trivial
      · rw [h]; trivial

theorem iter_bound (code : Code) (lim : Limits) (s s' : VMState) :
    (iter code lim s = .cont s' →
      s'.stack.length ≤ s.stack.length + 1 ∧ s'.calls.length ≤ s.calls.length + 1 ∧ (MemOK lim s → MemOK lim s'))
    ∧ (iter code lim s = .back s' →
      s'.stack.length = s.stack.length ∧ s'.calls.length ≤ s.calls.length ∧ (MemOK lim s → MemOK lim s')) := by
  rcases iter_cases code lim s with ⟨_, h⟩ | ⟨f, rest, hc, ⟨_, h⟩ | ⟨c, _, _, ⟨_, h⟩ | ⟨i, sp, _, h⟩⟩⟩
  · rw [h]; simp
  · rw [h]; simp
  · rw [h]
    refine ⟨by simp, ?_⟩
    intro he; cases he
    exact ⟨rfl, by simp [hc], fun hok => hok⟩
  · rw [h]
    have hb := step_bound code lim { s with steps := s.steps + 1 } i sp
    have hm := maxPush_le_one i
    generalize step code lim { s with steps := s.steps + 1 } i sp = r at hb
    cases r with
    | next s1 =>
      obtain ⟨h1, h2, h3⟩ := hb
      simp only at h1 h2
      refine ⟨?_, by simp⟩
      intro he; cases he
      exact ⟨by omega, h2, fun hok => h3 hok⟩
    | panic why s1 => simp
    | intr x s1 =>
      cases x with
      | fatal k msg fsp => simp
      | term => simp
      | throw msg tsp =>
        obtain ⟨h1, h2, h3⟩ := hb
        simp only at h1 h2
        refine ⟨?_, fun he => absurd he throwTo_not_back⟩
        intro he
        obtain ⟨hd, hrest, c0, below, o, st', hh, hcs, rfl⟩ := throwTo_cont he
        have hb : below.length + 1 ≤ s1.calls.length := by
          have := congrArg List.length hcs
          simp only [List.length_drop, List.length_cons] at this
          omega
        refine ⟨by simp; omega, by simp; omega, ?_⟩
        intro hok
        have g := h3 ⟨msg, tsp, rfl⟩ hok
        exact g.change (g.handler_lt (by rw [hh]; simp)) rfl fun x hx => .inl hx

theorem runQuantum_bound : ∀ {n : Nat} {s s' : VMState}, runQuantum code lim n s = .inl s' →
      s'.stack.length ≤ s.stack.length + n ∧ s'.calls.length ≤ s.calls.length + n ∧ (MemOK lim s → MemOK lim s')
  | 0, s, s', h => by
    simp only [runQuantum_zero, Sum.inl.injEq] at h; subst h; simp
  | n + 1, s, s', h => by
    rw [runQuantum_succ] at h
    have hb := iter_bound code lim s
    cases hi : iter code lim s with
    | cont s1 =>
      simp only [hi] at h
      obtain ⟨h1, h2, h3⟩ := (hb s1).1 hi
      obtain ⟨g1, g2, g3⟩ := runQuantum_bound h
      exact ⟨by omega, by omega, fun hok => g3 (h3 hok)⟩
    | back s1 =>
      simp only [hi, Sum.inl.injEq] at h; subst h
      obtain ⟨h1, h2, h3⟩ := (hb s1).2 hi
      exact ⟨by omega, by omega, h3⟩
    | done o => simp [hi] at h

theorem runQuantum_oom {f : Frame} {rest : List Frame}
    {c : FnCode} {n : Int} {sp : Span} (hc : s.calls = f :: rest) (hf : findCode code f.fn = some c)
    (hi : c[f.ip]? = some (.addMp n, sp)) (h : (lim.memory : Int) ≤ s.mp + n) :
    ∃ msg s', s'.mp = s.mp + n ∧ s'.stack = s.stack ∧ s'.calls = s.calls ∧
      ∀ k, runQuantum code lim (k + 1) s = .inr (.fatal "OutOfMemoryError" msg sp s') := by
  have hne : c ≠ [] := by intro e; rw [e] at hi; simp at hi
  rcases step_addMp code lim { s with steps := s.steps + 1 } n sp with ⟨h1, _⟩ | ⟨_, msg, h2⟩
  · simp only at h1; omega
  · refine ⟨msg, { s with steps := s.steps + 1, mp := s.mp + n }, rfl, rfl, rfl, fun k => ?_⟩
    rw [runQuantum_succ]
    have : iter code lim s = .done (.fatal "OutOfMemoryError" msg sp { s with steps := s.steps + 1, mp := s.mp + n }) := by
      cases c with
      | nil => exact absurd rfl hne
      | cons x xs =>
        simp only [iter, hc, hf, hi, List.isEmpty_cons, Bool.false_eq_true, if_false]
        rw [hc] at h2
        rw [h2]
    rw [this]

/-- The states in which `run`, started in `s₀`, performs a poll. -/
inductive PollReach (code : Code) (lim : Limits) (q : Nat) (ca : Option Nat) (s₀ : VMState) : VMState → Prop
  | start : PollReach code lim q ca s₀ s₀
  | next {p s' : VMState} : PollReach code lim q ca s₀ p → PollPass lim ca p →
      runQuantum code lim q (pollState p) = .inl s' → PollReach code lim q ca s₀ s'

/-- The states in which `run`, started in `s₀`, performs a poll or executes an instruction. -/
def Reach (code : Code) (lim : Limits) (q : Nat) (ca : Option Nat) (s₀ s : VMState) : Prop :=
  ∃ p, PollReach code lim q ca s₀ p ∧
    (s = p ∨ (PollPass lim ca p ∧ ∃ k, k ≤ q ∧ runQuantum code lim k (pollState p) = .inl s))

theorem pollReach_bound (h : PollReach code lim q ca s₀ p) :
    p.stack.length ≤ max s₀.stack.length (lim.stack + q)
      ∧ p.calls.length ≤ max s₀.calls.length (lim.callStack + q)
      ∧ (MemOK lim s₀ → MemOK lim p) := by
  induction h with
  | start => exact ⟨by omega, by omega, fun h => h⟩
  | next hp hpass hq ih =>
    obtain ⟨_, _, h3, h4⟩ := hpass
    obtain ⟨g1, g2, g3⟩ := runQuantum_bound hq
    simp only [pollState_stack, pollState_calls] at g1 g2
    exact ⟨by omega, by omega, fun hok => g3 (ih.2.2 hok)⟩

theorem reach_bound (h : Reach code lim q ca s₀ s) :
    s.stack.length ≤ max s₀.stack.length (lim.stack + q)
      ∧ s.calls.length ≤ max s₀.calls.length (lim.callStack + q)
      ∧ (MemOK lim s₀ → MemOK lim s) := by
  obtain ⟨p, hp, rfl | ⟨hpass, k, hk, hq⟩⟩ := h
  · exact pollReach_bound hp
  · obtain ⟨_, _, h3, h4⟩ := hpass
    obtain ⟨g1, g2, g3⟩ := runQuantum_bound hq
    simp only [pollState_stack, pollState_calls] at g1 g2
    exact ⟨by omega, by omega, fun hok => g3 ((pollReach_bound hp).2.2 hok)⟩

theorem PollReach.head (hp : PollPass lim ca s₀) (hq : runQuantum code lim q (pollState s₀) = .inl s')
    (h : PollReach code lim q ca s' p) : PollReach code lim q ca s₀ p := by
  induction h with
  | start => exact .next .start hp hq
  | next _ hpass' hq' ih => exact .next ih hpass' hq'

theorem run_origin : ∀ {fuel : Nat} {s₀ : VMState} {o : VM.Outcome}, run code lim q ca fuel s₀ = o →
      ∃ p, PollReach code lim q ca s₀ p ∧
        (o = .outOfFuel p ∨ (p.calls = [] ∧ o = .ok p)
          ∨ (p.calls ≠ [] ∧ cancelled ca (pollState p) = true ∧ o = .term (pollState p))
          ∨ (PollExceeds lim ca p ∧ ∃ msg sp, o = .fatal "StackOverFlow" msg sp (pollState p))
          ∨ (PollPass lim ca p ∧ runQuantum code lim q (pollState p) = .inr o))
  | 0, s₀, o, h => ⟨s₀, .start, .inl h.symm⟩
  | fuel + 1, s₀, o, h => by
    by_cases hn : s₀.calls = []
    · rw [run_nil hn] at h
      exact ⟨s₀, .start, .inr (.inl ⟨hn, h.symm⟩)⟩
    · rcases poll_trichotomy lim ca s₀ hn with hc | hx | hp
      · rw [run_cancelled hn hc] at h
        exact ⟨s₀, .start, .inr (.inr (.inl ⟨hn, hc, h.symm⟩))⟩
      · obtain ⟨msg, sp, e⟩ := run_exceeds code lim q ca s₀ hx
        rw [e] at h
        exact ⟨s₀, .start, .inr (.inr (.inr (.inl ⟨hx, msg, sp, h.symm⟩)))⟩
      · rw [run_pass hp] at h
        cases hq : runQuantum code lim q (pollState s₀) with
        | inl s' =>
          simp only [hq] at h
          obtain ⟨p, hpr, hcase⟩ := run_origin h
          exact ⟨p, hpr.head hp hq, hcase⟩
        | inr o' =>
          simp only [hq] at h
          exact ⟨s₀, .start, .inr (.inr (.inr (.inr ⟨hp, h ▸ hq⟩)))⟩

theorem run_origin_stopped {o : VM.Outcome} (h : run code lim q ca fuel s₀ = o)
    (ho : (∃ k m sp s, o = .fatal k m sp s) ∨ ∃ w s, o = .panic w s) :
    ∃ p, PollReach code lim q ca s₀ p ∧
      ((PollExceeds lim ca p ∧ ∃ msg sp, o = .fatal "StackOverFlow" msg sp (pollState p))
        ∨ (PollPass lim ca p ∧ runQuantum code lim q (pollState p) = .inr o)) := by
  obtain ⟨p, hp, h'⟩ := run_origin h
  refine ⟨p, hp, ((h'.resolve_left ?_).resolve_left ?_).resolve_left ?_⟩
  all_goals rcases ho with ⟨_, _, _, _, rfl⟩ | ⟨_, _, rfl⟩ <;> nofun

end HmsProofs.Lemmas.VMRun
