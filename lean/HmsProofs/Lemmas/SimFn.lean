import HmsProofs.Lemmas.SimFrag
/-! The states `compileFn` goes through on a function whose body is a statement block of the small fragment. The symbolic
code of such a function is `addMp n; <statements>; cleanup: addMp (-n); ret` with `n` the number of variable slots the
compiler counted (`fnCode`); that `compileFn` ends in `fnFinal` is `compileFn_frag_run` in `SimBridge`. -/
namespace HmsProofs.Sim
open Hms.Core Hms.Core.Comp

def fnEnv (cs : CState) (fn : String) : CEnv :=
  ⟨[(cleanupKey cs.currModule fn, (freshLabel cs.currModule cs.labelMangle "cleanup").1)] :: cs.scopes,
   cs.varMangle, (freshLabel cs.currModule cs.labelMangle "cleanup").2, 0⟩

def fnCode (cs : CState) (fd : FnDef) (stmts : List Stmt) : SCode :=
  [(.addMp ((cSs cs.currModule stmts (fnEnv cs fd.name)).2.nv : Int), fd.sp)] ++
    (cSs cs.currModule stmts (fnEnv cs fd.name)).1 ++
    [(.label (freshLabel cs.currModule cs.labelMangle "cleanup").1, fd.sp),
     (.addMp (-((cSs cs.currModule stmts (fnEnv cs fd.name)).2.nv : Int)), fd.sp), (.ret, fd.sp)]

/-- `addFn` on the function table. -/
def addFnL (fns : List ((String × String) × SFn)) (key : String × String) (mangled : String) :
    List ((String × String) × SFn) :=
  if fns.any (·.1 == key) then
    fns.map fun (k, f) => if k == key then (k, ({ name := mangled, code := [] } : SFn)) else (k, f)
  else fns ++ [(key, { name := mangled, code := [] })]

theorem addFnL_map_eq (fns : List ((String × String) × SFn)) (key : String × String) (mangled : String) :
    (fns.map fun (k, f) => if k == key then (k, ({ name := mangled, code := [] } : SFn)) else (k, f)) =
    (fns.map fun p => if p.1 == key then (p.1, ({ name := mangled, code := [] } : SFn)) else p) :=
  rfl

theorem lookup_addFnL (fns : List ((String × String) × SFn)) (key : String × String) (mangled : String) :
    (addFnL fns key mangled).lookup key = some { name := mangled, code := [] } := by
  unfold addFnL
  rw [List.any_fst_beq_eq_lookup_isSome]
  cases hl : fns.lookup key with
  | some f =>
    simp only [Option.isSome_some, if_true]
    rw [addFnL_map_eq, lookup_map_upd fns key key (fun _ => ({ name := mangled, code := [] } : SFn)), hl]
    simp
  | none => simp [List.lookup_append, hl]

theorem lookup_addFnL_other (fns : List ((String × String) × SFn)) (key k : String × String) (mangled : String)
    (hk : k ≠ key) : (addFnL fns key mangled).lookup k = fns.lookup k := by
  unfold addFnL
  split
  · have hm := lookup_map_upd fns key k (fun _ => ({ name := mangled, code := [] } : SFn))
    rw [addFnL_map_eq, hm]
    simp [hk]
  · have : (k == key) = false := by simpa using hk
    simp [List.lookup_append, List.lookup_cons, this]

theorem addFn_run (ident mangled : String) (cs : CState) :
    (addFn ident mangled).run cs =
      ((), { cs with fns := addFnL cs.fns (cs.currModule, ident) mangled }) := by
  unfold addFn addFnL
  simp only [StateT.run_modify]
  by_cases h : (cs.fns.any fun x => x.1 == (cs.currModule, ident)) = true
  · simp only [h, if_true]
    rfl
  · simp only [h]
    rfl

/-- The compiler state in which the body of `fd` is compiled (before anything is emitted). -/
def fnBase (cs : CState) (fd : FnDef) : CState :=
  { cs with fns := addFnL cs.fns (cs.currModule, fd.name) (mangleFnName cs.currModule fd.name),
            currFn := fd.name, scopes := [] :: cs.scopes, tryDepth := 0 }

theorem fnBase_lookup (cs : CState) (fd : FnDef) :
    (fnBase cs fd).fns.lookup ((fnBase cs fd).currModule, (fnBase cs fd).currFn) =
      some { name := mangleFnName cs.currModule fd.name, code := [] } :=
  lookup_addFnL _ _ _

theorem currLen_fnBase (cs : CState) (fd : FnDef) : currLen.run (fnBase cs fd) = (0, fnBase cs fd) := by
  have h := fnBase_lookup cs fd
  show ((((fnBase cs fd).fns.lookup ((fnBase cs fd).currModule, (fnBase cs fd).currFn)).map (·.code.length) |>.getD 0),
    fnBase cs fd) = _
  rw [h]
  rfl

/-- The state after the body has been compiled. -/
def fnX6 (cs : CState) (fd : FnDef) (stmts : List Stmt) : CState :=
  updS (fnBase cs fd) cs.loops ([(.addMp 0, fd.sp)] ++ (cSs cs.currModule stmts (fnEnv cs fd.name)).1)
    (cSs cs.currModule stmts (fnEnv cs fd.name)).2

/-- `cnt` as `compileFn` reads it. -/
def fnCnt (cs : CState) (fd : FnDef) (stmts : List Stmt) : Int :=
  (((fnX6 cs fd stmts).fns.lookup ((fnX6 cs fd stmts).currModule, fd.name)).map (fun x => (x.cntVars : Int))).getD 0

/-- The state after the `addMp 0` at the head of the code has been overwritten with the count. -/
def fnX7 (cs : CState) (fd : FnDef) (stmts : List Stmt) : CState :=
  { fnX6 cs fd stmts with
    fns := (fnX6 cs fd stmts).fns.map fun (k, fn) =>
      if k == ((fnX6 cs fd stmts).currModule, (fnX6 cs fd stmts).currFn) then
        (k, { fn with code := fn.code.set 0 (.addMp (fnCnt cs fd stmts), fd.sp) })
      else (k, fn) }

/-- The state `compileFn` ends in. -/
def fnFinal (cs : CState) (fd : FnDef) (stmts : List Stmt) : CState :=
  let x8 := appendCode (appendCode (appendCode (fnX7 cs fd stmts)
    [(.label (freshLabel cs.currModule cs.labelMangle "cleanup").1, fd.sp)])
    [(.addMp (-(fnCnt cs fd stmts)), fd.sp)]) [(.ret, fd.sp)]
  { x8 with tryDepth := cs.tryDepth, scopes := x8.scopes.tail }

theorem fnFinal_frame (cs : CState) (fd : FnDef) (stmts : List Stmt) (hs : Frag.okSs stmts = true) :
    (fnFinal cs fd stmts).scopes = cs.scopes ∧ (fnFinal cs fd stmts).loops = cs.loops ∧
    (fnFinal cs fd stmts).tryDepth = cs.tryDepth ∧ (fnFinal cs fd stmts).currModule = cs.currModule ∧
    (fnFinal cs fd stmts).unsupported = cs.unsupported ∧ (fnFinal cs fd stmts).lambdaCount = cs.lambdaCount ∧
    (fnFinal cs fd stmts).labelMangle = (cSs cs.currModule stmts (fnEnv cs fd.name)).2.lm ∧
    (fnFinal cs fd stmts).varMangle = (cSs cs.currModule stmts (fnEnv cs fd.name)).2.vm := by
  refine ⟨?_, rfl, rfl, rfl, rfl, rfl, rfl, rfl⟩
  show (cSs cs.currModule stmts (fnEnv cs fd.name)).2.scopes.tail = cs.scopes
  rw [(cSs_static cs.currModule stmts _ hs).2.1]
  rfl

theorem fnEnv_unbound (T : List String) (cs : CState) (fn : String)
    (hkey : cleanupKey cs.currModule fn ∉ T)
    (houter : ∀ sc ∈ cs.scopes, ∀ x ∈ T, sc.lookup x = none) :
    ∀ sc ∈ (fnEnv cs fn).scopes, ∀ x ∈ T, sc.lookup x = none := by
  intro sc hsc
  simp only [fnEnv, List.mem_cons] at hsc
  rcases hsc with rfl | hsc
  · intro x hx
    have : (x == cleanupKey cs.currModule fn) = false := by
      simp only [beq_eq_false_iff_ne, ne_eq]
      intro e; subst e; exact hkey hx
    simp [List.lookup_cons, this]
  · exact houter sc hsc

end HmsProofs.Sim
