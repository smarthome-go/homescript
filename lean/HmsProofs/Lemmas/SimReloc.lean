import HmsProofs.Lemmas.SimInstr
/-! `Comp.relocate` (Go: `relocateLabels`). A label resolves to the number of non-label instructions before its *last*
definition, i.e. the output index of the first real instruction at or after it (`labelIndex?_eq_some_iff`);
relocation fails exactly for an undefined jump target. When it succeeds the output is
`(stripLabels code).map (resolve (labelIndex code))` (`relocate_some`), the equation the later files use; the `0` that
`labelIndex` and `relocI` give an undefined label is then never read. -/
namespace HmsProofs.Sim
open Hms.Core Hms.Core.Comp

abbrev SCode := List (SInstr × Span)

def stripLabels (code : SCode) : SCode := code.filter fun p => !isLabel p.1

def labelIndex? (code : SCode) (l : String) : Option Nat :=
  (relocate.labels 0 code).reverse.lookup l

def labelIndex (code : SCode) (l : String) : Nat := (labelIndex? code l).getD 0

def relocI (look : String → Option Nat) (i : SInstr) : Option (Instr Nat String) :=
  if isLabel i then none
  else match target? i with
    | none => some (mapLV (fun l => (look l).getD 0) id i)
    | some l => (look l).map fun _ => mapLV (fun l => (look l).getD 0) id i

def resolve (lab : String → Nat) (p : SInstr × Span) : Instr Nat String × Span :=
  (mapLV lab id p.1, p.2)

theorem mapM_option_some {α β : Type} (f : α → Option β) (g : α → β) :
    ∀ (xs : List α) (ys : List β), (∀ x ∈ xs, ∀ y, f x = some y → y = g x) →
      xs.mapM f = some ys → ys = xs.map g := by
  intro xs
  induction xs with
  | nil => intro ys _ h; simp at h; simp [← h]
  | cons x xs ih =>
    intro ys hg h
    rw [List.mapM_cons] at h
    cases hx : f x with
    | none => simp [hx] at h
    | some y =>
      cases hxs : xs.mapM f with
      | none => simp [hx, hxs] at h
      | some ys' =>
        simp [hx, hxs] at h
        have h1 := hg x (by simp) y hx
        have h2 := ih ys' (fun x hx => hg x (by simp [hx])) hxs
        simp [← h, h1, h2]

theorem mapM_option_eq_none {α β : Type} (f : α → Option β) :
    ∀ (xs : List α), xs.mapM f = none ↔ ∃ x ∈ xs, f x = none := by
  intro xs
  induction xs with
  | nil => simp
  | cons x xs ih =>
    rw [List.mapM_cons]
    cases hx : f x with
    | none => simp [hx]
    | some y =>
      cases hxs : xs.mapM f with
      | none =>
        have := ih.mp hxs
        simp [hx, this]
      | some ys =>
        have : ¬ ∃ x ∈ xs, f x = none := fun h => by simp [ih.mpr h] at hxs
        simp only [List.mem_cons, exists_eq_or_imp, hx]
        simp [this]

theorem relocate_eq_mapM (code : SCode) :
    relocate code =
      (stripLabels code).mapM fun p => (relocI (labelIndex? code) p.1).map fun j => (j, p.2) := by
  unfold relocate stripLabels
  simp only []
  congr 1
  · funext ⟨i, sp⟩
    cases i
    case jump l | jumpIfFalse l | setTry _ l =>
      simp only [relocI, isLabel, target?, mapLV, labelIndex?]
      cases List.lookup l (relocate.labels 0 code).reverse <;> rfl
    all_goals rfl
  · congr 1
    funext ⟨i, sp⟩
    cases i <;> rfl

theorem labels_cons_label (idx : Nat) (l : String) (sp : Span) (rest : SCode) :
    relocate.labels idx ((.label l, sp) :: rest) = (l, idx) :: relocate.labels idx rest := rfl

theorem labels_cons_other (idx : Nat) (i : SInstr) (sp : Span) (rest : SCode) (h : isLabel i = false) :
    relocate.labels idx ((i, sp) :: rest) = relocate.labels (idx + 1) rest := by
  cases i <;> first | rfl | cases h

theorem stripLabels_cons_label (l : String) (sp : Span) (rest : SCode) :
    stripLabels ((.label l, sp) :: rest) = stripLabels rest := rfl

theorem stripLabels_cons_other (i : SInstr) (sp : Span) (rest : SCode) (h : isLabel i = false) :
    stripLabels ((i, sp) :: rest) = (i, sp) :: stripLabels rest := by
  simp [stripLabels, h]

theorem stripLabels_eq_self (xs : SCode) (h : ∀ p ∈ xs, isLabel p.1 = false) : stripLabels xs = xs := by
  unfold stripLabels
  rw [List.filter_eq_self]
  intro p hp
  simp [h p hp]

theorem stripLabels_append (a b : SCode) : stripLabels (a ++ b) = stripLabels a ++ stripLabels b := by
  simp [stripLabels]

theorem labels_append (pre post : SCode) : ∀ idx,
    relocate.labels idx (pre ++ post) =
      relocate.labels idx pre ++ relocate.labels (idx + (stripLabels pre).length) post := by
  induction pre with
  | nil => intro idx; simp [stripLabels, relocate.labels]
  | cons p pre ih =>
    intro idx
    obtain ⟨i, sp⟩ := p
    rw [List.cons_append]
    cases h : isLabel i with
    | true =>
      obtain ⟨l, rfl⟩ := (isLabel_iff i).mp h
      simp [labels_cons_label, stripLabels_cons_label, ih]
    | false =>
      rw [labels_cons_other _ _ _ _ h, labels_cons_other _ _ _ _ h, stripLabels_cons_other _ _ _ h, ih]
      simp only [List.length_cons]
      congr 2; omega

theorem labels_keys (l : String) (code : SCode) : ∀ idx,
    (∀ p ∈ relocate.labels idx code, (l != p.1) = true) ↔ ∀ sp, (Instr.label l, sp) ∉ code := by
  induction code with
  | nil => intro idx; simp [relocate.labels]
  | cons p code ih =>
    intro idx
    obtain ⟨i, sp⟩ := p
    cases h : isLabel i with
    | true =>
      obtain ⟨l', rfl⟩ := (isLabel_iff i).mp h
      simp only [labels_cons_label, List.mem_cons, forall_eq_or_imp, ih, Prod.mk.injEq, not_or]
      simp only [bne_iff_ne, ne_eq, Instr.label.injEq, not_and]
      constructor
      · rintro ⟨h1, h2⟩ sp'
        exact ⟨fun h => absurd h h1, h2 sp'⟩
      · intro h
        refine ⟨fun e => (h sp).1 e rfl, fun sp' => (h sp').2⟩
    | false =>
      rw [labels_cons_other _ _ _ _ h, ih]
      have : ∀ sp', (Instr.label l, sp') ≠ (i, sp) := by
        intro sp' e
        simp only [Prod.mk.injEq] at e
        rw [← e.1] at h
        cases h
      simp [this]

theorem labelIndex?_eq_none_iff (code : SCode) (l : String) :
    labelIndex? code l = none ↔ ∀ sp, (Instr.label l, sp) ∉ code := by
  unfold labelIndex?
  rw [List.lookup_eq_none_iff, ← labels_keys l code 0]
  simp

theorem labels_split (l : String) (n : Nat) (code : SCode) : ∀ idx a b,
    relocate.labels idx code = a ++ (l, n) :: b →
    ∃ pre sp post, code = pre ++ (Instr.label l, sp) :: post ∧ relocate.labels idx pre = a ∧
      n = idx + (stripLabels pre).length ∧ relocate.labels n post = b := by
  induction code with
  | nil => intro idx a b h; simp [relocate.labels] at h
  | cons p code ih =>
    intro idx a b h
    obtain ⟨i, sp⟩ := p
    cases hl : isLabel i with
    | true =>
      obtain ⟨l', rfl⟩ := (isLabel_iff i).mp hl
      rw [labels_cons_label] at h
      cases a with
      | nil =>
        simp only [List.nil_append, List.cons.injEq, Prod.mk.injEq] at h
        obtain ⟨⟨rfl, rfl⟩, h2⟩ := h
        exact ⟨[], sp, code, rfl, rfl, by simp [stripLabels], h2⟩
      | cons x a =>
        simp only [List.cons_append, List.cons.injEq] at h
        obtain ⟨rfl, h2⟩ := h
        obtain ⟨pre, sp', post, rfl, h3, h4, h5⟩ := ih idx a b h2
        refine ⟨(Instr.label l', sp) :: pre, sp', post, rfl, ?_, ?_, h5⟩
        · rw [labels_cons_label, h3]
        · rw [stripLabels_cons_label]; exact h4
    | false =>
      rw [labels_cons_other _ _ _ _ hl] at h
      obtain ⟨pre, sp', post, rfl, h3, h4, h5⟩ := ih (idx + 1) a b h
      refine ⟨(i, sp) :: pre, sp', post, rfl, ?_, ?_, h5⟩
      · rw [labels_cons_other _ _ _ _ hl, h3]
      · rw [stripLabels_cons_other _ _ _ hl]; simp only [List.length_cons]; omega

theorem labelIndex?_eq_some_iff (code : SCode) (l : String) (n : Nat) :
    labelIndex? code l = some n ↔
      ∃ pre sp post, code = pre ++ (Instr.label l, sp) :: post ∧
        (∀ sp', (Instr.label l, sp') ∉ post) ∧ n = (stripLabels pre).length := by
  unfold labelIndex?
  constructor
  · intro h
    obtain ⟨l₁, l₂, h1, h2⟩ := List.lookup_eq_some_iff.mp h
    have h3 : relocate.labels 0 code = l₂.reverse ++ (l, n) :: l₁.reverse := by
      have := congrArg List.reverse h1
      simpa using this
    obtain ⟨pre, sp, post, rfl, _, h5, h6⟩ := labels_split l n code 0 _ _ h3
    refine ⟨pre, sp, post, rfl, ?_, by omega⟩
    rw [← labels_keys l post n, h6]
    intro p hp
    exact h2 p (by simpa using hp)
  · rintro ⟨pre, sp, post, rfl, h1, rfl⟩
    rw [labels_append, labels_cons_label]
    simp only [List.reverse_append, List.reverse_cons, List.append_assoc, List.lookup_append]
    have : List.lookup l (relocate.labels ((stripLabels pre).length) post).reverse = none := by
      rw [List.lookup_eq_none_iff]
      intro p hp
      exact (labels_keys l post _).mpr h1 p (by simpa using hp)
    simp [this]

theorem labelIndex?_le (code : SCode) (l : String) (n : Nat) (h : labelIndex? code l = some n) :
    n ≤ (stripLabels code).length := by
  obtain ⟨pre, sp, post, rfl, _, rfl⟩ := (labelIndex?_eq_some_iff _ _ _).mp h
  simp [stripLabels_append]

theorem labelIndex_of_last (pre post : SCode) (l : String) (sp : Span)
    (h : ∀ sp', (Instr.label l, sp') ∉ post) :
    labelIndex (pre ++ (Instr.label l, sp) :: post) l = (stripLabels pre).length := by
  unfold labelIndex
  rw [(labelIndex?_eq_some_iff _ _ _).mpr ⟨pre, sp, post, rfl, h, rfl⟩]
  rfl

theorem relocI_some (look : String → Option Nat) (i : SInstr) (j : Instr Nat String)
    (h : relocI look i = some j) : j = mapLV (fun l => (look l).getD 0) id i := by
  unfold relocI at h
  split at h
  · cases h
  · split at h
    · simpa using h.symm
    · simp only [Option.map_eq_some_iff] at h
      obtain ⟨_, _, h⟩ := h
      exact h.symm

theorem relocI_eq_none_iff (look : String → Option Nat) (i : SInstr) :
    relocI look i = none ↔ isLabel i = true ∨ ∃ l, target? i = some l ∧ look l = none := by
  unfold relocI
  cases hl : isLabel i with
  | true => simp
  | false =>
    cases ht : target? i with
    | none => simp
    | some l => simp

theorem relocate_some (code : SCode) (out : List (Instr Nat String × Span)) (h : relocate code = some out) :
    out = (stripLabels code).map (resolve (labelIndex code)) := by
  rw [relocate_eq_mapM] at h
  refine mapM_option_some _ _ _ _ ?_ h
  intro p _ y hy
  cases hr : relocI (labelIndex? code) p.1 with
  | none => simp [hr] at hy
  | some j =>
    simp [hr] at hy
    rw [← hy, relocI_some _ _ _ hr]
    rfl

theorem relocate_length (code : SCode) (out) (h : relocate code = some out) :
    out.length = (stripLabels code).length := by
  rw [relocate_some code out h]; simp

/-- What `sourcemap_aligned` (`C01VM`) rests on. -/
theorem relocate_spans (code : SCode) (out) (h : relocate code = some out) :
    out.map (·.2) = (stripLabels code).map (·.2) := by
  rw [relocate_some code out h]; simp [resolve, Function.comp_def]

theorem relocate_target_le (code : SCode) (out) (h : relocate code = some out) (l : String)
    (hl : ∃ sp, (Instr.label l, sp) ∈ code) : labelIndex code l ≤ out.length := by
  rw [relocate_length code out h]
  cases hi : labelIndex? code l with
  | none =>
    obtain ⟨sp, hsp⟩ := hl
    exact absurd hsp ((labelIndex?_eq_none_iff _ _).mp hi sp)
  | some n =>
    have := labelIndex?_le code l n hi
    simpa [labelIndex, hi] using this

theorem relocate_eq_none_iff (code : SCode) :
    relocate code = none ↔
      ∃ p ∈ code, ∃ l, target? p.1 = some l ∧ ∀ sp, (Instr.label l, sp) ∉ code := by
  rw [relocate_eq_mapM, mapM_option_eq_none]
  constructor
  · rintro ⟨p, hp, h⟩
    have hp' : p ∈ code ∧ isLabel p.1 = false := by simpa [stripLabels] using hp
    simp only [Option.map_eq_none_iff] at h
    rcases (relocI_eq_none_iff _ _).mp h with h | ⟨l, h1, h2⟩
    · simp [hp'.2] at h
    · exact ⟨p, hp'.1, l, h1, (labelIndex?_eq_none_iff _ _).mp h2⟩
  · rintro ⟨p, hp, l, h1, h2⟩
    have hnl : isLabel p.1 = false := by
      cases hi : isLabel p.1 with
      | false => rfl
      | true =>
        obtain ⟨l', hl'⟩ := (isLabel_iff _).mp hi
        simp [hl', target?] at h1
    refine ⟨p, by simp [stripLabels, hp, hnl], ?_⟩
    simp only [Option.map_eq_none_iff]
    exact (relocI_eq_none_iff _ _).mpr (Or.inr ⟨l, h1, (labelIndex?_eq_none_iff _ _).mpr h2⟩)

end HmsProofs.Sim
