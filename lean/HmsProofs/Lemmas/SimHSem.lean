import HmsProofs.Lemmas.SimHMach
namespace HmsProofs.Sim
open Hms.Core Hms.Core.Comp Hms.Core.VM

/-- Fixed for a whole program run. `K`: the callable functions; `F`: a bound on the frame sizes; `B`: the memory pointer
below the first activation. -/
structure GCtx where
  cfg : Cfg
  code : Code
  lim : Limits
  mod : String
  s : VMState
  K : String → Prop
  F : Nat
  B : Int
  /-- the extended fragment: `for` loops are allowed (then runs may extend the VM's iterator table) -/
  fr : Bool

/-- One activation `⟨fn, ·⟩ :: rest` with memory pointer `mp` (after the prologue): VM code `c`, slot assignment `σ` on the
names `N`, label resolution `lab`, tracked identifiers `T`, frame size `nv`, function table `φ`, source name `src`,
cleanup label `cl`. -/
structure Act where
  fn : String
  src : String
  cl : String
  rest : List Frame
  mp : Int
  c : List (RInstr × Span)
  σ : String → Nat
  lab : String → Nat
  N : String → Prop
  T : List String
  nv : Nat
  φ : String → Option String
  /-- `return` is allowed (not inside a `try` body) -/
  rt : Bool
  /-- cells of untracked variables that must keep their value: the iterators of the enclosing
  `for` loops (mangled name, value) -/
  ghost : List (String × Val)

structure SpecOK (G : GCtx) (mp : Int) (st : St) : Prop where
  heap : G.fr = true → HeapInv st.heap
  module : st.module = G.mod
  globals : st.globals = []
  depth : mp ≤ G.B + (st.depth : Int) * (G.F : Int)

theorem SpecOK.scopes_out {G mp st} (h : SpecOK G mp st) (st' : St)
    (e : st' = { st with scopes := st'.scopes, out := st'.out, heap := st'.heap })
    (hi : HeapInv st.heap → HeapInv st'.heap) : SpecOK G mp st' := by
  have hh : G.fr = true → HeapInv st'.heap := fun hfr => hi (h.heap hfr)
  rw [e]; exact ⟨hh, h.module, h.globals, h.depth⟩

theorem SpecOK.world {G mp st} (h : SpecOK G mp st) (st' : St) (e : st' = { st with out := st'.out, heap := st'.heap })
    (hi : HeapInv st.heap → HeapInv st'.heap) : SpecOK G mp st' :=
  h.scopes_out st' (by rw [e]) hi

def PhiOK (G : GCtx) (φ : String → Option String) : Prop :=
  ∀ name f, φ name = some f →
    f = mangleFnName G.mod name ∧ G.K name ∧
      ∃ fd, findFn G.cfg.prog G.mod name = some fd ∧ resolveFn G.cfg.prog G.mod name = some (G.mod, fd)

structure Act.OK (G : GCtx) (A : Act) : Prop where
  code : findCode G.code A.fn = some A.c
  inj : ∀ a b, A.N a → A.N b → A.σ a = A.σ b → a = b
  slot : ∀ m, A.N m → A.σ m < A.nv
  lo : 0 ≤ A.mp - (A.nv : Int)
  hi : A.mp < (G.lim.memory : Int)
  phi : PhiOK G A.φ
  key : cleanupKey G.mod A.src ∉ A.T
  println : G.s.globals.lookup "println" = none
  fnName : A.fn = mangleFnName G.mod A.src
  ghostN : ∀ p ∈ A.ghost, A.N p.1 ∧ ∃ y c, p.1 = mangleName G.mod ("$iter_" ++ y) c ∧ ("$iter_" ++ y) ∉ A.T
  ghostT : G.fr = true → ∀ y ∈ A.T, ("$iter_" ++ y) ∉ A.T

theorem Act.OK.good {G A} (h : Act.OK G A) : Good A.T A.N A.σ G.lim A.mp :=
  ⟨h.inj, fun m hm => by have := h.slot m hm; have := h.lo; have := h.hi; omega⟩

def GhostOK (A : Act) (mem : Mem) : Prop :=
  ∀ p ∈ A.ghost, mem.cells.lookup (A.mp - (A.σ p.1 : Int)) = some p.2

structure GRel (G : GCtx) (A : Act) (scopes : CScopes) (vm : List (String × Nat)) (ss : SScopes)
    (mem : Mem) : Prop where
  rel : StRel G.mod A.T A.N A.σ G.lim A.mp scopes vm ss mem.cells
  key : ρS scopes (cleanupKey G.mod A.src) = some A.cl
  ghost : GhostOK A mem
  /-- the ghost cells belong to iterator variables declared earlier -/
  ghostC : ∀ p ∈ A.ghost, ∃ y c, p.1 = mangleName G.mod ("$iter_" ++ y) c ∧ c < cnt vm ("$iter_" ++ y)

/-- The VM gets — handling on the way the exceptions that are caught deeper — to a `throw` instruction whose interrupt
finds it `frames'` activations deeper, with `xs` more operands. -/
structure RunsT (G : GCtx) (fn : String) (rest : List Frame) (mp : Int) (ip : Nat) (stk : List SVal)
    (mem : Mem) (out : World) (msg : String) (sp : Span) (mem' : Mem) (out' : World) :
    Prop where
  run : ∀ k, ∃ k' s1 frames' ip' mp' xs,
    execHN G.code G.lim k' (mkSI G.s (⟨fn, ip⟩ :: rest) mp k stk mem out) = .next s1 ∧
    exec1 G.code G.lim s1 = .intr (.throw msg sp)
      (mkSI G.s (frames' ++ ⟨fn, ip'⟩ :: rest) mp' (k + k' + 1) (xs ++ stk) mem' out')
  inv : HeapInv out.heap → HeapInv out'.heap

instance {G fn rest mp ip stk mem out msg sp mem' out'} :
    CoeFun (RunsT G fn rest mp ip stk mem out msg sp mem' out')
      (fun _ => ∀ k, ∃ k' s1 frames' ip' mp' xs,
        execHN G.code G.lim k' (mkSI G.s (⟨fn, ip⟩ :: rest) mp k stk mem out) = .next s1 ∧
        exec1 G.code G.lim s1 = .intr (.throw msg sp)
          (mkSI G.s (frames' ++ ⟨fn, ip'⟩ :: rest) mp' (k + k' + 1) (xs ++ stk) mem' out')) := ⟨RunsT.run⟩

/-- `RunsT` with the handler's view of the operand stack (`stk0`) apart from the stack the run starts with: an
instruction may pop operands before it raises, a callee has consumed its arguments. -/
structure RunsT0 (G : GCtx) (fn : String) (rest : List Frame) (mp : Int) (stk0 : List SVal) (ip : Nat)
    (stk : List SVal) (mem : Mem) (out : World) (msg : String) (sp : Span) (mem' : Mem) (out' : World) : Prop where
  run : ∀ k, ∃ k' s1 frames' ip' mp' xs,
    execHN G.code G.lim k' (mkSI G.s (⟨fn, ip⟩ :: rest) mp k stk mem out) = .next s1 ∧
    exec1 G.code G.lim s1 = .intr (.throw msg sp)
      (mkSI G.s (frames' ++ ⟨fn, ip'⟩ :: rest) mp' (k + k' + 1) (xs ++ stk0) mem' out')
  inv : HeapInv out.heap → HeapInv out'.heap

theorem RunsT0.toT {G : GCtx} {fn rest mp stk ip mem out msg sp mem' out'}
    (h : RunsT0 G fn rest mp stk ip stk mem out msg sp mem' out') :
    RunsT G fn rest mp ip stk mem out msg sp mem' out' := ⟨h.run, h.inv⟩

theorem RunsT.toT0 {G : GCtx} {fn rest mp stk ip mem out msg sp mem' out'}
    (h : RunsT G fn rest mp ip stk mem out msg sp mem' out') :
    RunsT0 G fn rest mp stk ip stk mem out msg sp mem' out' := ⟨h.run, h.inv⟩

theorem Runs.throw0 {G : GCtx} {fn rest mp stk0 ip stk mem out ip1 stk1 mem1 out1 msg sp mem2 out2}
    (h1 : Runs G.fr G.code G.lim G.s fn rest mp ip stk mem out ip1 stk1 mem1 out1)
    (h2 : RunsT0 G fn rest mp stk0 ip1 stk1 mem1 out1 msg sp mem2 out2) :
    RunsT0 G fn rest mp stk0 ip stk mem out msg sp mem2 out2 := by
  refine ⟨fun k => ?_, fun hi => h2.inv (h1.inv hi)⟩
  obtain ⟨k1, e1⟩ := h1.prefix k
  obtain ⟨k2, s1, frames', ip', mp', xs, e2, e3⟩ := h2.run (k + k1)
  exact ⟨k1 + k2, s1, frames', ip', mp', xs, by rw [e1, e2], by rw [e3]; simp only [Nat.add_assoc]⟩

/-- The handler may sit further down. -/
theorem RunsT0.base {G : GCtx} {fn rest mp stk0 ip stk mem out msg sp mem' out'} (ys : List SVal)
    (h : RunsT0 G fn rest mp (ys ++ stk0) ip stk mem out msg sp mem' out') :
    RunsT0 G fn rest mp stk0 ip stk mem out msg sp mem' out' := by
  refine ⟨fun k => ?_, h.inv⟩
  obtain ⟨k', s1, frames', ip', mp', xs, e1, e2⟩ := h.run k
  exact ⟨k', s1, frames', ip', mp', xs ++ ys, e1, by rw [e2, List.append_assoc]⟩

theorem Runs.throw {G : GCtx} {fn : String} {rest : List Frame} {mp : Int} {ip stk mem out ip1 mem1 out1 msg sp mem2 out2}
    (ys : List SVal)
    (h1 : Runs G.fr G.code G.lim G.s fn rest mp ip stk mem out ip1 (ys ++ stk) mem1 out1)
    (h2 : RunsT G fn rest mp ip1 (ys ++ stk) mem1 out1 msg sp mem2 out2) :
    RunsT G fn rest mp ip stk mem out msg sp mem2 out2 :=
  ((Runs.throw0 h1 h2.toT0).base ys).toT

/-- The origin of a pushed value: outside the extended fragment (`fr = false`) values never carry one;
inside it a cell read (`l[i]`, `o.f`) may be passed on with the slot it came from. -/
def OrgOK (fr : Bool) (o : Option Org) : Prop := fr = false → o = none

theorem OrgOK.none (fr : Bool) : OrgOK fr none := fun _ => rfl

/-- Expressions. A value ↦ only heap and output of the specification state change, the VM runs to the end of the code with
the value pushed and the same heap and output, and the memory cells up to `mp` (the caller's and this activation's) are
untouched; a fatal error other than the specification's own `StackOverFlow` ↦ the same fatal interrupt after the same
output; an exception ↦ a `throw` interrupt with the same message and span (`RunsT`). `break`, `continue`, `return` cannot
come out of an expression: the `| _ => False` here and in `SimArgs`, `SimCall`. -/
def SimGE (G : GCtx) (A : Act) (ip n : Nat) (stk : List SVal) (mem : Mem) (st : St)
    (r : Except Ctl Val × St) : Prop :=
  match r with
  | (.ok v, st') =>
    st' = { st with out := st'.out, heap := st'.heap } ∧
      ∃ mem' o, OrgOK G.fr o ∧
        Runs G.fr G.code G.lim G.s A.fn A.rest A.mp ip stk mem st.world (ip + n) (⟨v, o⟩ :: stk) mem' st'.world ∧
        MemLe G.fr A.mp mem mem'
  | (.error (.fatal kd m sp), st') =>
    kd ≠ "StackOverFlow" → RunsF G.code G.lim G.s A.fn A.rest A.mp ip stk mem st.world kd m sp st'.world
  | (.error (.throw msg sp), st') =>
    st' = { st with out := st'.out, heap := st'.heap } ∧
      ∃ mem', RunsT G A.fn A.rest A.mp ip stk mem st.world msg sp mem' st'.world ∧ MemLe G.fr A.mp mem mem'
  | (.error (.unsupported _), _) => True
  | (.error .timeout, _) => True
  | _ => False

/-- `SimGE` with the origin of the value left open: a cell read `l[i]`, `o.f` arrives on the VM's stack with the
cell's origin attached. -/
def SimOE (G : GCtx) (A : Act) (ip n : Nat) (stk : List SVal) (mem : Mem) (st : St)
    (r : Except Ctl Val × St) : Prop :=
  match r with
  | (.ok v, st') =>
    st' = { st with out := st'.out, heap := st'.heap } ∧
      ∃ mem' o, Runs G.fr G.code G.lim G.s A.fn A.rest A.mp ip stk mem st.world (ip + n) (⟨v, o⟩ :: stk) mem' st'.world ∧
        MemLe G.fr A.mp mem mem'
  | (.error c, st') => SimGE G A ip n stk mem st (.error c, st')

/-- Argument lists: all the values pushed, first argument on top. -/
def SimArgs (G : GCtx) (A : Act) (ip n : Nat) (stk : List SVal) (mem : Mem) (st : St)
    (r : Except Ctl (List Val) × St) : Prop :=
  match r with
  | (.ok vals, st') =>
    st' = { st with out := st'.out, heap := st'.heap } ∧
      ∃ mem' svals, svals.map (·.v) = vals ∧ (G.fr = false → svals = vals.map (⟨·, none⟩)) ∧
        Runs G.fr G.code G.lim G.s A.fn A.rest A.mp ip stk mem st.world (ip + n)
          (svals ++ stk) mem' st'.world ∧ MemLe G.fr A.mp mem mem'
  | (.error (.fatal kd m sp), st') =>
    kd ≠ "StackOverFlow" → RunsF G.code G.lim G.s A.fn A.rest A.mp ip stk mem st.world kd m sp st'.world
  | (.error (.throw msg sp), st') =>
    st' = { st with out := st'.out, heap := st'.heap } ∧
      ∃ mem', RunsT G A.fn A.rest A.mp ip stk mem st.world msg sp mem' st'.world ∧ MemLe G.fr A.mp mem mem'
  | (.error (.unsupported _), _) => True
  | (.error .timeout, _) => True
  | _ => False

/-- Statements inside the loops `loops` (break/continue labels; `lscopes`: the compiler scopes at the innermost loop, `d`
block levels up). Normal completion ends behind the code, with the caller's `Q` of the new scopes and memory;
`break`/`continue` end at the loop's labels, an exception at its `throw`, and each of the three owes the relation of the
frame to the scopes *at the loop*, which is what the loop resumes or unwinds with; `return` ends at the cleanup label
with the value pushed. -/
def SimGS {α : Type} (G : GCtx) (A : Act) (loops : List (String × String)) (lscopes : CScopes) (d : Nat)
    (ip n : Nat) (stk : List SVal) (mem : Mem) (Q : SScopes → Mem → Prop) (st : St)
    (r : Except Ctl α × St) : Prop :=
  match r with
  | (.ok _, st') =>
    st' = { st with scopes := st'.scopes, out := st'.out, heap := st'.heap } ∧
      ∃ mem', Runs G.fr G.code G.lim G.s A.fn A.rest A.mp ip stk mem st.world (ip + n) stk mem' st'.world ∧
        MemLe G.fr (A.mp - (A.nv : Int)) mem mem' ∧ Q st'.scopes mem'
  | (.error .brk, st') =>
    match loops with
    | (b, _) :: _ =>
      st' = { st with scopes := st'.scopes, out := st'.out, heap := st'.heap } ∧
        ∃ mem', Runs G.fr G.code G.lim G.s A.fn A.rest A.mp ip stk mem st.world (A.lab b) stk mem' st'.world ∧
          MemLe G.fr (A.mp - (A.nv : Int)) mem mem' ∧
          (ScopesRel A.T A.σ G.lim A.mp mem'.cells lscopes (st'.scopes.drop d) ∧ GhostOK A mem')
    | [] => False
  | (.error .cont, st') =>
    match loops with
    | (_, c) :: _ =>
      st' = { st with scopes := st'.scopes, out := st'.out, heap := st'.heap } ∧
        ∃ mem', Runs G.fr G.code G.lim G.s A.fn A.rest A.mp ip stk mem st.world (A.lab c) stk mem' st'.world ∧
          MemLe G.fr (A.mp - (A.nv : Int)) mem mem' ∧
          (ScopesRel A.T A.σ G.lim A.mp mem'.cells lscopes (st'.scopes.drop d) ∧ GhostOK A mem')
    | [] => False
  | (.error (.ret v), st') =>
    A.rt = true ∧ st' = { st with scopes := st'.scopes, out := st'.out, heap := st'.heap } ∧
      ∃ mem' o, OrgOK G.fr o ∧
        Runs G.fr G.code G.lim G.s A.fn A.rest A.mp ip stk mem st.world (A.lab A.cl) (⟨v, o⟩ :: stk) mem' st'.world ∧
        MemLe G.fr (A.mp - (A.nv : Int)) mem mem'
  | (.error (.fatal kd m sp), st') =>
    kd ≠ "StackOverFlow" → RunsF G.code G.lim G.s A.fn A.rest A.mp ip stk mem st.world kd m sp st'.world
  | (.error (.throw msg sp), st') =>
    st' = { st with scopes := st'.scopes, out := st'.out, heap := st'.heap } ∧
      ∃ mem', RunsT G A.fn A.rest A.mp ip stk mem st.world msg sp mem' st'.world ∧
        MemLe G.fr (A.mp - (A.nv : Int)) mem mem' ∧
        (ScopesRel A.T A.σ G.lim A.mp mem'.cells lscopes (st'.scopes.drop d) ∧ GhostOK A mem')
  | (.error (.unsupported _), _) => True
  | (.error .timeout, _) => True

/-- From the callee's first instruction, arguments on the stack (first on top), to the caller's frames with the result
pushed. -/
structure RunsCall (G : GCtx) (g : String) (frames : List Frame) (mp : Int) (stk : List SVal) (mem : Mem)
    (out : World) (stk' : List SVal) (mem' : Mem) (out' : World) : Prop where
  run : ∀ k, ∃ k', execHN G.code G.lim k' (mkSI G.s (⟨g, 0⟩ :: frames) mp k stk mem out) =
    .next (mkSI G.s frames mp (k + k') stk' mem' out')
  inv : HeapInv out.heap → HeapInv out'.heap

instance {G g frames mp stk mem out stk' mem' out'} :
    CoeFun (RunsCall G g frames mp stk mem out stk' mem' out')
      (fun _ => ∀ k, ∃ k', execHN G.code G.lim k' (mkSI G.s (⟨g, 0⟩ :: frames) mp k stk mem out) =
        .next (mkSI G.s frames mp (k + k') stk' mem' out')) := ⟨RunsCall.run⟩

def RunsCallF (G : GCtx) (g : String) (frames : List Frame) (mp : Int) (stk : List SVal) (mem : Mem)
    (out : World) (kd msg : String) (sp : Span) (out' : World) : Prop :=
  ∀ k, ∃ k' s', execHN G.code G.lim k' (mkSI G.s (⟨g, 0⟩ :: frames) mp k stk mem out) =
      .intr (.fatal kd msg sp) s' ∧
    s'.st = { G.s.st with heap := out'.heap, out := out'.out } ∧ s'.globals = G.s.globals

/-- A call that ends in an exception nobody inside the callee catches. The callee starts on `stk0` (arguments on top)
and the interrupt shows `xs ++ stk`: the two have the roles of `stk` and `stk0` in `RunsT0` (see `RunsT0.call`). -/
structure RunsCallT (G : GCtx) (g : String) (frames : List Frame) (mp : Int) (stk0 stk : List SVal)
    (mem : Mem) (out : World) (msg : String) (sp : Span) (mem' : Mem) (out' : World) :
    Prop where
  run : ∀ k, ∃ k' s1 frames' mp' xs,
    execHN G.code G.lim k' (mkSI G.s (⟨g, 0⟩ :: frames) mp k stk0 mem out) = .next s1 ∧
    exec1 G.code G.lim s1 = .intr (.throw msg sp)
      (mkSI G.s (frames' ++ frames) mp' (k + k' + 1) (xs ++ stk) mem' out')
  inv : HeapInv out.heap → HeapInv out'.heap

instance {G g frames mp stk0 stk mem out msg sp mem' out'} :
    CoeFun (RunsCallT G g frames mp stk0 stk mem out msg sp mem' out')
      (fun _ => ∀ k, ∃ k' s1 frames' mp' xs,
        execHN G.code G.lim k' (mkSI G.s (⟨g, 0⟩ :: frames) mp k stk0 mem out) = .next s1 ∧
        exec1 G.code G.lim s1 = .intr (.throw msg sp)
          (mkSI G.s (frames' ++ frames) mp' (k + k' + 1) (xs ++ stk) mem' out')) := ⟨RunsCallT.run⟩

/-- Calls, for one result `r` of the callee's body: `SimGE` with `RunsCall…` in place of `Runs…`. -/
def SimCall (G : GCtx) (g : String) (frames : List Frame) (mp : Int) (args : List SVal) (stk : List SVal)
    (mem : Mem) (st : St) (r : Except Ctl Val × St) : Prop :=
  match r with
  | (.ok v, st') =>
    st' = { st with out := st'.out, heap := st'.heap } ∧
      ∃ mem' o, OrgOK G.fr o ∧
        RunsCall G g frames mp (args ++ stk) mem st.world (⟨v, o⟩ :: stk) mem' st'.world ∧
        MemLe G.fr mp mem mem'
  | (.error (.fatal kd m sp), st') =>
    kd ≠ "StackOverFlow" → RunsCallF G g frames mp (args ++ stk) mem st.world kd m sp st'.world
  | (.error (.throw msg sp), st') =>
    st' = { st with out := st'.out, heap := st'.heap } ∧
      ∃ mem', RunsCallT G g frames mp (args ++ stk) stk mem st.world msg sp mem' st'.world ∧
        MemLe G.fr mp mem mem'
  | (.error (.unsupported _), _) => True
  | (.error .timeout, _) => True
  | _ => False

end HmsProofs.Sim
