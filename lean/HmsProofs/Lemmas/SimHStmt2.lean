import HmsProofs.Lemmas.SimHIdxAsg
/-! One statement, by cases on its form: `pgs_step`. Before it what single cases need: where the arms of a `match` statement
sit, the three runs of a `try` (body completes, body ends fatally, body raises), value positions at the statement level, the
`if` rules. -/
namespace HmsProofs.Sim
open Hms.Core Hms.Core.Comp Hms.Core.VM

/-- Arm `i` sits at its label `nms[i]` as `Drop; block; Jump after`; its block is compiled in some `envi` between `env`
and the end, and has fragment, scoping, names and variables from the arms. -/
theorem cgArmsS_at (A : Act) (mod fn : String) (φ : String → Option String) (loops : List (String × String))
    (sp : Span) (after : String) {fr : Bool} (il rt : Bool) :
    ∀ (arms : List (List Expr × Expr)) (nms : List String) (env : CEnv) (ip : Nat), arms.length = nms.length →
    Frag.okFArmsS fr il rt arms = true → Frag.wsGArmsS mod fn φ loops arms env = true →
    Placed A.lab A.σ A.c ip (cgArmsS mod fn φ loops sp after arms nms env).1 →
    ∀ (i : Nat) (a : List Expr × Expr) (nm : String), arms[i]? = some a → nms[i]? = some nm →
      ∃ (b : Block) (envi : CEnv), a.2 = .blockE b ∧ Frag.okFBS fr il rt b = true ∧
        (∀ x ∈ Frag.identsGBS b, x ∈ Frag.identsGArmsS arms) ∧
        EnvLe env envi ∧ EnvLe (cgBS mod fn φ loops b envi).2 (cgArmsS mod fn φ loops sp after arms nms env).2 ∧
        Frag.wsGBS mod fn φ loops b envi = true ∧
        (∀ m ∈ codeVars (cgBS mod fn φ loops b envi).1, m ∈ codeVars (cgArmsS mod fn φ loops sp after arms nms env).1) ∧
        A.c[A.lab nm]? = some (.drop, sp) ∧ Placed A.lab A.σ A.c (A.lab nm + 1) (cgBS mod fn φ loops b envi).1 ∧
        A.c[A.lab nm + 1 + nI (cgBS mod fn φ loops b envi).1]? = some (.jump (A.lab after), sp) := by
  intro arms
  induction arms with
  | nil => intro nms env ip _ _ _ _ i a nm hi; simp at hi
  | cons a0 rest ih =>
    intro nms env ip hlen hok hws hpl i a nm hi hn
    obtain ⟨lits0, act0⟩ := a0
    cases act0 <;> try (simp [Frag.okFArmsS] at hok; done)
    rename_i b0
    cases nms with
    | nil => simp at hlen
    | cons n0 nms' =>
      simp only [Frag.okFArmsS, Bool.and_eq_true] at hok
      simp only [Frag.wsGArmsS, Bool.and_eq_true] at hws
      simp only [cgArmsS] at hpl ⊢
      unplace at hpl
      obtain ⟨elb, idrop, hplB, ijmp, hplR⟩ := hpl
      cases i with
      | zero =>
        simp only [List.getElem?_cons_zero, Option.some.injEq] at hi hn
        subst hi; subst hn
        rw [elb]
        refine ⟨b0, env, rfl, hok.1.2, ?_, .refl, cgArmsS_envLe .., hws.1, ?_, idrop, hplB, ijmp⟩
        · intro x hx; simp only [Frag.identsGArmsS, List.mem_append]; exact Or.inl hx
        · intro m hm
          simp only [codeVars_append, List.mem_append]
          exact Or.inl (Or.inl (Or.inr hm))
      | succ j =>
        simp only [List.getElem?_cons_succ] at hi hn
        obtain ⟨b, envi, hb, hokb, hid, hle, hle2, hwsb, hcv, hdr, hplb, hjmp⟩ :=
          ih nms' (cgBS mod fn φ loops b0 env).2 _ (by simpa using hlen) hok.2 hws.2 hplR j a nm hi hn
        refine ⟨b, envi, hb, hokb, ?_, (cgBS_envLe ..).trans hle, hle2, hwsb, ?_, hdr, hplb, hjmp⟩
        · intro x hx; simp only [Frag.identsGArmsS, List.mem_append]; exact Or.inr (hid x hx)
        · intro m hm
          simp only [codeVars_append, List.mem_append]
          exact Or.inr (hcv m hm)

/-- An expression leaves the scopes of the specification state alone (read off its simulation at the expression level). -/
theorem PV.frame {G : GCtx} {n : Nat} (h : PV G n) {A : Act} (hA : A.OK G) {sc : CScopes} {vm : List (String × Nat)} {e : Expr}
    {lm : LM} (hok : Frag.okV G.fr e = true) (hws : Frag.wsGE sc A.φ e = true) (hT : ∀ x ∈ Frag.namesGE e, x ∈ A.T)
    {ip : Nat} {mem : Mem} {st : St} (hpl : Placed A.lab A.σ A.c ip (cgE G.mod (ρS sc) A.φ e lm).1)
    (hrel : StRel G.mod A.T A.N A.σ G.lim A.mp sc vm st.scopes mem) (hsp : SpecOK G A.mp st) {v : Val} {st' : St}
    (hev : evalExpr G.cfg n e st = (.ok v, st')) : st' = { st with out := st'.out, heap := st'.heap } := by
  have := h A hA (Stable.strel G A sc vm) Stable.strel_rel e lm hok hws hT ip [] [] mem st hpl ⟨hrel, hsp⟩ ip mem st .refl
  rw [hev] at this
  obtain ⟨_, _, _, _, hat⟩ := this
  exact hat.frame

theorem withH_self (s : VMState) : withH s s.handlers = s := rfl

/-- `SpecOK` and `GRel` read nothing of the VM state `G.s` and not the `rt` flag of the activation: they pass to the context
and the activation of a `try` body, and back. -/
theorem SpecOK.withH {G : GCtx} {mp : Int} {st : St} (h : SpecOK G mp st) (hs : List Handler) : SpecOK (G.withH hs) mp st :=
  { h with }

theorem GRel.withH_iff {G : GCtx} {A : Act} {hs : List Handler} {rt : Bool} {scopes vm ss mem} :
    GRel (G.withH hs) { A with rt := rt } scopes vm ss mem ↔ GRel G A scopes vm ss mem :=
  ⟨fun h => { h with }, fun h => { h with }⟩

/-- The error object as the VM makes it (`filename` is `"main"`) and as the specification does (the current module). -/
theorem errCellOf_main (msg : String) (sp : Span) : errCellOf msg sp "main" = errCell msg sp := rfl

theorem catchSt_frame (ci msg : String) (tsp : Span) (s' : St) :
    catchSt ci msg tsp s' =
      { s' with scopes := declScopes ci (.ref s'.heap.size) ([] :: s'.scopes),
                heap := s'.heap.push (errCellOf msg tsp s'.module) } := rfl

/-- What `Set_Try` records for a handler at `l`: depth of the call stack, height of the operand stack, memory pointer. -/
def tryHandler (A : Act) (l : Nat) (stk : List SVal) : Handler :=
  ⟨⟨A.fn, l⟩, A.rest.length + 1, stk.length, A.mp⟩

def GCtx.inTry (G : GCtx) (A : Act) (l : Nat) (stk : List SVal) : GCtx :=
  G.withH (tryHandler A l stk :: G.s.handlers)

/-- The body completes: `Set_Try`, the body under the handler, `Pop_Try`, `Jump`. -/
theorem Runs.tryOk {G : GCtx} {A : Act} (hA : A.OK G) {ip nB ipAfter l : Nat} {stk : List SVal}
    {mem mem1 : Mem} {w w1 : World} {sp1 sp2 sp3 : Span}
    (i0 : A.c[ip]? = some (.setTry A.fn l, sp1))
    (hbody : Runs G.fr G.code G.lim (G.inTry A l stk).s A.fn A.rest A.mp (ip + 1) stk mem w (ip + 1 + nB) stk mem1 w1)
    (i1 : A.c[ip + 1 + nB]? = some (.popTry, sp2)) (i2 : A.c[ip + 1 + nB + 1]? = some (.jump ipAfter, sp3)) :
    Runs G.fr G.code G.lim G.s A.fn A.rest A.mp ip stk mem w ipAfter stk mem1 w1 := by
  refine ⟨fun k => ?_, hbody.inv⟩
  obtain ⟨k1, e1⟩ := hbody (k + 1)
  refine ⟨1 + (k1 + (1 + 1)), ?_⟩
  rw [execHN_add, execHN_one, exec1H_of_next (mkSI_setTry G.code G.lim G.s A.fn ip A.rest A.mp k stk mem w A.c hA.code
    A.fn l sp1 i0)]
  simp only []
  rw [execHN_add]
  have e1' : execHN G.code G.lim k1 (mkSI (withH G.s (⟨⟨A.fn, l⟩, A.rest.length + 1, stk.length, A.mp⟩ :: G.s.handlers))
      (⟨A.fn, ip + 1⟩ :: A.rest) A.mp (k + 1) stk mem w) =
      .next (mkSI (withH G.s (⟨⟨A.fn, l⟩, A.rest.length + 1, stk.length, A.mp⟩ :: G.s.handlers))
        (⟨A.fn, ip + 1 + nB⟩ :: A.rest) A.mp (k + 1 + k1) stk mem1 w1) := e1
  rw [e1']
  simp only []
  rw [execHN_add, execHN_one, exec1H_of_next (mkSI_popTry G.code G.lim G.s A.fn (ip + 1 + nB) A.rest A.mp (k + 1 + k1) stk mem1
    w1 A.c hA.code sp2 _ G.s.handlers i1)]
  simp only []
  rw [withH_self, execHN_one]
  have hj := reach_jump G.code G.lim (baseOf (withIt G.s mem1.it) A.fn A.rest A.mp w1) (ip + 1 + nB + 1) (k + 1 + k1 + 1) stk
    mem1.cells ⟨A.fn, 0⟩ A.rest A.c rfl hA.code ipAfter sp3 i2
  have hj' : exec1 G.code G.lim (mkSI G.s (⟨A.fn, ip + 1 + nB + 1⟩ :: A.rest) A.mp (k + 1 + k1 + 1) stk mem1 w1) =
      .next (mkSI G.s (⟨A.fn, ipAfter⟩ :: A.rest) A.mp (k + 1 + k1 + 1 + 1) stk mem1 w1) := hj
  rw [exec1H_of_next hj']
  simp only [Nat.add_assoc]

/-- The body ends fatally: handlers do not matter to a fatal interrupt. -/
theorem RunsF.tryBody {G : GCtx} {A : Act} (hA : A.OK G) {ip l : Nat} {stk : List SVal}
    {mem : Mem} {w w1 : World} {sp1 : Span} {kd msg : String} {fsp : Span}
    (i0 : A.c[ip]? = some (.setTry A.fn l, sp1))
    (hbody : RunsF G.code G.lim (G.inTry A l stk).s A.fn A.rest A.mp (ip + 1) stk mem w kd msg fsp w1) :
    RunsF G.code G.lim G.s A.fn A.rest A.mp ip stk mem w kd msg fsp w1 := by
  intro k
  obtain ⟨k1, s', e1, h1, h2⟩ := hbody (k + 1)
  refine ⟨1 + k1, s', ?_, h1, h2⟩
  rw [execHN_add, execHN_one, exec1H_of_next (mkSI_setTry G.code G.lim G.s A.fn ip A.rest A.mp k stk mem w A.c hA.code
    A.fn l sp1 i0)]
  exact e1

/-- The body raises: dispatch unwinds to the handler at `l` with the error object pushed, `Set_Var` stores it in `slot`,
`Pop_Try`; the catch block starts at `l + 2`. -/
theorem Runs.tryCatch {G : GCtx} {A : Act} (hA : A.OK G) {ip l slot : Nat} {stk : List SVal}
    {mem mem1 : Mem} {w w1 : World} {sp1 sp2 sp3 : Span} {msg : String} {tsp : Span}
    (i0 : A.c[ip]? = some (.setTry A.fn l, sp1))
    (hbody : RunsT (G.inTry A l stk) A.fn A.rest A.mp (ip + 1) stk mem w msg tsp mem1 w1)
    (i1 : A.c[l]? = some (.setVar slot, sp2)) (i2 : A.c[l + 1]? = some (.popTry, sp3))
    (h0 : 0 ≤ A.mp - (slot : Int)) (h1 : A.mp - (slot : Int) < (G.lim.memory : Int)) :
    Runs G.fr G.code G.lim G.s A.fn A.rest A.mp ip stk mem w (l + 2) stk
      (mem1.set (A.mp - (slot : Int)) (.ref w1.heap.size)) ⟨w1.heap.push (errCell msg tsp), w1.out⟩ := by
  -- `HeapInv` survives pushing the error object: none of its fields bears the name of a method (`methNames`)
  refine ⟨fun k => ?_, fun hi => (hbody.inv hi).push _ (fun fs h => by
    cases h
    intro k hk
    simp only [methNames, List.mem_cons, List.mem_nil_iff, or_false] at hk
    rcases hk with rfl | rfl | rfl | rfl | rfl | rfl <;> rfl)⟩
  obtain ⟨k1, s1, frames', ip', mp', xs, e1, e2⟩ := hbody (k + 1)
  refine ⟨1 + (k1 + (1 + (1 + 1))), ?_⟩
  rw [execHN_add, execHN_one, exec1H_of_next (mkSI_setTry G.code G.lim G.s A.fn ip A.rest A.mp k stk mem w A.c hA.code
    A.fn l sp1 i0)]
  simp only []
  rw [execHN_add]
  have e1' : execHN G.code G.lim k1 (mkSI (withH G.s (⟨⟨A.fn, l⟩, A.rest.length + 1, stk.length, A.mp⟩ :: G.s.handlers))
      (⟨A.fn, ip + 1⟩ :: A.rest) A.mp (k + 1) stk mem w) = .next s1 := e1
  rw [e1']
  simp only []
  have e2' : exec1 G.code G.lim s1 = .intr (.throw msg tsp)
      (mkSI (G.inTry A l stk).s (frames' ++ ⟨A.fn, ip'⟩ :: A.rest) mp' (k + 1 + k1 + 1) (xs ++ stk) mem1 w1) := e2
  rw [execHN_add, execHN_one, exec1H_of_throw e2']
  have hd := dispatch_mkSI G.s A.fn l A.mp G.s.handlers frames' ⟨A.fn, ip'⟩ A.rest mp' (k + 1 + k1 + 1) xs stk mem1 w1 msg tsp
  have hd' : dispatch msg tsp (mkSI (G.inTry A l stk).s (frames' ++ ⟨A.fn, ip'⟩ :: A.rest) mp' (k + 1 + k1 + 1)
      (xs ++ stk) mem1 w1) = _ := hd
  rw [hd']
  simp only []
  rw [execHN_add, execHN_one]
  have hs := reach_setVar G.code G.lim
    (baseOf (withIt (withH G.s (⟨⟨A.fn, l⟩, A.rest.length + 1, stk.length, A.mp⟩ :: G.s.handlers)) mem1.it)
    A.fn A.rest A.mp ⟨w1.heap.push (errCell msg tsp), w1.out⟩) l (k + 1 + k1 + 1) stk mem1.cells ⟨A.fn, 0⟩ A.rest A.c rfl
    hA.code slot sp2 (.ref w1.heap.size) none i1 h0 h1
  have hs' : exec1 G.code G.lim (mkSI (withH G.s (⟨⟨A.fn, l⟩, A.rest.length + 1, stk.length, A.mp⟩ :: G.s.handlers))
      (⟨A.fn, l⟩ :: A.rest) A.mp (k + 1 + k1 + 1) (⟨.ref w1.heap.size, none⟩ :: stk) mem1
      ⟨w1.heap.push (errCell msg tsp), w1.out⟩) =
      .next (mkSI (withH G.s (⟨⟨A.fn, l⟩, A.rest.length + 1, stk.length, A.mp⟩ :: G.s.handlers))
        (⟨A.fn, l + 1⟩ :: A.rest) A.mp (k + 1 + k1 + 1 + 1) stk (mem1.set (A.mp - (slot : Int)) (.ref w1.heap.size))
        ⟨w1.heap.push (errCell msg tsp), w1.out⟩) := hs
  rw [exec1H_of_next hs']
  simp only []
  rw [execHN_one, exec1H_of_next (mkSI_popTry G.code G.lim G.s A.fn (l + 1) A.rest A.mp (k + 1 + k1 + 1 + 1) stk _
    ⟨w1.heap.push (errCell msg tsp), w1.out⟩ A.c hA.code sp3 _ G.s.handlers i2)]
  rw [withH_self]
  simp only [Nat.add_assoc]

section Rules
variable {G : GCtx} {A : Act} (hA : A.OK G) {loops : List (String × String)} {lscopes : CScopes} {d : Nat} {env : CEnv}
include hA

theorem pgs_callDrop {n : Nat} (hPE : PE G n) (sp : Span) (e : Expr) (env' : CEnv) (hok : Frag.okE G.fr e = true)
    (hws : Frag.wsGE env.scopes A.φ e = true) (hT : ∀ x ∈ Frag.namesGE e, x ∈ A.T)
    (hsc : env'.scopes = env.scopes) (hvm : env'.vm = env.vm) :
    StmtM G A loops lscopes d env env' ((cgE G.mod (ρS env.scopes) A.φ e env.lm).1 ++ [(.drop, sp)])
      (evalExpr G.cfg n e) := by
  intro ip stk mem spec
  rw [← bind_pure (evalExpr G.cfg n e)]
  refine SimM.seq (hPE A hA _ Stable.grel_rel e env.lm hok hws hT ip [] stk mem spec)
    fun v st1 mem1 ys ⟨o, _, eys⟩ => eys ▸ ?_
  exact SimM.instrOk rfl fun idrop hI => ⟨v, st1, [], mem1, rfl, rfl, by rw [hsc, hvm]; exact hI.1,
    (Lvl.stmt G A loops lscopes d).frame_refl st1, MemLe.refl _ _ _, hA.drop idrop⟩

/-- `if c { t } else { e }`: the condition's code `C` and the blocks' codes `Tb`, `Eb`, laid out with the two jumps. -/
theorem StmtM.ifElse {m : Nat} {env' : CEnv} {C Tb Eb : SCode} {els aft : String} (isp : Span) (ty : Ty) (cnd : Expr)
    (t eb : Block)
    (hc : ∀ ip stk mem spec, SimM (.stmt G A loops lscopes d) (.grel G A loops lscopes d env) C ip [] stk mem spec
      (evalExpr G.cfg m cnd) (QGE G []))
    (ht : ∀ ip stk mem spec, SimM (.stmt G A loops lscopes d) (.grel G A loops lscopes d env) Tb ip [] stk mem spec
      (inScope (evalBlock G.cfg m t)) (fun _ _ _ ys => ys = [])
      (fun st' mem' => GRel G A env'.scopes env'.vm st'.scopes mem'))
    (he : ∀ ip stk mem spec, SimM (.stmt G A loops lscopes d) (.grel G A loops lscopes d env) Eb ip [] stk mem spec
      (inScope (evalBlock G.cfg m eb)) (fun _ _ _ ys => ys = [])
      (fun st' mem' => GRel G A env'.scopes env'.vm st'.scopes mem')) :
    StmtM G A loops lscopes d env env'
      (C ++ [(.jumpIfFalse els, isp)] ++ Tb ++ [(.jump aft, isp), (.label els, isp)] ++ Eb ++ [(.label aft, isp)])
      (evalExpr G.cfg (m + 1) (.ifE isp ty cnd t (some eb))) := by
  intro ip stk mem spec hpl
  unplace at hpl
  obtain ⟨hplC, ijif, hplT, ijmp, eels, hplE, eaft⟩ := hpl
  rw [evalExpr_ifE_bind]
  exact .ite hA ijif ((hc ip stk mem spec).mono (fun _ _ _ _ _ => QGE.oe) hplC)
    (fun _ _ => ((ht _ stk _ _ hplT).to fun _ _ _ => hA.jump ijmp).exit eaft)
    (fun _ _ => eels ▸ (he _ stk _ _ hplE).exit (by omega))

theorem StmtM.ifThen {m : Nat} {env' : CEnv} {C Tb : SCode} {aft : String} (isp : Span) (ty : Ty) (cnd : Expr) (t : Block)
    (hc : ∀ ip stk mem spec, SimM (.stmt G A loops lscopes d) (.grel G A loops lscopes d env) C ip [] stk mem spec
      (evalExpr G.cfg m cnd) (QGE G []))
    (ht : ∀ ip stk mem spec, SimM (.stmt G A loops lscopes d) (.grel G A loops lscopes d env) Tb ip [] stk mem spec
      (inScope (evalBlock G.cfg m t)) (fun _ _ _ ys => ys = [])
      (fun st' mem' => GRel G A env'.scopes env'.vm st'.scopes mem'))
    (hle : EnvLe env env') :
    StmtM G A loops lscopes d env env' (C ++ [(.jumpIfFalse aft, isp)] ++ Tb ++ [(.jump aft, isp), (.label aft, isp)])
      (evalExpr G.cfg (m + 1) (.ifE isp ty cnd t none)) := by
  intro ip stk mem spec hpl
  unplace at hpl
  obtain ⟨hplC, ijif, hplT, ijmp, eaft⟩ := hpl
  rw [evalExpr_ifE_bind]
  exact .ite hA ijif ((hc ip stk mem spec).mono (fun _ _ _ _ _ => QGE.oe) hplC)
    (fun _ _ => ((ht _ stk _ _ hplT).to fun _ _ _ => hA.jump ijmp).exit (by rw [eaft]))
    (fun _ _ => eaft ▸ SimJ.ret fun hI => ⟨rfl, hI.1.envLe hle⟩)

theorem SimM.writeVar {name m : String} (hxT : name ∈ A.T) (hρ : ρS env.scopes name = some m) (hNm : A.N m) (asp : Span)
    (v : Val) (ov : Option Org) (st1 : St) (mem1 : Mem) (ipS : Nat) (stk : List SVal) :
    SimM (.stmt G A loops lscopes d) (.grel G A loops lscopes d env) [(.setVar m, asp)] ipS [⟨v, ov⟩] stk mem1 st1
      (writePlace { var := some (name, false) } v >>= fun _ => pure Val.null) (fun _ _ _ ys => ys = [])
      (fun st' mem' => GRel G A env.scopes env.vm st'.scopes mem') := by
  refine SimM.instrOk rfl fun iset hI => ?_
  obtain ⟨ss', hass, hrel'⟩ := hI.1.assign hA name hxT m hρ v
  exact ⟨.null, { st1 with scopes := ss' }, [], _, by rw [M_bind, writePlace_var name false v st1 ss' hass]; rfl, rfl,
    hrel', Lvl.stmt_frame_scopes rfl, MemLe.set _ _ mem1 _ v (hA.cell m hNm).2.2, hA.setVar hNm iset⟩

end Rules

/-- Single statements, by the forms of the generator (its case principle names the compiled parts); `while`/`loop`
and `for` come from `PGL` and `PGF`. The fuels of the hypotheses are those at which `evalStmt (n + 1)` gets to the parts:
an expression statement evaluates its expression at `n`; that expression — `if`, `try`, `match`, a call — its blocks and
its callee at `n - 1` or below (`hPBlow`, `hTry`), the statements of a catch block and the arguments of a call at `n - 2`
(`hPSsLow`, `hPArgsLow`); `while`/`loop` is `loopRun` at `n`; `for` passes the whole statement on, so `PGF` is asked at
`n + 1` itself (`pgf_step` gives it from the lower fuels alone). -/
theorem pgs_step (G : GCtx) (hG : G.OK') (n : Nat) (hPE : ∀ m, m ≤ n → PE G m) (hPArgsLow : ∀ m, m + 2 = n → PArgs G m)
    (hPL : PGL G n) (hPBlow : ∀ m, m + 1 ≤ n → PGBS G m)
    (hTry : ∀ m, m + 1 = n → ∀ hs, PGBS (G.withH hs) m) (hPSsLow : ∀ m, m + 2 = n → PGSs G m)
    (hPF : PGF G (n + 1)) : PGS G (n + 1) := by
  intro A hA loops lscopes d st env
  have hPV := fun m (hm : m ≤ n) => pv_all G m (fun m' hm' => hPE m' (by omega))
  refine cgS.fun_cases_unfolding G.mod A.src A.φ
    (motive := fun loops st env r => Frag.okFS G.fr (!loops.isEmpty) A.rt st = true → (∀ x ∈ Frag.identsGS st, x ∈ A.T) →
      Frag.wsGS G.mod A.src A.φ loops st env = true → (∀ m ∈ codeVars r.1, A.N m) →
      StmtM G A loops lscopes d env r.2 r.1 (evalStmt G.cfg (n + 1) st))
    ?letS ?assign ?opAssign ?idxAssign ?memAssign ?push ?ifElse ?ifThen ?tryCatch ?matchS ?throw ?println ?call
    ?whileS ?loopS ?forS ?brk ?cont ?ret ?other loops st env
  case letS =>
    intro loops sp name vty oty e env ce fv hs hT hws hN
    simp only [Frag.okFS, Bool.not_false, Bool.true_and] at hs
    simp only [Frag.wsGS] at hws
    simp only [Frag.identsGS, List.forall_mem_cons] at hT
    simp only [codeVars_append, List.forall_mem_append] at hN
    have hNm : A.N fv.1 := hN.2 _ (List.mem_singleton.mpr rfl)
    intro ip stk mem spec
    rw [evalStmt_let_bind]
    refine SimM.seq (hPV n (Nat.le_refl n) A hA _ Stable.grel_rel e env.lm hs hws hT.2 ip [] stk mem spec)
      fun v st1 mem1 ys ⟨o, eys⟩ => eys ▸ ?_
    refine SimM.instrOk rfl fun iset hI => ⟨(), _, [], _, declare_run name v st1, rfl, ?_,
      Lvl.stmt_frame_scopes (declareSt_frame name v st1), MemLe.set _ _ mem1 _ v (hA.cell _ hNm).2.2, by
        rw [world_of_scopes (declareSt_frame name v st1)]; exact hA.setVar hNm iset⟩
    rw [declareSt_scopes]
    exact GRel.declare (env := { env with lm := ce.2 }) hA hI.1 name hT.1 v hNm
  case assign =>
    intro loops sp asp isp ity name isFn r env cr hs hT hws hN
    simp only [Frag.okFS] at hs
    simp only [Frag.wsGS, Bool.and_eq_true] at hws
    simp only [Frag.identsGS, List.forall_mem_cons] at hT
    obtain ⟨mn, hρ⟩ := Option.isSome_iff_exists.mp hws.1
    simp only [hρ, Option.getD_some, codeVars_append, List.forall_mem_append] at hN ⊢
    refine StmtM.exprS fun m e => ?_
    cases m with
    | zero => exact StmtM.timeout fun st => evalExpr_assign_short ..
    | succ n' =>
    intro ip stk mem spec
    rw [evalExpr_assign_none_bind]
    exact SimM.seq (hPV (n' + 1) (by omega) A hA _ Stable.grel_rel r env.lm hs hws.2 hT.2 ip [] stk mem spec)
      fun v st1 mem1 ys ⟨ov, eys⟩ => eys ▸
        SimM.writeVar hA hT.1 hρ (hN.2 _ (List.mem_singleton.mpr rfl)) asp v ov st1 mem1 _ stk
  case opAssign =>
    intro loops sp asp op isp ity name isFn r env mn cr hs hT hws hN
    simp only [Frag.okFS, Bool.and_eq_true, Bool.not_eq_eq_eq_not, Bool.not_true] at hs
    simp only [Frag.wsGS, Bool.and_eq_true] at hws
    simp only [Frag.identsGS, List.forall_mem_cons] at hT
    obtain ⟨m', hρ⟩ := Option.isSome_iff_exists.mp hws.1
    simp only [mn, hρ, Option.getD_some, codeVars_append, List.forall_mem_append, List.append_assoc] at hN ⊢
    have hNm : A.N m' := hN.1 _ (List.mem_singleton.mpr rfl)
    refine StmtM.exprS fun m e => ?_
    cases m with
    | zero => exact StmtM.timeout fun st => evalExpr_assign_short ..
    | succ n' =>
    intro ip stk mem spec
    rw [evalExpr_assign_some_bind]
    refine SimM.seq (I1 := .grel G A loops lscopes d env)
      (Qx := fun c st' mem' ys => ys = [⟨c, none⟩] ∧ st' = spec ∧ mem' = mem)
      (SimM.instrOk rfl fun iget hI => ?_) fun c st0 mem0 ys ⟨e1, e2, e3⟩ => ?_
    · obtain ⟨cur, hls', _, _, hmv⟩ := hI.1.rel.scopes.read A.T A.σ G.lim A.mp hT.1 hρ
      exact ⟨cur, spec, _, mem, readPlace_var name false cur spec hls', ⟨rfl, rfl, rfl⟩, hI,
        (Lvl.stmt G A loops lscopes d).frame_refl spec, MemLe.refl _ _ _, hA.getVar hNm iget hmv⟩
    · subst e1 e2 e3
      exact (hPV (n' + 1) (by omega) A hA _ Stable.grel_rel r env.lm hs.2 hws.2 hT.2 _ [⟨c, none⟩] stk _ _).seq
        fun b st1 mem1 ys ⟨ob, eys⟩ => eys ▸ (SimM.arith hA asp op c b none ob hs.1).seq fun v _ _ _ e => e ▸
          SimM.writeVar hA hT.1 hρ hNm asp v none _ _ _ stk
  case idxAssign =>
    intro loops sp asp op isp ity b i r env cl cr hs hT hws hN
    refine StmtM.exprS fun m e => ?_
    cases m with
    | zero => exact StmtM.timeout fun st => by rw [evalExpr_assign, evalPlace]; rfl
    | succ n' =>
      simp only [okFS_idxAssign, Bool.and_eq_true] at hs
      simp only [wsGS_idxAssign, Bool.and_eq_true] at hws
      simp only [identsGS_idxAssign, List.forall_mem_append] at hT
      exact placeAssign_step G n' (hPV (n' + 1) (by omega)) A hA loops lscopes d asp op _ r _ env hs.1.1.1
        hs.1.2 hws.2 hT.2 fun ip stk mem spec =>
        index_place G n' (hPV n' (by omega)) A hA isp ity b i env.lm env.scopes env.vm spec ip stk mem hs.1.1.2 hws.1
          hT.1 Stable.grel_rel
  case memAssign =>
    intro loops sp asp op msp mty b name r env cl cr hs hT hws hN
    refine StmtM.exprS fun m e => ?_
    cases m with
    | zero => exact StmtM.timeout fun st => by rw [evalExpr_assign, evalPlace]; rfl
    | succ n' =>
      simp only [okFS_memAssign, Bool.and_eq_true] at hs
      simp only [wsGS_memAssign, Bool.and_eq_true] at hws
      simp only [identsGS_memAssign, List.forall_mem_append] at hT
      exact placeAssign_step G n' (hPV (n' + 1) (by omega)) A hA loops lscopes d asp op _ r _ env hs.1.1.1
        hs.1.2 hws.2 hT.2 fun ip stk mem spec =>
        member_place G n' (hPV n' (by omega)) A hA msp mty b name env.lm env.scopes env.vm spec ip stk mem hs.1.1.2 hws.1
          hT.1 Stable.grel_rel
  case push =>
    -- `code(x); code(l); Member push; Copy_Push 1; Call_Val`. `Member` yields the bound method, not a data field, because no
    -- object on the heap has a field of that name (`HeapInv`, kept by every run); `Call_Val` on a bound method is the
    -- specification's `callMember`.
    intro loops sp csp cty msp mty b nm a env ca cb hs hT hws hN
    simp only [Frag.okFS, Bool.and_eq_true, beq_iff_eq, Bool.or_eq_true] at hs
    obtain ⟨⟨⟨⟨⟨hfr, rfl⟩, _⟩, hb⟩, hoa⟩, hatoms⟩ := hs
    simp only [Frag.wsGS, Bool.and_eq_true] at hws
    obtain ⟨hwb, hwa⟩ := hws
    have hwa' : Frag.wsGE env.scopes A.φ a.2 = true := by
      simpa [Frag.wsGArgs, Frag.varsGArgs, Frag.callsGArgs, Frag.wsGE] using hwa
    simp only [Frag.identsGS, List.mem_append] at hT
    have hTb : ∀ x ∈ Frag.namesGE b, x ∈ A.T := fun x hx => hT x (Or.inl hx)
    have hTa : ∀ x ∈ Frag.namesGE a.2, x ∈ A.T := by
      intro x hx
      refine hT x (Or.inr ?_)
      simp only [Frag.namesGArgs, Frag.varsGArgs, Frag.callsGArgs, List.append_nil]
      exact hx
    refine StmtM.exprS fun m e => ?_
    match m with
    | 0 => exact StmtM.timeout fun st => by rw [evalExpr_call, evalCall]; rfl
    | 1 => exact StmtM.timeout fun st => by rw [evalExpr_call, evalCall_bind, M_bind, evalExpr]; rfl
    | g + 2 =>
    intro ip stk mem spec hpl
    unplace at hpl
    obtain ⟨hpA, hpB, imem, ipush, icall⟩ := hpl
    -- the tail: `Member push; Copy_Push 1; Call_Val` on a list, receiver and argument on the stack
    have tail : ∀ (bv v : Val) (ov ob : Option Org) (st1 : St) (mem1 : Mem),
        SimJ (.stmt G A loops lscopes d) (.grel G A loops lscopes d env) (ip + nI ca.1 + nI cb.1) (ip + nI ca.1 + nI cb.1 + 3)
          [⟨bv, ob⟩, ⟨v, ov⟩] stk mem1 st1 (callMember bv "push" [v] csp) (fun _ _ _ ys => ys = [])
          (fun st' mem' => GRel G A env.scopes env.vm st'.scopes mem') := by
      intro bv v ov ob st1 mem1
      cases bv <;> try exact SimJ.outside (callMember_push _ v csp st1) (Or.inl ⟨_, rfl⟩)
      rename_i ad
      cases hc : st1.heap[ad]? with
      | none => exact SimJ.outside (by rw [callMember_push]; simp only [hc]; rfl) (Or.inl ⟨_, rfl⟩)
      | some c =>
        cases c <;> try exact SimJ.outside (by rw [callMember_push]; simp only [hc]; rfl) (Or.inl ⟨_, rfl⟩)
        rename_i xs
        have hmr := member_runs G A hA msp (ip + nI ca.1 + nI cb.1) (⟨v, ov⟩ :: stk) mem1 st1 (.ref ad) "push" ob imem
        have hmv : memberVal (.ref ad) "push" .dot msp st1 = (.ok (.bound (.ref ad) "push"), st1) := by
          rw [memberVal_dot]; simp only [hc]
        rw [hmv] at hmr
        simp only [] at hmr
        have hpush := Runs.of_runsTo (fr := G.fr) (mem := mem1) (fun it_ => RunsTo.of_exec1 (fun k =>
          reach_push G.code G.lim (baseOf (withIt G.s it_) A.fn A.rest A.mp st1.world)
            (ip + nI ca.1 + nI cb.1 + 1) k
            (⟨.bound (.ref ad) "push", memOrg st1.heap (.ref ad) "push"⟩ :: ⟨v, ov⟩ :: stk) mem1 ⟨A.fn, 0⟩ A.rest A.c rfl hA.code
            (.int 1) csp (.int (I64.ofInt 1)) ipush (fun _ => rfl)))
        -- the cell written is a list, of which `HeapInv` asks nothing
        have hcall := hA.step mem1 (fun hi => hi.set _ _ (fun fs h => by cases h)) fun _ _ =>
          mkS_callVal_push (stk := stk) (out := st1.world) hA.code csp ad xs v
            none (memOrg st1.heap (.ref ad) "push") ov icall hc
        exact SimJ.ofRun fun hI1 => ⟨.null, { st1 with heap := st1.heap.setIfInBounds ad (.list (xs ++ [v])) }, [], mem1,
          by rw [callMember_push]; simp only [hc], rfl, hI1.1, rfl, MemLe.refl _ _ _,
          ((hmr.trans hpush).trans hcall).cast (by omega)⟩
    refine SimJ.withInv fun hI => ?_
    rcases hatoms with hab | hat
    · -- the receiver is an atom: the argument runs first on the VM, second in the specification
      have hpb := atom_pure b hab
      have hvb := varsGE_pure b hpb
      have hresb : Frag.resolved env.scopes (Frag.varsE b) = true := by
        rw [← hvb]; simp only [Frag.wsGE, Bool.and_eq_true] at hwb; exact hwb.1
      have hTb' : ∀ x ∈ Frag.varsE b, x ∈ A.T := fun x hx => hTb x (by simp [Frag.namesGE, hvb, hx])
      have hbb := bound_of_resolved hI.1.rel.scopes (Frag.varsE b) hTb' hresb
      obtain ⟨bv, hbv, hevb, _⟩ := atom_eval G.cfg _ b spec (Nat.le_refl _) hab hbb
      rcases hevb g with h | h
      · exact SimJ.outside (by rw [evalExpr_call, evalCall_bind, M_bind, evalExpr_member_bind, M_bind, h]) (Or.inr rfl)
      rcases memberVal_method bv "push" msp spec (hI.2.1.heap hfr) (by decide) with hm | ⟨w, hm⟩
      case inr =>
        exact SimJ.outside (by rw [evalExpr_call, evalCall_bind, M_bind, evalExpr_member_bind, M_bind, h]; simp only []; rw [hm])
          (Or.inl ⟨_, rfl⟩)
      refine SimJ.congr (m' := evalExpr G.cfg g a.2 >>= fun v => evalList G.cfg g [] >>= fun vs =>
        applyFn G.cfg (g + 1) csp (.bound bv "push") (v :: vs)) (by
          rw [evalExpr_call, evalCall_bind, evalExpr_member_bind, bind_assoc, M_bind, h]
          simp only []
          rw [M_bind, hm]
          simp only [List.map_cons, List.map_nil]
          rw [evalList_cons_bind]
          simp only [bind_assoc, pure_bind]) ?_
      refine (((hPV g (by omega)) A hA _ Stable.grel_rel a.2 env.lm hoa hwa' hTa ip [] stk mem spec).mono
        (fun v st' _ _ hev hq => And.intro hq (show st'.scopes = spec.scopes by
          rw [(hPV g (by omega)).frame hA hoa hwa' hTa hpA hI.1.rel hI.2.1 hev]))
        hpA).bind fun v st1 mem1 ys ⟨⟨ov, eys⟩, hfrA⟩ => ?_
      subst eys
      cases g with
      | zero => exact SimJ.outside (c := .timeout) (st' := st1) (by rw [M_bind, evalList]; rfl) (Or.inr rfl)
      | succ g' =>
      refine SimJ.congr (m' := callMember bv "push" [v] csp) (by rw [evalList_nil_bind, pure_bind, applyFn_bound]) ?_
      refine SimJ.withInv fun hI1 => ?_
      have hCB : cpE G.mod (ρS env.scopes) b ca.2 = cb := (cgE_of_pure _ _ _ _ _ hpb).symm
      obtain ⟨bv', hbv', _, hrunB⟩ := atom_sim G A hA b st1 (ip + nI ca.1) mem1 ca.2 env.scopes env.vm
        hab hresb hTb' (by rw [hCB]; exact hpB) hI1.1.rel
      -- the atom's value is read off the scopes, which the argument has left alone
      obtain rfl : bv' = bv := by
        rw [hfrA, hbv] at hbv'
        exact (Option.some.inj hbv').symm
      rw [hCB] at hrunB
      exact .from (pre1 := [⟨bv', none⟩, ⟨v, ov⟩]) (hrunB (⟨v, ov⟩ :: stk) st1.world) (tail bv' v ov none st1 mem1)
    · -- the argument is an atom: it runs first on the VM, second in the specification
      have hpa := atom_pure a.2 hat
      have hva := varsGE_pure a.2 hpa
      have hresa : Frag.resolved env.scopes (Frag.varsE a.2) = true := by
        rw [← hva]; simp only [Frag.wsGE, Bool.and_eq_true] at hwa'; exact hwa'.1
      have hTa' : ∀ x ∈ Frag.varsE a.2, x ∈ A.T := fun x hx => hTa x (by simp [Frag.namesGE, hva, hx])
      have hCA : cpE G.mod (ρS env.scopes) a.2 env.lm = ca := (cgE_of_pure _ _ _ _ _ hpa).symm
      obtain ⟨v, _, heva, hrunA⟩ := atom_sim G A hA a.2 spec ip mem env.lm env.scopes env.vm hat hresa hTa'
        (by rw [hCA]; exact hpA) hI.1.rel
      rw [hCA] at hrunA
      refine SimJ.congr (m' := evalExpr G.cfg g b >>= fun bv => memberVal bv "push" .dot msp >>= fun f =>
        evalList G.cfg (g + 1) [a.2] >>= fun vals => applyFn G.cfg (g + 1) csp f vals) (by
          rw [evalExpr_call, evalCall_bind, evalExpr_member_bind, bind_assoc]; rfl) ?_
      refine .from (pre1 := [⟨v, none⟩]) (hrunA stk spec.world) ?_
      refine (((hPV g (by omega)) A hA _ Stable.grel_rel b ca.2 hb hwb hTb (ip + nI ca.1) [⟨v, none⟩] stk mem spec).mono
        (fun bv st' _ _ hev hq => And.intro hq (show st'.scopes = spec.scopes by
          rw [(hPV g (by omega)).frame hA hb hwb hTb hpB hI.1.rel hI.2.1 hev]))
        hpB).bind fun bv st1 mem1 ys ⟨⟨ob, eys⟩, hfrB⟩ => ?_
      subst eys
      refine SimJ.withInv fun hI1 => ?_
      rcases memberVal_method bv "push" msp st1 (hI1.2.1.heap hfr) (by decide) with hm | ⟨w, hm⟩
      case inr => exact SimJ.outside (by rw [M_bind, hm]) (Or.inl ⟨_, rfl⟩)
      rcases heva st1 hfrB g with h | h
      · exact SimJ.outside (c := .timeout) (st' := st1) (by
          rw [M_bind, hm]; simp only []; rw [evalList_cons_bind, bind_assoc, M_bind, h]) (Or.inr rfl)
      cases g with
      | zero => exact SimJ.outside (c := .timeout) (st' := st1) (by
          rw [M_bind, hm]; simp only []; rw [evalList_cons_bind, bind_assoc, M_bind, h]; simp only []
          rw [bind_assoc, M_bind, evalList]; rfl) (Or.inr rfl)
      | succ g' =>
      exact SimJ.congr (m' := callMember bv "push" [v] csp) (by
        rw [M_bind, hm]; simp only []; rw [evalList_cons_bind, bind_assoc, M_bind, h]; simp only []
        rw [evalList_nil_bind]; simp only [pure_bind]; rw [applyFn_bound]) (tail bv v none ob st1 mem1)
  case ifElse =>
    intro loops sp isp ty c t eb env cc aft els ct ce hs hT hws hN
    simp only [Frag.okFS, Bool.and_eq_true] at hs
    simp only [Frag.wsGS, Bool.and_eq_true] at hws
    simp only [Frag.identsGS, List.forall_mem_append] at hT
    simp only [codeVars_append, List.forall_mem_append] at hN
    refine StmtM.exprS fun m e => ?_
    exact StmtM.ifElse hA isp ty c t eb
      (fun ip => hPE m (by omega) A hA _ Stable.grel_rel c env.lm hs.1.1.2 hws.1.1 hT.1 ip [])
      ((hPBlow m (by omega)).link hA t _ ce.2 hs.1.2 hT.2.1 hws.1.2 hN.1.1.1.2 .lm (cgBS_envLe ..))
      ((hPBlow m (by omega)).link hA eb ct.2 ce.2 hs.2 hT.2.2 hws.2 hN.1.2 (.trans .lm (cgBS_envLe ..)) .refl)
  case ifThen =>
    intro loops sp isp ty c t env cc aft els ct hs hT hws hN
    simp only [Frag.okFS, Bool.and_eq_true] at hs
    simp only [Frag.wsGS, Bool.and_eq_true] at hws
    simp only [Frag.identsGS, List.forall_mem_append] at hT
    simp only [codeVars_append, List.forall_mem_append] at hN
    refine StmtM.exprS fun m e => ?_
    exact StmtM.ifThen hA isp ty c t
      (fun ip => hPE m (by omega) A hA _ Stable.grel_rel c env.lm hs.1.2 hws.1 hT.1 ip [])
      ((hPBlow m (by omega)).link hA t _ ct.2 hs.2 hT.2 hws.2 hN.1.2 .lm .refl) (.trans .lm (cgBS_envLe ..))
  case tryCatch =>
    intro loops sp tsp ty tb ci cbsp cbty cstmts env exc aft ct fv cc hs hT hws hN
    simp only [Frag.okFS, Frag.okFBS, Bool.and_eq_true] at hs
    simp only [Frag.wsGS, Bool.and_eq_true, beq_iff_eq] at hws
    obtain ⟨⟨⟨hmain, hself⟩, hwt⟩, hwc⟩ := hws
    simp only [Frag.identsGS, Frag.identsGBS, List.forall_mem_append, List.forall_mem_cons] at hT
    simp only [codeVars_append, List.forall_mem_append] at hN
    refine StmtM.exprS fun m e => ?_
    -- `Set_Try exc; code(body); Pop_Try; Jump aft; exc: Set_Var e; Pop_Try; code(catch); aft:`
    -- `wsGS` admits `try` only in module `main`, in a function that `φ` knows under its own mangled name: `Set_Try` names
    -- the function through `φ`, and the VM writes `"main"` as the `filename` of the error object (`errCell`) where the
    -- specification writes the current module (`errCellOf`)
    have hcurr : (A.φ A.src).getD "" = A.fn := by rw [hself, hA.fnName]; rfl
    rw [hcurr] at hN ⊢
    have hleT : EnvLe env ct.2 := .trans .lm (cgBS_envLe ..)
    have hleC : EnvLe ct.2 { cc.2 with scopes := cc.2.scopes.tail } :=
      ((freshVar_envLeT ..).trans (cgSs_envLeT ..)).pop
    intro ip stk mem spec hpl hI ip0 mem0 st0 hat
    obtain ⟨hrel, hsp, hls⟩ := hI
    unplace at hpl
    obtain ⟨iset0, hplB, ipop1, ijmp, eexc, isetv, ipop2, hplC, eaft⟩ := hpl
    rw [evalExpr_tryE]
    -- The body runs in another context, `G` with the handler pushed, and its activation has `rt := false`: no `break`,
    -- `continue` or `return` leaves a `try` body (`okFS` asks `okFBS fr false false tb`, and the generator compiles it with
    -- no loops around), so it is simulated with `loops := []`, `lscopes` its own scopes, `d := 0`, and its `ret` outcome is
    -- refuted below. Its base is its own start: what the body owes on an exception or a fatal error is taken up here
    -- (`Runs.tryCatch`, `RunsF.tryBody`) and not handed on to the base `ip0` of the `try`.
    have hA' := hA.withH (tryHandler A (A.lab exc.1) stk :: G.s.handlers) false
    have hB := hTry m e.symm (tryHandler A (A.lab exc.1) stk :: G.s.handlers) _ hA' [] env.scopes 0 tb
      { env with lm := aft.2 } hs.1.2 hT.1 hwt hN.1.1.1.2 (ip + 1) stk mem spec hplB
      ⟨GRel.withH_iff.mpr hrel, hsp.withH _, rfl⟩ (ip + 1) mem spec .refl
    dsimp only [GCtx.withH] at hB
    generalize inScope (evalBlock G.cfg m tb) spec = r1 at hB ⊢
    obtain ⟨r1, st1⟩ := r1
    cases r1 with
    | ok u =>
      obtain ⟨ys, mem1, rfl, hrelB, hatB⟩ := hB
      refine ⟨[], mem1, rfl, ?_, hat.trans ⟨(Runs.tryOk hA iset0 hatB.run ipop1 ijmp).cast (by rw [eaft]), hatB.frame,
        hatB.le⟩⟩
      exact (GRel.withH_iff.mp hrelB).envLe hleC
    | error ce' =>
      cases ce'
      case ret v => exact absurd hB.1 Bool.false_ne_true
      case fatal kd fm fsp => exact fun hk => hat.run.fatal (RunsF.tryBody hA iset0 (hB hk))
      case throw msg tsp' =>
        obtain ⟨hfr, mem1, hT1, hmlB, hsr, hgh1⟩ := hB
        simp only []
        rw [catch_run]
        have hmod1 : st1.module = "main" := by
          rw [hfr]; show spec.module = "main"; rw [hsp.module]; exact hmain
        cases m with
        | zero => rw [evalBlock]; exact True.intro
        | succ m' =>
        rw [evalBlock_stmts]
        -- the VM: dispatch, `Set_Var`, `Pop_Try`
        have hNv : A.N fv.1 := hN.1.1.2 fv.1 (by simp [codeVars, var?])
        have hcell := hA.cell _ hNv
        have hrunC := Runs.tryCatch hA iset0 hT1 (slot := A.σ fv.1) (by rw [eexc]; exact isetv) (by rw [eexc]; exact ipop2)
          hcell.1 hcell.2.1
        -- the specification: the catch block starts in `catchSt`
        have hst2 := catchSt_frame ci msg tsp' st1
        generalize catchSt ci msg tsp' st1 = st2 at hst2 ⊢
        have hw2 : st2.world = ⟨st1.world.heap.push (errCell msg tsp'), st1.world.out⟩ := by
          rw [hst2, hmod1, errCellOf_main]; rfl
        rw [← hw2] at hrunC
        -- the scope relation at the throw point gives the invariant back
        have hrelE : GRel G A ct.2.scopes ct.2.vm st1.scopes mem1 := (hrel.of_scopes ⟨hsr, hgh1⟩).envLe hleT
        have hdecl := GRel.declare (env := { ct.2 with scopes := [] :: ct.2.scopes }) hA hrelE.push ci
          hT.2.1 (.ref st1.heap.size) hNv
        have hsc2 : st2.scopes = declScopes ci (.ref st1.heap.size) ([] :: st1.scopes) := by rw [hst2]
        have hfr02 : st2 = { spec with scopes := st2.scopes, out := st2.out, heap := st2.heap } := by
          rw [hst2, hfr]
        rw [show A.lab exc.1 + 2 = ip + 1 + nI ct.1 + 4 by rw [eexc]] at hrunC
        -- the catch block, one scope level down, from the same base
        have hC := hPSsLow m' (by omega) A hA loops lscopes (d + 1) cstmts fv.2 hs.2 hT.2.2 hwc hN.1.2 (by omega) _ stk _ st2
          hplC
          ⟨by rw [hsc2]; exact hdecl, hsp.scopes_out st2 hfr02 hrunC.inv,
            by rw [← List.drop_tail, freshVar_scopes_tail]; exact hleT.scopes ▸ hls⟩ ip0 mem0 st0
          (hat.trans ⟨hrunC, hfr02, hmlB.trans (MemLe.set _ _ _ _ _ hcell.2.2)⟩).relevel
        generalize evalStmts G.cfg m' cstmts st2 = r2 at hC ⊢
        obtain ⟨r2, st3⟩ := r2
        cases r2 with
        | error c2 => exact Lvl.stmt_err_pop hC
        | ok u2 =>
          obtain ⟨ys, mem3, rfl, hq, hat3⟩ := hC
          exact ⟨[], mem3, rfl, ⟨hq.rel.tail, (congrArg (ρS · _) (hleT.trans hleC).scopes).trans hrel.key, hq.ghost, hq.ghostC⟩,
            ⟨hat3.run, frame_pop st0 st3 hat3.frame, hat3.le⟩⟩
      case brk | cont => exact hB.elim
      all_goals exact True.intro
  case matchS =>
    -- `code(c); tests; Jump default; arms; default: Drop; block; Jump after; after:` with an arm `case: Drop; block; Jump after`:
    -- the tests keep the scrutinee on the stack and jump to the arm taken (`armTests_choice`), which drops it
    intro loops sp msp ty mc arms db env cc aft ts dfl bs cd hs hT hws hN
    simp only [Frag.okFS, Bool.and_eq_true] at hs
    simp only [Frag.wsGS, Bool.and_eq_true] at hws
    simp only [Frag.identsGS, List.forall_mem_append] at hT
    simp only [codeVars_append, List.forall_mem_append] at hN
    refine StmtM.exprS fun m e => ?_
    intro ip stk mem spec hpl
    unplace at hpl
    obtain ⟨hplC, hplT, ijd, hplB, edfl, idrop, hplD, ija, eaft⟩ := hpl
    rw [evalExpr_matchE_bind]
    refine (hPE m (by omega) A hA _ Stable.grel_rel mc env.lm hs.1.1.2 hws.1.1 hT.1 ip [] stk mem spec hplC).bind
      fun cv st1 mem1 ys ⟨ov1, _, eys⟩ => ?_
    subst eys
    rcases armTests_choice G A hA msp ⟨cv, ov1⟩ stk mem1 st1 arms (.blockE db) aft.2 (ip + nI cc.1) m
        (okFArmsS_lits _ _ _ arms hs.1.2) rfl hplT with
      h | ⟨msg, h⟩ | ⟨i, a, nm, f', hi, hnm, hf, h, hrunT⟩ | ⟨f', hf, h, hrunT⟩
    · exact SimJ.outside h (Or.inr rfl)
    · exact SimJ.outside h (Or.inl ⟨msg, rfl⟩)
    · -- arm `i` is taken
      refine SimJ.congr h ?_
      obtain ⟨b, envi, hab, hokb, hid, hlei, hlei2, hwsb, hcv, idr, hplA, ijmp⟩ :=
        cgArmsS_at A G.mod A.src A.φ loops msp aft.1 (!loops.isEmpty) A.rt arms ts.2.1 { env with lm := dfl.2 } _
          (armTests_length ..).symm hs.1.2 hws.1.2 hplB i a nm hi hnm
      rw [hab]
      cases f' with
      | zero => exact SimJ.outside (by rw [evalExpr]; rfl) (Or.inr rfl)
      | succ g =>
      refine SimJ.congr (evalExpr_blockE ..) (.from (pre1 := []) (hrunT.trans (hA.drop idr)) ?_)
      exact (((hPBlow g (by omega)).link hA b envi cd.2 hokb (fun x hx => hT.2.1 x (hid x hx)) hwsb
        (fun mm hm => hN.1.1.1.2 mm (hcv mm hm)) (.trans .lm hlei) (hlei2.trans (cgBS_envLe ..)) _ stk mem1 st1 hplA).to
        fun _ _ _ => hA.jump ijmp).exit eaft
    · -- the default
      refine SimJ.congr h ?_
      cases f' with
      | zero => exact SimJ.outside (by rw [evalExpr]; rfl) (Or.inr rfl)
      | succ g =>
      refine SimJ.congr (evalExpr_blockE ..) (.from (pre1 := [])
        (((hrunT.trans (hA.jump ijd)).trans (hA.drop (by rw [edfl]; exact idrop))).cast (by rw [edfl])) ?_)
      exact (((hPBlow g (by omega)).link hA db bs.2 cd.2 hs.2 hT.2.2 hws.2 hN.1.2 (.trans .lm (cgArmsS_envLe ..)) .refl
        _ stk mem1 st1 hplD).to fun _ _ _ => hA.jump ija).exit eaft
  case throw =>
    -- `code(arg); Throw`, the one argument an atom; the callee `throw` is the builtin since the module defines no such function
    intro loops sp csp cty isp ity name g f si args sw env ht ca hs hT hws hN
    cases beq_iff_eq.mp ht
    simp only [Frag.okFS, beq_self_eq_true, if_true, Bool.and_eq_true, Bool.not_eq_eq_eq_not, Bool.not_true,
      decide_eq_true_eq] at hs
    obtain ⟨⟨rfl, hlen⟩, hall⟩ := hs
    obtain ⟨a, rfl⟩ := List.length_eq_one_iff.mp hlen
    have hat : Frag.atomE a.2 = true := by simpa using hall
    simp only [Frag.identsGS, List.mem_cons] at hT
    simp only [Frag.wsGS, beq_self_eq_true, if_true, Bool.and_eq_true] at hws
    obtain ⟨⟨hρp, _⟩, hwa⟩ := hws
    simp only [List.append_assoc]
    refine StmtM.exprS fun m e => ?_
    match m with
    | 0 => exact StmtM.timeout fun st => by rw [evalExpr_call, evalCall]; rfl
    | 1 => exact StmtM.timeout fun st => by rw [evalExpr_call, evalCall_bind, M_bind, evalExpr]; rfl
    | c + 2 =>
      intro ip stk mem spec
      refine SimM.withInv fun hI => ?_
      have hgl : spec.globals.lookup (spec.module, "throw") = none := by rw [hI.2.1.globals]; rfl
      refine fun hpl => SimJ.congr (m' := evalList G.cfg (c + 1) ([a].map (·.2)) >>= fun vals =>
        applyFn G.cfg (c + 1) csp (.builtin "throw") vals) (by
          rw [evalExpr_call, evalCall_bind, M_bind, evalExpr_builtinIdent G.cfg c isp ity "throw" g f si spec
            (GRel.lookup_none hI.1 (hT _ (Or.inl rfl)) hρp) hgl (by rw [hI.2.1.module]; exact hG.noThrowFn) (by decide)]) ?_
      refine SimM.seq ((hPArgsLow (c + 1) (by omega) A hA _ Stable.grel_rel [a] env.lm
        (by simp only [Frag.okEArgs, Bool.and_true]; exact okE_okGE _ _ (okGE_of_atom _ hat))
        (by simp [Frag.oneNonAtom, hat]) hwa (fun x hx => hT x (Or.inr hx)) ip [] stk mem
        spec).mono fun vals st' _ _ hev hq => And.intro hq (evalList_length G.cfg _ _ _ _ _ hev))
        (fun vals st1 mem1 ys ⟨⟨svs, hsv, _, eys⟩, hvl⟩ => ?_) hpl
      match vals, svs, hsv, hvl with
      | [v], [sv], hsv, _ =>
        obtain ⟨v', o⟩ := sv
        obtain rfl : v' = v := by simpa using hsv
        rw [eys]
        -- `Throw` raises the exception; what follows it is not reached
        refine fun hpl2 => ((SimM.prim (by rw [applyFn_builtin, throw_run]; cases display st1.heap 1000000 v' <;> rfl)
          fun hpl2 => ?_) hpl2).post fun _ _ h => h.1
        obtain ⟨ithrow, _⟩ := hpl2.instr (i := .throw) rfl
        rw [applyFn_builtin, throw_run]
        cases hd : display st1.heap 1000000 v' with
        | none => exact True.intro
        | some dmsg =>
          exact fun k => ⟨_, [], mkSI_throw G.code G.lim G.s A.fn _ A.rest A.mp k stk mem1 st1.world A.c hA.code csp v' o dmsg
            ithrow hd⟩
  case println =>
    -- `code(args); Get_Glob println; Copy_Push n; Call_Val`: the global `println` of the VM is the builtin (`hG.println`)
    intro loops sp csp cty isp ity name g f si args sw env ht hp ca hs hT hws hN
    cases beq_iff_eq.mp hp
    have hpnt : ("println" == "throw") = false := by decide
    simp only [Frag.okFS, hpnt, Bool.false_eq_true, if_false, beq_self_eq_true, if_true, Bool.and_eq_true,
      Bool.not_eq_eq_eq_not, Bool.not_true, decide_eq_true_eq] at hs
    obtain ⟨⟨⟨⟨_, rfl⟩, hoa⟩, hone⟩, hlen⟩ := hs
    simp only [Frag.identsGS, List.mem_cons] at hT
    simp only [Frag.wsGS, hpnt, Bool.false_eq_true, if_false, beq_self_eq_true, if_true, Bool.and_eq_true] at hws
    obtain ⟨⟨hρp, _⟩, hwa⟩ := hws
    refine StmtM.exprS fun m e => ?_
    match m with
    | 0 => exact StmtM.timeout fun st => by rw [evalExpr_call, evalCall]; rfl
    | 1 => exact StmtM.timeout fun st => by rw [evalExpr_call, evalCall_bind, M_bind, evalExpr]; rfl
    | c + 2 =>
      intro ip stk mem spec
      refine SimM.withInv fun hI => ?_
      -- the callee is the builtin: the specification goes on with the arguments
      have hgl : spec.globals.lookup (spec.module, "println") = none := by rw [hI.2.1.globals]; rfl
      refine fun hpl => SimJ.congr (m' := evalList G.cfg (c + 1) (args.map (·.2)) >>= fun vals =>
        applyFn G.cfg (c + 1) csp (.builtin "println") vals) (by
          rw [evalExpr_call, evalCall_bind, M_bind, evalExpr_builtinIdent G.cfg c isp ity "println" g f si spec
            (GRel.lookup_none hI.1 (hT _ (Or.inl rfl)) hρp) hgl (by rw [hI.2.1.module]; exact hG.noPrintFn) (by decide)]) ?_
      refine SimM.seq ((hPArgsLow (c + 1) (by omega) A hA _ Stable.grel_rel args env.lm hoa hone hwa (fun x hx => hT x (Or.inr hx)) ip [] stk mem
        spec).mono fun vals st' _ _ hev hq => And.intro hq (evalList_length G.cfg _ _ _ _ _ hev))
        (fun vals st1 mem1 ys ⟨⟨svs, hsv, _, eys⟩, hvl⟩ => ?_) hpl
      rw [List.append_nil] at eys
      rw [eys]
      intro hpl3
      unplace at hpl3
      obtain ⟨iglob, ipush, icall⟩ := hpl3
      have hsvl : svs.length = args.length := by
        have := congrArg List.length hsv
        simp only [List.length_map] at this hvl
        omega
      cases hpt : printText st1.heap vals with
      | none => exact SimJ.outside (by rw [applyFn_builtin, println_run, hpt]) (Or.inl ⟨_, rfl⟩)
      | some t =>
        refine SimJ.ofRun fun hI1 => ⟨.null, { st1 with out := st1.out ++ t }, [], mem1,
          by rw [applyFn_builtin, println_run, hpt], rfl, hI1.1, rfl, MemLe.refl _ _ _, ?_⟩
        have hg := hA.step mem1 id fun _ _ =>
          mkS_getGlob_builtin (stk := svs ++ stk) (out := st1.world) hA.code "println" csp iglob hG.println (by decide)
        have hp := Runs.of_runsTo (fr := G.fr) (fun it_ => RunsTo.of_exec1 (fun k =>
          reach_push G.code G.lim (baseOf (withIt G.s it_) A.fn A.rest A.mp st1.world)
            (ip + nI (cgArgs G.mod (ρS env.scopes) A.φ args env.lm).1 + 1) k
            (⟨.builtin "println", none⟩ :: (svs ++ stk)) mem1 ⟨A.fn, 0⟩ A.rest A.c rfl hA.code
            (.int args.length) csp (.int (I64.ofInt args.length)) ipush (fun _ => rfl)))
        have hc := hA.step mem1 (w := st1.world) (w' := ⟨st1.world.heap, st1.world.out ++ t⟩) (fun hi => hi) fun _ _ =>
          mkS_callVal_println (stk := stk) (out := st1.world) hA.code csp svs none none t icall
            (by rw [hsvl]; exact hlen) (by rw [hsv]; exact hpt)
        simp only [hsvl] at hc
        exact ((hg.trans hp).trans hc).cast (by omega)
  case call =>
    intro loops sp csp cty isp ity name g f si args sw env hnt hnp ce hs hT hws hN
    have hnt' : (name == "throw") = false := Bool.eq_false_iff.mpr hnt
    have hnp' : (name == "println") = false := Bool.eq_false_iff.mpr hnp
    simp only [Frag.okFS, hnt', hnp', Bool.false_eq_true, if_false, Bool.and_eq_true] at hs
    simp only [Frag.identsGS, List.mem_cons] at hT
    simp only [Frag.wsGS, hnp', hnt', Bool.false_eq_true, if_false, Bool.and_eq_true] at hws
    obtain ⟨⟨hρn, hφn⟩, hwa⟩ := hws
    have hwsE : Frag.wsGE env.scopes A.φ (.call csp cty (.ident isp ity name g f si) args sw) = true := by
      simp only [Frag.wsGArgs, Bool.and_eq_true] at hwa
      simp only [Frag.wsGE, Frag.varsGE, Frag.callsGE, Frag.callsOK, List.all_cons, Bool.and_eq_true]
      exact ⟨hwa.1, ⟨hρn, hφn⟩, by simpa [Frag.callsOK] using hwa.2⟩
    have hTE : ∀ x ∈ Frag.namesGE (.call csp cty (.ident isp ity name g f si) args sw), x ∈ A.T := by
      intro x hx
      simp only [Frag.namesGE, Frag.varsGE, Frag.callsGE, List.mem_append, List.mem_cons] at hx
      rcases hx with hx | hx | hx
      · exact hT x (Or.inr (by simp [Frag.namesGArgs, hx]))
      · exact hT x (Or.inl hx)
      · exact hT x (Or.inr (by simp [Frag.namesGArgs, hx]))
    refine StmtM.exprS fun m e => ?_
    exact pgs_callDrop hA (hPE (m + 1) (by omega)) sp _ _ hs.2 hwsE hTE rfl rfl
  case whileS =>
    intro loops sp c body env head aft cc cb hs hT hws hN
    rw [evalStmt]
    exact (hPL A hA loops lscopes d sp (some c) body env hs hT hws hN).env_mono (.trans .lm (cgBS_envLe ..))
  case loopS =>
    intro loops sp body env head aft cb hs hT hws hN
    rw [evalStmt]
    exact (hPL A hA loops lscopes d sp none body env hs hT hws hN).env_mono (.trans .lm (cgBS_envLe ..))
  case forS =>
    intro loops sp name vty rsp a b incl bsp bty stmts env head upd aft ca cb fit fhv cbody hs hT hws hN
    exact hPF A hA loops lscopes d sp name vty rsp a b incl bsp bty stmts env hs hT hws hN
  case brk | cont =>
    intro loops sp env hs hT hws hN
    cases loops with
    | nil => exact absurd hs Bool.false_ne_true
    | cons bc rest =>
      rw [evalStmt]
      refine fun ip stk mem spec => SimM.instr rfl fun ijmp hI ip0 mem0 st0 hat => ?_
      have hat' := hat.step (hA.jump ijmp) rfl (MemLe.refl _ _ _)
      exact ⟨hat'.frame, mem, hat'.run, hat'.le, by rw [hI.2.2]; exact ⟨hI.1.rel.scopes.drop d, hI.1.ghost⟩⟩
  case ret =>
    intro loops sp e env ce hs hT hws hN
    simp only [Frag.okFS, Bool.and_eq_true] at hs
    simp only [Frag.wsGS, Bool.and_eq_true] at hws
    intro ip stk mem spec
    rw [evalStmt_ret_bind]
    refine SimM.seq (hPE n (Nat.le_refl n) A hA _ Stable.grel_rel e env.lm hs.2 hws.1 hT ip [] stk mem spec)
      fun v st1 mem1 ys ⟨o, ho, eys⟩ => eys ▸ ?_
    refine SimM.instr rfl fun ijmp hI ip0 mem0 st0 hat => ?_
    rw [hI.1.key, Option.getD_some] at ijmp
    have hat' := hat.step (hA.jump ijmp) rfl (MemLe.refl _ _ _)
    exact ⟨hs.1, hat'.frame, mem1, o, ho, hat'.run, hat'.le⟩
  case other =>
    -- a statement of none of the generator's forms is not in the fragment: `okFS`'s own case analysis. `hk` says that the
    -- statement is not of the generator's `k`-th form, `case k` is the `k`-th clause of `okFS`; the two go in different orders
    intro loops st env h1 h2 h3 h4 h5 h6 h7 h8 h9 h10 h11 h12 h13 h14 h15 h16 h17 hs
    exfalso
    fun_cases Frag.okFS G.fr (!loops.isEmpty) A.rt st
    case case1 nc _ _ => cases nc <;> first | exact h1 _ _ _ _ _ rfl | exact Bool.false_ne_true hs
    case case8 c =>
      obtain ⟨_, _, _, oe⟩ := c
      cases oe with
      | none => exact h9 _ _ _ _ _ _ _ _ rfl
      | some _ => simp [Frag.okFS, Frag.okFBS] at hs
    case case20 => rw [Frag.okFS] at hs <;> first | exact Bool.false_ne_true hs | assumption
    case case2 => exact h2 _ _ _ _ _ _ _ rfl
    case case3 => exact h3 _ _ _ _ _ _ _ _ rfl
    case case4 => exact h4 _ _ _ _ _ _ _ _ rfl
    case case5 => exact h5 _ _ _ _ _ _ _ _ rfl
    case case6 => exact h7 _ _ _ _ _ _ rfl
    case case7 => exact h8 _ _ _ _ _ rfl
    case case9 => exact h10 _ _ _ _ _ _ rfl
    case case10 => exact h6 _ _ _ _ _ _ _ _ rfl
    case case11 | case12 | case13 => exact h11 _ _ _ _ _ _ _ _ _ _ _ rfl
    case case14 => exact h12 _ _ _ rfl
    case case15 => exact h13 _ _ rfl
    case case16 => exact h14 _ _ _ _ _ _ _ _ _ _ rfl
    case case17 => exact h15 _ rfl
    case case18 => exact h16 _ rfl
    case case19 => exact h17 _ _ rfl

end HmsProofs.Sim
