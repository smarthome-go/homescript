import HmsProofs.Lemmas.SimHDefs
/-!
# Static facts about `cgS`: block structure of scopes, growth of the variable counters
-/
namespace HmsProofs.Sim
open Hms.Core

theorem freshVar_scopes_tail (mod : String) (env : CEnv) (x : String) :
    (freshVar mod env x).2.scopes.tail = env.scopes.tail := by
  unfold freshVar
  cases env.scopes <;> rfl

/-- `env'` is `env` later in the compilation of a function body, at the same block depth: the same scopes, no counter
below. The invariant `GRel` is monotone in it (`GRel.envLe`), and every generator of blocks goes up in it. -/
structure EnvLe (env env' : CEnv) : Prop where
  scopes : env'.scopes = env.scopes
  vm : ∀ k, cnt env.vm k ≤ cnt env'.vm k

/-- The same for a statement, which may declare in the innermost scope. -/
structure EnvLeT (env env' : CEnv) : Prop where
  scopes : env'.scopes.tail = env.scopes.tail
  vm : ∀ k, cnt env.vm k ≤ cnt env'.vm k

theorem EnvLe.refl {env : CEnv} : EnvLe env env := ⟨rfl, fun _ => Nat.le_refl _⟩

theorem EnvLe.lm {env : CEnv} {l : LM} : EnvLe env { env with lm := l } := ⟨rfl, fun _ => Nat.le_refl _⟩

theorem EnvLe.trans {a b c : CEnv} (h : EnvLe a b) (h' : EnvLe b c) : EnvLe a c :=
  ⟨h'.scopes.trans h.scopes, fun k => Nat.le_trans (h.vm k) (h'.vm k)⟩

theorem EnvLe.tail {a b : CEnv} (h : EnvLe a b) : EnvLeT a b := ⟨congrArg List.tail h.scopes, h.vm⟩

theorem EnvLeT.trans {a b c : CEnv} (h : EnvLeT a b) (h' : EnvLeT b c) : EnvLeT a c :=
  ⟨h'.scopes.trans h.scopes, fun k => Nat.le_trans (h.vm k) (h'.vm k)⟩

/-- Leaving the scope a block was compiled in. -/
theorem EnvLeT.pop {a b : CEnv} {s : List (String × String)} (h : EnvLeT { a with scopes := s :: a.scopes } b) :
    EnvLe a { b with scopes := b.scopes.tail } := ⟨h.scopes, h.vm⟩

/-- Below the innermost scope nothing changes. -/
theorem EnvLeT.drop {a b : CEnv} (h : EnvLeT a b) {d : Nat} (hd : 1 ≤ d) : b.scopes.drop d = a.scopes.drop d := by
  obtain ⟨e, rfl⟩ : ∃ e, d = e + 1 := ⟨d - 1, by omega⟩
  rw [← List.drop_tail, ← List.drop_tail, h.scopes]

theorem freshVar_envLeT (mod : String) (env : CEnv) (x : String) : EnvLeT env (freshVar mod env x).2 :=
  ⟨freshVar_scopes_tail mod env x, freshVar_vm_mono mod env x⟩

theorem cgS_envLe (mod fn : String) (φ : String → Option String) :
    (∀ (loops : List (String × String)) (st : Stmt) (env : CEnv), EnvLeT env (cgS mod fn φ loops st env).2) ∧
    (∀ (loops : List (String × String)) (sp : Span) (after : String) (arms : List (List Expr × Expr))
        (nms : List String) (env : CEnv), EnvLe env (cgArmsS mod fn φ loops sp after arms nms env).2) ∧
    (∀ (loops : List (String × String)) (b : Block) (env : CEnv), EnvLe env (cgBS mod fn φ loops b env).2) ∧
    (∀ (loops : List (String × String)) (ss : List Stmt) (env : CEnv), EnvLeT env (cgSs mod fn φ loops ss env).2) := by
  refine cgS.mutual_induct_unfolding mod fn φ
    (motive_1 := fun _ _ env r => EnvLeT env r.2) (motive_2 := fun _ _ _ _ _ env r => EnvLe env r.2)
    (motive_3 := fun _ _ env r => EnvLe env r.2) (motive_4 := fun _ _ env r => EnvLeT env r.2)
    ?letS ?assign ?opAssign ?idxAssign ?memAssign ?push ?ifElse ?ifThen ?tryCatch ?matchS ?throw ?println ?call
    ?whileS ?loopS ?forS ?brk ?cont ?ret ?other ?block ?blockOther ?armsBlock ?armsSkip ?armsOther ?stmtsNil ?stmtsCons
  -- where a result differs from `env` or a part's in `lm` and `nv` only, field by field: the two fields do not see these
  case assign | opAssign | idxAssign | memAssign | push | throw | println | call | brk | cont | ret | other
      | blockOther | armsOther | stmtsNil => intros; exact ⟨rfl, fun _ => Nat.le_refl _⟩
  case letS =>
    intro loops sp name vty oty e env ce fv
    exact ⟨freshVar_scopes_tail mod _ name, freshVar_vm_mono mod _ name⟩
  case ifElse =>
    intro loops sp isp ty c t eb env cc after els ct ce iht ihe
    exact (EnvLe.lm.trans (iht.trans ihe)).tail
  case tryCatch =>
    intro loops sp tsp ty t ci csp cty cstmts env exc after ct fv cc iht ihc
    exact (EnvLe.lm.trans (iht.trans ((freshVar_envLeT ..).trans ihc).pop)).tail
  case matchS =>
    intro loops sp msp ty c arms db env cc after ts dfl bs cd iha ihd
    exact (EnvLe.lm.trans (iha.trans ihd)).tail
  case ifThen | whileS | loopS => intros; rename_i ih; exact (EnvLe.lm.trans ih).tail
  case forS =>
    intro loops sp name vty rsp a b incl bsp bty stmts env head upd after ca cb fit fhv cbody ih
    exact (EnvLe.lm.trans (EnvLeT.pop (a := { env with lm := cb.2 })
      ((freshVar_envLeT ..).trans ((freshVar_envLeT ..).trans ih)))).tail
  case block => intro loops sp ty stmts env ih; exact ih.pop
  case armsBlock => intro loops sp after lits b rest nm nms env ihb ihr; exact ihb.trans ihr
  case armsSkip => intro loops sp after a rest nm nms env _ ihr; exact ihr
  case stmtsCons => intro loops s ss env ihs ihss; exact ihs.trans ihss

theorem cgArmsS_envLe (mod fn : String) (φ : String → Option String) (loops : List (String × String)) (sp : Span)
    (after : String) (arms : List (List Expr × Expr)) (nms : List String) (env : CEnv) :
    EnvLe env (cgArmsS mod fn φ loops sp after arms nms env).2 :=
  (cgS_envLe mod fn φ).2.1 loops sp after arms nms env

theorem cgBS_envLe (mod fn : String) (φ : String → Option String) (loops : List (String × String)) (b : Block)
    (env : CEnv) : EnvLe env (cgBS mod fn φ loops b env).2 :=
  (cgS_envLe mod fn φ).2.2.1 loops b env

theorem cgS_envLeT (mod fn : String) (φ : String → Option String) (loops : List (String × String)) (st : Stmt)
    (env : CEnv) : EnvLeT env (cgS mod fn φ loops st env).2 :=
  (cgS_envLe mod fn φ).1 loops st env

theorem cgSs_envLeT (mod fn : String) (φ : String → Option String) (loops : List (String × String)) (ss : List Stmt)
    (env : CEnv) : EnvLeT env (cgSs mod fn φ loops ss env).2 :=
  (cgS_envLe mod fn φ).2.2.2 loops ss env

end HmsProofs.Sim
