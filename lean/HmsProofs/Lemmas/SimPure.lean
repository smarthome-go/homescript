import HmsProofs.Lemmas.SimCompile
/-! `Frag.pureE`: the straight-line fragment plus `&&`, `||` and `if … else …` whose branches are blocks consisting of
one pure expression. The emitted code contains labels; it is a pure function `cpE` of the expression, the module
name, the scope map and the label counters. -/
namespace HmsProofs.Sim
open Hms.Core Hms.Core.Comp

/-- Label counters (`CState.labelMangle`). -/
abbrev LM := List (String × Nat)

/-- `mangleLabel` as a pure function. -/
def freshLabel (mod : String) (lm : LM) (ident : String) : String × LM :=
  (s!"{mod}.{ident}.{(lm.lookup ident).getD 0}",
   if (lm.lookup ident).isSome then lm.map fun (k, n) => if k == ident then (k, n + 1) else (k, n)
   else lm ++ [(ident, 1)])

namespace Frag
mutual
def pureE : Expr → Bool
  | .int .. | .bool .. | .str .. | .null .. | .none .. => true
  | .grouped _ e => pureE e
  | .ident _ _ _ isGlobal isFn isSingleton => !isGlobal && !isFn && !isSingleton
  | .pre _ _ _ e => pureE e
  | .infix _ _ _ l r => pureE l && pureE r
  | .ifE _ _ c t (some e) => pureE c && pureB t && pureB e
  | _ => false
def pureB : Block → Bool
  | .mk _ _ [] (some e) => pureE e
  | _ => false
end

mutual
def depthE : Expr → Nat
  | .grouped _ e => depthE e + 1
  | .pre _ _ _ e => depthE e + 1
  | .infix _ _ _ l r => max (depthE l) (depthE r) + 1
  | .ifE _ _ c t (some e) => max (depthE c) (max (depthB t) (depthB e)) + 1
  | _ => 1
def depthB : Block → Nat
  | .mk _ _ _ (some e) => depthE e + 1
  | _ => 1
end

mutual
def varsE : Expr → List String
  | .grouped _ e => varsE e
  | .ident _ _ name _ _ _ => [name]
  | .pre _ _ _ e => varsE e
  | .infix _ _ _ l r => varsE l ++ varsE r
  | .ifE _ _ c t (some e) => varsE c ++ (varsB t ++ varsB e)
  | _ => []
def varsB : Block → List String
  | .mk _ _ _ (some e) => varsE e
  | _ => []
end
end Frag

mutual
def cpE (mod : String) (ρ : String → Option String) : Expr → LM → SCode × LM
  | .int sp v, lm => ([(.copyPush (.int v), sp)], lm)
  | .bool sp b, lm => ([(.copyPush (.bool b), sp)], lm)
  | .str sp s, lm => ([(.copyPush (.str s), sp)], lm)
  | .null sp, lm => ([(.copyPush .null, sp)], lm)
  | .none sp, lm => ([(.copyPush .noneOpt, sp)], lm)
  | .grouped _ e, lm => cpE mod ρ e lm
  | .ident sp _ name _ _ _, lm =>
    (match ρ name with
      | some m => [(.getVar m, sp)]
      | none => [], lm)
  | .pre sp _ op e, lm => ((cpE mod ρ e lm).1 ++ [(preI op, sp)], (cpE mod ρ e lm).2)
  | .infix sp _ .or l r, lm =>
    let rt := freshLabel mod lm "return_true"
    let af := freshLabel mod rt.2 "after_infix"
    let cl := cpE mod ρ l af.2
    let cr := cpE mod ρ r cl.2
    (cl.1 ++ [(.not, sp), (.jumpIfFalse rt.1, sp)] ++ cr.1 ++
      [(.jump af.1, sp), (.label rt.1, sp), (.copyPush (.bool true), sp), (.label af.1, sp)], cr.2)
  | .infix sp _ .and l r, lm =>
    let rf := freshLabel mod lm "return_false"
    let af := freshLabel mod rf.2 "after_infix"
    let cl := cpE mod ρ l af.2
    let cr := cpE mod ρ r cl.2
    (cl.1 ++ [(.jumpIfFalse rf.1, sp)] ++ cr.1 ++
      [(.jump af.1, sp), (.label rf.1, sp), (.copyPush (.bool false), sp), (.label af.1, sp)], cr.2)
  | .infix sp _ op l r, lm =>
    let cl := cpE mod ρ l lm
    let cr := cpE mod ρ r cl.2
    (cl.1 ++ cr.1 ++ (arithI op).map (·, sp), cr.2)
  | .ifE sp _ c t (some eb), lm =>
    let cc := cpE mod ρ c lm
    let after := freshLabel mod cc.2 "if_after"
    let els := freshLabel mod after.2 "else"
    let ct := cpB mod ρ t els.2
    let ce := cpB mod ρ eb ct.2
    (cc.1 ++ [(.jumpIfFalse els.1, sp)] ++ ct.1 ++ [(.jump after.1, sp), (.label els.1, sp)] ++ ce.1 ++
      [(.label after.1, sp)], ce.2)
  | _, lm => ([], lm)
def cpB (mod : String) (ρ : String → Option String) : Block → LM → SCode × LM
  | .mk _ _ [] (some e), lm => cpE mod ρ e lm
  | _, lm => ([], lm)
end

theorem cpE_infix (mod : String) (ρ : String → Option String) (sp ty op l r) (lm : LM)
    (h : Frag.isLogical op = false) :
    cpE mod ρ (.infix sp ty op l r) lm =
      ((cpE mod ρ l lm).1 ++ (cpE mod ρ r (cpE mod ρ l lm).2).1 ++ (arithI op).map (·, sp),
       (cpE mod ρ r (cpE mod ρ l lm).2).2) := by
  cases op <;> first | rfl | cases h

theorem preI_notLabel (op : PrefixOp) : isLabel (preI op) = false := by cases op <;> rfl

def upd (cs : CState) (xs : SCode) (lm : LM) : CState := { appendCode cs xs with labelMangle := lm }

theorem mangleLabel_run (ident : String) (cs : CState) :
    (mangleLabel ident).run cs =
      ((freshLabel cs.currModule cs.labelMangle ident).1,
       upd cs [] (freshLabel cs.currModule cs.labelMangle ident).2) := by
  have : upd cs [] (freshLabel cs.currModule cs.labelMangle ident).2 =
      { cs with labelMangle := (freshLabel cs.currModule cs.labelMangle ident).2 } := by
    unfold upd; rw [appendCode_nil]
  rw [this]
  rfl

@[simp] theorem upd_labelMangle (cs xs lm) : (upd cs xs lm).labelMangle = lm := rfl
@[simp] theorem upd_currModule (cs xs lm) : (upd cs xs lm).currModule = cs.currModule := rfl
@[simp] theorem ρOf_upd (cs xs lm) : ρOf (upd cs xs lm) = ρOf cs := rfl

theorem appendCode_eq_upd (cs : CState) (xs : SCode) : appendCode cs xs = upd cs xs cs.labelMangle := rfl

theorem upd_frame (cs : CState) (xs : SCode) (lm : LM) :
    (upd cs xs lm).currFn = cs.currFn ∧ (upd cs xs lm).currModule = cs.currModule ∧
    (upd cs xs lm).loops = cs.loops ∧ (upd cs xs lm).varMangle = cs.varMangle ∧
    (upd cs xs lm).scopes = cs.scopes ∧ (upd cs xs lm).lambdaCount = cs.lambdaCount ∧
    (upd cs xs lm).unsupported = cs.unsupported ∧ (upd cs xs lm).tryDepth = cs.tryDepth ∧
    (∀ f, cs.fns.lookup (cs.currModule, cs.currFn) = some f →
      (upd cs xs lm).fns.lookup (cs.currModule, cs.currFn) = some { f with code := f.code ++ xs }) ∧
    (∀ key, key ≠ (cs.currModule, cs.currFn) → (upd cs xs lm).fns.lookup key = cs.fns.lookup key) :=
  ⟨rfl, rfl, rfl, rfl, rfl, rfl, rfl, rfl, fun f hf => appendCode_lookup cs xs f hf,
   fun key hk => appendCode_lookup_other cs xs key hk⟩

theorem depthE_pos (e : Expr) : 1 ≤ Frag.depthE e := by
  unfold Frag.depthE
  split <;> omega

end HmsProofs.Sim
