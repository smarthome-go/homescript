import HmsProofs.Lemmas.SimHLoop
/-! One call boundary. The callee is `AddMp nv`, a `Set_Var` per parameter, the statements, the trailing expression,
`cleanup: AddMp -nv; Ret`; `params_run` binds the arguments the way `callBody` does (`(zip …).reverse`), the body runs in
the activation `fnAct`, and `fn_call` reads every outcome from the caller's frames (`RunsCall….intro`, `CallOut`). -/
namespace HmsProofs.Sim
open Hms.Core Hms.Core.Comp Hms.Core.VM

theorem params_run (G : GCtx) (A : Act) (hA : A.OK G) (sp : Span) (out : World) :
    ∀ (ps : List Param) (svals : List SVal) (env : CEnv) (acc : List (String × Val)) (mem : Mem) (ip : Nat)
      (stk : List SVal),
      (∀ p ∈ ps, p.isSingleton = false) → ps.length = svals.length →
      (∀ m ∈ codeVars (cgParams G.mod sp ps env).1, A.N m) →
      Placed A.lab A.σ A.c ip (cgParams G.mod sp ps env).1 →
      StRel G.mod A.T A.N A.σ G.lim A.mp env.scopes env.vm [acc] mem →
      ∃ mem', Runs G.fr G.code G.lim G.s A.fn A.rest A.mp ip (svals ++ stk) mem out
          (ip + nI (cgParams G.mod sp ps env).1) stk mem' out ∧
        MemLe G.fr (A.mp - (A.nv : Int)) mem mem' ∧
        StRel G.mod A.T A.N A.σ G.lim A.mp (cgParams G.mod sp ps env).2.scopes (cgParams G.mod sp ps env).2.vm
          [((ps.map (·.name)).zip (svals.map (·.v))).reverse ++ acc] mem' := by
  intro ps
  induction ps with
  | nil =>
    intro vals env acc mem ip stk _ hlen _ _ hrel
    cases vals with
    | cons _ _ => simp at hlen
    | nil => exact ⟨mem, (Runs.refl ip stk mem out).cast (by simp [cgParams]), MemLe.refl _ _ _, hrel⟩
  | cons p ps ih =>
    intro vals env acc mem ip stk hns hlen hN hpl hrel
    cases vals with
    | nil => simp at hlen
    | cons sv vals =>
      obtain ⟨v, ov⟩ := sv
      have hp : p.isSingleton = false := hns p (by simp)
      simp only [cgParams, hp, Bool.false_eq_true, if_false] at hN hpl ⊢
      have hNm : A.N (freshVar G.mod env p.name).1 := hN _ (by simp [codeVars, var?])
      unplace at hpl
      obtain ⟨iset, hpl'⟩ := hpl
      have hcell := hA.cell _ hNm
      have hdecl := hrel.declare hA.good p.name v hNm
      have hset : Runs G.fr G.code G.lim G.s A.fn A.rest A.mp ip (⟨v, ov⟩ :: (vals ++ stk)) mem out
          (ip + 1) (vals ++ stk)
          (mem.set (A.mp - (A.σ (freshVar G.mod env p.name).1 : Int)) v) out :=
        Runs.of_runsTo (fr := G.fr) (fun it_ => RunsTo.of_exec1 (fun k =>
          reach_setVar G.code G.lim (baseOf (withIt G.s it_) A.fn A.rest A.mp out) _ k _ mem ⟨A.fn, 0⟩ A.rest A.c rfl
            hA.code _ sp v ov iset hcell.1 hcell.2.1))
      obtain ⟨mem', hrun, hml, hrel'⟩ := ih vals (freshVar G.mod env p.name).2 ((p.name, v) :: acc)
        (mem.set (A.mp - (A.σ (freshVar G.mod env p.name).1 : Int)) v) (ip + 1) stk
        (fun q hq => hns q (by simp [hq])) (by simpa using hlen)
        (fun m hm => hN m (by
          simp only [codeVars, List.filterMap_cons, var?] at hm ⊢
          exact List.mem_cons_of_mem _ hm)) hpl' hdecl
      refine ⟨mem', hset.trans hrun, (MemLe.set _ _ _ _ _ hcell.2.2).trans hml, ?_⟩
      simpa only [List.map_cons, List.zip_cons_cons, List.reverse_cons, List.append_assoc, List.singleton_append]
        using hrel'

theorem cgParams_scopes (mod : String) (sp : Span) : ∀ (ps : List Param) (env : CEnv) (c : List (String × String))
    (rest : CScopes), env.scopes = c :: rest → ∃ c', (cgParams mod sp ps env).2.scopes = c' :: rest := by
  intro ps
  induction ps with
  | nil => intro env c rest h; exact ⟨c, h⟩
  | cons p ps ih =>
    intro env c rest h
    simp only [cgParams]
    split
    · exact ih env c rest h
    · exact ih (freshVar mod env p.name).2
        ((p.name, mangleName mod p.name ((env.vm.lookup p.name).getD 0)) :: c.filter (·.1 != p.name)) rest
        (by simp [freshVar, h])

theorem StRel.addKey {mod T N σ lim mp c rest vm ss mem} (key lbl : String) (hk : key ∉ T)
    (h : StRel mod T N σ lim mp (c :: rest) vm ss mem) :
    StRel mod T N σ lim mp (((key, lbl) :: c) :: rest) vm ss mem := by
  have hl : liveNames T (((key, lbl) :: c) :: rest) = liveNames T (c :: rest) := by simp [liveNames, levelNames, hk]
  obtain ⟨hl0, hr⟩ := (ScopesRel.cons_iff T σ lim mp).mp h.scopes
  refine ⟨(ScopesRel.cons_iff T σ lim mp).mpr ⟨hl0.congr T σ lim mp (fun y hy => ?_) (fun _ _ => rfl), hr⟩,
    hl ▸ h.nodup, hl ▸ h.inN, fun sc hsc p hp hpT => ?_⟩
  · rw [lookup_cons_ite, if_neg fun e : y = key => hk (e ▸ hy)]
  · rcases List.mem_cons.mp hsc with rfl | hsc
    · rcases List.mem_cons.mp hp with rfl | hp
      · exact absurd hpT hk
      · exact h.named c (List.mem_cons_self ..) p hp hpT
    · exact h.named sc (List.mem_cons_of_mem _ hsc) p hp hpT

theorem RunsCall.intro {G : GCtx} {fn : String} {c : List (RInstr × Span)} (hf : findCode G.code fn = some c)
    {frames : List Frame} {mp : Int} {nv ipC : Nat} {sp1 sp2 sp3 : Span} {stk stk' : List SVal}
    {mem mem' : Mem} {out out' : World}
    (h0 : c[0]? = some (.addMp (nv : Int), sp1)) (hroom : mp + (nv : Int) < (G.lim.memory : Int))
    (hrun : Runs G.fr G.code G.lim G.s fn frames (mp + (nv : Int)) 1 stk mem out ipC stk' mem' out')
    (h1 : c[ipC]? = some (.addMp (-(nv : Int)), sp2)) (h2 : c[ipC + 1]? = some (.ret, sp3)) :
    RunsCall G fn frames mp stk mem out stk' mem' out' := by
  refine ⟨fun k => ?_, hrun.inv⟩
  obtain ⟨k', e⟩ := hrun (k + 1)
  refine ⟨1 + (k' + (1 + 1)), ?_⟩
  rw [execHN_add, execHN_one, exec1H_of_next (mkSI_addMp G.code G.lim G.s fn 0 frames mp k stk mem out c hf _ sp1 h0 hroom)]
  simp only [Nat.zero_add]
  rw [execHN_add, e]
  simp only []
  rw [execHN_add, execHN_one, exec1H_of_next
    (mkSI_addMp G.code G.lim G.s fn ipC frames (mp + (nv : Int)) (k + 1 + k') stk' mem' out' c hf _ sp2 h1 (by omega))]
  simp only []
  rw [execHN_one, exec1H_of_next (mkSI_ret G.code G.lim G.s fn (ipC + 1) frames _ _ stk' mem' out' c hf sp3 h2)]
  have : mp + (nv : Int) + -(nv : Int) = mp := by omega
  rw [this]
  simp only [Nat.add_assoc]

theorem RunsCallF.intro {G : GCtx} {fn : String} {c : List (RInstr × Span)} (hf : findCode G.code fn = some c)
    {frames : List Frame} {mp : Int} {nv : Nat} {sp1 : Span} {stk : List SVal}
    {mem : Mem} {out out' : World} {kd msg : String} {fsp : Span}
    (h0 : c[0]? = some (.addMp (nv : Int), sp1)) (hroom : mp + (nv : Int) < (G.lim.memory : Int))
    (hrun : RunsF G.code G.lim G.s fn frames (mp + (nv : Int)) 1 stk mem out kd msg fsp out') :
    RunsCallF G fn frames mp stk mem out kd msg fsp out' := by
  intro k
  obtain ⟨k', s', e, hs⟩ := hrun (k + 1)
  refine ⟨1 + k', s', ?_, hs⟩
  rw [execHN_add, execHN_one, exec1H_of_next (mkSI_addMp G.code G.lim G.s fn 0 frames mp k stk mem out c hf _ sp1 h0 hroom)]
  simp only [Nat.zero_add, e]

theorem RunsCallT.intro {G : GCtx} {fn : String} {c : List (RInstr × Span)} (hf : findCode G.code fn = some c)
    {frames : List Frame} {mp : Int} {nv ipS : Nat} {sp1 : Span} {stk0 stk : List SVal}
    {mem mem1 mem' : Mem} {out out1 out' : World} {msg : String} {tsp : Span}
    (h0 : c[0]? = some (.addMp (nv : Int), sp1)) (hroom : mp + (nv : Int) < (G.lim.memory : Int))
    (hpre : Runs G.fr G.code G.lim G.s fn frames (mp + (nv : Int)) 1 stk0 mem out ipS stk mem1 out1)
    (hT : RunsT G fn frames (mp + (nv : Int)) ipS stk mem1 out1 msg tsp mem' out') :
    RunsCallT G fn frames mp stk0 stk mem out msg tsp mem' out' := by
  refine ⟨fun k => ?_, fun hi => hT.inv (hpre.inv hi)⟩
  obtain ⟨k1, e1⟩ := hpre (k + 1)
  obtain ⟨k2, s1, frames', ip', mp', xs, e2, e3⟩ := hT (k + 1 + k1)
  refine ⟨1 + (k1 + k2), s1, frames' ++ [⟨fn, ip'⟩], mp', xs, ?_, ?_⟩
  · rw [execHN_add, execHN_one, exec1H_of_next (mkSI_addMp G.code G.lim G.s fn 0 frames mp k stk0 mem out c hf _ sp1 h0 hroom)]
    simp only [Nat.zero_add]
    rw [execHN_add, e1]
    exact e2
  · rw [e3]; simp only [List.append_assoc, List.singleton_append, Nat.add_assoc]

/-- What `FnOK` and `FnVoidOK` share, for a body with or without trailing expression `oe`; what concerns `oe` is
`TailOK`. -/
structure FnBodyOK (G : GCtx) (fd : FnDef) (I : FnInfo) (stmts : List Stmt) (oe : Option Expr) : Prop where
  params : ∀ p ∈ fd.params, p.isSingleton = false
  code : findCode G.code (mangleFnName G.mod fd.name) = some I.c
  placed : Placed I.lab I.σ I.c 0 (cgFn G.mod I.φ fd stmts oe I.scopes0 I.vm0 I.lm0)
  inj : ∀ a b, I.N a → I.N b → I.σ a = I.σ b → a = b
  vars : ∀ m ∈ codeVars (cgFn G.mod I.φ fd stmts oe I.scopes0 I.vm0 I.lm0), I.N m
  slot : ∀ m, I.N m → I.σ m < (fnParts G.mod I.φ fd stmts oe I.scopes0 I.vm0 I.lm0).envE.nv
  frame : (fnParts G.mod I.φ fd stmts oe I.scopes0 I.vm0 I.lm0).envE.nv ≤ G.F
  okS : Frag.okFSs G.fr false true stmts = true
  wsS : Frag.wsGSs G.mod fd.name I.φ [] stmts (fnParts G.mod I.φ fd stmts oe I.scopes0 I.vm0 I.lm0).envB = true
  tIdents : ∀ x ∈ Frag.identsGSs stmts, x ∈ I.T
  key : cleanupKey G.mod fd.name ∉ I.T
  outer : ∀ sc ∈ I.scopes0, ∀ x ∈ I.T, sc.lookup x = none
  phi : PhiOK G I.φ

/-- The activation of a call of `fd` on top of `frames`, entered with memory pointer `mp` (the prologue adds the frame). -/
def fnAct (G : GCtx) (fd : FnDef) (I : FnInfo) (P : FnParts) (frames : List Frame) (mp : Int) : Act where
  fn := mangleFnName G.mod fd.name
  src := fd.name
  cl := P.cleanup
  rest := frames
  mp := mp + (P.envE.nv : Int)
  c := I.c
  σ := I.σ
  lab := I.lab
  N := I.N
  T := I.T
  nv := P.envE.nv
  φ := I.φ
  rt := true
  ghost := []

/-- What a call delivers to the caller's frames; `S v stk'`: the operand stack `stk'` left for the result `v` (`SimCall`:
`v` pushed; without trailing expression: `v` pushed or, after a body that fell through, nothing). -/
def CallOut (G : GCtx) (S : Val → List SVal → Prop) (g : String) (frames : List Frame) (mp : Int) (stk0 stk : List SVal)
    (mem : Mem) (st : St) (r : Except Ctl Val × St) : Prop :=
  match r with
  | (.ok v, st') =>
    st' = { st with out := st'.out, heap := st'.heap } ∧
      ∃ mem' stk', S v stk' ∧ RunsCall G g frames mp stk0 mem st.world stk' mem' st'.world ∧ MemLe G.fr mp mem mem'
  | (.error (.fatal kd m sp), st') => kd ≠ "StackOverFlow" → RunsCallF G g frames mp stk0 mem st.world kd m sp st'.world
  | (.error (.throw msg sp), st') =>
    st' = { st with out := st'.out, heap := st'.heap } ∧
      ∃ mem', RunsCallT G g frames mp stk0 stk mem st.world msg sp mem' st'.world ∧ MemLe G.fr mp mem mem'
  | (.error (.unsupported _), _) => True
  | (.error .timeout, _) => True
  | _ => False

theorem SimCall.of_out {G g frames mp args stk mem st r}
    (h : CallOut G (fun v stk' => ∃ o, OrgOK G.fr o ∧ stk' = ⟨v, o⟩ :: stk) g frames mp (args ++ stk) stk mem st r) :
    SimCall G g frames mp args stk mem st r := by
  obtain ⟨r1, st1⟩ := r
  cases r1 with
  | ok v => obtain ⟨hfr, mem', _, ⟨o, ho, rfl⟩, hrun, hml⟩ := h; exact ⟨hfr, mem', o, ho, hrun, hml⟩
  | error c => cases c <;> exact h

def TailOK (G : GCtx) (fd : FnDef) (I : FnInfo) (stmts : List Stmt) : Option Expr → Prop
  | some e => Frag.okE G.fr e = true ∧
      Frag.wsGE (fnParts G.mod I.φ fd stmts (some e) I.scopes0 I.vm0 I.lm0).envS.scopes I.φ e = true ∧
      ∀ x ∈ Frag.namesGE e, x ∈ I.T
  | none => True

/-- A call of a function of the fragment: statements, then the trailing expression `oe` if there is one; the normal end and
every `return` meet at the cleanup label. -/
theorem fn_call (G : GCtx) (hG : G.OK') (n : Nat) (hPSs : ∀ m, m + 1 = n → PGSs G m) (hPE : ∀ m, m + 1 = n → PE G m)
    {fd : FnDef} {I : FnInfo} {stmts : List Stmt} {oe : Option Expr} (hFn : FnBodyOK G fd I stmts oe)
    (hT : TailOK G fd I stmts oe) (hgh : G.fr = true → ∀ y ∈ I.T, ("$iter_" ++ y) ∉ I.T)
    (bsp : Span) (bty : Ty) (sp : Span) (svals : List SVal) (st : St) (frames : List Frame) (mp : Int)
    (stk : List SVal) (mem : Mem) (hsp : SpecOK G mp st) (hmp : 0 ≤ mp) (S : Val → List SVal → Prop)
    (hSv : ∀ v o, OrgOK G.fr o → S v (⟨v, o⟩ :: stk)) (hS0 : oe = none → S .null stk) :
    CallOut G S (mangleFnName G.mod fd.name) frames mp (svals ++ stk) stk mem st
      (callBody G.cfg (n + 1) sp G.mod fd.params (.mk bsp bty stmts oe) (svals.map (·.v)) st) := by
  obtain ⟨vals, hvals⟩ : ∃ vals, vals = svals.map (·.v) := ⟨_, rfl⟩
  rw [← hvals]
  by_cases hd : st.depth > G.cfg.callLimit
  · obtain ⟨msg, h⟩ := callBody_overflow G.cfg n sp G.mod fd.params (.mk bsp bty stmts oe) vals st hd
    rw [h]
    intro hk; exact absurd rfl hk
  by_cases hlen' : ¬ fd.params.length = vals.length
  · rw [callBody_arity _ _ _ _ _ _ _ _ hFn.params hd hlen']; exact True.intro
  have hlen : fd.params.length = vals.length := Classical.not_not.mp hlen'
  rw [callBody_step _ _ _ _ _ _ _ _ _ _ _ hFn.params hd hlen]
  cases n with
  | zero => rw [evalBlock]; exact True.intro
  | succ m =>
  generalize hbinds : ((fd.params.map (fun x : Param => x.name)).zip vals).reverse = binds
  generalize hspec1 : ({ st with scopes := [binds], module := G.mod, depth := st.depth + 1 } : St) = spec1
  let P := fnParts G.mod I.φ fd stmts oe I.scopes0 I.vm0 I.lm0
  let env0 : CEnv := ⟨[] :: I.scopes0, I.vm0, I.lm0, 0⟩
  have hlenS : fd.params.length = svals.length := by rw [hlen, hvals, List.length_map]
  have hplaced : Placed I.lab I.σ I.c 0 ([(.addMp (P.envE.nv : Int), fd.sp)] ++ P.pcode ++ P.scode ++ P.ecode ++
    [(.label P.cleanup, fd.sp), (.addMp (-(P.envE.nv : Int)), fd.sp), (.ret, fd.sp)]) := hFn.placed
  have hvars := hFn.vars
  have hframe : P.envE.nv ≤ G.F := hFn.frame
  have hdep : st.depth ≤ G.cfg.callLimit := Nat.le_of_not_gt hd
  have hmul : (st.depth : Int) * (G.F : Int) ≤ (G.cfg.callLimit : Int) * (G.F : Int) := by
    exact_mod_cast Nat.mul_le_mul_right G.F hdep
  have hroom := hG.room
  rw [Int.add_mul] at hroom
  have hFle : (P.envE.nv : Int) ≤ (G.F : Int) := by exact_mod_cast hframe
  have hdepth := hsp.depth
  have hhi : mp + (P.envE.nv : Int) < (G.lim.memory : Int) := by omega
  have hA : (fnAct G fd I P frames mp).OK G :=
    { hFn with
      lo := by show 0 ≤ mp + (P.envE.nv : Int) - (P.envE.nv : Int); omega
      hi := hhi
      println := hG.println
      fnName := rfl
      ghostN := fun p hp => nomatch hp
      ghostT := hgh }
  unplace at hplaced
  obtain ⟨hi0, hpl2, hpl3, hpl4, hlabC, hiC, hiR⟩ := hplaced
  have hall : ∀ sc ∈ ([] :: I.scopes0 : CScopes), ∀ x ∈ I.T, sc.lookup x = none := by
    intro sc hsc x hx
    rcases List.mem_cons.mp hsc with rfl | hsc
    · rfl
    · exact hFn.outer sc hsc x hx
  have hrel0 : StRel G.mod I.T I.N I.σ G.lim (mp + (P.envE.nv : Int)) env0.scopes env0.vm [[]] mem :=
    StRel.unbound hall
  simp only [cgFn, codeVars_append, List.mem_append] at hvars
  obtain ⟨mem1, hrunP, hmlP, hrelP⟩ := params_run G _ hA fd.sp st.world fd.params svals env0 [] mem 1 stk hFn.params
    hlenS (fun m hm => hvars m (Or.inl (Or.inl (Or.inl (Or.inr hm))))) hpl2 hrel0
  rw [List.append_nil, ← hvals, hbinds] at hrelP
  obtain ⟨c', hc'⟩ := cgParams_scopes G.mod fd.sp fd.params env0 [] I.scopes0 rfl
  have henvBsc : P.envB.scopes = ((cleanupKey G.mod fd.name, P.cleanup) :: c') :: I.scopes0 := by
    show (bodyEnv G.mod fd.name (cgParams G.mod fd.sp fd.params env0).2).scopes = _
    simp only [bodyEnv, hc']
    rfl
  have hgrel : GRel G (fnAct G fd I P frames mp) P.envB.scopes P.envB.vm [binds] mem1 := by
    refine ⟨?_, ?_, (fun p hp => nomatch hp), (fun p hp => nomatch hp)⟩
    · rw [henvBsc]
      rw [hc'] at hrelP
      exact hrelP.addKey _ _ hFn.key
    · rw [henvBsc]
      simp [ρS, fnAct]
  have hsp1 : SpecOK G (mp + (P.envE.nv : Int)) spec1 := by
    rw [← hspec1]
    refine ⟨hsp.heap, rfl, hsp.globals, ?_⟩
    show mp + (P.envE.nv : Int) ≤ G.B + ((st.depth + 1 : Nat) : Int) * (G.F : Int)
    push_cast
    rw [Int.add_mul]
    omega
  have hS := ((hPSs m rfl _ hA [] (P.envB.scopes.drop 1) 1 stmts P.envB hFn.okS hFn.tIdents hFn.wsS
    (fun m hm => hvars m (Or.inl (Or.inl (Or.inr hm)))) (Nat.le_refl 1)).link (fun _ =>
      ((cgSs_envLeT G.mod fd.name I.φ [] stmts P.envB).drop (Nat.le_refl 1)).symm))
    (1 + nI P.pcode) stk mem1 spec1 hpl3
  -- the block; every normal end is at the cleanup label
  have hB : SimJ (.stmt G (fnAct G fd I P frames mp) [] (P.envB.scopes.drop 1) 1)
      (.grel G (fnAct G fd I P frames mp) [] (P.envB.scopes.drop 1) 1 P.envB) (1 + nI P.pcode) (I.lab P.cleanup) [] stk mem1
      spec1 (evalBlock G.cfg (m + 1) (.mk ⟨0, 0, 0, 0⟩ .null stmts oe)) (fun v _ _ ys => S v (ys ++ stk))
      (fun _ _ => True) := by
    cases oe with
    | none =>
      rw [evalBlock]
      exact hS.bind fun _ st1 mem2 ys eys => eys ▸ (SimJ.ret fun _ => ⟨hS0 rfl, trivial⟩).exit hlabC.symm
    | some e =>
      obtain ⟨hok, hws, htv⟩ := hT
      rw [evalBlock]
      refine hS.bind fun _ st1 mem2 ys eys => eys ▸ ?_
      exact ((((hPE m rfl _ hA _ Stable.grel_rel e P.envS.lm hok hws htv _ [] stk mem2 st1).mono
        fun v _ _ ys _ ⟨o, ho, eys⟩ => eys ▸ hSv v o ho) hpl4).post fun _ _ _ => trivial).exit hlabC.symm
  -- from the body to the call: prologue and epilogue around it, `return` caught, the caller's scopes restored
  have hB := hB ⟨by rw [← hspec1]; exact hgrel, hsp1, rfl⟩ (1 + nI P.pcode) mem1 spec1 .refl
  have hout1 : spec1.world = st.world := by rw [← hspec1]; rfl
  have hmono : mp ≤ mp + (P.envE.nv : Int) - (P.envE.nv : Int) := by omega
  rw [← hlabC] at hiC hiR
  generalize evalBlock G.cfg (m + 1) (.mk ⟨0, 0, 0, 0⟩ .null stmts oe) spec1 = rB at hB ⊢
  obtain ⟨r1, s1⟩ := rB
  cases r1 with
  | ok v =>
    obtain ⟨ys, mem', hS, _, hat⟩ := hB
    exact ⟨by rw [hat.frame, ← hspec1], mem', _, hS,
      RunsCall.intro hFn.code hi0 hhi (hrunP.trans (hout1 ▸ hat.run)) hiC hiR, (hmlP.trans hat.le).mono hmono⟩
  | error ce =>
    cases ce
    case ret v =>
      obtain ⟨_, hfr, mem', o, ho, hrun, hml⟩ := hB
      exact ⟨by rw [hfr, ← hspec1], mem', _, hSv v o ho,
        RunsCall.intro hFn.code hi0 hhi (hrunP.trans (hout1 ▸ hrun)) hiC hiR, (hmlP.trans hml).mono hmono⟩
    case throw msg tsp =>
      obtain ⟨hfr, mem', hT, hml, _⟩ := hB
      rw [hout1] at hT
      exact ⟨by rw [hfr, ← hspec1], mem', RunsCallT.intro hFn.code hi0 hhi hrunP hT, (hmlP.trans hml).mono hmono⟩
    case fatal kd fm fsp =>
      intro hk
      have hF := hB hk
      rw [hout1] at hF
      exact RunsCallF.intro hFn.code hi0 hhi (hrunP.fatal hF)
    all_goals exact True.intro

theorem pcall_step (G : GCtx) (hG : G.OK') (n : Nat) (hPSs : ∀ m, m + 1 = n → PGSs G m)
    (hPE : ∀ m, m + 1 = n → PE G m) : PCall G (n + 1) := by
  intro g fd I stmts e hK hfind hFn hgh sp svals st frames mp stk mem hsp hmp
  have hname := hFn.name
  subst hname
  obtain ⟨bsp, bty, hbody⟩ := hFn.body
  rw [hbody]
  exact SimCall.of_out (fn_call G hG n hPSs hPE { hFn with } ⟨hFn.okE, hFn.wsE, hFn.tVars⟩ hgh bsp bty sp svals st frames mp stk
    mem hsp hmp _ (fun v o ho => ⟨o, ho, rfl⟩) (fun h => nomatch h))

end HmsProofs.Sim
