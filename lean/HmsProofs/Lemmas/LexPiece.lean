import HmsProofs.Lemmas.LexStep
import HmsProofs.Lemmas.LexLoc
/-! The step lemma: a successful `nextPiece` yields a piece meeting the specification; a failing one reports a span
inside the input. -/
namespace HmsProofs.Lemmas.LexPiece
open Hms Hms.Lex HmsProofs.Lemmas.LexStep

def pieceOK (loc : Loc) (p : Piece) (rest : List Char) : Prop :=
  match p with
  | .token t lx => lx ≠ [] ∧ Spec.lexemeOK t.kind lx t.value = true ∧ t.start = loc
      ∧ t.stop = loc.advanceBy lx.dropLast ∧ maxOK t.kind lx rest.head? = true
  | p => Spec.triviaOK p rest.isEmpty = true

def StepOK (loc : Loc) (c : Char) (cs : List Char) : Except LexErr (Piece × List Char) → Prop
  | .ok (p, rest) => p.chars ++ rest = c :: cs ∧ p.chars ≠ [] ∧ pieceOK loc p rest
  | .error e => ∃ a b r, a ++ b ++ r = c :: cs ∧ e.start = loc.advanceBy a ∧ e.stop = loc.advanceBy (a ++ b)

theorem nextPiece_spec (loc : Loc) (c : Char) (cs : List Char) : StepOK loc c cs (nextPiece loc c cs) := by
  have tok : ∀ {k lx v rest}, TokOK k lx v rest (c :: cs) →
      StepOK loc c cs (.ok (.token (mkTok k v loc lx) lx, rest)) :=
    fun h => ⟨h.1, h.2.1, h.2.1, h.2.2.1, rfl, rfl, h.2.2.2⟩
  -- cases of `nextPiece` in its order: 1 white space, 2 line comment, 3 block comment, 4–6 string (closed, never
  -- closed, bad escape), 7–8 `~` (`~>`, alone), 9 operator, 10 number, 11 name, 12 illegal character
  fun_cases nextPiece loc c cs
  case case1 hsp => exact ⟨rfl, List.cons_ne_nil _ _, hsp⟩
  case case2 body r hl hx =>
    obtain ⟨rfl, hh⟩ := hl
    obtain ⟨tl, rfl⟩ := List.head?_eq_some_iff.mp hh
    have h1 := (lineBody_spec tl).1
    have h2 := lineComment_ok tl
    rw [List.tail_cons] at hx
    rw [hx] at h1 h2
    exact ⟨congrArg (fun l => '/' :: '/' :: l) h1, List.cons_ne_nil _ _, h2⟩
  case case3 body r _ hb hx =>
    obtain ⟨rfl, hh⟩ := hb
    obtain ⟨tl, rfl⟩ := List.head?_eq_some_iff.mp hh
    have h1 := blockBody_append tl
    have h2 := blockComment_ok tl
    rw [List.tail_cons] at hx
    rw [hx] at h1 h2
    exact ⟨congrArg (fun l => '/' :: '*' :: l) h1, List.cons_ne_nil _ _, h2⟩
  case case4 hq v body r _ _ _ hs => exact tok (string_tok c hq (hs ▸ stringBody_spec c _ cs))
  case case5 hq consumed _ _ hs =>
    obtain ⟨r, hr⟩ := hs ▸ stringBody_spec c _ cs
    exact ⟨[], c :: consumed, r, by simp [hr], rfl, rfl⟩
  case case6 hq k before consumed _ _ hs =>
    obtain ⟨r, hr⟩ := hs ▸ stringBody_spec c _ cs
    exact ⟨c :: before, consumed, r, by simp [← hr], rfl, rfl⟩
  case case7 ht rest _ _ =>
    subst ht
    have hm : ("~>", TokKind.tildeArrow) ∈ Spec.operators := mem_operators rfl
    have hlx := lexemeOK_op hm
    have hmax := maxOK_op (next := rest.head?) hm fun _ _ => List.not_mem_nil
    simp only [String.reduceToList] at hlx hmax
    exact tok ⟨rfl, List.cons_ne_nil _ _, hlx, hmax⟩
  case case8 => exact ⟨[c], [], cs, rfl, rfl, rfl⟩
  case case9 k lx _ _ hm => exact tok (matchOp_spec c cs k lx hm)
  case case10 hd k lx rest _ _ _ hn =>
    have := number_spec c cs hd
    rw [hn] at this
    exact tok this
  case case11 hl tail rest _ _ _ _ _ hsp =>
    obtain ⟨n0, s2, s3⟩ := spanWhile_spec hsp
    have := name_spec c _ _ hl s2 s3
    rw [n0] at this
    exact tok this
  case case12 => exact ⟨[], [], c :: cs, rfl, rfl, rfl⟩

end HmsProofs.Lemmas.LexPiece
