import HmsProofs.Lemmas.SimHStatic
import HmsProofs.Lemmas.SimHLabels
import HmsProofs.Lemmas.SimHComp
/-!
# The small statement fragment is the general one restricted

On `Frag.okS` the code generators, the well-scopedness predicates and the fuel measures of the small and the general
fragment coincide (`frag_bridge`); the static facts about `cS` are read off those about `cgS`.
-/
namespace HmsProofs.Sim
open Hms.Core

theorem okV_of_pure (fr : Bool) (e : Expr) (h : Frag.pureE e = true) : Frag.okV fr e = true := by
  simp only [Frag.okV, okE_okGE fr e (pure_bridge.1 e h).1, Bool.or_true]

/-- What the two fragments share on a statement, a block, a statement list of the small one. -/
def Bridge {α : Type} (okF : Bool → Bool → Bool → Bool)
    (cd depth : Nat) (cg : List (String × String) → CEnv → α) (c : CEnv → α)
    (wsG : List (String × String) → CEnv → Bool) (ws : CEnv → Bool) : Prop :=
  (∀ fr il rt, okF fr il rt = true) ∧ cd = depth ∧ ∀ loops env, cg loops env = c env ∧ wsG loops env = ws env

theorem frag_bridge (mod fn : String) (φ : String → Option String) :
    (∀ (st : Stmt), Frag.okS st = true →
      Bridge (Frag.okFS · · · st) (Frag.cdS st) (Frag.depthS st) (cgS mod fn φ · st) (cS mod st)
        (Frag.wsGS mod fn φ · st) (Frag.wsS mod st)) ∧
    (∀ (b : Block), Frag.okB b = true →
      Bridge (Frag.okFBS · · · b) (Frag.cdBS b) (Frag.depthBS b) (cgBS mod fn φ · b) (cB mod b)
        (Frag.wsGBS mod fn φ · b) (Frag.wsB mod b)) ∧
    (∀ (ss : List Stmt), Frag.okSs ss = true →
      Bridge (Frag.okFSs · · · ss) (Frag.cdSs ss) (Frag.depthSs ss) (cgSs mod fn φ · ss) (cSs mod ss)
        (Frag.wsGSs mod fn φ · ss) (Frag.wsSs mod ss)) := by
  refine Frag.okS.mutual_induct_unfolding
    (motive_1 := fun st ok => ok = true →
      Bridge (Frag.okFS · · · st) (Frag.cdS st) (Frag.depthS st) (cgS mod fn φ · st) (cS mod st)
        (Frag.wsGS mod fn φ · st) (Frag.wsS mod st))
    (motive_2 := fun b ok => ok = true →
      Bridge (Frag.okFBS · · · b) (Frag.cdBS b) (Frag.depthBS b) (cgBS mod fn φ · b) (cB mod b)
        (Frag.wsGBS mod fn φ · b) (Frag.wsB mod b))
    (motive_3 := fun ss ok => ok = true →
      Bridge (Frag.okFSs · · · ss) (Frag.cdSs ss) (Frag.depthSs ss) (cgSs mod fn φ · ss) (cSs mod ss)
        (Frag.wsGSs mod fn φ · ss) (Frag.wsSs mod ss))
    ?letS ?assign ?opAssign ?ifElse ?ifThen ?whileS ?other ?block ?blockOther ?stmtsNil ?stmtsCons
  case other | blockOther => intros; contradiction
  case stmtsNil => intro _; exact ⟨fun _ _ _ => rfl, rfl, fun _ _ => ⟨rfl, rfl⟩⟩
  case stmtsCons =>
    intro s ss ihs ihss hok
    rw [Bool.and_eq_true] at hok
    obtain ⟨h1, d1, e1⟩ := ihs hok.1
    obtain ⟨h2, d2, e2⟩ := ihss hok.2
    refine ⟨fun fr il rt => by simp only [Frag.okFSs, h1, h2, Bool.and_self], by simp only [Frag.cdSs, Frag.depthSs, d1, d2],
      fun loops env => ?_⟩
    simp only [cgSs, cSs, Frag.wsGSs, Frag.wsSs, (e1 _ _).1, (e1 _ _).2, (e2 _ _).1, (e2 _ _).2, and_self]
  case block =>
    intro sp ty ss ih hok
    obtain ⟨h, d, e⟩ := ih hok
    refine ⟨fun fr il rt => by simp only [Frag.okFBS, h], by simp only [Frag.cdBS, Frag.depthBS, d], fun loops env => ?_⟩
    simp only [cgBS, cB, Frag.wsGBS, Frag.wsB, (e _ _).1, (e _ _).2, and_self]
  case letS =>
    intro sp name vty nc oty e hok
    simp only [Bool.and_eq_true, Bool.not_eq_eq_eq_not, Bool.not_true] at hok
    obtain ⟨rfl, he⟩ := hok
    refine ⟨fun fr il rt => by simp only [Frag.okFS, okV_of_pure fr e he, Bool.not_false, Bool.and_self],
      by simp only [Frag.cdS, Frag.depthS, (pure_bridge.1 e he).2], fun loops env => ?_⟩
    simp only [cgS, cS, Frag.wsGS, Frag.wsS, cgE_of_pure _ _ _ _ _ he, wsGE_of_pure _ _ _ he, and_self]
  case assign =>
    intro sp asp isp ity name isFn r hr
    refine ⟨fun fr il rt => by simp only [Frag.okFS, okV_of_pure fr r hr],
      by simp only [Frag.cdS, Frag.cdX, Frag.depthS, (pure_bridge.1 r hr).2], fun loops env => ?_⟩
    simp only [cgS, cS, Frag.wsGS, Frag.wsS, cgE_of_pure _ _ _ _ _ hr, wsGE_of_pure _ _ _ hr, Frag.resolved,
      List.all_cons, and_self]
  case opAssign =>
    intro sp asp op isp ity name isFn r hok
    rw [Bool.and_eq_true] at hok
    refine ⟨fun fr il rt => by simp only [Frag.okFS, hok.1, okV_of_pure fr r hok.2, Bool.and_self],
      by simp only [Frag.cdS, Frag.cdX, Frag.depthS, (pure_bridge.1 r hok.2).2], fun loops env => ?_⟩
    simp only [cgS, cS, Frag.wsGS, Frag.wsS, cgE_of_pure _ _ _ _ _ hok.2, wsGE_of_pure _ _ _ hok.2, Frag.resolved,
      List.all_cons, and_self]
  case ifElse =>
    intro sp isp ty c t eb iht ihe hok
    simp only [Bool.and_eq_true] at hok
    obtain ⟨⟨⟨hty, hc⟩, ht⟩, he⟩ := hok
    obtain ⟨h1, d1, e1⟩ := iht ht
    obtain ⟨h2, d2, e2⟩ := ihe he
    refine ⟨fun fr il rt => by simp only [Frag.okFS, hty, okE_okGE fr c (pure_bridge.1 c hc).1, h1, h2, Bool.and_self],
      by simp only [Frag.cdS, Frag.cdX, Frag.depthS, (pure_bridge.1 c hc).2, d1, d2], fun loops env => ?_⟩
    simp only [cgS, cS, Frag.wsGS, Frag.wsS, cgE_of_pure _ _ _ _ _ hc, wsGE_of_pure _ _ _ hc, (e1 _ _).1, (e1 _ _).2,
      (e2 _ _).1, (e2 _ _).2, and_self]
  case ifThen =>
    intro sp isp ty c t iht hok
    simp only [Bool.and_eq_true] at hok
    obtain ⟨⟨hty, hc⟩, ht⟩ := hok
    obtain ⟨h1, d1, e1⟩ := iht ht
    refine ⟨fun fr il rt => by simp only [Frag.okFS, hty, okE_okGE fr c (pure_bridge.1 c hc).1, h1, Bool.and_self],
      by simp only [Frag.cdS, Frag.cdX, Frag.depthS, (pure_bridge.1 c hc).2, d1], fun loops env => ?_⟩
    simp only [cgS, cS, Frag.wsGS, Frag.wsS, cgE_of_pure _ _ _ _ _ hc, wsGE_of_pure _ _ _ hc, (e1 _ _).1, (e1 _ _).2,
      and_self]
  case whileS =>
    intro sp c body ihb hok
    rw [Bool.and_eq_true] at hok
    obtain ⟨h1, d1, e1⟩ := ihb hok.2
    refine ⟨fun fr il rt => by simp only [Frag.okFS, okE_okGE fr c (pure_bridge.1 c hok.1).1, h1, Bool.and_self],
      by simp only [Frag.cdS, Frag.depthS, (pure_bridge.1 c hok.1).2, d1], fun loops env => ?_⟩
    simp only [cgS, cS, Frag.wsGS, Frag.wsS, cgE_of_pure _ _ _ _ _ hok.1, wsGE_of_pure _ _ _ hok.1, (e1 _ _).1,
      (e1 _ _).2, and_self]

theorem cSs_static (mod : String) (ss : List Stmt) (env : CEnv) (h : Frag.okSs ss = true) :
    LblInv mod env.lm (cSs mod ss env).2.lm (definedLabels (cSs mod ss env).1) ∧
    (cSs mod ss env).2.scopes.tail = env.scopes.tail ∧ ∀ k, cnt env.vm k ≤ cnt (cSs mod ss env).2.vm k := by
  -- function name, function table and loop stack play no part on the small fragment: any will do
  rw [← (((frag_bridge mod "" (fun _ => none)).2.2 ss h).2.2 [] env).1]
  exact ⟨(cgS_labels mod "" _).2.2.2 [] ss env, (cgSs_envLeT mod "" _ [] ss env).scopes,
    (cgSs_envLeT mod "" _ [] ss env).vm⟩

theorem cB_scopes (mod : String) (b : Block) (env : CEnv) (h : Frag.okB b = true) :
    (cB mod b env).2.scopes = env.scopes := by
  rw [← (((frag_bridge mod "" (fun _ => none)).2.1 b h).2.2 [] env).1]
  exact (cgBS_envLe mod "" _ [] b env).scopes

theorem cB_vm_mono (mod : String) (b : Block) (env : CEnv) (k : String) (h : Frag.okB b = true) :
    cnt env.vm k ≤ cnt (cB mod b env).2.vm k := by
  rw [← (((frag_bridge mod "" (fun _ => none)).2.1 b h).2.2 [] env).1]
  exact (cgBS_envLe mod "" _ [] b env).vm k

theorem cS_vm_mono (mod : String) (st : Stmt) (env : CEnv) (k : String) (h : Frag.okS st = true) :
    cnt env.vm k ≤ cnt (cS mod st env).2.vm k := by
  rw [← (((frag_bridge mod "" (fun _ => none)).1 st h).2.2 [] env).1]
  exact (cgS_envLeT mod "" _ [] st env).vm k

end HmsProofs.Sim
