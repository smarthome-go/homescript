import HmsProofs.Lemmas.VMRun
/-!
Soundness of the bytecode checker `Hms.Core.BcCheck.verify`: the invariant `Inv` ties a VM state to a verified
annotation; `step` preserves it and never answers one of the four excluded panics ("stack underflow", "handler stack
underflow", "memory index", "label at run time") from a state that satisfies it, provided the memory pointer is below
the limit (`hlim`) and dynamic calls conform (`DynOK`).
-/
namespace HmsProofs.Lemmas.VMCheck
open Hms.Core Hms.Core.Comp Hms.Core.VM Hms.Core.BcCheck
open HmsProofs.Lemmas.VMStep HmsProofs.Lemmas.VMRun

theorem lookupFn_cons (cf : CompiledFn) (code : Code) (fa : FnAnn) (A : List FnAnn) (fn : String) :
    lookupFn (cf :: code) (fa :: A) fn =
      if (cf.name == fn) = true then some (cf.code, fa) else lookupFn code A fn := by
  simp only [lookupFn, List.zip_cons_cons, List.find?_cons]
  split <;> simp_all

theorem findCode_cons (cf : CompiledFn) (code : Code) (fn : String) :
    findCode (cf :: code) fn = if (cf.name == fn) = true then some cf.code else findCode code fn := by
  simp only [findCode, List.find?_cons]
  split <;> simp_all

theorem lookupFn_fst (fn : String) : ∀ {code : Code} {A : List FnAnn}, code.length = A.length →
    (lookupFn code A fn).map Prod.fst = findCode code fn
  | [], [], _ => rfl
  | [], _ :: _, h | _ :: _, [], h => by simp at h
  | cf :: code, fa :: A, h => by
    rw [lookupFn_cons, findCode_cons]
    split
    · rfl
    · exact lookupFn_fst fn (by simpa using h)

theorem lookup_findCode {code : Code} {A : List FnAnn} {fn : String} {c : FnCode} {fa : FnAnn}
    (hl : code.length = A.length) (h : lookupFn code A fn = some (c, fa)) : findCode code fn = some c := by
  rw [← lookupFn_fst fn hl, h]; rfl

theorem findCode_lookup : ∀ (code : Code) (A : List FnAnn) (fn : String) (c : FnCode),
    code.length = A.length → findCode code fn = some c → ∃ fa, lookupFn code A fn = some (c, fa)
  | _, _, fn, _, hl, h => by
    rw [← lookupFn_fst fn hl] at h
    obtain ⟨⟨_, fa⟩, h1, rfl⟩ := Option.map_eq_some_iff.1 h
    exact ⟨fa, h1⟩

theorem lookup_mem {code : Code} {A : List FnAnn} {fn : String} {c : FnCode} {fa : FnAnn}
    (h : lookupFn code A fn = some (c, fa)) : ∃ cf, (cf, fa) ∈ code.zip A ∧ cf.code = c ∧ cf.name = fn := by
  obtain ⟨⟨cf, fa'⟩, hf, hg⟩ := Option.map_eq_some_iff.1 h
  cases hg
  exact ⟨cf, List.mem_of_find?_eq_some hf, rfl, by simpa using List.find?_some hf⟩

structure PointOK (code : Code) (A : List FnAnn) (fn : String) (c : FnCode) (fa : FnAnn)
    (ip : Nat) (a : Ann) (i : RInstr) (sp : Span) (pops : Nat) (l : List (Nat × Ann)) : Prop where
  instr : c[ip]? = some (i, sp)
  succ : succs (sigOf code A) fn c fa.results ((fa.dyn.lookup ip).getD 0) ip a i = some (pops, l)
  flow : ∀ x ∈ l, fa.pts[x.1]? = some (some x.2)
  handler : handlerOK fa.pts a pops = true
  entry : handlerEntryOK c a = true

theorem verify_length {code : Code} {A : List FnAnn} (hv : verify code A = true) : code.length = A.length := by
  simp only [verify, Bool.and_eq_true, decide_eq_true_eq] at hv
  exact hv.1

theorem verify_fn {code : Code} {A : List FnAnn} (hv : verify code A = true) {fn : String} {c : FnCode}
    {fa : FnAnn} (hl : lookupFn code A fn = some (c, fa)) :
    fa.pts.length = c.length ∧ fa.pts[0]? = some (some { h := fa.params, off := 0, hs := [] })
      ∧ ∀ ip, ip < c.length → checkAt (sigOf code A) fn c fa ip = true := by
  obtain ⟨cf, hm, rfl, rfl⟩ := lookup_mem hl
  simp only [verify, Bool.and_eq_true, decide_eq_true_eq, List.all_eq_true] at hv
  have := hv.2 (cf, fa) hm
  simp only [checkFn, Bool.and_eq_true, decide_eq_true_eq, List.all_eq_true, List.mem_range] at this
  exact ⟨this.1.1, this.1.2, this.2⟩

theorem verify_point {code : Code} {A : List FnAnn} (hv : verify code A = true) {fn : String} {c : FnCode}
    {fa : FnAnn} (hl : lookupFn code A fn = some (c, fa)) {ip : Nat} {a : Ann}
    (hp : fa.pts[ip]? = some (some a)) :
    ∃ i sp pops l, PointOK code A fn c fa ip a i sp pops l := by
  obtain ⟨hlen, _, hall⟩ := verify_fn hv hl
  have := hall ip (hlen ▸ (List.getElem?_eq_some_iff.mp hp).1)
  simp only [checkAt, hp] at this
  split at this
  · rename_i i sp hi
    split at this
    · rename_i pops l hs
      simp only [Bool.and_eq_true, List.all_eq_true, decide_eq_true_eq] at this
      exact ⟨i, sp, pops, l, hi, hs, this.1.1, this.1.2, this.2⟩
    · cases this
  · cases this

/-- Ghost data of one activation: operand-stack base and memory pointer at function entry. -/
structure Base where
  b : Nat
  mb : Int

/-- A waiting frame resumes after one of these (`InvL`). None is a `copyPush`, so the instruction a `ret`
returns to has no static argument count (`argcAt` looks at the instruction before): `SiteOK` after `ret`. -/
def isCall : RInstr → Bool
  | .callVal | .callImm _ => true
  | _ => false

/-- The handlers an activation of `fn` at call depth `depth` with ghost data `B` has installed:
`setTry` records the call depth, the operand-stack height and the memory pointer. -/
def hmap (fn : String) (depth : Nat) (B : Base) (hs : List (Nat × Nat × Nat)) : List Handler :=
  hs.map fun x => ⟨⟨fn, x.1⟩, depth, B.b + x.2.1, B.mb + (x.2.2 : Int)⟩

/-- Frame-by-frame invariant. `m`, `mp`, `hd`: operand-stack length, memory pointer and handler
stack at the moment the head frame is (again) the running one. For the running frame these are
the current values; for a caller they are what the callee guarantees at its `ret`. `lo` (callers
only): the operand-stack base of the frame above — the stack does not get shorter than that
while the caller waits, in particular not shorter than the heights its handlers recorded. -/
def InvL (code : Code) (A : List FnAnn) :
    Bool → List Frame → List Base → Nat → Int → List Handler → Nat → Prop
  | _, [], [], _, _, hd, _ => hd = []
  | top, f :: rest, B :: bs, m, mp, hd, lo =>
    ∃ c fa a hd', lookupFn code A f.fn = some (c, fa) ∧ fa.pts[f.ip]? = some (some a) ∧
      B.b + a.h = m ∧ 0 ≤ B.mb ∧ mp = B.mb + a.off ∧ hd = hmap f.fn (rest.length + 1) B a.hs ++ hd' ∧
      (top = false → (∃ k i sp, f.ip = k + 1 ∧ c[k]? = some (i, sp) ∧ isCall i = true) ∧ B.b ≤ lo ∧
        (∀ x tl, a.hs = x :: tl → B.b + x.2.1 ≤ lo)) ∧
      InvL code A false rest bs (B.b + fa.results) B.mb hd' B.b
  | _, [], _ :: _, _, _, _, _ => False
  | _, _ :: _, [], _, _, _, _ => False

/-- Where the running instruction takes its argument count from the stack, the top of the stack
is the constant pushed by the instruction before it. -/
def SiteOK (code : Code) (s : VMState) : Prop :=
  ∀ f rest c i sp n, s.calls = f :: rest → findCode code f.fn = some c → c[f.ip]? = some (i, sp) →
    usesArgc i = true → argcAt c f.ip = some n → ∃ o tl, s.stack = ⟨.int (I64.ofInt n), o⟩ :: tl

/-- `bs` are the bases of the activations, top first. -/
def InvB (code : Code) (A : List FnAnn) (s : VMState) (bs : List Base) : Prop :=
  InvL code A true s.calls bs s.stack.length s.mp s.handlers 0 ∧ SiteOK code s

/-- For every frame the operand-stack height, the memory pointer and the installed handlers are the ones recorded
for its instruction index, relative to the activation's base. -/
def Inv (code : Code) (A : List FnAnn) (s : VMState) : Prop := ∃ bs, InvB code A s bs

theorem InvL_top {code : Code} {A : List FnAnn} {fs : List Frame} {bs : List Base}
    {m : Nat} {mp : Int} {hd : List Handler} {lo lo' : Nat} (h : InvL code A false fs bs m mp hd lo) :
    InvL code A true fs bs m mp hd lo' := by
  cases fs with
  | nil => cases bs <;> simp_all [InvL]
  | cons f rest =>
    cases bs with
    | nil => simp [InvL] at h
    | cons B bs =>
      simp only [InvL] at h ⊢
      obtain ⟨c, fa, a, hd', h1, h2, h3, h4, h5, h6, _, h8⟩ := h
      exact ⟨c, fa, a, hd', h1, h2, h3, h4, h5, h6, by simp, h8⟩

theorem InvL_length {code : Code} {A : List FnAnn} :
    ∀ {top : Bool} {fs : List Frame} {bs : List Base} {m : Nat} {mp : Int} {hd : List Handler} {lo : Nat},
      InvL code A top fs bs m mp hd lo → bs.length = fs.length
  | _, [], [], _, _, _, _, _ => rfl
  | _, [], _ :: _, _, _, _, _, h => by simp [InvL] at h
  | _, _ :: _, [], _, _, _, _, h => by simp [InvL] at h
  | top, f :: rest, B :: bs, m, mp, hd, lo, h => by
    simp only [InvL] at h
    obtain ⟨c, fa, a, hd', _, _, _, _, _, _, _, h8⟩ := h
    simp [InvL_length h8]

theorem InvB.length {code : Code} {A : List FnAnn} {s : VMState} {bs : List Base} (h : InvB code A s bs) :
    bs.length = s.calls.length := InvL_length h.1

/-- The unpacked invariant of the running frame. -/
structure Ctx (code : Code) (A : List FnAnn) (s : VMState) (f : Frame)
    (rest : List Frame) (c : FnCode) (fa : FnAnn) (a : Ann) (B : Base) (bs : List Base) (hd' : List Handler) : Prop where
  hv : verify code A = true
  calls : s.calls = f :: rest
  look : lookupFn code A f.fn = some (c, fa)
  pt : fa.pts[f.ip]? = some (some a)
  hh : B.b + a.h = s.stack.length
  mb : 0 ≤ B.mb
  mp : s.mp = B.mb + a.off
  hd : s.handlers = hmap f.fn (rest.length + 1) B a.hs ++ hd'
  below : InvL code A false rest bs (B.b + fa.results) B.mb hd' B.b

section
variable {code : Code} {A : List FnAnn} {s : VMState} {f : Frame}
  {rest : List Frame} {c : FnCode} {fa : FnAnn} {a : Ann} {B : Base} {bs : List Base} {hd' : List Handler}
  {i : RInstr} {sp : Span} {pops : Nat} {l : List (Nat × Ann)} {t : Nat}

theorem Ctx.findCode (cx : Ctx code A s f rest c fa a B bs hd') : findCode code f.fn = some c :=
  lookup_findCode (verify_length cx.hv) cx.look

theorem InvB.unpack {bs0 : List Base} (hv : verify code A = true) (h : InvB code A s bs0)
    (hc : s.calls = f :: rest) :
    ∃ c fa a B bs hd', bs0 = B :: bs ∧ Ctx code A s f rest c fa a B bs hd' := by
  obtain ⟨hl, _⟩ := h
  rw [hc] at hl
  cases bs0 with
  | nil => simp [InvL] at hl
  | cons B bs =>
    simp only [InvL] at hl
    obtain ⟨c, fa, a, hd', h1, h2, h3, h4, h5, h6, _, h8⟩ := hl
    exact ⟨c, fa, a, B, bs, hd', rfl, hv, hc, h1, h2, h3, h4, h5, h6, h8⟩

theorem InvB.instr {bs0 : List Base} (hv : verify code A = true) (h : InvB code A s bs0)
    (hc : s.calls = f :: rest) :
    ∃ c i sp, findCode code f.fn = some c ∧ c[f.ip]? = some (i, sp) := by
  obtain ⟨c, fa, a, B, bs, hd', _, cx⟩ := h.unpack hv hc
  obtain ⟨i, sp, _, _, po⟩ := verify_point hv cx.look cx.pt
  exact ⟨c, i, sp, cx.findCode, po.instr⟩

theorem siteOK_of {s' : VMState} {ip' : Nat}
    (hc : s'.calls = { f with ip := ip' } :: rest) (hf : findCode code f.fn = some c)
    (h : ∀ i sp n, c[ip']? = some (i, sp) → usesArgc i = true → argcAt c ip' = some n →
      ∃ o tl, s'.stack = ⟨.int (I64.ofInt n), o⟩ :: tl) : SiteOK code s' := by
  intro f' rest' c' i sp n hc' hf' hi hu ha
  rw [hc] at hc'; cases hc'
  rw [hf] at hf'; cases hf'
  exact h i sp n hi hu ha

theorem siteOK_entry {s' : VMState} {g : String} {fs : List Frame} (hc : s'.calls = ⟨g, 0⟩ :: fs) :
    SiteOK code s' := by
  intro f' rest' c' i' sp' n hc' _ _ _ hn
  rw [hc] at hc'
  cases hc'
  cases hn

/-- How the list of activation bases changes in one step: one pushed, or some popped (none:
unchanged; one: `ret`; several: unwinding to a handler). `Sound` and `VMSound.IterOK` carry it for
`VMSound.path_bases` alone: while the call depth stays `≥ d` the lowest `d` bases are the same ones,
which is what `balanced` compares. -/
def Rel (bs0 bs' : List Base) : Prop := (∃ Bn, bs' = Bn :: bs0) ∨ (∃ pre, bs0 = pre ++ bs')

/-- A move inside the running activation (`next`, `goto`); `hs` is `SiteOK` at `ip'`. -/
theorem Ctx.intra (cx : Ctx code A s f rest c fa a B bs hd') {s' : VMState} {ip' : Nat} {a' : Ann}
    (hc : s'.calls = { f with ip := ip' } :: rest) (hp : fa.pts[ip']? = some (some a'))
    (hh : B.b + a'.h = s'.stack.length) (hm : s'.mp = B.mb + a'.off)
    (hd : s'.handlers = hmap f.fn (rest.length + 1) B a'.hs ++ hd')
    (hs : ∀ i sp n, c[ip']? = some (i, sp) → usesArgc i = true → argcAt c ip' = some n →
      ∃ o tl, s'.stack = ⟨.int (I64.ofInt n), o⟩ :: tl) :
    ∃ bs', InvB code A s' bs' ∧ Rel (B :: bs) bs' := by
  refine ⟨_, ⟨?_, siteOK_of hc cx.findCode hs⟩, .inr ⟨[], rfl⟩⟩
  rw [hc]
  simp only [InvL]
  exact ⟨c, fa, a', hd', cx.look, hp, hh, cx.mb, hm, hd, by simp, cx.below⟩

/-- `2147483648 = 2^31`: the bound `BcCheck.argcAt` puts on a static argument count (Go reads it back as
`int(numArgs)` at `Opcode_Call_Val`); `site_stack` needs only that it is below `2^64`, to survive the `I64`. -/
theorem argcAt_succ {k n : Nat} (h : argcAt c (k + 1) = some n) :
    ∃ v sp, c[k]? = some (.copyPush (.int v), sp) ∧ 0 ≤ v ∧ v < 2147483648 ∧ n = v.toNat := by
  simp only [argcAt] at h
  split at h
  · rename_i v sp hk
    split at h
    · rename_i hv
      simp only [Option.some.injEq] at h
      exact ⟨v, sp, hk, hv.1, hv.2, h.symm⟩
    · cases h
  · cases h

theorem argcAt_zero (c : FnCode) : argcAt c 0 = none := rfl

theorem argcAt_lt {ip n : Nat} (h : argcAt c ip = some n) : n < 2147483648 := by
  cases ip with
  | zero => simp [argcAt_zero] at h
  | succ k =>
    obtain ⟨v, _, _, h0, h1, rfl⟩ := argcAt_succ h
    omega

theorem succs_site {sig : String → Option (Nat × Nat)} {fn : String} {results r ip : Nat} (hu : usesArgc i = true)
    (h : succs sig fn c results r ip a i = some (pops, l)) : isTarget c ip = false := by
  cases i <;> simp only [usesArgc, Bool.false_eq_true] at hu
  all_goals
    simp only [succs] at h
    split at h
    · split at h
      · rename_i hh; exact hh.2
      · cases h
    · cases h

theorem succs_simple {sig : String → Option (Nat × Nat)} {fn : String} {results r ip p q : Nat} (hse : simpleEff i = some (p, q)) :
    succs sig fn c results r ip a i =
      if p ≤ a.h then some (p, [(ip + 1, { a with h := a.h - p + q })]) else none := by
  cases i <;> cases hse <;> rfl

theorem handler_region (hh : handlerOK fa.pts a pops = true) :
    ∀ x tl, a.hs = x :: tl → x.2.1 + pops ≤ a.h := by
  intro x tl hx
  obtain ⟨l', H, o⟩ := x
  simp only [handlerOK, hx, Bool.and_eq_true, decide_eq_true_eq] at hh
  exact hh.2

/-- Entering the innermost handler of an activation at its catch label re-establishes the invariant: this is what
`handlerOK` and `handlerEntryOK` were checked for. -/
theorem enter_handler (hv : verify code A = true) (hlk : lookupFn code A f.fn = some (c, fa)) (hh : handlerOK fa.pts a pops = true)
    (hen : handlerEntryOK c a = true) (hmb : 0 ≤ B.mb)
    (hbelow : InvL code A false rest bs (B.b + fa.results) B.mb hd' B.b)
    {l H o : Nat} {tl : List (Nat × Nat × Nat)} (hhs : a.hs = (l, H, o) :: tl) {s'' : VMState}
    (hc : s''.calls = ⟨f.fn, l⟩ :: rest) (hlen : s''.stack.length = B.b + H + 1) (hmp : s''.mp = B.mb + (o : Int))
    (hhd : s''.handlers = hmap f.fn (rest.length + 1) B a.hs ++ hd') : InvB code A s'' (B :: bs) := by
  simp only [handlerOK, hhs, Bool.and_eq_true, decide_eq_true_eq] at hh
  simp only [handlerEntryOK, hhs] at hen
  refine ⟨?_, siteOK_of (f := f) (ip' := l) hc (lookup_findCode (verify_length hv) hlk) ?_⟩
  · rw [hc]
    simp only [InvL]
    exact ⟨c, fa, _, hd', hlk, hh.1, by simp only; omega, hmb, hmp, by rw [hhd, hhs], by simp, hbelow⟩
  · intro i' sp' n hi' hu _
    rw [hi'] at hen
    simp only [Bool.not_eq_true'] at hen
    rw [hen] at hu; cases hu

/-- If the handler stack that the callers guarantee is non-empty, its top entry belongs to one of
them; unwinding to that caller and entering its catch label re-establishes the invariant. -/
theorem InvL.handler_target (hv : verify code A = true) :
    ∀ {fs : List Frame} {bs : List Base} {m : Nat} {mp : Int} {hd : List Handler} {lo : Nat}
      {hd0 : Handler} {hrest : List Handler},
      InvL code A false fs bs m mp hd lo → hd = hd0 :: hrest →
      ∃ pre fk restk prebs Bk bsk, fs = pre ++ fk :: restk ∧ bs = prebs ++ Bk :: bsk
        ∧ hd0.callDepth = restk.length + 1 ∧ hd0.stackHeight ≤ lo ∧
        ∀ s'' : VMState, s''.calls = hd0.target :: restk → s''.stack.length = hd0.stackHeight + 1 →
          s''.mp = hd0.mp → s''.handlers = hd → InvB code A s'' (Bk :: bsk)
  | [], [], _, _, hd, _, hd0, hrest, h, he => by
    simp only [InvL] at h
    rw [h] at he; cases he
  | [], _ :: _, _, _, _, _, _, _, h, _ => by simp [InvL] at h
  | _ :: _, [], _, _, _, _, _, _, h, _ => by simp [InvL] at h
  | f :: rest, B :: bs, m, mp, hd, lo, hd0, hrest, h, he => by
    simp only [InvL] at h
    obtain ⟨c, fa, a, hd', hlk, hpt, hm, hmb, hmp, hhd, hlow, hbelow⟩ := h
    obtain ⟨_, hlo1, hlo2⟩ := hlow trivial
    cases hhs : a.hs with
    | nil =>
      rw [hhs] at hhd
      obtain ⟨pre, fk, restk, prebs, Bk, bsk, e1, e2, e4, e5, e6⟩ :=
        InvL.handler_target hv hbelow (hhd.symm.trans he)
      exact ⟨f :: pre, fk, restk, B :: prebs, Bk, bsk, by rw [e1]; rfl, by rw [e2]; rfl, e4,
        by omega, fun s'' h1 h2 h3 h4 => e6 s'' h1 h2 h3 (h4.trans hhd)⟩
    | cons lh tl =>
      obtain ⟨l, H, o⟩ := lh
      have hlo := hlo2 _ _ hhs
      rw [hhd, hhs] at he
      cases he
      obtain ⟨i, sp, pops, l', po⟩ := verify_point hv hlk hpt
      exact ⟨[], f, rest, [], B, bs, rfl, rfl, rfl, hlo, fun s'' hc hlen hmp' hhd' =>
        enter_handler hv hlk po.handler po.entry hmb hbelow hhs hc hlen hmp' (hhd'.trans hhd)⟩

/-- Either no handler is installed at all (the run ends with `UncaughtThrow`), or a handler starts, and then the
invariant holds in the state in which it starts. -/
def DispatchOK (code : Code) (A : List FnAnn) (bs0 : List Base) (s' : VMState) (msg : String) (tsp : Span) : Prop :=
  (s'.handlers = [] ∨ ∃ s'', throwTo s' msg tsp = .cont s'')
    ∧ ∀ s'', throwTo s' msg tsp = .cont s'' → ∃ bs', InvB code A s'' bs' ∧ Rel bs0 bs'

/-- Exception dispatch from the running instruction: the handler is the innermost one of the
innermost activation that has one. -/
theorem Ctx.dispatch {code : Code} {A : List FnAnn} {s : VMState} {f : Frame}
    {rest : List Frame} {c : FnCode} {fa : FnAnn} {a : Ann} {B : Base} {bs : List Base} {hd' : List Handler}
    (cx : Ctx code A s f rest c fa a B bs hd') {pops : Nat}
    (hh : handlerOK fa.pts a pops = true) (he : handlerEntryOK c a = true) (hpops : pops ≤ a.h)
    {s' : VMState} (hk1 : s'.handlers = s.handlers)
    (hcalls : s'.calls = s.calls ∨ s'.calls = advCalls s.calls)
    (hlen : s.stack.length ≤ s'.stack.length + pops)
    (msg : String) (tsp : Span) : DispatchOK code A (B :: bs) s' msg tsp := by
  have htop : ∃ ip0, s'.calls = { f with ip := ip0 } :: rest := by
    rcases hcalls with h | h
    · exact ⟨f.ip, by rw [h, cx.calls]⟩
    · exact ⟨f.ip + 1, by rw [h, cx.calls]; rfl⟩
  obtain ⟨ip0, htop⟩ := htop
  have hle := cx.hh
  cases hhs : a.hs with
  | nil =>
    have hhd1 : s'.handlers = hd' := by rw [hk1, cx.hd, hhs]; rfl
    cases hhd2 : hd' with
    | nil =>
      rw [hhd2] at hhd1
      exact ⟨Or.inl hhd1, fun s'' ht => by rw [throwTo_nil msg tsp hhd1] at ht; cases ht⟩
    | cons hd0 hrest =>
      -- the innermost handler is one of a caller
      obtain ⟨pre, fk, restk, prebs, Bk, bsk, e1, e2, e4, e5, e6⟩ := InvL.handler_target cx.hv cx.below hhd2
      have hdrop : s'.calls.drop (s'.calls.length - hd0.callDepth) = fk :: restk := by
        rw [htop, e1, e4]
        have : (({ f with ip := ip0 } : Frame) :: (pre ++ fk :: restk)).length - (restk.length + 1) = pre.length + 1 := by
          simp; omega
        rw [this]
        simp only [List.drop_succ_cons, List.drop_left]
      obtain ⟨ob, st', e⟩ := throwTo_handler msg tsp (hhd1.trans hhd2) hdrop
      refine ⟨Or.inr ⟨_, e⟩, fun s'' ht => ?_⟩
      rw [e] at ht; cases ht
      refine ⟨Bk :: bsk, e6 _ rfl ?_ rfl hhd1, Or.inr ⟨B :: prebs, by rw [e2]; rfl⟩⟩
      simp only [push1_stack, List.length_cons, List.length_drop]
      omega
  | cons lh tl =>
    -- the innermost handler is one of the running activation
    obtain ⟨l, H, o⟩ := lh
    have hH : H + pops ≤ a.h := handler_region hh _ _ hhs
    have hhd : s'.handlers = ⟨⟨f.fn, l⟩, rest.length + 1, B.b + H, B.mb + (o : Int)⟩
        :: (hmap f.fn (rest.length + 1) B tl ++ hd') := by rw [hk1, cx.hd, hhs]; rfl
    have hdrop : s'.calls.drop (s'.calls.length - (rest.length + 1)) = { f with ip := ip0 } :: rest := by
      rw [htop]; simp
    obtain ⟨ob, st', e⟩ := throwTo_handler msg tsp hhd hdrop
    refine ⟨Or.inr ⟨_, e⟩, fun s'' ht => ⟨B :: bs, ?_, Or.inr ⟨[], rfl⟩⟩⟩
    rw [e] at ht; cases ht
    exact enter_handler cx.hv cx.look hh he cx.mb cx.below hhs rfl
      (by simp only [push1_stack, List.length_cons, List.length_drop]; omega) rfl (hk1.trans cx.hd)

/-- Of one answer of `step`: a normal step re-establishes the invariant; a throw is dispatched as `DispatchOK` says; a
panic is none of the four excluded ones. -/
def Sound (code : Code) (A : List FnAnn) (bs0 : List Base) : StepRes → Prop :=
  Answer (fun s' => ∃ bs', InvB code A s' bs' ∧ Rel bs0 bs')
    (fun x s' => ∀ msg tsp, x = .throw msg tsp → DispatchOK code A bs0 s' msg tsp)
    (Benign False)

theorem Sound.panic {bs0 : List Base} {why : String} {st : VMState}
    (h : Benign False why := by simp [Benign]) : Sound code A bs0 (.panic why st) := h

/-- The dynamic hypothesis for `callVal`: a function value that is called is a checked function with the arity and
the result count the call site was checked for; a builtin or bound member leaves a result exactly if the call site
expects one. These are facts of the type discipline of the source language, which a height checker cannot see. -/
def DynOK (code : Code) (A : List FnAnn) (lim : Limits) (s : VMState) : Prop :=
  ∀ f rest c fa sp argc o g o' tl, s.calls = f :: rest → lookupFn code A f.fn = some (c, fa) →
    c[f.ip]? = some (.callVal, sp) → s.stack = ⟨.int argc, o⟩ :: ⟨g, o'⟩ :: tl →
    (∀ m name, g = .fn m name → ∃ cg fg, lookupFn code A name = some (cg, fg) ∧ fg.params = argc.toNat
        ∧ fg.results = (fa.dyn.lookup f.ip).getD 0)
    ∧ (((∃ nm, g = .builtin nm) ∨ (∃ rv nm, g = .bound rv nm)) → ∀ s', step code lim s .callVal sp = .next s' →
        s'.stack.length + argc.toNat = tl.length + (fa.dyn.lookup f.ip).getD 0)

/-- The only way to fall through onto a dynamic-count instruction is from its `copyPush`, which has
just pushed the count. -/
theorem site_next {lim : Limits} {s' : VMState} (hi : c[f.ip]? = some (i, sp))
    (hst : step code lim s i sp = .next s') :
    ∀ i' sp' n, c[f.ip + 1]? = some (i', sp') → usesArgc i' = true → argcAt c (f.ip + 1) = some n →
      ∃ o tl, s'.stack = ⟨.int (I64.ofInt n), o⟩ :: tl := by
  intro i' sp' n _ _ hn
  obtain ⟨v, spv, hk, hv0, _, rfl⟩ := argcAt_succ hn
  rw [hi] at hk; cases hk
  rw [step_copyPush_int] at hst; cases hst
  exact ⟨none, s.stack, by simp [Int.toNat_of_nonneg hv0]⟩

theorem sigOf_some {g : String} {p q : Nat} (h : sigOf code A g = some (p, q)) :
    ∃ cg fg, lookupFn code A g = some (cg, fg) ∧ fg.params = p ∧ fg.results = q := by
  simp only [sigOf, Option.map_eq_some_iff] at h
  obtain ⟨⟨cg, fg⟩, h1, h2⟩ := h
  simp only [Prod.mk.injEq] at h2
  exact ⟨cg, fg, h1, h2.1, h2.2⟩

section
variable (cx : Ctx code A s f rest c fa a B bs hd')
include cx

theorem Ctx.adv :
    advCalls s.calls = { f with ip := f.ip + 1 } :: rest := by
  rw [cx.calls]; rfl

theorem Ctx.next {a' : Ann}
    (po : PointOK code A f.fn c fa f.ip a i sp pops l) (hl : (f.ip + 1, a') ∈ l) {lim : Limits} {s' : VMState}
    (hst : step code lim s i sp = .next s') (hc : s'.calls = advCalls s.calls)
    (hh : B.b + a'.h = s'.stack.length) (hm : s'.mp = B.mb + a'.off)
    (hd : s'.handlers = hmap f.fn (rest.length + 1) B a'.hs ++ hd') :
    ∃ bs', InvB code A s' bs' ∧ Rel (B :: bs) bs' :=
  cx.intra (by rw [hc, cx.adv]) (po.flow _ hl) hh hm hd (site_next po.instr hst)

/-- A jump target that carries an annotation is not a dynamic-count instruction. -/
theorem Ctx.goto (po : PointOK code A f.fn c fa f.ip a i sp pops l)
    (hj : i = .jump t ∨ i = .jumpIfFalse t) {a' : Ann} (hl : (t, a') ∈ l) {s' : VMState}
    (hc : s'.calls = { f with ip := t } :: rest) (hh : B.b + a'.h = s'.stack.length)
    (hm : s'.mp = B.mb + a'.off) (hd : s'.handlers = hmap f.fn (rest.length + 1) B a'.hs ++ hd') :
    ∃ bs', InvB code A s' bs' ∧ Rel (B :: bs) bs' := by
  have hp := po.flow _ hl
  refine cx.intra hc hp hh hm hd fun i' sp' n hi' hu _ => ?_
  obtain ⟨i'', sp'', _, _, po'⟩ := verify_point cx.hv cx.look hp
  have := po'.instr
  rw [hi'] at this; cases this
  have h1 : isTarget c t = true :=
    List.any_eq_true.2 ⟨(i, sp), List.mem_of_getElem? po.instr, by rcases hj with rfl | rfl <;> simp⟩
  have h2 := succs_site hu po'.succ
  rw [h1] at h2; cases h2

theorem Ctx.fallthrough {lim : Limits} {q : Nat}
    (po : PointOK code A f.fn c fa f.ip a i sp pops [(f.ip + 1, { a with h := a.h - pops + q })])
    (hp : pops ≤ a.h) (hr : SimpleSpec s pops q (step code lim s i sp)) :
    Sound code A (B :: bs) (step code lim s i sp) := by
  have hle := cx.hh
  refine hr.mono_of_eq ?_ ?_ ?_
  · rintro s' hst ⟨h2, h3, h4, h5, h6⟩
    exact cx.next po (.head _) hst h3 (by simp only; omega) (by rw [h5, cx.mp]) (by rw [h4, cx.hd])
  · rintro x s' _ ⟨_, h2, _, h4, h5, _⟩ msg tsp _
    exact cx.dispatch po.handler po.entry hp h5 (Or.inl h4) h2 msg tsp
  · exact fun _ _ _ h => h.mono fun hl => by omega

/-- Entering `g` pushes the base `⟨B.b + a.h - pops, s.mp⟩` and turns the running frame into a waiting one
at the successor of the call. `po` … `hd` are the checker's side: the site removes `pops = d + fg.params`
operands, `d` of them before the callee starts (0 for `callImm`; 2, count and function value, for
`callVal`). `hc` … `hh` are what the step did. -/
theorem Ctx.call {q : Nat}
    (po : PointOK code A f.fn c fa f.ip a i sp pops [(f.ip + 1, { a with h := a.h - pops + q })])
    (hcall : isCall i = true) {g : String} {cg : FnCode} {fg : FnAnn}
    (hg : lookupFn code A g = some (cg, fg)) (hq : fg.results = q) {d : Nat} (hpops : pops = d + fg.params)
    (hd : pops ≤ a.h) {s' : VMState} (hc : s'.calls = ⟨g, 0⟩ :: { f with ip := f.ip + 1 } :: rest)
    (hlen : s'.stack.length + d = s.stack.length) (hmp : s'.mp = s.mp) (hh : s'.handlers = s.handlers) :
    ∃ bs', InvB code A s' bs' ∧ Rel (B :: bs) bs' := by
  obtain ⟨_, hentry, _⟩ := verify_fn cx.hv hg
  have hle := cx.hh
  have hmb := cx.mb
  have hmpe := cx.mp
  refine ⟨⟨B.b + a.h - pops, s.mp⟩ :: B :: bs, ⟨?_, ?_⟩, Or.inl ⟨_, rfl⟩⟩
  · rw [hc]
    simp only [InvL]
    refine ⟨cg, fg, _, s.handlers, hg, hentry, by simp only; omega, by omega,
      by simp [hmp], by simp [hmap, hh], by simp, ?_⟩
    refine ⟨c, fa, _, hd', cx.look, po.flow _ (.head _), by simp only; omega, cx.mb, cx.mp, cx.hd, ?_, cx.below⟩
    intro _
    refine ⟨⟨f.ip, i, sp, rfl, po.instr, hcall⟩, by omega, ?_⟩
    intro x tl hx
    have := handler_region po.handler x tl hx
    omega
  · exact siteOK_entry hc

theorem site_stack (hsite : SiteOK code s)
    (hi : c[f.ip]? = some (i, sp)) (hu : usesArgc i = true) {n : Nat} (hn : argcAt c f.ip = some n) :
    ∃ o tl, s.stack = ⟨.int (I64.ofInt n), o⟩ :: tl ∧ (I64.ofInt (n : Int)).toNat = n :=
  let ⟨o, tl, h⟩ := hsite f rest c i sp n cx.calls (cx.findCode) hi hu hn
  ⟨o, tl, h, ofInt_toNat n (Nat.lt_trans (argcAt_lt hn) (by decide))⟩

end

/-- Soundness of `verify` for one instruction: from a state that satisfies the invariant with bases `bs0`, `step` on
the running instruction answers as `Sound` says. -/
theorem step_sound (hv : verify code A = true) {bs0 : List Base} (hinv : InvB code A s bs0)
    (hc : s.calls = f :: rest) (hf : findCode code f.fn = some c) (hi : c[f.ip]? = some (i, sp))
    (lim : Limits) (hlim : s.mp < (lim.memory : Int)) (hdyn : DynOK code A lim s) :
    Sound code A bs0 (step code lim s i sp) := by
  obtain ⟨c', fa, a, B, bs, hd', rfl, cx⟩ := hinv.unpack hv hc
  have hc' := cx.findCode
  rw [hf] at hc'; cases hc'
  obtain ⟨i', sp', pops, l, po⟩ := verify_point hv cx.look cx.pt
  have := po.instr
  rw [hi] at this; cases this
  have hsite := hinv.2
  -- what the annotation says of the running frame: `omega` compares it with what the instruction did
  -- (with `hlim`, for the upper bound of a slot index in `getVar` and `setVar`)
  have hle := cx.hh
  have hmp := cx.mp
  have hmb := cx.mb
  have hsucc := po.succ
  revert hsucc
  -- by the cases of the checker's successor function: where it answers, `pops` and `l` are what it says
  fun_cases succs (sigOf code A) f.fn c fa.results ((fa.dyn.lookup f.ip).getD 0) f.ip a i with
  | case1 | case4 | case6 | case8 | case10 | case11 | case13 | case14 | case16 | case17 | case19 | case20
  | case22 | case24 | case26 | case28 | case30 | case32 | case33 => nofun
  | case2 t =>
    rintro ⟨⟩
    rw [step_jump cx.calls]
    exact cx.goto po (.inl rfl) (.head _) rfl cx.hh cx.mp cx.hd
  | case3 t hp =>
    rintro ⟨⟩
    rcases step_jumpIfFalse code lim s t sp with ⟨hs, _⟩ | ⟨x, tl, hs, h⟩
    · rw [hs] at hle; simp at hle; omega
    · refine h.mono_of_eq ?_ (fun _ _ _ h => h.elim) fun _ _ _ h => h
      rintro s' hst ⟨h1, ⟨h2, h3, h4⟩, h5⟩
      rw [hs] at hle
      have hc : B.b + (a.h - 1) = s'.stack.length := by rw [h1]; simp at hle; omega
      rcases h5 with h5 | ⟨f', fr, h5, h6⟩
      · exact cx.next po (.head _) hst h5 hc (by rw [h3, cx.mp]) (by rw [h2, cx.hd])
      · rw [cx.calls] at h5
        cases h5
        exact cx.goto po (.inr rfl) (.tail _ (.head _)) h6 hc (by rw [h3, cx.mp]) (by rw [h2, cx.hd])
  | case5 k hk =>
    rintro ⟨⟩
    rcases step_getVar code lim s k sp with ⟨h1, _⟩ | ⟨_, ⟨v, _, h2⟩ | ⟨_, h2⟩⟩
    · exact absurd ⟨by omega, by omega⟩ h1
    · rw [h2]
      exact cx.next po (.head _) h2 (by simp) (by simp; omega) (by simp [cx.mp]) (by simp [cx.hd])
    · rw [h2]; exact .panic
  | case7 k hk =>
    rintro ⟨⟩
    rcases step_setVar code lim s k sp with ⟨hs, _⟩ | ⟨x, tl, hs, ⟨h1, _⟩ | ⟨_, h2⟩⟩
    · rw [hs] at hle; simp at hle; omega
    · exact absurd ⟨by omega, by omega⟩ h1
    · rw [h2]
      refine cx.next po (.head _) h2 (by simp [memSet]) ?_ (by simp [memSet, cx.mp]) (by simp [memSet, cx.hd])
      rw [hs] at hle; simp at hle
      simp [memSet]; omega
  | case9 g p q hsig hp =>
    rintro ⟨⟩
    obtain ⟨cg, fg, hg, rfl, rfl⟩ := sigOf_some hsig
    rw [step_callImm]
    exact cx.call po rfl hg rfl (d := 0) (by omega) hp (by simp [cx.adv]) (by simp) (by simp) (by simp)
  | case12 n hn hp =>
    rintro ⟨⟩
    obtain ⟨o, tl0, hs, hargc⟩ := site_stack cx hsite po.instr rfl hn
    rcases step_callVal code lim s sp with ⟨argc, o1, m, name, o', tl, hs', h⟩ | ⟨argc, o1, g, o', tl, hs', hg, q, _, h⟩ | ⟨_, h⟩ | ⟨_, h⟩
    · rw [hs] at hs'; cases hs'
      obtain ⟨cg, fg, hg, hpar, hres⟩ := (hdyn f rest c fa sp _ o _ o' tl cx.calls cx.look po.instr hs).1 m name rfl
      rw [hargc] at hpar
      rw [h]
      exact cx.call po rfl hg hres (d := 2) (by omega) hp.1 (by simp [cx.adv]) (by simp [hs]) (by simp) (by simp)
    · rw [hs] at hs'; cases hs'
      have hdbi := (hdyn f rest c fa sp _ o g o' tl cx.calls cx.look po.instr hs).2 hg
      rw [hargc] at hdbi h
      -- the number of results is the one the site was checked for
      refine cx.fallthrough po hp.1 (h.simple.mono_of_eq ?_ (fun _ _ _ h => h) (fun _ _ _ h => h))
      rintro s' hst ⟨_, h3⟩
      have := hdbi s' hst
      exact ⟨by rw [hs]; simp only [List.length_cons]; omega, h3⟩
    · rw [h]; exact .panic
    · rw [h]; exact .panic
  | case15 name n hn hp =>
    rintro ⟨⟩
    obtain ⟨o, tl, hs, hargc⟩ := site_stack cx hsite po.instr rfl hn
    rcases step_hostCall code lim s name sp with ⟨argc, o', tl', hs', h⟩ | ⟨_, h⟩
    · rw [hs] at hs'; cases hs'
      rw [hargc] at h
      exact cx.fallthrough po hp.1 h.simple
    · rw [h]; exact .panic
  | case18 => exact fun _ => .panic
  | case21 h =>
    rintro ⟨⟩
    obtain ⟨h1, h2, h3⟩ := h
    rw [step_ret]
    have hcalls : ({ s with calls := s.calls.tail } : VMState).calls = rest := by simp [cx.calls]
    have hhd : s.handlers = hd' := by rw [cx.hd, h3]; simp [hmap]
    have hmp : s.mp = B.mb := by rw [cx.mp, h2]; simp
    have hb : InvL code A false rest bs s.stack.length s.mp s.handlers B.b := by
      rw [hhd, hmp, ← cx.hh, h1]
      exact cx.below
    refine ⟨bs, ⟨by rw [hcalls]; exact InvL_top hb, ?_⟩, Or.inr ⟨[B], rfl⟩⟩
    -- the caller resumes right after a call instruction, which is not a `copyPush`
    intro g rest' cg i' sp' n hc' hf' hi' hu hn
    rw [hcalls] at hc'
    subst hc'
    cases bs with
    | nil => simp [InvL] at hb
    | cons Bg bs' =>
      simp only [InvL] at hb
      obtain ⟨cg', fg, ag, _, hlk, _, _, _, _, _, hret, _⟩ := hb
      obtain ⟨⟨k, ik, spk, hk1, hk2, hk3⟩, _⟩ := hret trivial
      have := lookup_findCode (verify_length cx.hv) hlk
      rw [hf'] at this; cases this
      rw [hk1] at hn
      obtain ⟨v, _, hk', _⟩ := argcAt_succ hn
      rw [hk2] at hk'; cases hk'; cases hk3
  | case23 t =>
    rintro ⟨⟩
    exact cx.next po (.head _) (step_setTry code lim s f.fn t sp) (by simp) (by simpa using cx.hh) (by simp [cx.mp])
      (by simp [hmap, cx.hd, cx.calls, cx.hh, cx.mp])
  | case25 lh hs' hhs =>
    rintro ⟨⟩
    have hh : s.handlers = ⟨⟨f.fn, lh.1⟩, rest.length + 1, B.b + lh.2.1, B.mb + (lh.2.2 : Int)⟩
        :: (hmap f.fn (rest.length + 1) B hs' ++ hd') := by
      rw [cx.hd, hhs]; simp [hmap]
    rw [step_popTry hh]
    exact cx.next po (.head _) (step_popTry (lim := lim) hh) (by simp) (by simpa using cx.hh) (by simp [cx.mp]) (by simp)
  | case27 hp =>
    rintro ⟨⟩
    rcases step_throw code lim s sp with ⟨hs, _⟩ | ⟨x, tl, hs, h⟩
    · rw [hs] at hle; simp at hle; omega
    · refine h.mono (fun _ h => h.elim) ?_ fun _ h => h
      rintro x' s' ⟨h1, ⟨h2, _, _⟩, h5⟩ msg tsp _
      exact cx.dispatch po.handler po.entry hp h2 h5.symm (by rw [h1, hs]; exact Nat.le_refl _) msg tsp
  | case29 n hn =>
    rintro ⟨⟩
    rcases step_addMp code lim s n sp with ⟨_, h2⟩ | ⟨_, msg, h2⟩
    · rw [h2]
      refine cx.next po (.head _) h2 (by simp) (by simpa using cx.hh) ?_ (by simp [cx.hd])
      simp only [advance_mp]
      rw [cx.mp, Int.toNat_of_nonneg hn]; omega
    · rw [h2]
      intro msg' tsp h; cases h
  | case31 =>
    rintro ⟨⟩
    exact cx.fallthrough po ‹_ ≤ a.h› (simple_spec code lim s i sp _ _ ‹_›)

end

end HmsProofs.Lemmas.VMCheck
