import Hms.Core.VM
/-!
The two loops of `Core.Run`, read off the model once: `iter` is one round of the inner loop as a function of its
own (fetch, count the step, `VM.step`, the exception dispatch `throwTo`), `runQuantum_succ` says that `runQuantum`
iterates it, and `run_nil`, `run_cancelled`, `run_exceeds`, `run_pass` read the poll at the head of the outer one,
so that what builds on them (`VMRun`, `VMSound`, `SimHExecH`) does not unfold `runQuantum` or `run` again. The
namespace is that of the module `VMRun`, which continues this one.
-/
namespace HmsProofs.Lemmas.VMRun
open Hms.Core Hms.Core.VM

variable {code : Code} {lim : Limits} {q : Nat} {ca : Option Nat} {fuel : Nat} {s s' : VMState}

/-- Here because this module is the common import of `VMCheck` and `SimHMach`, which use it on argument counts. -/
theorem ofInt_toNat (n : Nat) (h : n < 2 ^ 64) : (I64.ofInt (n : Int)).toNat = n := by
  simp only [I64.ofInt, BitVec.toNat_ofInt]
  omega

inductive IterRes where
  | cont (s : VMState)
  | back (s : VMState)      -- back to the poll (the frame fell off its end)
  | done (o : VM.Outcome)

/-- The exception dispatch of `Core.Run`: the state in which the handler starts. -/
def throwTo (s' : VMState) (msg : String) (tsp : Span) : IterRes :=
  match s'.handlers with
  | [] => .done (.fatal "UncaughtThrow" msg tsp s')
  | h :: _ =>
    match s'.calls.drop (s'.calls.length - h.callDepth) with
    | [] => .done (.panic "no frame for the handler" s')
    | _ :: below =>
      let (obj, st') := (alloc (.obj [("message", .str msg), ("line", .int (I64.ofInt tsp.sl)),
          ("column", .int (I64.ofInt tsp.sc)), ("filename", .str "main")])) s'.st
      match obj with
      | .ok o => .cont (push1 { s' with calls := h.target :: below, stack := s'.stack.drop (s'.stack.length - h.stackHeight), mp := h.mp, st := st' } o)
      | .error _ => .done (.panic "alloc" s')

def iter (code : Code) (lim : Limits) (s : VMState) : IterRes :=
  match s.calls with
  | [] => .done (.ok s)
  | f :: rest =>
    match findCode code f.fn with
    | none => .done (.panic "non-existent routine" s)
    | some c =>
      if c.isEmpty then .done (.panic "non-existent routine" s)
      else
        match c[f.ip]? with
        | none => .back { s with calls := rest }
        | some (i, sp) =>
          match step code lim { s with steps := s.steps + 1 } i sp with
          | .next s' => .cont s'
          | .panic why s' => .done (.panic why s')
          | .intr (.throw msg tsp) s' => throwTo s' msg tsp
          | .intr (.fatal k msg fsp) s' => .done (.fatal k msg fsp s')
          | .intr .term s' => .done (.term s')

theorem runQuantum_zero (code : Code) (lim : Limits) (s : VMState) : runQuantum code lim 0 s = .inl s := rfl

theorem runQuantum_succ (code : Code) (lim : Limits) (n : Nat) (s : VMState) :
    runQuantum code lim (n + 1) s =
      match iter code lim s with
      | .cont s' => runQuantum code lim n s'
      | .back s' => .inl s'
      | .done o => .inr o := by
  rw [runQuantum]; unfold iter throwTo
  cases s.calls with
  | nil => rfl
  | cons f rest =>
    dsimp only
    cases findCode code f.fn with
    | none => rfl
    | some c =>
      dsimp only
      cases c.isEmpty with
      | true => rfl
      | false =>
        simp only [Bool.false_eq_true, if_false]
        cases c[f.ip]? with
        | none => rfl
        | some isp =>
          dsimp only
          generalize step code lim _ isp.1 isp.2 = r
          cases r with
          | next s' => rfl
          | panic why s' => rfl
          | intr x s' =>
            cases x with
            | fatal k msg fsp => rfl
            | term => rfl
            | throw msg tsp =>
              dsimp only
              cases s'.handlers with
              | nil => rfl
              | cons h hrest =>
                dsimp only
                generalize List.drop _ s'.calls = cs
                cases cs with
                | nil => rfl
                | cons c0 below =>
                  dsimp only
                  generalize alloc _ s'.st = r
                  cases r with | mk obj st' => cases obj <;> rfl

theorem throwTo_cont {s'' : VMState} {msg : String} {tsp : Span} (h : throwTo s' msg tsp = .cont s'') :
    ∃ hd hrest c0 below o st', s'.handlers = hd :: hrest ∧
      s'.calls.drop (s'.calls.length - hd.callDepth) = c0 :: below ∧
      s'' = push1 { s' with calls := hd.target :: below, stack := s'.stack.drop (s'.stack.length - hd.stackHeight), mp := hd.mp, st := st' } o := by
  unfold throwTo at h
  cases hh : s'.handlers with
  | nil => rw [hh] at h; cases h
  | cons hd hrest =>
    rw [hh] at h
    cases hc : s'.calls.drop (s'.calls.length - hd.callDepth) with
    | nil => simp only [hc] at h; cases h
    | cons c0 below => simp only [hc] at h; cases h; exact ⟨hd, hrest, c0, below, _, _, rfl, hc, rfl⟩

theorem throwTo_nil (msg : String) (tsp : Span) (hh : s'.handlers = []) :
    throwTo s' msg tsp = .done (.fatal "UncaughtThrow" msg tsp s') := by
  unfold throwTo; rw [hh]

theorem throwTo_handler (msg : String) (tsp : Span) {hd : Handler} {hrest : List Handler}
    {c0 : Frame} {below : List Frame} (hh : s'.handlers = hd :: hrest)
    (hc : s'.calls.drop (s'.calls.length - hd.callDepth) = c0 :: below) :
    ∃ o st', throwTo s' msg tsp =
      .cont (push1 { s' with calls := hd.target :: below, stack := s'.stack.drop (s'.stack.length - hd.stackHeight), mp := hd.mp, st := st' } o) := by
  unfold throwTo
  simp only [hh, hc]
  exact ⟨_, _, rfl⟩

theorem throwTo_not_back {s'' : VMState} {msg : String} {tsp : Span} : throwTo s' msg tsp ≠ .back s'' := by
  unfold throwTo
  cases s'.handlers with
  | nil => nofun
  | cons h _ =>
    dsimp only
    cases List.drop _ s'.calls with
    | nil => nofun
    | cons _ below => nofun

theorem iter_cases (code : Code) (lim : Limits) (s : VMState) :
    (s.calls = [] ∧ iter code lim s = .done (.ok s))
    ∨ (∃ f rest, s.calls = f :: rest ∧
        ((findCode code f.fn = none ∨ findCode code f.fn = some []) ∧ iter code lim s = .done (.panic "non-existent routine" s)
        ∨ ∃ c, findCode code f.fn = some c ∧ c ≠ [] ∧
            ((c[f.ip]? = none ∧ iter code lim s = .back { s with calls := rest })
            ∨ ∃ i sp, c[f.ip]? = some (i, sp) ∧
                iter code lim s = match step code lim { s with steps := s.steps + 1 } i sp with
                  | .next s' => .cont s'
                  | .panic why s' => .done (.panic why s')
                  | .intr (.throw msg tsp) s' => throwTo s' msg tsp
                  | .intr (.fatal k msg fsp) s' => .done (.fatal k msg fsp s')
                  | .intr .term s' => .done (.term s')))) := by
  cases hc : s.calls with
  | nil => left; exact ⟨rfl, by simp [iter, hc]⟩
  | cons f rest =>
    right
    refine ⟨f, rest, rfl, ?_⟩
    cases hf : findCode code f.fn with
    | none => left; exact ⟨Or.inl rfl, by simp [iter, hc, hf]⟩
    | some c =>
      cases c with
      | nil => left; exact ⟨Or.inr rfl, by simp [iter, hc, hf]⟩
      | cons x xs =>
        right
        refine ⟨x :: xs, rfl, by simp, ?_⟩
        cases hi : (x :: xs)[f.ip]? with
        | none => left; exact ⟨rfl, by simp [iter, hc, hf, hi]⟩
        | some isp =>
          right
          obtain ⟨i, sp⟩ := isp
          refine ⟨i, sp, rfl, ?_⟩
          simp only [iter, hc, hf, hi, List.isEmpty_cons, Bool.false_eq_true, if_false]

theorem runQuantum_nil (n : Nat) (h : s.calls = []) : runQuantum code lim (n + 1) s = .inr (.ok s) := by
  rw [runQuantum, h]

def pollState (s : VMState) : VMState := { s with polls := s.polls + 1 }

@[simp] theorem pollState_stack (s : VMState) : (pollState s).stack = s.stack := rfl
@[simp] theorem pollState_calls (s : VMState) : (pollState s).calls = s.calls := rfl
@[simp] theorem pollState_mp (s : VMState) : (pollState s).mp = s.mp := rfl
@[simp] theorem pollState_mem (s : VMState) : (pollState s).mem = s.mem := rfl
@[simp] theorem pollState_handlers (s : VMState) : (pollState s).handlers = s.handlers := rfl

def cancelled (cancelAt : Option Nat) (s1 : VMState) : Bool :=
  (cancelAt.map (fun k => decide (s1.polls ≥ k))).getD false

def PollPass (lim : Limits) (cancelAt : Option Nat) (s : VMState) : Prop :=
  s.calls ≠ [] ∧ cancelled cancelAt (pollState s) = false ∧ s.stack.length ≤ lim.stack
    ∧ s.calls.length ≤ lim.callStack

def PollExceeds (lim : Limits) (cancelAt : Option Nat) (s : VMState) : Prop :=
  s.calls ≠ [] ∧ cancelled cancelAt (pollState s) = false
    ∧ (lim.stack < s.stack.length ∨ lim.callStack < s.calls.length)

theorem run_zero (code : Code) (lim : Limits) (q : Nat) (ca : Option Nat) (s : VMState) :
    run code lim q ca 0 s = .outOfFuel s := rfl

theorem run_nil (h : s.calls = []) : run code lim q ca (fuel + 1) s = .ok s := by
  simp [run, h]

theorem run_succ {top : Frame} {rest : List Frame} (hs : s.calls = top :: rest) :
    run code lim q ca (fuel + 1) s =
      if cancelled ca (pollState s) = true then .term (pollState s)
      else if (pollState s).stack.length > lim.stack then
        match (pollState s).calls with
        | _ :: below :: _ =>
          .fatal "StackOverFlow" s!"Runtime stack limit of {lim.stack} was exceeded by {(pollState s).stack.length - lim.stack}" (spanAt code below) (pollState s)
        | _ => .fatal "StackOverFlow" s!"Runtime stack limit of {lim.stack} was exceeded by {(pollState s).stack.length - lim.stack}" (spanAt code top) (pollState s)
      else if (pollState s).calls.length > lim.callStack then
        .fatal "StackOverFlow" s!"Runtime callstack limit of {lim.callStack} was exceeded by {(pollState s).calls.length - lim.callStack}" (spanAt code top) (pollState s)
      else
        match runQuantum code lim q (pollState s) with
        | .inl s' => run code lim q ca fuel s'
        | .inr o => o := by
  conv => lhs; rw [run]
  split
  · rename_i h; rw [hs] at h; cases h
  · rename_i top' tail heq
    have : top' = top := by rw [hs] at heq; cases heq; rfl
    subst this
    rfl

theorem run_cancelled (h : s.calls ≠ []) (hc : cancelled ca (pollState s) = true) :
    run code lim q ca (fuel + 1) s = .term (pollState s) := by
  cases hs : s.calls with
  | nil => exact absurd hs h
  | cons top rest => rw [run_succ hs, if_pos hc]

theorem run_pass (h : PollPass lim ca s) :
    run code lim q ca (fuel + 1) s =
      match runQuantum code lim q (pollState s) with
      | .inl s' => run code lim q ca fuel s'
      | .inr o => o := by
  obtain ⟨h1, h2, h3, h4⟩ := h
  cases hs : s.calls with
  | nil => exact absurd hs h1
  | cons top rest =>
    rw [run_succ hs, if_neg (by simp [h2]), if_neg (by simp; omega), if_neg (by simp; omega)]

theorem run_exceeds (code : Code) (lim : Limits) (q : Nat) (ca : Option Nat) (s : VMState)
    (h : PollExceeds lim ca s) :
    ∃ msg sp, ∀ fuel, run code lim q ca (fuel + 1) s = .fatal "StackOverFlow" msg sp (pollState s) := by
  obtain ⟨h1, h2, h3⟩ := h
  cases hs : s.calls with
  | nil => exact absurd hs h1
  | cons top rest =>
    have hc : ¬ cancelled ca (pollState s) = true := by simp [h2]
    by_cases hst : (pollState s).stack.length > lim.stack
    · -- the span reported is that of the caller's frame if there is one
      cases rest <;> exact ⟨_, _, fun fuel => by rw [run_succ hs, if_neg hc, if_pos hst, pollState_calls, hs]⟩
    · have hcs : (pollState s).calls.length > lim.callStack := h3.resolve_left hst
      exact ⟨_, _, fun fuel => by rw [run_succ hs, if_neg hc, if_neg hst, if_pos hcs]⟩

theorem poll_trichotomy (lim : Limits) (ca : Option Nat) (s : VMState) (h : s.calls ≠ []) :
    cancelled ca (pollState s) = true ∨ PollExceeds lim ca s ∨ PollPass lim ca s := by
  cases hc : cancelled ca (pollState s) with
  | true => left; rfl
  | false =>
    right
    by_cases h1 : lim.stack < s.stack.length
    · left; exact ⟨h, hc, Or.inl h1⟩
    · by_cases h2 : lim.callStack < s.calls.length
      · left; exact ⟨h, hc, Or.inr h2⟩
      · right; exact ⟨h, hc, by omega, by omega⟩

end HmsProofs.Lemmas.VMRun
