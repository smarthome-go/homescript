import HmsProofs.Lemmas.SimHList
/-!
# The simulation statement that composes: a computation `x >>= f` simulated by code `cA ++ cB`

The statements `SimGE`, `SimOE`, `SimArgs`, `SimGS` speak of one evaluation result and of a run that starts where
the statement starts. The proofs of the constructs use the same statement *seen from a base configuration* further back:
the VM has come from the base `(ip0, stk, mem0, st0)` to the current `(ip, pre ++ stk, mem, st)` (`Reached`), the code
`cd` sits at `ip`, and whatever the specification computation `m` does from `st`, the base satisfies the matching
clause (`SimM`; between two positions without code: `SimJ`; the clause for one base: `Ends`). What a run may change and
what is owed on an error is a parameter, the level (`Lvl`: `Lvl.expr` here, `Lvl.stmt` in `SimHStmt`). In this form
errors need no transport (they are stated at the base), the operands `pre` that a later instruction pops are part of the
statement, placement and instruction counts are handled once, and sequencing is the rule `SimM.seq`: the proof of a
construct is the chain of its parts (its *links*, each a `SimM`) ending in the rule of its own instruction.

A postcondition `Q a st mem ys` speaks of the result, of state and memory afterwards, and of the operands `ys` now in
place of `pre`; continuations and side conditions (`hq`) take their arguments in that order, followed by the proof of
`Q a st mem ys`. The tuples (`Ends`, `SimJ.ofRun`, `SimM.local`) list `ys` before `mem'`, as the statements list the stack
before the memory.
-/
namespace HmsProofs.Sim
open Hms.Core Hms.Core.Comp Hms.Core.VM

theorem StRel.afterExpr {G : GCtx} {A : Act} {scopes vm} {st st1 : St} {mem mem1 : Mem}
    (hrel : StRel G.mod A.T A.N A.σ G.lim A.mp scopes vm st.scopes mem) (hsp : SpecOK G A.mp st)
    (hfr : st1 = { st with out := st1.out, heap := st1.heap }) (hml : MemLe G.fr A.mp mem mem1)
    (hinv : HeapInv st.heap → HeapInv st1.heap) :
    StRel G.mod A.T A.N A.σ G.lim A.mp scopes vm st1.scopes mem1 ∧ SpecOK G A.mp st1 :=
  ⟨by rw [hfr]; exact hrel.memLe hml.cells, hsp.world st1 hfr hinv⟩

/-- An instruction that raises, its stack cut to `xs ++ stk0`. -/
theorem RunsT0.instr {G : GCtx} {fn rest mp stk0 ip stk mem out msg sp}
    (h : ∀ k, ∃ ip' xs, exec1 G.code G.lim (mkSI G.s (⟨fn, ip⟩ :: rest) mp k stk mem out) =
      .intr (.throw msg sp) (mkSI G.s (⟨fn, ip'⟩ :: rest) mp (k + 1) (xs ++ stk0) mem out)) :
    RunsT0 G fn rest mp stk0 ip stk mem out msg sp mem out := by
  refine ⟨fun k => ?_, id⟩
  obtain ⟨ip', xs, e⟩ := h k
  exact ⟨0, _, [], ip', mp, xs, rfl, e⟩

/-- **A level of the simulation**: what a run of this kind (an expression; a statement inside its loops) may change —
memory up to `b` stays, the specification states are related by `frame` — and what it owes (`err`), seen from the
configuration `(ip0, stk, mem0, st0)` it started in, when the specification ends in the error `c` with state `st'`. -/
structure Lvl (G : GCtx) (A : Act) where
  b : Int
  frame : St → St → Prop
  err : Nat → List SVal → Mem → St → Ctl → St → Prop
  hb : b ≤ A.mp
  frame_refl : ∀ st, frame st st
  frame_trans : ∀ {s1 s2 s3}, frame s1 s2 → frame s2 s3 → frame s1 s3
  frame_expr : ∀ {st st' : St}, st' = { st with out := st'.out, heap := st'.heap } → frame st st'
  /-- an error owed at a point with the same operand stack is owed at the configuration the point was reached from -/
  after : ∀ {ip0 stk mem0 st0 ip mem st c st'},
    Runs G.fr G.code G.lim G.s A.fn A.rest A.mp ip0 stk mem0 st0.world ip stk mem st.world → frame st0 st →
    MemLe G.fr b mem0 mem → err ip stk mem st c st' → err ip0 stk mem0 st0 c st'

/-- Expressions: memory up to `A.mp` stays, only heap and output change, errors as `SimGE` says. -/
def Lvl.expr (G : GCtx) (A : Act) : Lvl G A where
  b := A.mp
  frame st st' := st' = { st with out := st'.out, heap := st'.heap }
  err ip0 stk mem0 st0 c st' := SimGE G A ip0 0 stk mem0 st0 (.error c, st')
  hb := Int.le_refl _
  frame_refl _ := rfl
  frame_trans h1 h2 := by rw [h2, h1]
  frame_expr h := h
  after hrun hfr hml he := SimGE.error_after 0 [] hrun hfr hml he

/-- From the base `(ip0, stk, mem0, st0)` the VM has come to `(ip, cur, mem, st)` by a run of level `L`. -/
structure Reached {G : GCtx} {A : Act} (L : Lvl G A) (ip0 : Nat) (stk : List SVal)
    (mem0 : Mem) (st0 : St) (ip : Nat) (cur : List SVal) (mem : Mem) (st : St) : Prop where
  run : Runs G.fr G.code G.lim G.s A.fn A.rest A.mp ip0 stk mem0 st0.world ip cur mem st.world
  frame : L.frame st0 st
  le : MemLe G.fr L.b mem0 mem

/-- What the proofs carry from one configuration to the next: a property `P` of specification state and memory that the
steps of an expression keep (`keep`: only heap and output change, memory above `A.mp`, the heap invariant is kept), and
under which the level takes over the errors of an expression evaluated with operands `pre` on the stack (`takesE`; the
error clauses of `SimGE` do not look at the instruction count, here `0`: `SimGE.error_n`). -/
structure Stable {G : GCtx} {A : Act} (L : Lvl G A) where
  P : St → Mem → Prop
  keep : ∀ {st st1 : St} {mem mem1 : Mem}, P st mem → st1 = { st with out := st1.out, heap := st1.heap } →
    MemLe G.fr A.mp mem mem1 → (HeapInv st.heap → HeapInv st1.heap) → P st1 mem1
  takesE : ∀ {ip0 stk mem0 st0 ip pre mem st c st'}, Reached L ip0 stk mem0 st0 ip (pre ++ stk) mem st → P st mem →
    SimGE G A ip 0 (pre ++ stk) mem st (.error c, st') → L.err ip0 stk mem0 st0 c st'
  /-- … and an exception raised from a point, whatever has been popped by then above the base stack -/
  takesT : ∀ {ip0 stk mem0 st0 ip cur mem st msg tsp mem' st'}, Reached L ip0 stk mem0 st0 ip cur mem st → P st mem →
    RunsT0 G A.fn A.rest A.mp stk ip cur mem st.world msg tsp mem' st'.world →
    st' = { st with out := st'.out, heap := st'.heap } → MemLe G.fr A.mp mem mem' →
    L.err ip0 stk mem0 st0 (.throw msg tsp) st'

theorem Reached.throwE {G : GCtx} {A : Act} {ip0 stk mem0 st0 ip cur mem st msg tsp mem' st'}
    (hat : Reached (Lvl.expr G A) ip0 stk mem0 st0 ip cur mem st)
    (h : RunsT0 G A.fn A.rest A.mp stk ip cur mem st.world msg tsp mem' st'.world)
    (hfr : st' = { st with out := st'.out, heap := st'.heap }) (hml : MemLe G.fr A.mp mem mem') :
    SimGE G A ip0 0 stk mem0 st0 (.error (.throw msg tsp), st') :=
  ⟨frame_trans hat.frame hfr, mem', (Runs.throw0 hat.run h).toT, hat.le.trans hml⟩

/-- Under the invariant the compiler scopes `sc` (with the counters `vm`) describe the specification state and the
frame's cells. -/
def Stable.Rel {G : GCtx} {A : Act} {L : Lvl G A} (I : Stable L) (sc : CScopes) (vm : List (String × Nat)) : Prop :=
  ∀ {st mem}, I.P st mem → StRel G.mod A.T A.N A.σ G.lim A.mp sc vm st.scopes mem ∧ SpecOK G A.mp st

/-- At the expression level every `P` that the steps of an expression keep is an invariant: the errors owed are `SimGE`'s
own, moved back to the base. -/
def Stable.expr (G : GCtx) (A : Act) (P : St → Mem → Prop)
    (keep : ∀ {st st1 : St} {mem mem1 : Mem}, P st mem → st1 = { st with out := st1.out, heap := st1.heap } →
      MemLe G.fr A.mp mem mem1 → (HeapInv st.heap → HeapInv st1.heap) → P st1 mem1) : Stable (Lvl.expr G A) :=
  ⟨P, keep, fun h _ he => SimGE.error_after 0 _ h.run h.frame h.le he, fun h _ ht hfr hml => h.throwE ht hfr hml⟩

/-- The hypotheses of `SimGE` and its relatives, under which `PE.simGE`, `PArgs.simArgs`, `PX.simOE` read
them off the chains. -/
def Stable.strel (G : GCtx) (A : Act) (sc : CScopes) (vm : List (String × Nat)) : Stable (Lvl.expr G A) :=
  .expr G A (fun st mem => StRel G.mod A.T A.N A.σ G.lim A.mp sc vm st.scopes mem ∧ SpecOK G A.mp st)
    fun h hfr hml hinv => h.1.afterExpr h.2 hfr hml hinv

theorem Stable.strel_rel {G : GCtx} {A : Act} {sc : CScopes} {vm : List (String × Nat)} :
    (Stable.strel G A sc vm).Rel sc vm :=
  fun h => h

/-- No invariant: for a chain whose links are given as `SimGE` outright (`SimM.of_simGE`) or need none. -/
def Stable.none (G : GCtx) (A : Act) : Stable (Lvl.expr G A) :=
  .expr G A (fun _ _ => True) fun _ _ _ _ => trivial

/-- What a simulation owes to one base for the outcome `r`. A result `a` ↦ the VM has reached `ipe` with `ys` above the base
stack, and `Q a st' mem' ys` and `P' st' mem'` hold (as a tuple: `⟨ys, mem', hQ, hP', hreached⟩`); an error ↦ the level's
error clause at the base. (On its own where a statement holds for some bases only: the rounds of a `for` loop, `pgf_step`.) -/
abbrev Ends {α : Type} {G : GCtx} {A : Act} (L : Lvl G A) (ip0 : Nat) (stk : List SVal) (mem0 : Mem) (st0 : St) (ipe : Nat)
    (Q : α → St → Mem → List SVal → Prop) (P' : St → Mem → Prop) (r : Except Ctl α × St) : Prop :=
  match r with
  | (.ok a, st') => ∃ ys mem', Q a st' mem' ys ∧ P' st' mem' ∧ Reached L ip0 stk mem0 st0 ipe (ys ++ stk) mem' st'
  | (.error c, st') => L.err ip0 stk mem0 st0 c st'

/-- **The simulation statement that composes**, between two positions of the code: from `ip` with operands `pre` above
the base stack `stk`, at level `L`, under the invariant `I`, seen from any base, the VM does what the computation `m`
does from `st` (`Ends`). `P'`: the invariant again, unless the last instruction changes it. -/
def SimJ {α : Type} {G : GCtx} {A : Act} (L : Lvl G A) (I : Stable L) (ip ipe : Nat)
    (pre stk : List SVal) (mem : Mem) (st : St) (m : M α) (Q : α → St → Mem → List SVal → Prop)
    (P' : St → Mem → Prop := I.P) : Prop :=
  I.P st mem → ∀ ip0 mem0 st0, Reached L ip0 stk mem0 st0 ip (pre ++ stk) mem st → Ends L ip0 stk mem0 st0 ipe Q P' (m st)

/-- … for code `cd` placed at `ip`, run from its first instruction to behind its last. -/
def SimM {α : Type} {G : GCtx} {A : Act} (L : Lvl G A) (I : Stable L) (cd : SCode) (ip : Nat)
    (pre stk : List SVal) (mem : Mem) (st : St) (m : M α) (Q : α → St → Mem → List SVal → Prop)
    (P' : St → Mem → Prop := I.P) : Prop :=
  Placed A.lab A.σ A.c ip cd → SimJ L I ip (ip + nI cd) pre stk mem st m Q P'

/-- The result is one value on top of the operands, with an origin as `SimGE` allows it; as a tuple `⟨o, ho, e⟩` with
`e : ys = ⟨v, o⟩ :: pre`. -/
def QGE (G : GCtx) (pre : List SVal) (v : Val) (_ : St) (_ : Mem) (ys : List SVal) : Prop :=
  ∃ o, OrgOK G.fr o ∧ ys = ⟨v, o⟩ :: pre

/-- … with any origin (`SimOE`): `⟨o, e⟩`. -/
def QOE (pre : List SVal) (v : Val) (_ : St) (_ : Mem) (ys : List SVal) : Prop := ∃ o, ys = ⟨v, o⟩ :: pre

theorem QGE.oe {G : GCtx} {pre v st mem ys} (h : QGE G pre v st mem ys) : QOE pre v st mem ys := h.imp fun _ h => h.2

/-- In the extended fragment the origin of a result is unconstrained. -/
theorem QOE.ge {G : GCtx} (hfr : G.fr = true) {pre v st mem ys} (h : QOE pre v st mem ys) : QGE G pre v st mem ys :=
  h.imp fun _ e => ⟨fun h0 => Bool.noConfusion (hfr.symm.trans h0), e⟩

/-- The results are the values on top of the operands, first value on top (`SimArgs`): `⟨svals, hvals, hnone, e⟩` with
`e : ys = svals ++ pre`. -/
def QArgs (G : GCtx) (pre : List SVal) (vals : List Val) (_ : St) (_ : Mem) (ys : List SVal) : Prop :=
  ∃ svals, svals.map (·.v) = vals ∧ (G.fr = false → svals = vals.map (⟨·, none⟩)) ∧ ys = svals ++ pre

section
variable {G : GCtx} {A : Act} {L : Lvl G A} {I : Stable L}

theorem Reached.refl {ip : Nat} {stk : List SVal} {mem : Mem} {st : St} : Reached L ip stk mem st ip stk mem st :=
  ⟨Runs.refl _ _ _ _, L.frame_refl _, MemLe.refl _ _ _⟩

/-- A step of an expression is a step of every level. -/
theorem Reached.step {ip0 stk mem0 st0 ip cur mem st ip' cur' mem' st'}
    (h : Reached L ip0 stk mem0 st0 ip cur mem st)
    (hrun : Runs G.fr G.code G.lim G.s A.fn A.rest A.mp ip cur mem st.world ip' cur' mem' st'.world)
    (hfr : st' = { st with out := st'.out, heap := st'.heap }) (hml : MemLe G.fr A.mp mem mem') :
    Reached L ip0 stk mem0 st0 ip' cur' mem' st' :=
  ⟨h.run.trans hrun, L.frame_trans h.frame (L.frame_expr hfr), h.le.trans (hml.mono L.hb)⟩

theorem Reached.trans {ip0 stk mem0 st0 ip cur mem st ip' cur' mem' st'}
    (h1 : Reached L ip0 stk mem0 st0 ip cur mem st) (h2 : Reached L ip cur mem st ip' cur' mem' st') :
    Reached L ip0 stk mem0 st0 ip' cur' mem' st' :=
  ⟨h1.run.trans h2.run, L.frame_trans h1.frame h2.frame, h1.le.trans h2.le⟩

namespace Ends
variable {α β : Type} {ip0 : Nat} {stk : List SVal} {mem0 : Mem} {st0 : St} {ip1 ipe : Nat}
  {Q1 : β → St → Mem → List SVal → Prop} {P1 P' : St → Mem → Prop}

theorem bind {Q : α → St → Mem → List SVal → Prop} {x : M β} {f : β → M α} {st : St}
    (h : Ends L ip0 stk mem0 st0 ip1 Q1 P1 (x st))
    (hk : ∀ b st1 mem1 ys, Q1 b st1 mem1 ys → P1 st1 mem1 → Reached L ip0 stk mem0 st0 ip1 (ys ++ stk) mem1 st1 →
      Ends L ip0 stk mem0 st0 ipe Q P' (f b st1)) : Ends L ip0 stk mem0 st0 ipe Q P' ((x >>= f) st) := by
  rw [M_bind]
  generalize x st = r at h ⊢
  obtain ⟨r, st1⟩ := r
  cases r with
  | error c => exact h
  | ok b => obtain ⟨ys, mem1, hq, hp, hat⟩ := h; exact hk b st1 mem1 ys hq hp hat

/-- The ok-clause may be replaced by one that follows from it. -/
theorem imp {Q : β → St → Mem → List SVal → Prop} {r : Except Ctl β × St} (h : Ends L ip0 stk mem0 st0 ip1 Q1 P1 r)
    (hk : ∀ b st1 mem1 ys, r = (.ok b, st1) → Q1 b st1 mem1 ys → P1 st1 mem1 →
      Reached L ip0 stk mem0 st0 ip1 (ys ++ stk) mem1 st1 →
      Q b st1 mem1 ys ∧ P' st1 mem1 ∧ Reached L ip0 stk mem0 st0 ipe (ys ++ stk) mem1 st1) :
    Ends L ip0 stk mem0 st0 ipe Q P' r := by
  obtain ⟨r, st1⟩ := r
  cases r with
  | error c => exact h
  | ok b => obtain ⟨ys, mem1, hq, hp, hat⟩ := h; exact ⟨ys, mem1, hk b st1 mem1 ys rfl hq hp hat⟩

end Ends

namespace SimJ
variable {α β : Type} {ip ipe : Nat} {pre stk : List SVal} {mem : Mem} {st : St} {P' : St → Mem → Prop}

theorem ends {m : M α} {Q : α → St → Mem → List SVal → Prop} {ip0 mem0 st0}
    (h : SimJ L I ip ipe pre stk mem st m Q P') (hI : I.P st mem)
    (hat : Reached L ip0 stk mem0 st0 ip (pre ++ stk) mem st) : Ends L ip0 stk mem0 st0 ipe Q P' (m st) :=
  h hI ip0 mem0 st0 hat

/-- Sequencing between positions. The continuation `h2` is given the result `a`, the state `st1`, the memory `mem1`, the
operands `ys` now in place of `pre`, and the proof of `Qx a st1 mem1 ys` (for `QGE`, `QOE`, `QArgs` the tuples said there,
whose last component `e` puts the operands in: `e ▸`). `I1` is the invariant behind the first link, under which the
continuation runs: `I` itself after an expression, after a statement that of the environment behind it (`StmtM.link`). -/
theorem bind {ip1 : Nat} {x : M α} {f : α → M β} {Qx : α → St → Mem → List SVal → Prop}
    {Q : β → St → Mem → List SVal → Prop} {I1 : Stable L}
    (h1 : SimJ L I ip ip1 pre stk mem st x Qx I1.P)
    (h2 : ∀ a st1 mem1 ys, Qx a st1 mem1 ys → SimJ L I1 ip1 ipe ys stk mem1 st1 (f a) Q P') :
    SimJ L I ip ipe pre stk mem st (x >>= f) Q P' := fun hI ip0 mem0 st0 hat =>
  (h1 hI ip0 mem0 st0 hat).bind fun a st1 mem1 ys hq hI1 hat1 => h2 a st1 mem1 ys hq hI1 ip0 mem0 st0 hat1

/-- The VM alone runs first (a jump taken, a value dropped): `hrun` from `(ip, pre ++ stk)` to `(ip1, pre1 ++ stk)`, memory
and world as they are. -/
theorem «from» {m : M α} {Q : α → St → Mem → List SVal → Prop} {ip1 : Nat} {pre1 : List SVal}
    (hrun : Runs G.fr G.code G.lim G.s A.fn A.rest A.mp ip (pre ++ stk) mem st.world ip1 (pre1 ++ stk) mem st.world)
    (h : SimJ L I ip1 ipe pre1 stk mem st m Q P') : SimJ L I ip ipe pre stk mem st m Q P' :=
  fun hI ip0 mem0 st0 hat => h hI ip0 mem0 st0 (hat.step hrun rfl (MemLe.refl _ _ _))

/-- The VM alone runs on afterwards (the jump behind a branch): `hrun` from `ip1` to `ipe` for every stack, memory, world. -/
theorem to {m : M α} {Q : α → St → Mem → List SVal → Prop} {ip1 : Nat} (h : SimJ L I ip ip1 pre stk mem st m Q P')
    (hrun : ∀ (cur : List SVal) (mem' : Mem) (w : World),
      Runs G.fr G.code G.lim G.s A.fn A.rest A.mp ip1 cur mem' w ipe cur mem' w) :
    SimJ L I ip ipe pre stk mem st m Q P' := fun hI ip0 mem0 st0 hat =>
  (h hI ip0 mem0 st0 hat).imp fun _ _ _ _ _ hq hP hat1 => ⟨hq, hP, hat1.step (hrun _ _ _) rfl (MemLe.refl _ _ _)⟩

theorem exit {m : M α} {Q : α → St → Mem → List SVal → Prop} {ipe' : Nat} (h : SimJ L I ip ipe pre stk mem st m Q P')
    (e : ipe = ipe') : SimJ L I ip ipe' pre stk mem st m Q P' := e ▸ h

/-- Only what the computation does on `st` matters. -/
theorem congr {m m' : M α} {Q : α → St → Mem → List SVal → Prop} (e : m st = m' st)
    (h : SimJ L I ip ipe pre stk mem st m' Q P') : SimJ L I ip ipe pre stk mem st m Q P' := by
  intro hI ip0 mem0 st0 hat
  rw [e]
  exact h hI ip0 mem0 st0 hat

/-- A computation that ends outside the model (`unsupported`, `timeout`) is simulated by anything. -/
theorem outside {m : M α} {Q : α → St → Mem → List SVal → Prop} {c : Ctl} {st' : St} (h : m st = (.error c, st'))
    (hc : (∃ w, c = .unsupported w) ∨ c = .timeout) : SimJ L I ip ipe pre stk mem st m Q P' := by
  intro hI _ _ _ hat
  rw [h]
  rcases hc with ⟨w, rfl⟩ | rfl <;> exact I.takesE hat hI True.intro

/-- The VM's own run, for a computation that succeeds under the invariant. The caller builds, in this order,
`⟨a, st', ys, mem', m st = (.ok a, st'), hQ, hP', L.frame st st', MemLe … L.b mem mem', run⟩`. -/
theorem ofRun {m : M α} {Q : α → St → Mem → List SVal → Prop}
    (h : I.P st mem → ∃ a st' ys mem', m st = (.ok a, st') ∧ Q a st' mem' ys ∧ P' st' mem' ∧ L.frame st st' ∧
      MemLe G.fr L.b mem mem' ∧
      Runs G.fr G.code G.lim G.s A.fn A.rest A.mp ip (pre ++ stk) mem st.world ipe (ys ++ stk) mem' st'.world) :
    SimJ L I ip ipe pre stk mem st m Q P' := by
  intro hI ip0 mem0 st0 hat
  obtain ⟨a, st', ys, mem', hm, hq, hp, hfr, hml, hrun⟩ := h hI
  rw [hm]
  exact ⟨ys, mem', hq, hp, hat.run.trans hrun, L.frame_trans hat.frame hfr, hat.le.trans hml⟩

theorem post {P1 : St → Mem → Prop} {m : M α} {Q : α → St → Mem → List SVal → Prop}
    (h : SimJ L I ip ipe pre stk mem st m Q P1) (hp : ∀ st' mem', P1 st' mem' → P' st' mem') :
    SimJ L I ip ipe pre stk mem st m Q P' := fun hI ip0 mem0 st0 hat =>
  (h hI ip0 mem0 st0 hat).imp fun _ _ _ _ _ hq hp1 hat1 => ⟨hq, hp _ _ hp1, hat1⟩

theorem withInv {m : M α} {Q : α → St → Mem → List SVal → Prop}
    (h : I.P st mem → SimJ L I ip ipe pre stk mem st m Q P') : SimJ L I ip ipe pre stk mem st m Q P' :=
  fun hI => h hI hI

/-- A computation that only returns needs no run: `⟨hQ, hP'⟩` at the point itself, operands unchanged. -/
theorem ret {Q : α → St → Mem → List SVal → Prop} {a : α}
    (h : I.P st mem → Q a st mem pre ∧ P' st mem) : SimJ L I ip ip pre stk mem st (pure a) Q P' :=
  fun hI _ _ _ hat => ⟨pre, mem, (h hI).1, (h hI).2, hat⟩

/-- **Branching** on a condition `mc` whose code ends before `ipj : JumpIfFalse els`: the true branch runs from `ipj + 1`, the
false branch from the label; both end at `ipe`. The computation has the form `evalExpr_ifE_bind` gives `if`. -/
theorem ite (hA : A.OK G) {ipj l : Nat} {sp : Span} {mc : M Val} {mt me : M α} {Q : α → St → Mem → List SVal → Prop}
    (ijif : A.c[ipj]? = some (.jumpIfFalse l, sp))
    (hc : SimJ L I ip ipj pre stk mem st mc (QOE pre))
    (ht : ∀ st1 mem1, SimJ L I (ipj + 1) ipe pre stk mem1 st1 mt Q P')
    (he : ∀ st1 mem1, SimJ L I l ipe pre stk mem1 st1 me Q P') :
    SimJ L I ip ipe pre stk mem st
      (mc >>= fun v => match v with
        | .bool true => mt
        | .bool false => me
        | _ => throwCtl (.unsupported "if condition")) Q P' :=
  hc.bind fun v st1 mem1 _ ⟨o, e⟩ => e ▸ by
    cases v with
    | bool b =>
      cases b with
      | true => exact .from ((hA.jumpIfFalse (b := true) ijif).cast (if_pos rfl)) (ht st1 mem1)
      | false => exact .from ((hA.jumpIfFalse (b := false) ijif).cast (if_neg Bool.false_ne_true)) (he st1 mem1)
    | _ => exact .outside rfl (.inl ⟨_, rfl⟩)

end SimJ

namespace SimM
variable {α β : Type} {cd : SCode} {ip : Nat} {pre stk : List SVal} {mem : Mem} {st : St} {P' : St → Mem → Prop}

/-- **Sequencing** along `>>=` and `++`: `SimJ.bind` with the placement split and the lengths added. -/
theorem seq {cA cB : SCode} {x : M α} {f : α → M β} {Qx : α → St → Mem → List SVal → Prop}
    {Q : β → St → Mem → List SVal → Prop} {I1 : Stable L}
    (h1 : SimM L I cA ip pre stk mem st x Qx I1.P)
    (h2 : ∀ a st1 mem1 ys, Qx a st1 mem1 ys → SimM L I1 cB (ip + nI cA) ys stk mem1 st1 (f a) Q P') :
    SimM L I (cA ++ cB) ip pre stk mem st (x >>= f) Q P' := fun hpl =>
  ((h1 hpl.append.1).bind fun a st1 mem1 ys hq => h2 a st1 mem1 ys hq hpl.append.2).exit
    (by rw [nI_append, Nat.add_assoc])

/-- A step of the specification alone: `x` yields `a` and leaves the state as it is. -/
theorem bindOk {x : M α} {f : α → M β} {Q : β → St → Mem → List SVal → Prop} {a : α} (hx : x st = (.ok a, st))
    (h : SimM L I cd ip pre stk mem st (f a) Q P') : SimM L I cd ip pre stk mem st (x >>= f) Q P' :=
  fun hpl => .congr (by rw [M_bind, hx]) (h hpl)

/-- Consequence: `hq` is given `a st' mem' ys`, the equation `m st = (.ok a, st')` and the proof of `Q a st' mem' ys`. -/
theorem mono {m : M α} {Q Q' : α → St → Mem → List SVal → Prop} (h : SimM L I cd ip pre stk mem st m Q P')
    (hq : ∀ a st' mem' ys, m st = (.ok a, st') → Q a st' mem' ys → Q' a st' mem' ys) :
    SimM L I cd ip pre stk mem st m Q' P' := fun hpl hI ip0 mem0 st0 hat =>
  (h hpl hI ip0 mem0 st0 hat).imp fun a st' mem' ys e hq1 hp hat1 => ⟨hq a st' mem' ys e hq1, hp, hat1⟩

/-- … followed by a function of the result (`x >>= fun a => pure (g a)`); `hq` is given `a st' mem' ys` and `Qx a st' mem' ys`. -/
theorem seqPure {x : M α} {g : α → β} {Qx : α → St → Mem → List SVal → Prop} {Q : β → St → Mem → List SVal → Prop}
    (h : SimM L I cd ip pre stk mem st x Qx P') (hq : ∀ a st' mem' ys, Qx a st' mem' ys → Q (g a) st' mem' ys) :
    SimM L I cd ip pre stk mem st (x >>= fun a => pure (g a)) Q P' := fun hpl hI ip0 mem0 st0 hat =>
  (h hpl hI ip0 mem0 st0 hat).bind fun a st' mem' ys hq1 hp hat1 => ⟨ys, mem', hq a st' mem' ys hq1, hp, hat1⟩

theorem withInv {m : M α} {Q : α → St → Mem → List SVal → Prop} (h : I.P st mem → SimM L I cd ip pre stk mem st m Q P') :
    SimM L I cd ip pre stk mem st m Q P' :=
  fun hpl hI => h hI hpl hI

theorem timeout {m : M α} {Q : α → St → Mem → List SVal → Prop} {st' : St}
    (h : m st = (.error .timeout, st')) : SimM L I cd ip pre stk mem st m Q P' :=
  fun _ => .outside h (.inr rfl)

/-- The specification side may be replaced by a computation that refines it; `hq` is given `b a st' mem' ys`, the relation
`R b a st'` between the two results and `Q a st' mem' ys`. -/
theorem refine {m : M α} {m' : M β} {Q : α → St → Mem → List SVal → Prop} {Q' : β → St → Mem → List SVal → Prop}
    {R : β → α → St → Prop} (h : SimM L I cd ip pre stk mem st m Q P') (hm : Refines m' m st R)
    (hq : ∀ b a st' mem' ys, R b a st' → Q a st' mem' ys → Q' b st' mem' ys) : SimM L I cd ip pre stk mem st m' Q' P' := by
  intro hpl hI ip0 mem0 st0 hat
  have h := h hpl hI ip0 mem0 st0 hat
  unfold Refines at hm
  generalize m' st = r' at hm ⊢
  obtain ⟨r', st1⟩ := r'
  cases r' with
  | ok b =>
    obtain ⟨a, e, hr⟩ := hm
    rw [e] at h
    obtain ⟨ys, mem1, hq1, hat1⟩ := h
    exact ⟨ys, mem1, hq b a st1 mem1 ys hr hq1, hat1⟩
  | error c =>
    cases c
    case unsupported | timeout => exact I.takesE (pre := pre) hat hI True.intro
    all_goals (rw [hm] at h; exact h)

/-- A simulation stated at the current configuration (the operands `pre` part of its stack), as `SimGE` and its relatives
state it. On a result the caller builds `⟨frame equation, ys, mem', hQ, run, MemLe … A.mp mem mem'⟩`; on an error the error
clause of `SimGE` with `pre ++ stk` as its stack. -/
theorem «local» {m : M α} {Q : α → St → Mem → List SVal → Prop}
    (h : Placed A.lab A.σ A.c ip cd → I.P st mem →
      match m st with
      | (.ok a, st') => st' = { st with out := st'.out, heap := st'.heap } ∧ ∃ ys mem', Q a st' mem' ys ∧
          Runs G.fr G.code G.lim G.s A.fn A.rest A.mp ip (pre ++ stk) mem st.world (ip + nI cd) (ys ++ stk) mem' st'.world ∧
          MemLe G.fr A.mp mem mem'
      | (.error c, st') => SimGE G A ip 0 (pre ++ stk) mem st (.error c, st')) :
    SimM L I cd ip pre stk mem st m Q := by
  intro hpl hI ip0 mem0 st0 hat
  have h := h hpl hI
  generalize m st = r at h ⊢
  obtain ⟨r, st1⟩ := r
  cases r with
  | error c => exact I.takesE hat hI h
  | ok a =>
    obtain ⟨hfr, ys, mem1, hq, hrun, hml⟩ := h
    exact ⟨ys, mem1, hq, I.keep hI hfr hml hrun.inv, hat.step hrun hfr hml⟩

/-- A `SimGE` at the current configuration with the operands below is a link (likewise `of_simArgs`). -/
theorem of_simGE {m : M Val}
    (h : Placed A.lab A.σ A.c ip cd → I.P st mem → SimGE G A ip (nI cd) (pre ++ stk) mem st (m st)) :
    SimM L I cd ip pre stk mem st m (QGE G pre) := by
  refine .local fun hpl hI => ?_
  have h := h hpl hI
  generalize m st = r at h ⊢
  obtain ⟨r, st1⟩ := r
  cases r with
  | error c => exact h.error_n 0
  | ok a =>
    obtain ⟨hfr, mem1, o, ho, hrun, hml⟩ := h
    exact ⟨hfr, _, mem1, ⟨o, ho, rfl⟩, hrun, hml⟩

theorem of_simArgs {m : M (List Val)}
    (h : Placed A.lab A.σ A.c ip cd → I.P st mem → SimArgs G A ip (nI cd) (pre ++ stk) mem st (m st)) :
    SimM L I cd ip pre stk mem st m (QArgs G pre) := by
  refine .local fun hpl hI => ?_
  have h := h hpl hI
  generalize m st = r at h ⊢
  obtain ⟨r, st1⟩ := r
  cases r with
  | error c => cases c <;> exact h
  | ok vals =>
    obtain ⟨hfr, mem1, svals, hsv, hsv0, hrun, hml⟩ := h
    exact ⟨hfr, _, mem1, ⟨svals, hsv, hsv0, rfl⟩, by rw [List.append_assoc]; exact hrun, hml⟩

/-- A chain at the expression level without operands, read from its own first configuration, is `SimArgs`
(likewise `simOE`, `simGE`). -/
theorem simArgs {I : Stable (Lvl.expr G A)} {m : M (List Val)} (h : SimM (Lvl.expr G A) I cd ip [] stk mem st m (QArgs G []) P')
    (hpl : Placed A.lab A.σ A.c ip cd) (hI : I.P st mem) : SimArgs G A ip (nI cd) stk mem st (m st) := by
  have h := h hpl hI ip mem st .refl
  generalize m st = r at h ⊢
  obtain ⟨r, st1⟩ := r
  cases r with
  | error c => cases c <;> exact h
  | ok vals =>
    obtain ⟨ys, mem1, ⟨svals, hsv, hsv0, rfl⟩, _, hat⟩ := h
    rw [List.append_nil] at hat
    exact ⟨hat.frame, mem1, svals, hsv, hsv0, hat.run, hat.le⟩

theorem simOE {I : Stable (Lvl.expr G A)} {m : M Val} (h : SimM (Lvl.expr G A) I cd ip [] stk mem st m (QOE []) P')
    (hpl : Placed A.lab A.σ A.c ip cd) (hI : I.P st mem) : SimOE G A ip (nI cd) stk mem st (m st) := by
  have h := h hpl hI ip mem st .refl
  generalize m st = r at h ⊢
  obtain ⟨r, st1⟩ := r
  cases r with
  | error c => exact h.error_n _
  | ok a =>
    obtain ⟨ys, mem1, ⟨o, rfl⟩, _, hat⟩ := h
    exact ⟨hat.frame, mem1, o, hat.run, hat.le⟩

theorem simGE {I : Stable (Lvl.expr G A)} {m : M Val} (h : SimM (Lvl.expr G A) I cd ip [] stk mem st m (QGE G []) P')
    (hpl : Placed A.lab A.σ A.c ip cd) (hI : I.P st mem) : SimGE G A ip (nI cd) stk mem st (m st) := by
  have h := h hpl hI ip mem st .refl
  generalize m st = r at h ⊢
  obtain ⟨r, st1⟩ := r
  cases r with
  | error c => exact h.error_n _
  | ok a =>
    obtain ⟨ys, mem1, ⟨o, ho, rfl⟩, _, hat⟩ := h
    exact ⟨hat.frame, mem1, o, ho, hat.run, hat.le⟩

/-- One instruction: placement and length are dealt with here; what is left is `Ends` with the exit `ip + 1`, for the caller
to prove from the instruction `A.c[ip]? = …`, the invariant and `Reached` from any base. -/
theorem instr {m : M α} {Q : α → St → Mem → List SVal → Prop} {i : SInstr} {sp : Span} (hi : isLabel i = false)
    (h : A.c[ip]? = some (mapLV A.lab A.σ i, sp) → I.P st mem → ∀ ip0 mem0 st0,
      Reached L ip0 stk mem0 st0 ip (pre ++ stk) mem st → Ends L ip0 stk mem0 st0 (ip + 1) Q P' (m st)) :
    SimM L I [(i, sp)] ip pre stk mem st m Q P' := by
  intro hpl hI ip0 mem0 st0 hat
  have hn : nI [(i, sp)] = 1 := by rw [nI_instr _ _ _ hi]; rfl
  rw [hn]
  exact h (hpl.instr hi).1 hI ip0 mem0 st0 hat

/-- **A call** `Call_Imm g` with the arguments `svals` on the stack: what `SimCall` says of the callee's body, seen from
the caller's frame. -/
theorem call {m : M Val} {g : String} {sp : Span} {svals : List SVal} (hA : A.OK G)
    (h : I.P st mem → SimCall G g (⟨A.fn, ip + 1⟩ :: A.rest) A.mp svals (pre ++ stk) mem st (m st)) :
    SimM L I [(.callImm g, sp)] ip (svals ++ pre) stk mem st m (QGE G pre) := by
  intro hpl hI ip0 mem0 st0 hat
  have icall := (hpl.instr (i := .callImm g) rfl).1
  have h := h hI
  rw [List.append_assoc] at hat
  generalize m st = r at h ⊢
  obtain ⟨r, st1⟩ := r
  cases r with
  | ok v =>
    obtain ⟨hfr, mem1, o, ho, hrc, hml⟩ := h
    exact ⟨⟨v, o⟩ :: pre, mem1, ⟨o, ho, rfl⟩, I.keep hI hfr hml hrc.inv, hat.step (Runs.call hA icall hrc) hfr hml⟩
  | error c =>
    cases c
    case throw msg tsp =>
      obtain ⟨hfr, mem1, hct, hml⟩ := h
      exact I.takesT hat hI ((RunsT0.call hA icall hct).base pre) hfr hml
    case fatal kd msg fsp =>
      exact I.takesE (pre := svals ++ pre) (by rw [List.append_assoc]; exact hat) hI
        (fun hk => by rw [List.append_assoc]; exact RunsF.call hA icall (h hk))
    case unsupported | timeout => exact I.takesE (pre := svals ++ pre) (by rw [List.append_assoc]; exact hat) hI True.intro
    all_goals exact h.elim

/-- One instruction, for a computation that succeeds under the invariant: the tuple of `SimJ.ofRun` with the run across
the instruction (to `ip + 1`). -/
theorem instrOk {m : M α} {Q : α → St → Mem → List SVal → Prop} {i : SInstr} {sp : Span} (hi : isLabel i = false)
    (h : A.c[ip]? = some (mapLV A.lab A.σ i, sp) → I.P st mem → ∃ a st' ys mem', m st = (.ok a, st') ∧ Q a st' mem' ys ∧
      P' st' mem' ∧ L.frame st st' ∧ MemLe G.fr L.b mem mem' ∧
      Runs G.fr G.code G.lim G.s A.fn A.rest A.mp ip (pre ++ stk) mem st.world (ip + 1) (ys ++ stk) mem' st'.world) :
    SimM L I [(i, sp)] ip pre stk mem st m Q P' := fun hpl =>
  (SimJ.ofRun (h (hpl.instr hi).1)).exit (by rw [nI_instr _ _ _ hi, nI_nil, Nat.zero_add])

/-- **The construct's own instruction(s)**, for a computation `m` that leaves the state as it is. On a value the caller
builds `⟨ys, hQ, run to the end of cd⟩`, on a fatal error the `RunsF`, on an exception (raised with the stack cut to
`xs ++ stk`) `fun k => ⟨ip', xs, equation of exec1⟩`; `unsupported` and `timeout` are outside the model; `break`,
`continue`, `return` are no outcome of an instruction's computation (`False`: the caller refutes them). -/
theorem prim {m : M α} {Q : α → St → Mem → List SVal → Prop} (hst : (m st).2 = st)
    (h : Placed A.lab A.σ A.c ip cd →
      match (m st).1 with
      | .ok a => ∃ ys, Q a st mem ys ∧
          Runs G.fr G.code G.lim G.s A.fn A.rest A.mp ip (pre ++ stk) mem st.world (ip + nI cd) (ys ++ stk) mem st.world
      | .error (.fatal kd msg fsp) => RunsF G.code G.lim G.s A.fn A.rest A.mp ip (pre ++ stk) mem st.world kd msg fsp st.world
      | .error (.throw msg tsp) => ∀ k, ∃ ip' xs,
          exec1 G.code G.lim (mkSI G.s (⟨A.fn, ip⟩ :: A.rest) A.mp k (pre ++ stk) mem st.world) =
            .intr (.throw msg tsp) (mkSI G.s (⟨A.fn, ip'⟩ :: A.rest) A.mp (k + 1) (xs ++ stk) mem st.world)
      | .error (.unsupported _) => True
      | .error .timeout => True
      | _ => False) :
    SimM L I cd ip pre stk mem st m Q := by
  intro hpl hI ip0 mem0 st0 hat
  have h := h hpl
  generalize m st = r at h hst ⊢
  obtain ⟨r, st1⟩ := r
  obtain rfl : st1 = st := hst
  cases r with
  | ok a =>
    obtain ⟨ys, hq, hrun⟩ := h
    exact ⟨ys, mem, hq, hI, hat.step hrun rfl (MemLe.refl _ _ _)⟩
  | error c =>
    cases c
    case throw msg tsp => exact I.takesT hat hI (.instr h) rfl (MemLe.refl _ _ _)
    all_goals exact I.takesE hat hI (by first | exact fun _ => h | exact True.intro | exact h.elim)

end SimM
end
end HmsProofs.Sim
