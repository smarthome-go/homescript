import HmsProofs.Lemmas.SimHAll
namespace HmsProofs.Sim
open Hms.Core Hms.Core.Comp Hms.Core.VM

/-- A call of a function without trailing expression: on normal completion nothing is pushed (the body fell through) or
the returned value is (a `return e;` was executed). -/
def SimCallV (G : GCtx) (g : String) (frames : List Frame) (mp : Int) (args : List Val) (stk : List SVal)
    (mem : Mem) (st : St) (r : Except Ctl Val × St) : Prop :=
  match r with
  | (.ok v, st') =>
    st' = { st with out := st'.out, heap := st'.heap } ∧
      ∃ mem' stk', (stk' = stk ∨ ∃ o, OrgOK G.fr o ∧ stk' = ⟨v, o⟩ :: stk) ∧
        RunsCall G g frames mp (args.map (⟨·, none⟩) ++ stk) mem st.world stk' mem' st'.world ∧ MemLe G.fr mp mem mem'
  | (.error (.fatal kd m sp), st') =>
    kd ≠ "StackOverFlow" → RunsCallF G g frames mp (args.map (⟨·, none⟩) ++ stk) mem st.world kd m sp st'.world
  | (.error (.throw msg sp), st') =>
    st' = { st with out := st'.out, heap := st'.heap } ∧
      ∃ mem', RunsCallT G g frames mp (args.map (⟨·, none⟩) ++ stk) stk mem st.world msg sp mem' st'.world ∧
        MemLe G.fr mp mem mem'
  | (.error (.unsupported _), _) => True
  | (.error .timeout, _) => True
  | _ => False

theorem SimCallV.of_out {G g frames mp args stk mem st r}
    (h : CallOut G (fun v stk' => stk' = stk ∨ ∃ o, OrgOK G.fr o ∧ stk' = ⟨v, o⟩ :: stk) g frames mp
      (args.map (⟨·, none⟩) ++ stk) stk mem st r) : SimCallV G g frames mp args stk mem st r := by
  obtain ⟨r1, st1⟩ := r
  cases r1 with
  | ok v => exact h
  | error c => cases c <;> exact h

theorem callV_correct (G : GCtx) (hG : G.OK') (fuel : Nat) (g : String) (fd : FnDef) (I : FnInfo)
    (stmts : List Stmt) (hFn : FnVoidOK G g fd I stmts)
    (hgh : G.fr = true → ∀ y ∈ I.T, ("$iter_" ++ y) ∉ I.T) (sp : Span) (vals : List Val) (st : St)
    (frames : List Frame) (mp : Int) (stk : List SVal) (mem : Mem) (hsp : SpecOK G mp st)
    (hmp : 0 ≤ mp) :
    SimCallV G (mangleFnName G.mod g) frames mp vals stk mem st
      (callBody G.cfg fuel sp G.mod fd.params fd.body vals st) := by
  cases fuel with
  | zero => rw [callBody]; exact True.intro
  | succ n =>
  have hname := hFn.name
  subst hname
  obtain ⟨bsp, bty, hbody⟩ := hFn.body
  rw [hbody]
  have hvm : (vals.map (fun v => (⟨v, none⟩ : SVal))).map (·.v) = vals := by
    rw [List.map_map]; exact List.map_id' vals
  have h := fn_call G hG n (fun m _ => (allP G hG m).pgss) (fun m _ => (allP G hG m).pe) { hFn with } True.intro hgh bsp bty
    sp (vals.map (⟨·, none⟩)) st frames mp stk mem hsp hmp
    (fun v stk' => stk' = stk ∨ ∃ o, OrgOK G.fr o ∧ stk' = ⟨v, o⟩ :: stk) (fun v o ho => Or.inr ⟨o, ho, rfl⟩) (fun _ => Or.inl rfl)
  rw [hvm] at h
  exact SimCallV.of_out h

/-- The context with another poll count in the VM state; nothing of the simulation reads the count (the `withPolls`
lemmas), `run` increments it. -/
def GCtx.withPolls (G : GCtx) (p : Nat) : GCtx := { G with s := { G.s with polls := p } }

theorem FnOK.withPolls {G : GCtx} {g fd I stmts e} (h : FnOK G g fd I stmts e) (p : Nat) :
    FnOK (G.withPolls p) g fd I stmts e :=
  { h with }

theorem FnVoidOK.withPolls {G : GCtx} {g fd I stmts} (h : FnVoidOK G g fd I stmts) (p : Nat) :
    FnVoidOK (G.withPolls p) g fd I stmts :=
  { h with }

theorem SpecOK.withPolls {G : GCtx} {mp : Int} {st : St} (h : SpecOK G mp st) (p : Nat) : SpecOK (G.withPolls p) mp st :=
  { h with }

theorem GCtx.OK'.withPolls {G : GCtx} (h : G.OK') (p : Nat) : (G.withPolls p).OK' :=
  { h with
    prog := fun g fd hK hf =>
      let ⟨I, stmts, e, hFn, hgh⟩ := h.prog g fd hK hf
      ⟨I, stmts, e, hFn.withPolls p, hgh⟩ }

/-- `Core.Run` on a top-level call of a function without trailing expression (the entry function `main`), no caller frame:
for every quantum at least as large as the number of instructions the whole call executes `run` ends `ok` with no frame
left, the memory pointer as before and the specification's output; with the specification's fatal error (other than its
own `StackOverFlow`); or, no handler being installed, with `UncaughtThrow` carrying the message and span of the
specification's uncaught `throw`. -/
theorem entry_run (G : GCtx) (hG : G.OK') (fuel : Nat) (g : String) (fd : FnDef) (I : FnInfo)
    (stmts : List Stmt) (hFn : FnVoidOK G g fd I stmts)
    (hgh : G.fr = true → ∀ y ∈ I.T, ("$iter_" ++ y) ∉ I.T) (sp : Span) (st : St) (mp : Int) (stk : List SVal)
    (mem : Mem) (hsp : SpecOK G mp st) (hmp : 0 ≤ mp)
    (hstack : stk.length ≤ G.lim.stack) (hcallLim : 1 ≤ G.lim.callStack) :
    match callBody G.cfg fuel sp G.mod fd.params fd.body [] st with
    | (.ok v, st') =>
      ∃ K, ∀ quantum, K ≤ quantum → ∀ vfuel, ∃ s',
        run G.code G.lim quantum none (vfuel + 1) (mkSI G.s [⟨mangleFnName G.mod g, 0⟩] mp 0 stk mem st.world) = .ok s' ∧
        s'.st = { G.s.st with out := st'.out, heap := st'.heap } ∧ s'.mp = mp ∧ s'.calls = [] ∧
        (s'.stack = stk ∨ ∃ o, OrgOK G.fr o ∧ s'.stack = ⟨v, o⟩ :: stk)
    | (.error (.fatal kd m fsp), st') =>
      kd ≠ "StackOverFlow" → ∃ K, ∀ quantum, K ≤ quantum → ∀ vfuel, ∃ s',
        run G.code G.lim quantum none (vfuel + 1) (mkSI G.s [⟨mangleFnName G.mod g, 0⟩] mp 0 stk mem st.world) =
          .fatal kd m fsp s' ∧ s'.st = { G.s.st with out := st'.out, heap := st'.heap }
    | (.error (.throw msg tsp), st') =>
      G.s.handlers = [] → ∃ K, ∀ quantum, K ≤ quantum → ∀ vfuel, ∃ s',
        run G.code G.lim quantum none (vfuel + 1) (mkSI G.s [⟨mangleFnName G.mod g, 0⟩] mp 0 stk mem st.world) =
          .fatal "UncaughtThrow" msg tsp s' ∧ s'.st = { G.s.st with out := st'.out, heap := st'.heap }
    | _ => True := by
  -- `run` polls once before the first quantum and the poll counts itself (`pollState`): the call is simulated in the
  -- context after that poll, whose runs `run_of_execHN` takes as they stand
  have h := callV_correct (G.withPolls (G.s.polls + 1)) (hG.withPolls _) fuel g fd I stmts (hFn.withPolls _) hgh sp []
    st [] mp stk mem (hsp.withPolls _) hmp
  have hp : HmsProofs.Lemmas.VMRun.PollPass G.lim none (mkSI G.s [⟨mangleFnName G.mod g, 0⟩] mp 0 stk mem st.world) :=
    ⟨List.cons_ne_nil _ _, rfl, hstack, hcallLim⟩
  have hcode : (G.withPolls (G.s.polls + 1)).code = G.code := rfl
  have hlim : (G.withPolls (G.s.polls + 1)).lim = G.lim := rfl
  have hmod : (G.withPolls (G.s.polls + 1)).mod = G.mod := rfl
  have hcfg : (G.withPolls (G.s.polls + 1)).cfg = G.cfg := rfl
  rw [hmod, hcfg] at h
  rcases hev : callBody G.cfg fuel sp G.mod fd.params fd.body [] st with ⟨res, st'⟩
  rw [hev] at h
  cases res with
  | error ce =>
    cases ce
    case throw msg tsp =>
      intro hh
      obtain ⟨_, mem', hct, _⟩ := h
      obtain ⟨k, s1, frames', mp', xs, e1, e2⟩ := hct 0
      rw [hcode, hlim] at e1 e2
      simp only [List.map_nil, List.nil_append] at e1
      have e3 : exec1H G.code G.lim s1 = .intr (.throw msg tsp)
          (mkSI (G.withPolls (G.s.polls + 1)).s (frames' ++ []) mp' (0 + k + 1) (xs ++ stk) mem' st'.world) := by
        rw [exec1H_of_throw e2]
        unfold dispatch
        have : (mkSI (G.withPolls (G.s.polls + 1)).s (frames' ++ []) mp' (0 + k + 1) (xs ++ stk) mem' st'.world).handlers = [] := hh
        rw [this]
      have e4 : execHN G.code G.lim (k + 1) (mkSI (G.withPolls (G.s.polls + 1)).s [⟨mangleFnName G.mod g, 0⟩] mp 0 stk mem
          st.world) = .intr (.throw msg tsp)
          (mkSI (G.withPolls (G.s.polls + 1)).s (frames' ++ []) mp' (0 + k + 1) (xs ++ stk) mem' st'.world) := by
        rw [execHN_add, e1]
        simp only []
        rw [execHN_one, e3]
      exact ⟨k + 1, fun quantum hq vfuel => ⟨_, (run_of_execHN hp).2 _ _ e4 quantum hq vfuel, rfl⟩⟩
    case fatal kd fm fsp =>
      intro hk
      obtain ⟨k, s', hk', h1, _⟩ := h hk 0
      rw [hcode, hlim] at hk'
      simp only [List.map_nil, List.nil_append] at hk'
      exact ⟨k, fun quantum hq vfuel => ⟨s', (run_of_execHN hp).2 _ s' hk' quantum hq vfuel, h1⟩⟩
    all_goals exact True.intro
  | ok v =>
    obtain ⟨_, mem', stk', hstk, hcall, _⟩ := h
    obtain ⟨k, hk⟩ := hcall 0
    rw [hcode, hlim] at hk
    simp only [List.map_nil, List.nil_append] at hk
    exact ⟨k + 1, fun quantum hq vfuel => ⟨_, (run_of_execHN hp).1 _ hk rfl quantum hq vfuel, rfl, rfl, rfl, hstk⟩⟩

end HmsProofs.Sim
