import HmsProofs.Lemmas.SimEnv
import HmsProofs.Lemmas.SimFrag
/-! Semantic correctness of `let`, assignment, `if` and `while` (`exec_stmt_all`).
Four statements, one per evaluator of the specification, are proved together by induction on the fuel: `PS`
(`evalStmt`), `PSs` (`evalStmts`), `PB` (`evalBlock` in its scope), `PL` (`loopRun`). Who needs whom, at which fuel:
`PS (n+1)` needs `PL n` (a `while` statement is its loop one unit down) and `PB (n-1)` (an `if` statement is an
expression statement: `evalStmt (n+1)` runs `evalExpr n`, which runs the blocks at `n-1`); `PSs (n+1)` needs `PS n` and
`PSs n`; `PB (n+1)` needs `PSs n`; `PL (n+1)` needs `PB n` and `PL n`. The step by two makes the induction of
`exec_stmt_all` a strong one. -/
namespace HmsProofs.Sim
open Hms.Core Hms.Core.Comp Hms.Core.VM

/-- `SimP` for statements: on normal completion only the scopes of the specification state changed, the operand stack is
as before, and the invariant `Q` holds for the new scopes and the new memory. The statements of the fragment never end
in `break`/`continue`/`return`/`throw`. -/
def SimS {α : Type} (code : Code) (lim : Limits) (s : VMState) (ip n : Nat) (stk : List SVal)
    (mem : List (Int × Val)) (Q : SScopes → List (Int × Val) → Prop) (st : St)
    (r : Except Ctl α × St) : Prop :=
  match r with
  | (.ok _, st') =>
    st' = { st with scopes := st'.scopes } ∧
      ∃ mem', RunsTo code lim s ip stk mem (ip + n) stk mem' ∧ Q st'.scopes mem'
  | (.error (.fatal kd m sp), _) => RunsFatal code lim s ip stk mem kd m sp
  | (.error (.unsupported _), _) => True
  | (.error .timeout, _) => True
  | _ => False

theorem SimS.of_SimP_error {α Q code lim s ip n n' stk mem st c st1 st2}
    (h : SimP code lim s ip n stk mem st (.error c, st1)) :
    SimS (α := α) code lim s ip n' stk mem Q st (.error c, st2) := by
  cases c <;> first | trivial | exact h.elim | exact h.2

theorem SimS.error_after {α β Q Q' code lim s ip n n' stk mem st st' c st1 st2 ip1 stk1 mem1}
    (h : SimS (α := α) code lim s ip1 n stk1 mem1 Q st (.error c, st1))
    (h0 : RunsTo code lim s ip stk mem ip1 stk1 mem1) :
    SimS (α := β) code lim s ip n' stk mem Q' st' (.error c, st2) := by
  cases c <;> first | trivial | exact h.elim | exact h0.fatal h

section Main
variable (cfg : Cfg) (code : Code) (lim : Limits) (mod : String) (T : List String) (N : String → Prop)
variable (σ lab : String → Nat) (s : VMState) (c : List (RInstr × Span))

/-- At this fuel, every statement of the fragment whose code is `Placed` at `ip` is simulated (`SimS`) from any
specification state related by `StRel`, and `StRel` holds again for the compiler environment after the statement. -/
def PS (fuel : Nat) : Prop :=
  ∀ (st : Stmt) (env : CEnv) (spec : St) (ip : Nat) (stk : List SVal) (mem : List (Int × Val)),
    Frag.okS st = true → (∀ x ∈ Frag.identsS st, x ∈ T) → Frag.wsS mod st env = true →
    (∀ m ∈ codeVars (cS mod st env).1, N m) → Placed lab σ c ip (cS mod st env).1 →
    StRel mod T N σ lim s.mp env.scopes env.vm spec.scopes mem → s.st.heap = spec.heap →
    SimS code lim s ip (nI (cS mod st env).1) stk mem
      (StRel mod T N σ lim s.mp (cS mod st env).2.scopes (cS mod st env).2.vm) spec (evalStmt cfg fuel st spec)

def PSs (fuel : Nat) : Prop :=
  ∀ (ss : List Stmt) (env : CEnv) (spec : St) (ip : Nat) (stk : List SVal) (mem : List (Int × Val)),
    Frag.okSs ss = true → (∀ x ∈ Frag.identsSs ss, x ∈ T) → Frag.wsSs mod ss env = true →
    (∀ m ∈ codeVars (cSs mod ss env).1, N m) → Placed lab σ c ip (cSs mod ss env).1 →
    StRel mod T N σ lim s.mp env.scopes env.vm spec.scopes mem → s.st.heap = spec.heap →
    SimS code lim s ip (nI (cSs mod ss env).1) stk mem
      (StRel mod T N σ lim s.mp (cSs mod ss env).2.scopes (cSs mod ss env).2.vm) spec (evalStmts cfg fuel ss spec)

def PB (fuel : Nat) : Prop :=
  ∀ (b : Block) (env : CEnv) (spec : St) (ip : Nat) (stk : List SVal) (mem : List (Int × Val)),
    Frag.okB b = true → (∀ x ∈ Frag.identsB b, x ∈ T) → Frag.wsB mod b env = true →
    (∀ m ∈ codeVars (cB mod b env).1, N m) → Placed lab σ c ip (cB mod b env).1 →
    StRel mod T N σ lim s.mp env.scopes env.vm spec.scopes mem → s.st.heap = spec.heap →
    SimS code lim s ip (nI (cB mod b env).1) stk mem
      (StRel mod T N σ lim s.mp (cB mod b env).2.scopes (cB mod b env).2.vm) spec
      (inScope (evalBlock cfg fuel b) spec)

/-- After the `while` loop the invariant holds again for the environment the loop started in. -/
def PL (fuel : Nat) : Prop :=
  ∀ (sp : Span) (cnd : Expr) (body : Block) (env : CEnv) (spec : St) (ip : Nat) (stk : List SVal)
    (mem : List (Int × Val)),
    Frag.okS (.whileS sp cnd body) = true → (∀ x ∈ Frag.identsS (.whileS sp cnd body), x ∈ T) →
    Frag.wsS mod (.whileS sp cnd body) env = true →
    (∀ m ∈ codeVars (cS mod (.whileS sp cnd body) env).1, N m) →
    Placed lab σ c ip (cS mod (.whileS sp cnd body) env).1 →
    StRel mod T N σ lim s.mp env.scopes env.vm spec.scopes mem → s.st.heap = spec.heap →
    SimS code lim s ip (nI (cS mod (.whileS sp cnd body) env).1) stk mem
      (StRel mod T N σ lim s.mp env.scopes env.vm) spec (loopRun cfg fuel (some cnd) body spec)

variable {cfg code lim mod T N σ lab s c} {f : Frame} {rest : List Frame}

/-- `hPBlow` is `PB` at `n - 1`, where the blocks of an `if` statement run (see the head of the file), written without
subtraction. -/
theorem ps_step (hc : s.calls = f :: rest) (hf : findCode code f.fn = some c) (hg : Good T N σ lim s.mp)
    (n : Nat) (hPL : PL cfg code lim mod T N σ lab s c n)
    (hPBlow : ∀ m, m + 1 = n → PB cfg code lim mod T N σ lab s c m) :
    PS cfg code lim mod T N σ lab s c (n + 1) := by
  intro st env spec ip stk mem hs hT hws hN hpl hrel hheap
  cases st
  case typedef | trigger | ret | brk | cont | loopS | forS => simp [Frag.okS] at hs
  case letS sp name vty needsCast oty e =>
    simp only [Frag.okS, Bool.and_eq_true, Bool.not_eq_eq_eq_not, Bool.not_true] at hs
    obtain ⟨hnc, he⟩ := hs
    subst hnc
    simp only [Frag.wsS] at hws
    simp only [Frag.identsS, List.mem_cons] at hT
    simp only [cS] at hN hpl ⊢
    generalize hce : cpE mod (ρS env.scopes) e env.lm = ce at hN hpl ⊢
    unplace at hpl
    obtain ⟨hplE, iset⟩ := hpl
    have hNm : N (freshVar mod { env with lm := ce.2 } name).1 := hN _ (by simp [codeVars, var?])
    have henv := hrel.scopes.envRel T σ lim s.mp (Frag.varsE e) (fun x hx => hT x (Or.inr hx)) hws
    have h1 := exec_pure cfg code lim mod (ρS env.scopes) σ lab s f rest c hc hf n e spec ip stk mem env.lm he
      (hce ▸ hplE) henv hheap
    rw [hce] at h1
    rw [evalStmt_let_bind, M_bind]
    rcases hev : evalExpr cfg n e spec with ⟨r1, st1⟩
    rw [hev] at h1
    cases r1 with
    | error ce' => exact .of_SimP_error h1
    | ok v =>
      obtain ⟨rfl, hrun⟩ := h1
      simp only [declare_run]
      have hdecl := StRel.declare (env := { env with lm := ce.2 }) hg hrel name v hNm
      refine ⟨declareSt_frame name v st1, _, (hrun.trans (RunsTo.setVar hc hf iset (hg.frame _ hNm).1 (hg.frame _ hNm).2)).cast ?_, ?_⟩
      · omega
      · rw [declareSt_scopes]
        exact hdecl
  case exprS sp e =>
    rcases okS_exprS_inv sp e hs with ⟨asp, op, isp, ity, name, isFn, r, rfl, hr, hlog⟩ |
      ⟨isp, ty, cnd, t, eb, rfl, hty, hcnd, ht, heb⟩ | ⟨isp, ty, cnd, t, rfl, hty, hcnd, ht⟩
    · simp only [Frag.wsS] at hws
      obtain ⟨hname, hvr⟩ := resolved_cons hws
      simp only [Frag.identsS, List.mem_cons] at hT
      have hxT : name ∈ T := hT name (Or.inl rfl)
      obtain ⟨m, hρ⟩ := Option.isSome_iff_exists.mp hname
      obtain ⟨cur, hls, hm0, hm1, hmv⟩ := hrel.scopes.read T σ lim s.mp hxT hρ
      have henv := hrel.scopes.envRel T σ lim s.mp (Frag.varsE r) (fun x hx => hT x (Or.inr hx)) hvr
      rw [evalStmt_exprS]
      match n with
      | 0 => rw [evalExpr]; trivial
      | 1 => rw [evalExpr_assign_short]; trivial
      | n' + 2 =>
      cases op with
      | none =>
        simp only [cS, hρ, Option.getD_some] at hN hpl ⊢
        generalize hcr : cpE mod (ρS env.scopes) r env.lm = cr at hN hpl ⊢
        unplace at hpl
        obtain ⟨hplE, iset⟩ := hpl
        have h1 := exec_pure cfg code lim mod (ρS env.scopes) σ lab s f rest c hc hf (n' + 1) r spec ip stk mem env.lm hr
          (hcr ▸ hplE) henv hheap
        rw [hcr] at h1
        rw [evalExpr_assign_none_bind, M_bind]
        rcases hev : evalExpr cfg (n' + 1) r spec with ⟨r1, st1⟩
        rw [hev] at h1
        cases r1 with
        | error ce' => exact .of_SimP_error h1
        | ok v =>
          obtain ⟨rfl, hrun⟩ := h1
          obtain ⟨ss', hass, hrel'⟩ := hrel.assign hg name hxT m hρ v
          simp only [M_bind, writePlace_var name false v st1 ss' hass]
          exact ⟨rfl, _, (hrun.trans (RunsTo.setVar hc hf iset hm0 hm1)).cast (by omega), hrel'⟩
      | some o =>
        have hlog := hlog o rfl
        simp only [cS, hρ, Option.getD_some] at hN hpl ⊢
        generalize hcr : cpE mod (ρS env.scopes) r env.lm = cr at hN hpl ⊢
        unplace at hpl
        obtain ⟨iget, hplE, hplA, iset⟩ := hpl
        have hget : RunsTo code lim s ip stk mem (ip + 1) (⟨cur, none⟩ :: stk) mem :=
          RunsTo.getVar hc hf iget hm0 hm1 hmv
        have h1 := exec_pure cfg code lim mod (ρS env.scopes) σ lab s f rest c hc hf (n' + 1) r spec (ip + 1)
          (⟨cur, none⟩ :: stk) mem env.lm hr (hcr ▸ hplE) henv hheap
        rw [hcr] at h1
        rw [evalExpr_assign_some, readPlace_var name false cur spec hls]
        simp only []
        rcases hev : evalExpr cfg (n' + 1) r spec with ⟨r1, st1⟩
        rw [hev] at h1
        cases r1 with
        | error ce' => exact .of_SimP_error (SimP.error_after 0 hget h1)
        | ok b =>
          obtain ⟨rfl, hrun⟩ := h1
          simp only []
          have ha := exec_arith code lim s f rest c σ lab hc hf o asp cur b none none st1 (ip + 1 + nI cr.1)
            stk mem hlog hplA hheap
          rcases hb : binOp o cur b asp st1 with ⟨rb, st2⟩
          obtain rfl := binOp_state hb
          rw [hb] at ha
          cases rb with
          | error cb => cases cb <;> first | trivial | exact ha.elim | exact (hget.trans hrun).fatal ha
          | ok v =>
            simp only [] at ha ⊢
            obtain ⟨ss', hass, hrel'⟩ := hrel.assign hg name hxT m hρ v
            simp only [writePlace_var name false v st2 ss' hass]
            exact ⟨rfl, _, (((hget.trans hrun).trans ha).trans (RunsTo.setVar hc hf iset hm0 hm1)).cast (by omega), hrel'⟩
    · simp only [Frag.wsS, Bool.and_eq_true] at hws
      obtain ⟨⟨hvc, hwt⟩, hwe⟩ := hws
      simp only [Frag.identsS, List.mem_append] at hT
      rw [evalStmt_exprS]
      match n, hPBlow with
      | 0, _ => rw [evalExpr]; trivial
      | m + 1, hPBlow =>
      have hPB := hPBlow m rfl
      simp only [cS, codeVars_append, List.mem_append] at hN hpl ⊢
      generalize hC : cpE mod (ρS env.scopes) cnd env.lm = C at hN hpl hwt hwe ⊢
      generalize hAf : freshLabel mod C.2 "if_after" = aft at hN hpl hwt hwe ⊢
      generalize hEl : freshLabel mod aft.2 "else" = els at hN hpl hwt hwe ⊢
      generalize hTb : cB mod t { env with lm := els.2 } = Tb at hN hpl hwe ⊢
      generalize hEb : cB mod eb Tb.2 = Eb at hN hpl ⊢
      unplace at hpl
      obtain ⟨hplC, ijif, hplT, ijmp, eels, hplE, eaft⟩ := hpl
      have hscT : Tb.2.scopes = env.scopes := by rw [← hTb, cB_scopes _ _ _ ht]
      have hscE : Eb.2.scopes = env.scopes := by rw [← hEb, cB_scopes _ _ _ heb, hscT]
      have hvmT : ∀ k, cnt env.vm k ≤ cnt Tb.2.vm k := fun k => by
        rw [← hTb]; exact cB_vm_mono mod t { env with lm := els.2 } k ht
      have hvmE : ∀ k, cnt Tb.2.vm k ≤ cnt Eb.2.vm k := fun k => by rw [← hEb]; exact cB_vm_mono mod eb _ k heb
      have henvc := hrel.scopes.envRel T σ lim s.mp (Frag.varsE cnd) (fun x hx => hT x (Or.inl hx)) hvc
      have h1 := exec_pure cfg code lim mod (ρS env.scopes) σ lab s f rest c hc hf m cnd spec ip stk mem env.lm hcnd
        (hC ▸ hplC) henvc hheap
      rw [hC] at h1
      rw [evalExpr_ifE_bind, M_bind]
      rcases hev : evalExpr cfg m cnd spec with ⟨r1, st1⟩
      rw [hev] at h1
      cases r1 with
      | error ce' => exact .of_SimP_error h1
      | ok v =>
        obtain ⟨rfl, hrun⟩ := h1
        cases v <;> try trivial
        rename_i bv
        cases bv with
        | true =>
          simp only []
          have hpre : RunsTo code lim s ip stk mem (ip + nI C.1 + 1) stk mem :=
            (hrun.trans (RunsTo.jumpIfFalse hc hf ijif)).cast (by simp only [if_true])
          have hb := hPB t { env with lm := els.2 } st1 (ip + nI C.1 + 1) stk mem ht
            (fun x hx => hT x (Or.inr (Or.inl hx))) hwt
            (fun mm hm => hN mm (Or.inl (Or.inl (Or.inl (Or.inr (hTb ▸ hm)))))) (hTb ▸ hplT) hrel hheap
          rw [hTb] at hb
          rcases hbe : inScope (evalBlock cfg m t) st1 with ⟨r2, st2⟩
          rw [hbe] at hb
          cases r2 with
          | error ce' => exact hb.error_after hpre
          | ok u =>
            obtain ⟨hfr, mem1, hrunB, hrelB⟩ := hb
            refine ⟨hfr, mem1, ((hpre.trans hrunB).trans (RunsTo.jump hc hf ijmp)).cast (by omega), ?_⟩
            rw [hscE, ← hscT]
            exact hrelB.vm_mono hvmE
        | false =>
          simp only []
          have hpre : RunsTo code lim s ip stk mem (ip + nI C.1 + 1 + nI Tb.1 + 1) stk mem :=
            (hrun.trans (RunsTo.jumpIfFalse hc hf ijif)).cast (by simp only [Bool.false_eq_true, if_false]; omega)
          have hrelT : StRel mod T N σ lim s.mp Tb.2.scopes Tb.2.vm st1.scopes mem := by
            rw [hscT]; exact hrel.vm_mono hvmT
          have hb := hPB eb Tb.2 st1 (ip + nI C.1 + 1 + nI Tb.1 + 1) stk mem heb
            (fun x hx => hT x (Or.inr (Or.inr hx))) hwe
            (fun mm hm => hN mm (Or.inl (Or.inr (hEb ▸ hm)))) (hEb ▸ hplE) hrelT hheap
          rw [hEb] at hb
          rcases hbe : inScope (evalBlock cfg m eb) st1 with ⟨r2, st2⟩
          rw [hbe] at hb
          cases r2 with
          | error ce' => exact hb.error_after hpre
          | ok u =>
            obtain ⟨hfr, mem1, hrunB, hrelB⟩ := hb
            exact ⟨hfr, mem1, (hpre.trans hrunB).cast (by omega), hrelB⟩
    · simp only [Frag.wsS, Bool.and_eq_true] at hws
      obtain ⟨hvc, hwt⟩ := hws
      simp only [Frag.identsS, List.mem_append] at hT
      rw [evalStmt_exprS]
      match n, hPBlow with
      | 0, _ => rw [evalExpr]; trivial
      | m + 1, hPBlow =>
      have hPB := hPBlow m rfl
      simp only [cS, codeVars_append, List.mem_append] at hN hpl ⊢
      generalize hC : cpE mod (ρS env.scopes) cnd env.lm = C at hN hpl hwt ⊢
      generalize hAf : freshLabel mod C.2 "if_after" = aft at hN hpl hwt ⊢
      generalize hEl : freshLabel mod aft.2 "else" = els at hN hpl hwt ⊢
      generalize hTb : cB mod t { env with lm := els.2 } = Tb at hN hpl ⊢
      unplace at hpl
      obtain ⟨hplC, ijif, hplT, ijmp, eaft⟩ := hpl
      have hscT : Tb.2.scopes = env.scopes := by rw [← hTb, cB_scopes _ _ _ ht]
      have hvmT : ∀ k, cnt env.vm k ≤ cnt Tb.2.vm k := fun k => by
        rw [← hTb]; exact cB_vm_mono mod t { env with lm := els.2 } k ht
      have henvc := hrel.scopes.envRel T σ lim s.mp (Frag.varsE cnd) (fun x hx => hT x (Or.inl hx)) hvc
      have h1 := exec_pure cfg code lim mod (ρS env.scopes) σ lab s f rest c hc hf m cnd spec ip stk mem env.lm hcnd
        (hC ▸ hplC) henvc hheap
      rw [hC] at h1
      rw [evalExpr_ifE_bind, M_bind]
      rcases hev : evalExpr cfg m cnd spec with ⟨r1, st1⟩
      rw [hev] at h1
      cases r1 with
      | error ce' => exact .of_SimP_error h1
      | ok v =>
        obtain ⟨rfl, hrun⟩ := h1
        cases v <;> try trivial
        rename_i bv
        cases bv with
        | true =>
          simp only []
          have hpre : RunsTo code lim s ip stk mem (ip + nI C.1 + 1) stk mem :=
            (hrun.trans (RunsTo.jumpIfFalse hc hf ijif)).cast (by simp only [if_true])
          have hb := hPB t { env with lm := els.2 } st1 (ip + nI C.1 + 1) stk mem ht
            (fun x hx => hT x (Or.inr hx)) hwt
            (fun mm hm => hN mm (Or.inl (Or.inr (hTb ▸ hm)))) (hTb ▸ hplT) hrel hheap
          rw [hTb] at hb
          rcases hbe : inScope (evalBlock cfg m t) st1 with ⟨r2, st2⟩
          rw [hbe] at hb
          cases r2 with
          | error ce' => exact hb.error_after hpre
          | ok u =>
            obtain ⟨hfr, mem1, hrunB, hrelB⟩ := hb
            exact ⟨hfr, mem1, ((hpre.trans hrunB).trans (RunsTo.jump hc hf ijmp)).cast (by omega), hrelB⟩
        | false =>
          refine ⟨rfl, mem, (hrun.trans (RunsTo.jumpIfFalse hc hf ijif)).cast (by simp only [Bool.false_eq_true, if_false]; omega), ?_⟩
          rw [hscT]
          exact hrel.vm_mono hvmT
  case whileS sp cnd body =>
    rw [evalStmt]
    have h := hPL sp cnd body env spec ip stk mem hs hT hws hN hpl hrel hheap
    rcases hl : loopRun cfg n (some cnd) body spec with ⟨r1, st1⟩
    rw [hl] at h
    cases r1 with
    | error ce' => cases ce' <;> exact h
    | ok u =>
      obtain ⟨h1, mem', hrun, hq⟩ := h
      refine ⟨h1, mem', hrun, ?_⟩
      have hsc : (cS mod (.whileS sp cnd body) env).2.scopes = env.scopes := by
        simp only [cS]; rw [cB_scopes _ _ _ (by simp only [Frag.okS, Bool.and_eq_true] at hs; exact hs.2)]
      rw [hsc]
      exact hq.vm_mono fun k => cS_vm_mono mod _ env k hs

theorem pss_step (n : Nat) (hPS : PS cfg code lim mod T N σ lab s c n) (hPSs : PSs cfg code lim mod T N σ lab s c n) :
    PSs cfg code lim mod T N σ lab s c (n + 1) := by
  intro ss env spec ip stk mem hs hT hws hN hpl hrel hheap
  cases ss with
  | nil =>
    rw [evalStmts_nil]
    exact ⟨rfl, mem, (RunsTo.refl code lim s ip stk mem).cast (by simp [cSs]), hrel⟩
  | cons st ss =>
    simp only [Frag.okSs, Bool.and_eq_true] at hs
    simp only [Frag.wsSs, Bool.and_eq_true] at hws
    simp only [Frag.identsSs, List.mem_append] at hT
    simp only [cSs, codeVars_append, List.mem_append] at hN hpl ⊢
    obtain ⟨hpl1, hpl2⟩ := hpl.append
    have h1 := hPS st env spec ip stk mem hs.1 (fun x hx => hT x (Or.inl hx)) hws.1
      (fun m hm => hN m (Or.inl hm)) hpl1 hrel hheap
    rw [evalStmts_cons]
    rcases hev : evalStmt cfg n st spec with ⟨r1, st1⟩
    rw [hev] at h1
    cases r1 with
    | error ce' => cases ce' <;> exact h1
    | ok u =>
      obtain ⟨hfr, mem1, hrun1, hrel1⟩ := h1
      simp only []
      have hheap1 : s.st.heap = st1.heap := by rw [hfr]; exact hheap
      have h2 := hPSs ss (cS mod st env).2 st1 (ip + nI (cS mod st env).1) stk mem1 hs.2
        (fun x hx => hT x (Or.inr hx)) hws.2 (fun m hm => hN m (Or.inr hm)) hpl2 hrel1 hheap1
      rcases hev2 : evalStmts cfg n ss st1 with ⟨r2, st2⟩
      rw [hev2] at h2
      cases r2 with
      | error ce' => exact h2.error_after hrun1
      | ok u2 =>
        obtain ⟨hfr2, mem2, hrun2, hrel2⟩ := h2
        refine ⟨?_, mem2, (hrun1.trans hrun2).cast (by rw [nI_append]; omega), hrel2⟩
        rw [hfr2, hfr]

theorem pb_step (n : Nat) (hPSs : PSs cfg code lim mod T N σ lab s c n) :
    PB cfg code lim mod T N σ lab s c (n + 1) := by
  intro b env spec ip stk mem hs hT hws hN hpl hrel hheap
  obtain ⟨bsp, bty, stmts, oe⟩ := b
  cases oe with
  | some _ => simp [Frag.okB] at hs
  | none =>
    simp only [Frag.okB] at hs
    simp only [Frag.wsB] at hws
    simp only [Frag.identsB] at hT
    simp only [cB] at hN hpl ⊢
    rw [inScope_run, evalBlock_stmts]
    have h1 := hPSs stmts { env with scopes := [] :: env.scopes } { spec with scopes := [] :: spec.scopes } ip stk mem
      hs hT hws hN hpl hrel.push hheap
    rcases hev : evalStmts cfg n stmts { spec with scopes := [] :: spec.scopes } with ⟨r1, st1⟩
    rw [hev] at h1
    cases r1 with
    | error ce' => cases ce' <;> exact h1
    | ok u =>
      obtain ⟨hfr, mem1, hrun1, hrel1⟩ := h1
      refine ⟨?_, mem1, hrun1, hrel1.tail⟩
      simp only []
      rw [hfr]

theorem pl_step (hc : s.calls = f :: rest) (hf : findCode code f.fn = some c) (n : Nat)
    (hPB : PB cfg code lim mod T N σ lab s c n) (hPL : PL cfg code lim mod T N σ lab s c n) :
    PL cfg code lim mod T N σ lab s c (n + 1) := by
  intro sp cnd body env spec ip stk mem hs hT hws hN hpl hrel hheap
  have hs' := hs
  simp only [Frag.okS, Bool.and_eq_true] at hs'
  obtain ⟨hcnd, hbody⟩ := hs'
  have hws' := hws
  simp only [Frag.wsS, Bool.and_eq_true] at hws'
  obtain ⟨hvc, hwb⟩ := hws'
  have hT' := hT
  simp only [Frag.identsS, List.mem_append] at hT'
  have hN' := hN
  have hpl' := hpl
  simp only [cS, codeVars_append, List.mem_append] at hN' hpl' ⊢
  generalize hH : freshLabel mod env.lm "loop_head" = head at hN' hpl' hwb ⊢
  generalize hA : freshLabel mod head.2 "loop_end" = after at hN' hpl' hwb ⊢
  generalize hC : cpE mod (ρS env.scopes) cnd after.2 = cc at hN' hpl' hwb ⊢
  generalize hB : cB mod body { env with lm := cc.2 } = cb at hN' hpl' ⊢
  unplace at hpl'
  obtain ⟨ehead, hplC, ijif, hplB, ijmp, eafter⟩ := hpl'
  have henv := hrel.scopes.envRel T σ lim s.mp (Frag.varsE cnd) (fun x hx => hT' x (Or.inl hx)) hvc
  have h1 := exec_pure cfg code lim mod (ρS env.scopes) σ lab s f rest c hc hf n cnd spec ip stk mem after.2 hcnd
    (hC ▸ hplC) henv hheap
  rw [hC] at h1
  rw [loopRun_step]
  rcases hev : evalExpr cfg n cnd spec with ⟨r1, st1⟩
  rw [hev] at h1
  cases r1 with
  | error ce' => exact .of_SimP_error h1
  | ok v =>
    obtain ⟨rfl, hrun⟩ := h1
    cases v <;> try trivial
    rename_i bv
    cases bv with
    | false =>
      refine ⟨rfl, mem, (hrun.trans (RunsTo.jumpIfFalse hc hf ijif)).cast ?_, hrel⟩
      simp only [Bool.false_eq_true, if_false]
      omega
    | true =>
      simp only []
      have hpre : RunsTo code lim s ip stk mem (ip + nI cc.1 + 1) stk mem :=
        (hrun.trans (RunsTo.jumpIfFalse hc hf ijif)).cast (by simp only [if_true])
      have hb := hPB body { env with lm := cc.2 } st1 (ip + nI cc.1 + 1) stk mem hbody
        (fun x hx => hT' x (Or.inr hx)) hwb
        (fun m hm => hN' m (Or.inl (Or.inr (hB ▸ hm)))) (hB ▸ hplB) hrel hheap
      rw [hB] at hb
      rcases hbe : inScope (evalBlock cfg n body) st1 with ⟨r2, s'⟩
      rw [hbe] at hb
      have hjump : ∀ memx, RunsTo code lim s (ip + nI cc.1 + 1 + nI cb.1) stk memx ip stk memx := fun memx =>
        (RunsTo.jump hc hf ijmp).cast ehead
      cases r2 with
      -- `break`/`continue` cannot come out of a block of the fragment
      | error ce' => cases ce' <;> first | trivial | exact hb.elim | exact hpre.fatal hb
      | ok u =>
        obtain ⟨hfr, mem1, hrunB, hrelB⟩ := hb
        simp only []
        have hscB : cb.2.scopes = env.scopes := by rw [← hB, cB_scopes _ _ _ hbody]
        rw [hscB] at hrelB
        have hrel1 : StRel mod T N σ lim s.mp env.scopes env.vm s'.scopes mem1 :=
          ⟨hrelB.scopes, hrel.nodup, hrel.inN, hrel.named⟩
        have hheap1 : s.st.heap = s'.heap := by rw [hfr]; exact hheap
        have hloop := hPL sp cnd body env s' ip stk mem1 hs hT hws hN hpl hrel1 hheap1
        simp only [cS, hH, hA, hC, hB, nI_append, nI_cons, nI_nil, Nat.add_zero, Nat.zero_add] at hloop
        rcases hl : loopRun cfg n (some cnd) body s' with ⟨r3, s''⟩
        rw [hl] at hloop
        have hround : RunsTo code lim s ip stk mem ip stk mem1 := (hpre.trans hrunB).trans (hjump mem1)
        cases r3 with
        | error ce' => exact hloop.error_after hround
        | ok u3 =>
          obtain ⟨hfr3, mem3, hrun3, hrel3⟩ := hloop
          refine ⟨?_, mem3, hround.trans hrun3, hrel3⟩
          rw [hfr3, hfr]

theorem exec_stmt_all (hc : s.calls = f :: rest) (hf : findCode code f.fn = some c) (hg : Good T N σ lim s.mp) :
    ∀ fuel, PS cfg code lim mod T N σ lab s c fuel ∧ PSs cfg code lim mod T N σ lab s c fuel ∧
      PB cfg code lim mod T N σ lab s c fuel ∧ PL cfg code lim mod T N σ lab s c fuel := by
  intro fuel
  -- strong induction: `ps_step` wants `PB` two units down
  induction fuel using Nat.strongRecOn with
  | _ fuel ih =>
  cases fuel with
  | zero =>
    refine ⟨?_, ?_, ?_, ?_⟩
    · intro st env spec ip stk mem _ _ _ _ _ _ _; rw [evalStmt]; trivial
    · intro ss env spec ip stk mem _ _ _ _ _ _ _; rw [evalStmts]; trivial
    · intro b env spec ip stk mem _ _ _ _ _ _ _; rw [inScope_run, evalBlock]; trivial
    · intro sp cnd body env spec ip stk mem _ _ _ _ _ _ _; rw [loopRun]; trivial
  | succ n =>
    obtain ⟨h1, h2, h3, h4⟩ := ih n (Nat.lt_succ_self n)
    exact ⟨ps_step hc hf hg n h4 (fun m hm => (ih m (by omega)).2.2.1), pss_step n h1 h2, pb_step n h2,
      pl_step hc hf n h3 h4⟩

end Main

/-- `compiled_pure_correct` for statement sequences. In addition every slot of the function lies inside the frame and
the tracked identifiers `T` include all identifiers of `ss`; the simulation (`SimS`) re-establishes the relation
`StRel` between specification scopes, compiler scopes and VM memory. -/
theorem compiled_stmts_correct (cfg : Cfg) (code : Code) (lim : Limits) (mod : String) (T : List String)
    (fuel : Nat) (ss : List Stmt) (env : CEnv) (spec : St) (s : VMState) (f : Frame) (rest : List Frame)
    (pre post : SCode) (r : NCode) (stk : List SVal) (mem : List (Int × Val))
    (hs : Frag.okSs ss = true) (hT : ∀ x ∈ Frag.identsSs ss, x ∈ T)
    (hws : Frag.wsSs mod ss env = true)
    (hrel : relocate (pre ++ (cSs mod ss env).1 ++ post) = some r)
    (hpost : ∀ l ∈ definedLabels (cSs mod ss env).1, l ∉ definedLabels post)
    (hcalls : s.calls = f :: rest) (hfn : findCode code f.fn = some (renameVars r))
    (hframe : ∀ m ∈ varNames r, 0 ≤ s.mp - (slotFn r m : Int) ∧ s.mp - (slotFn r m : Int) < (lim.memory : Int))
    (hst : StRel mod T (· ∈ varNames r) (slotFn r) lim s.mp env.scopes env.vm spec.scopes mem)
    (hheap : s.st.heap = spec.heap) :
    SimS code lim s (nI pre) (nI (cSs mod ss env).1) stk mem
      (StRel mod T (· ∈ varNames r) (slotFn r) lim s.mp (cSs mod ss env).2.scopes (cSs mod ss env).2.vm)
      spec (evalStmts cfg fuel ss spec) := by
  have hg : Good T (· ∈ varNames r) (slotFn r) lim s.mp :=
    ⟨fun a b ha hb e => (slotFn_inj r a b ha hb).mp e, hframe⟩
  have hall := exec_stmt_all (cfg := cfg) (code := code) (lim := lim) (mod := mod) (T := T)
    (N := (· ∈ varNames r)) (σ := slotFn r) (lab := labelIndex (pre ++ (cSs mod ss env).1 ++ post))
    (s := s) (f := f) (rest := rest) (c := renameVars r) hcalls hfn hg fuel
  refine hall.2.1 ss env spec (nI pre) stk mem hs hT hws ?_
    (placed_of_relocate pre _ post r hrel (cSs_static mod ss env hs).1.nodup hpost) hst hheap
  intro m hm
  show m ∈ varNames r
  rw [varNames_relocate _ r hrel]
  simp only [codeVars_append, List.mem_append]
  exact Or.inl (Or.inr hm)

end HmsProofs.Sim
