import Hms.Core.Sem
/-! The specification evaluator, one step at a time. Three layers: the monad `M` pointwise (`M_bind`, `M_pure`, …); the
primitives of `Sem.lean` on the inputs the simulated fragment meets (`declare`, `inScope`, `println`, `callMember` on
`len`/`push`/`is_some`, …); and equations that unfold `evalExpr`, `evalList`, …, `loopRun`, `forRun` by one level of
fuel on one form of input. An equation is pointwise (`… st = match … with`), between monadic terms (suffix `_bind`), or
both, according to what its users rewrite — the chains of `Lemmas/SimHSeq` take the `_bind` form, the proofs by cases
on a result the pointwise one; `_short`/`_one` are the timeouts at fuel 1. Forms outside the simulated fragment
(`lambda`, `anyobj`, `trigger`, `let` with a cast, `return;`) have none. The simulation rewrites with these and does
not unfold the evaluator.
The statements speak of the specification alone (`C01`, `C11` use them as such); the namespace is that of the
simulation, their main user. -/
namespace HmsProofs.Sim
open Hms.Core

theorem M_bind {α β} (x : M α) (f : α → M β) (st : St) :
    (x >>= f) st = match x st with
      | (.ok a, st1) => f a st1
      | (.error c, st1) => (.error c, st1) := by
  show (ExceptT.bind x f) st = _
  unfold ExceptT.bind ExceptT.mk ExceptT.bindCont
  show (StateT.bind _ _) st = _
  unfold StateT.bind
  simp only []
  show (match (x st) with | (a, s) => _) = _
  rcases h : x st with ⟨r, st1⟩
  cases r <;> rfl

theorem M_get (st : St) : (get : M St) st = (.ok st, st) := rfl

theorem M_pure {α} (a : α) (st : St) : (pure a : M α) st = (.ok a, st) := rfl

theorem M_throw {α} (c : Ctl) (st : St) : (throwCtl c : M α) st = (.error c, st) := rfl

theorem alloc_run (c : Cell) (st : St) :
    alloc c st = (.ok (.ref st.heap.size), { st with heap := st.heap.push c }) := rfl

theorem readCell_run (a : Nat) (st : St) :
    readCell a st = match st.heap[a]? with
      | some c => (.ok c, st)
      | none => (.error (.unsupported "dangling reference"), st) := by
  unfold readCell
  rw [M_bind, M_get]
  simp only []
  cases st.heap[a]? <;> rfl

theorem readCell_bind {α} (a : Nat) (f : Cell → M α) (st : St) :
    (readCell a >>= f) st = match st.heap[a]? with
      | some c => f c st
      | none => (.error (.unsupported "dangling reference"), st) := by
  rw [M_bind, readCell_run]
  cases st.heap[a]? <;> rfl

def declareSt (name : String) (v : Val) (st : St) : St :=
  match st.scopes with
  | sc :: rest => { st with scopes := ((name, v) :: sc) :: rest }
  | [] => { st with scopes := [[(name, v)]] }

theorem declare_run (name v st) : declare name v st = (.ok (), declareSt name v st) := rfl

theorem declareSt_frame (name v st) : declareSt name v st = { st with scopes := (declareSt name v st).scopes } := by
  unfold declareSt
  cases st.scopes <;> rfl

theorem inScope_run {α} (m : M α) (st : St) :
    inScope m st = ((m { st with scopes := [] :: st.scopes }).1,
      { (m { st with scopes := [] :: st.scopes }).2 with
        scopes := (m { st with scopes := [] :: st.scopes }).2.scopes.tail }) := rfl

theorem displayM_run (v : Val) (st : St) :
    displayM v st = match display st.heap 1000000 v with
      | some d => (.ok d, st)
      | none => (.error (.unsupported "display of this value"), st) := by
  unfold displayM
  rw [M_bind, M_get]
  simp only []
  cases display st.heap 1000000 v <;> rfl

theorem mapM_displayM_run (vals : List Val) (st : St) :
    (vals.mapM displayM : M (List String)) st = match vals.mapM (display st.heap 1000000) with
      | some ds => (.ok ds, st)
      | none => (.error (.unsupported "display of this value"), st) := by
  induction vals with
  | nil => rfl
  | cons v vs ih =>
    rw [List.mapM_cons, List.mapM_cons, M_bind, displayM_run]
    cases hd : display st.heap 1000000 v with
    | none => rfl
    | some d =>
      simp only []
      rw [M_bind, ih]
      cases hds : vs.mapM (display st.heap 1000000) with
      | none => rfl
      | some ds => rfl

theorem eqM_run (a b : Val) (st : St) :
    eqM a b st = match valEq st.heap 64 a b with
      | some r => (.ok r, st)
      | none => (.error (.unsupported "equality of these values"), st) := by
  unfold eqM
  rw [M_bind, M_get]
  simp only []
  cases valEq st.heap 64 a b <;> rfl

theorem binOp_eq_run (a b : Val) (sp : Span) (st : St) :
    binOp .eq a b sp st = match valEq st.heap 64 a b with
      | some r => (.ok (.bool r), st)
      | none => (.error (.unsupported "equality of these values"), st) := by
  show ((eqM a b >>= fun r => pure (Val.bool r)) : M Val) st = _
  rw [M_bind, eqM_run]
  cases valEq st.heap 64 a b <;> rfl

theorem binOp_ne_run (a b : Val) (sp : Span) (st : St) :
    binOp .ne a b sp st = match valEq st.heap 64 a b with
      | some r => (.ok (.bool (!r)), st)
      | none => (.error (.unsupported "equality of these values"), st) := by
  show ((eqM a b >>= fun r => pure (Val.bool (!r))) : M Val) st = _
  rw [M_bind, eqM_run]
  cases valEq st.heap 64 a b <;> rfl

theorem readPlace_var (name : String) (g : Bool) (v : Val) (st : St)
    (h : lookupScopes name st.scopes = some v) :
    readPlace { var := some (name, g) } st = (.ok v, st) := by
  unfold readPlace
  simp only []
  rw [M_bind, M_get]
  simp only [h]
  rfl

theorem writePlace_var (name : String) (g : Bool) (v : Val) (st : St) (sc : List (List (String × Val)))
    (h : assignScopes name v st.scopes = some sc) :
    writePlace { var := some (name, g) } v st = (.ok (), { st with scopes := sc }) := by
  unfold writePlace
  simp only []
  rw [M_bind, M_get]
  simp only [h]
  rfl

theorem indexVal_list (a : Nat) (k : I64) (sp : Span) (st : St) (xs : List Val) (h : st.heap[a]? = some (.list xs)) :
    indexVal (.ref a) (.int k) sp st =
      match wrapIndex k xs.length with
      | some n => (.ok (xs.getD n .null), st)
      | none => (.error (.fatal "IndexOutOfBounds"
          s!"Index out of bounds: cannot index a list of length {xs.length} with {if k.toInt < 0 then k.toInt + xs.length else k.toInt}" sp), st) := by
  show (readCell a >>= fun c => _) st = _
  rw [readCell_bind, h]
  dsimp only
  cases wrapIndex k xs.length <;> rfl

theorem memberVal_dot (b : Val) (name : String) (sp : Span) (st : St) :
    memberVal b name .dot sp st =
      match b with
      | .ref a =>
        (match st.heap[a]? with
          | some (.obj fs) => (match fs.lookup name with
              | some v => (.ok v, st)
              | none => (.ok (.bound b name), st))
          | some _ => (.ok (.bound b name), st)
          | none => (.error (.unsupported "dangling reference"), st))
      | .range x y _ =>
        (if name == "start" then (.ok (.int x), st) else if name == "end" then (.ok (.int y), st)
          else (.ok (.bound b name), st))
      | _ => (.ok (.bound b name), st) := by
  cases b
  case ref a =>
    show (readCell a >>= fun c => _) st = _
    rw [readCell_bind]
    dsimp only
    cases st.heap[a]? with
    | none => rfl
    | some c =>
      cases c
      case obj fs => dsimp only; cases fs.lookup name <;> rfl
      all_goals rfl
  case range x y i =>
    show (if name == "start" then (pure (.int x) : M Val) else if name == "end" then pure (.int y)
      else pure (.bound (.range x y i) name)) st = _
    split
    · rfl
    · split <;> rfl
  all_goals rfl

theorem iterElems_range (a b : I64) (incl : Bool) (st : St) :
    iterElems (.range a b incl) st =
      if (a.toInt - b.toInt).natAbs > 100000 then (.error (.unsupported "huge range"), st)
      else (.ok ((rangeElems a b incl).map Val.int), st) := by
  show (if (a.toInt - b.toInt).natAbs > 100000 then (throwCtl (.unsupported "huge range") : M (List Val))
    else pure ((rangeElems a b incl).map Val.int)) st = _
  split <;> rfl

def printText (heap : Array Cell) (vals : List Val) : Option String :=
  (vals.mapM (display heap 1000000)).map fun ds => " ".intercalate ds ++ "\n"

theorem println_run (vals : List Val) (sp : Span) (st : St) :
    callBuiltin "println" vals sp st = match printText st.heap vals with
      | some t => (.ok .null, { st with out := st.out ++ t })
      | none => (.error (.unsupported "display of this value"), st) := by
  show ((vals.mapM displayM >>= fun ds => Hms.Core.emit (" ".intercalate ds ++ "\n") >>= fun _ => pure Val.null) : M Val) st = _
  rw [M_bind, mapM_displayM_run]
  unfold printText
  cases vals.mapM (display st.heap 1000000) with
  | none => rfl
  | some ds => rfl

theorem throw_run (v : Val) (sp : Span) (st : St) :
    callBuiltin "throw" [v] sp st = match display st.heap 1000000 v with
      | some d => (.error (.throw d sp), st)
      | none => (.error (.unsupported "display of this value"), st) := by
  show ((displayM v >>= fun d => throwCtl (.throw d sp)) : M Val) st = _
  rw [M_bind, displayM_run]
  cases display st.heap 1000000 v <;> rfl

theorem callMember_len (recv : Val) (sp : Span) (st : St) :
    callMember recv "len" [] sp st =
      match recv with
      | .str s => (.ok (.int (I64.ofInt s.length)), st)
      | .ref a =>
        (match st.heap[a]? with
          | some (.list xs) => (.ok (.int (I64.ofInt xs.length)), st)
          | some _ => (.error (.unsupported "member len"), st)
          | none => (.error (.unsupported "dangling reference"), st))
      | _ => (.error (.unsupported "member len"), st) := by
  cases recv
  case ref a =>
    show (readCell a >>= fun c => _) st = _
    rw [readCell_bind]
    -- the left side carries every case of `callMember` on a reference; only the right side is reduced (here and in
    -- `callMember_push`), since a simplifier pass over the left side walks through all of them
    conv => rhs; dsimp only
    cases st.heap[a]? with
    | none => rfl
    | some c => cases c <;> rfl
  all_goals rfl

theorem callMember_push (recv v : Val) (sp : Span) (st : St) :
    callMember recv "push" [v] sp st =
      match recv with
      | .ref a =>
        (match st.heap[a]? with
          | some (.list xs) => (.ok .null, { st with heap := st.heap.setIfInBounds a (.list (xs ++ [v])) })
          | some _ => (.error (.unsupported "member push"), st)
          | none => (.error (.unsupported "dangling reference"), st))
      | _ => (.error (.unsupported "member push"), st) := by
  cases recv
  case ref a =>
    show (readCell a >>= fun c => _) st = _
    rw [readCell_bind]
    conv => rhs; dsimp only
    cases st.heap[a]? with
    | none => rfl
    | some c => cases c <;> rfl
  all_goals rfl

theorem callMember_ref0 (nm : String) (hnm : nm = "is_some" ∨ nm = "is_none") (a : Nat) (sp : Span) (s : St) :
    callMember (.ref a) nm [] sp s =
      match s.heap[a]? with
      | some _ => (.error (.unsupported s!"member {nm}"), s)
      | none => (.error (.unsupported "dangling reference"), s) := by
  rcases hnm with rfl | rfl
  all_goals
    show (readCell a >>= fun c => _) s = _
    rw [readCell_bind]
    cases s.heap[a]? with
    | none => rfl
    | some c => cases c <;> rfl

theorem callMember_opt0 (nm : String) (hnm : nm = "is_some" ∨ nm = "is_none") (recv : Val) (sp : Span) (st : St) :
    (∃ o, recv = .opt o ∧ callMember recv nm [] sp st = (.ok (.bool (if nm = "is_some" then o.isSome else o.isNone)), st)) ∨
      (∃ w, ∀ st' : St, st'.heap = st.heap → callMember recv nm [] sp st' = (.error (.unsupported w), st')) := by
  cases recv
  case opt o =>
    left
    rcases hnm with rfl | rfl
    · exact ⟨o, rfl, rfl⟩
    · exact ⟨o, rfl, rfl⟩
  case ref a =>
    right
    cases hc : st.heap[a]? with
    | none => exact ⟨_, fun st' h => by rw [callMember_ref0 nm hnm, h, hc]⟩
    | some c => exact ⟨_, fun st' h => by rw [callMember_ref0 nm hnm, h, hc]⟩
  all_goals
    right
    rcases hnm with rfl | rfl <;> exact ⟨_, fun _ _ => rfl⟩

theorem evalExpr_grouped (cfg : Cfg) (fuel : Nat) (sp : Span) (e : Expr) :
    evalExpr cfg (fuel + 1) (.grouped sp e) = evalExpr cfg fuel e := by
  simp only [evalExpr]

theorem evalExpr_ident (cfg fuel sp ty n g f s st v) (h : lookupScopes n st.scopes = some v) :
    evalExpr cfg (fuel + 1) (.ident sp ty n g f s) st = (.ok v, st) := by
  rw [evalExpr.eq_def]
  simp only []
  rw [M_bind, M_get]
  simp only [h]
  rfl

theorem evalExpr_fnIdent (cfg fuel sp ty name g f s st m fd)
    (h1 : lookupScopes name st.scopes = none) (h2 : st.globals.lookup (st.module, name) = none)
    (h3 : resolveFn cfg.prog st.module name = some (m, fd)) :
    evalExpr cfg (fuel + 1) (.ident sp ty name g f s) st = (.ok (.fn m name), st) := by
  rw [evalExpr.eq_def]
  simp only []
  rw [M_bind, M_get]
  simp only [h1, h2, h3]
  rfl

theorem evalExpr_builtinIdent (cfg fuel sp ty name g f s st)
    (h1 : lookupScopes name st.scopes = none) (h2 : st.globals.lookup (st.module, name) = none)
    (h3 : resolveFn cfg.prog st.module name = none) (h4 : builtinNames.contains name = true) :
    evalExpr cfg (fuel + 1) (.ident sp ty name g f s) st = (.ok (.builtin name), st) := by
  rw [evalExpr.eq_def]
  simp only []
  rw [M_bind, M_get]
  simp only [h1, h2, h3, h4, if_true]
  rfl

def preOp (op : PrefixOp) (v : Val) : Except Ctl Val :=
  match op, v with
  | .neg, .int x => .ok (.int (-x))
  | .neg, .float x => .ok (.float (-x))
  | .not, .bool b => .ok (.bool (!b))
  | .not, .int x => .ok (.int (~~~x))
  | .some, v => .ok (.opt (some v))
  | _, _ => .error (.unsupported "prefix operand kind")

theorem evalExpr_pre (cfg fuel sp ty op e st) :
    evalExpr cfg (fuel + 1) (.pre sp ty op e) st =
      match evalExpr cfg fuel e st with
      | (.ok v, st1) => (preOp op v, st1)
      | (.error c, st1) => (.error c, st1) := by
  rw [evalExpr.eq_def]
  simp only []
  rw [M_bind]
  rcases evalExpr cfg fuel e st with ⟨r, st1⟩
  cases r with
  | error c => rfl
  | ok v => cases op <;> cases v <;> rfl

theorem evalExpr_or (cfg fuel sp ty l r st) :
    evalExpr cfg (fuel + 1) (.infix sp ty .or l r) st =
      match evalExpr cfg fuel l st with
      | (.ok (.bool true), st1) => (.ok (.bool true), st1)
      | (.ok (.bool false), st1) => evalExpr cfg fuel r st1
      | (.ok _, st1) => (.error (.unsupported "|| operand"), st1)
      | (.error c, st1) => (.error c, st1) := by
  rw [evalExpr, M_bind]
  rcases evalExpr cfg fuel l st with ⟨r1, st1⟩
  cases r1 with
  | error c => rfl
  | ok v =>
    cases v <;> try rfl
    rename_i b; cases b <;> rfl

theorem evalExpr_and (cfg fuel sp ty l r st) :
    evalExpr cfg (fuel + 1) (.infix sp ty .and l r) st =
      match evalExpr cfg fuel l st with
      | (.ok (.bool false), st1) => (.ok (.bool false), st1)
      | (.ok (.bool true), st1) => evalExpr cfg fuel r st1
      | (.ok _, st1) => (.error (.unsupported "&& operand"), st1)
      | (.error c, st1) => (.error c, st1) := by
  rw [evalExpr, M_bind]
  rcases evalExpr cfg fuel l st with ⟨r1, st1⟩
  cases r1 with
  | error c => rfl
  | ok v =>
    cases v <;> try rfl
    rename_i b; cases b <;> rfl

/-- `||` (`pol = true`) and `&&` (`pol = false`) in one: the left value `pol` decides the result. -/
theorem evalExpr_logical (cfg fuel sp ty l r st) (pol : Bool) :
    evalExpr cfg (fuel + 1) (.infix sp ty (if pol then .or else .and) l r) st =
      match evalExpr cfg fuel l st with
      | (.ok (.bool b), st1) => if b = pol then (.ok (.bool pol), st1) else evalExpr cfg fuel r st1
      | (.ok _, st1) => (.error (.unsupported (if pol then "|| operand" else "&& operand")), st1)
      | (.error c, st1) => (.error c, st1) := by
  cases pol
  · refine (evalExpr_and ..).trans ?_
    rcases evalExpr cfg fuel l st with ⟨_ | v, st1⟩
    · rfl
    · cases v <;> try rfl
      rename_i b; cases b <;> rfl
  · refine (evalExpr_or ..).trans ?_
    rcases evalExpr cfg fuel l st with ⟨_ | v, st1⟩
    · rfl
    · cases v <;> try rfl
      rename_i b; cases b <;> rfl

theorem evalExpr_infix_bind (cfg : Cfg) (fuel : Nat) (sp : Span) (ty : Ty) (op : InfixOp) (l r : Expr)
    (h : op ≠ .or ∧ op ≠ .and) :
    evalExpr cfg (fuel + 1) (.infix sp ty op l r)
      = (do let a ← evalExpr cfg fuel l; let b ← evalExpr cfg fuel r; binOp op a b sp) := by
  simp only [evalExpr]
  split
  · exact absurd rfl h.1
  · exact absurd rfl h.2
  · rfl

theorem evalExpr_infix (cfg fuel sp ty op l r st) (h : op ≠ .or ∧ op ≠ .and) :
    evalExpr cfg (fuel + 1) (.infix sp ty op l r) st =
      match evalExpr cfg fuel l st with
      | (.ok a, st1) =>
        match evalExpr cfg fuel r st1 with
        | (.ok b, st2) => binOp op a b sp st2
        | (.error c, st2) => (.error c, st2)
      | (.error c, st1) => (.error c, st1) := by
  rw [evalExpr_infix_bind cfg fuel sp ty op l r h, M_bind]
  rcases evalExpr cfg fuel l st with ⟨r1, st1⟩
  cases r1 with
  | error c => rfl
  | ok a =>
    simp only []
    rw [M_bind]
    rcases evalExpr cfg fuel r st1 with ⟨r2, st2⟩
    cases r2 <;> rfl

theorem evalExpr_call (cfg fuel sp ty base args) :
    evalExpr cfg (fuel + 1) (.call sp ty base args false) = evalCall cfg fuel sp base args := by
  rw [evalExpr]; rfl

theorem evalExpr_index (cfg fuel sp ty b i st) :
    evalExpr cfg (fuel + 1) (.index sp ty b i) st =
      match evalExpr cfg fuel b st with
      | (.ok bv, st1) =>
        (match evalExpr cfg fuel i st1 with
          | (.ok iv, st2) => indexVal bv iv sp st2
          | (.error c, st2) => (.error c, st2))
      | (.error c, st1) => (.error c, st1) := by
  rw [evalExpr, M_bind]
  rcases evalExpr cfg fuel b st with ⟨r1, st1⟩
  cases r1 with
  | error c => rfl
  | ok bv =>
    simp only []
    rw [M_bind]
    rcases evalExpr cfg fuel i st1 with ⟨r2, st2⟩
    cases r2 <;> rfl

theorem evalExpr_cast (cfg fuel sp ty e st) :
    evalExpr cfg (fuel + 1) (.cast sp ty e) st =
      match evalExpr cfg fuel e st with
      | (.ok v, st1) => castVal castFuel v ty true "" sp st1
      | (.error c, st1) => (.error c, st1) := by
  rw [evalExpr, M_bind]
  rcases evalExpr cfg fuel e st with ⟨r, st1⟩
  cases r <;> rfl

theorem evalExpr_list (cfg fuel sp ty xs st) :
    evalExpr cfg (fuel + 1) (.list sp ty xs) st =
      match evalList cfg fuel xs st with
      | (.ok vs, st1) => (.ok (.ref st1.heap.size), { st1 with heap := st1.heap.push (.list vs) })
      | (.error c, st1) => (.error c, st1) := by
  rw [evalExpr, M_bind]
  rcases evalList cfg fuel xs st with ⟨r, st1⟩
  cases r <;> rfl

theorem evalExpr_obj (cfg fuel sp ty fs st) :
    evalExpr cfg (fuel + 1) (.obj sp ty fs) st =
      match evalFields cfg fuel fs st with
      | (.ok vs, st1) => (.ok (.ref st1.heap.size), { st1 with heap := st1.heap.push (.obj vs) })
      | (.error c, st1) => (.error c, st1) := by
  rw [evalExpr, M_bind]
  rcases evalFields cfg fuel fs st with ⟨r, st1⟩
  cases r <;> rfl

theorem evalExpr_range_bind (cfg fuel sp a b incl) :
    evalExpr cfg (fuel + 1) (.range sp a b incl) = evalExpr cfg fuel a >>= fun x => evalExpr cfg fuel b >>= fun y =>
      match x, y with
      | .int x, .int y => pure (.range x y incl)
      | _, _ => throwCtl (.unsupported "range bounds") := by
  rw [evalExpr]; rfl

theorem evalExpr_range (cfg fuel sp a b incl st) :
    evalExpr cfg (fuel + 1) (.range sp a b incl) st =
      match evalExpr cfg fuel a st with
      | (.ok x, st1) =>
        (match evalExpr cfg fuel b st1 with
          | (.ok y, st2) =>
            (match x, y with
              | .int x, .int y => (.ok (.range x y incl), st2)
              | _, _ => (.error (.unsupported "range bounds"), st2))
          | (.error c, st2) => (.error c, st2))
      | (.error c, st1) => (.error c, st1) := by
  rw [evalExpr, M_bind]
  rcases evalExpr cfg fuel a st with ⟨r1, st1⟩
  cases r1 with
  | error c => rfl
  | ok x =>
    simp only []
    rw [M_bind]
    rcases evalExpr cfg fuel b st1 with ⟨r2, st2⟩
    cases r2 with
    | error c => rfl
    | ok y => cases x <;> first | rfl | (cases y <;> rfl)

theorem evalExpr_ifE_bind (cfg fuel sp ty c t e) :
    evalExpr cfg (fuel + 1) (.ifE sp ty c t e) = evalExpr cfg fuel c >>= fun v =>
      match v with
      | .bool true => inScope (evalBlock cfg fuel t)
      | .bool false => (match e with
        | some eb => inScope (evalBlock cfg fuel eb)
        | none => pure .null)
      | _ => throwCtl (.unsupported "if condition") := by
  cases e <;> (rw [evalExpr]; rfl)

theorem evalExpr_matchE (cfg fuel sp ty c arms dflt st) :
    evalExpr cfg (fuel + 1) (.matchE sp ty c arms dflt) st =
      match evalExpr cfg fuel c st with
      | (.ok v, st1) => evalArms cfg fuel v arms dflt st1
      | (.error e, st1) => (.error e, st1) := by
  rw [evalExpr, M_bind]
  rcases evalExpr cfg fuel c st with ⟨r1, st1⟩
  cases r1 <;> rfl

theorem evalExpr_matchE_bind (cfg fuel sp ty c arms dflt) :
    evalExpr cfg (fuel + 1) (.matchE sp ty c arms dflt) = evalExpr cfg fuel c >>= fun v => evalArms cfg fuel v arms dflt := by
  rw [evalExpr]

theorem evalExpr_blockE (cfg fuel b st) :
    evalExpr cfg (fuel + 1) (.blockE b) st = inScope (evalBlock cfg fuel b) st := by
  rw [evalExpr]

/-- The error object of a caught exception: the object written out in `evalExpr` on `tryE`; `evalExpr_tryE` holds by
`rfl` only while the two agree. -/
def errCellOf (msg : String) (sp : Span) (file : String) : Cell :=
  .obj [("message", .str msg), ("line", .int (I64.ofInt sp.sl)), ("column", .int (I64.ofInt sp.sc)),
    ("filename", .str file)]

theorem evalExpr_tryE (cfg fuel sp ty t ci c st) :
    evalExpr cfg (fuel + 1) (.tryE sp ty t ci c) st =
      match inScope (evalBlock cfg fuel t) st with
      | (.error (.throw msg tsp), s') =>
        inScope (do let o ← alloc (errCellOf msg tsp s'.module); declare ci o; evalBlock cfg fuel c) s'
      | r => r := by
  rw [evalExpr]
  rfl

def catchSt (ci msg : String) (tsp : Span) (s' : St) : St :=
  declareSt ci (.ref s'.heap.size)
    { s' with scopes := [] :: s'.scopes, heap := s'.heap.push (errCellOf msg tsp s'.module) }

theorem catch_run (cfg : Cfg) (fuel : Nat) (ci msg : String) (tsp : Span) (c : Block) (s' : St) :
    inScope (do let o ← alloc (errCellOf msg tsp s'.module); declare ci o; evalBlock cfg fuel c) s' =
      ((evalBlock cfg fuel c (catchSt ci msg tsp s')).1,
        { (evalBlock cfg fuel c (catchSt ci msg tsp s')).2 with
          scopes := (evalBlock cfg fuel c (catchSt ci msg tsp s')).2.scopes.tail }) := by
  rfl

theorem evalList_nil (cfg fuel st) : evalList cfg (fuel + 1) [] st = (.ok [], st) := by
  rw [evalList]; rfl

theorem evalList_cons (cfg fuel e es st) :
    evalList cfg (fuel + 1) (e :: es) st =
      match evalExpr cfg fuel e st with
      | (.ok v, st1) =>
        (match evalList cfg fuel es st1 with
         | (.ok vs, st2) => (.ok (v :: vs), st2)
         | (.error c, st2) => (.error c, st2))
      | (.error c, st1) => (.error c, st1) := by
  rw [evalList, M_bind]
  rcases evalExpr cfg fuel e st with ⟨r1, st1⟩
  cases r1 with
  | error c => rfl
  | ok v =>
    simp only []
    rw [M_bind]
    rcases evalList cfg fuel es st1 with ⟨r2, st2⟩
    cases r2 <;> rfl

theorem evalList_length (cfg : Cfg) : ∀ (fuel : Nat) (es : List Expr) (st st' : St) (vs : List Val),
    evalList cfg fuel es st = (.ok vs, st') → vs.length = es.length := by
  intro fuel
  induction fuel with
  | zero => intro es st st' vs h; rw [evalList] at h; cases h
  | succ f ih =>
    intro es st st' vs h
    cases es with
    | nil => rw [evalList_nil] at h; cases h; rfl
    | cons e es =>
      rw [evalList_cons] at h
      rcases h1 : evalExpr cfg f e st with ⟨r1, st1⟩
      rw [h1] at h
      cases r1 with
      | error c => cases h
      | ok v =>
        simp only [] at h
        rcases h2 : evalList cfg f es st1 with ⟨r2, st2⟩
        rw [h2] at h
        cases r2 with
        | error c => cases h
        | ok vs' =>
          cases h
          simp [ih es st1 _ vs' h2]

theorem evalList_nil_same (cfg fuel st) :
    evalList cfg fuel [] st = (.error .timeout, st) ∨ evalList cfg fuel [] st = (.ok [], st) := by
  cases fuel with
  | zero => left; rw [evalList]; rfl
  | succ f => right; exact evalList_nil cfg f st

theorem evalList_cons_same {cfg e es st v vs}
    (h1 : ∀ fuel, evalExpr cfg fuel e st = (.error .timeout, st) ∨ evalExpr cfg fuel e st = (.ok v, st))
    (h2 : ∀ fuel, evalList cfg fuel es st = (.error .timeout, st) ∨ evalList cfg fuel es st = (.ok vs, st)) (fuel : Nat) :
    evalList cfg fuel (e :: es) st = (.error .timeout, st) ∨ evalList cfg fuel (e :: es) st = (.ok (v :: vs), st) := by
  cases fuel with
  | zero => left; rw [evalList]; rfl
  | succ f =>
    rw [evalList_cons]
    rcases h1 f with h | h <;> rw [h]
    · exact Or.inl rfl
    · simp only []
      rcases h2 f with h' | h' <;> rw [h']
      · exact Or.inl rfl
      · exact Or.inr rfl

theorem evalFields_nil (cfg fuel st) : evalFields cfg (fuel + 1) [] st = (.ok [], st) := by
  rw [evalFields]; rfl

theorem evalFields_cons (cfg fuel k e es st) :
    evalFields cfg (fuel + 1) ((k, e) :: es) st =
      match evalExpr cfg fuel e st with
      | (.ok v, st1) =>
        (match evalFields cfg fuel es st1 with
         | (.ok vs, st2) => (.ok ((k, v) :: vs), st2)
         | (.error c, st2) => (.error c, st2))
      | (.error c, st1) => (.error c, st1) := by
  rw [evalFields, M_bind]
  rcases evalExpr cfg fuel e st with ⟨r1, st1⟩
  cases r1 with
  | error c => rfl
  | ok v =>
    simp only []
    rw [M_bind]
    rcases evalFields cfg fuel es st1 with ⟨r2, st2⟩
    cases r2 <;> rfl

theorem evalFields_cons_same {cfg k e es st v vs}
    (h1 : ∀ fuel, evalExpr cfg fuel e st = (.error .timeout, st) ∨ evalExpr cfg fuel e st = (.ok v, st))
    (h2 : ∀ fuel, evalFields cfg fuel es st = (.error .timeout, st) ∨ evalFields cfg fuel es st = (.ok vs, st))
    (fuel : Nat) :
    evalFields cfg fuel ((k, e) :: es) st = (.error .timeout, st) ∨
      evalFields cfg fuel ((k, e) :: es) st = (.ok ((k, v) :: vs), st) := by
  cases fuel with
  | zero => left; rw [evalFields]; rfl
  | succ f =>
    rw [evalFields_cons]
    rcases h1 f with h | h <;> rw [h]
    · exact Or.inl rfl
    · simp only []
      rcases h2 f with h' | h' <;> rw [h']
      · exact Or.inl rfl
      · exact Or.inr rfl

theorem evalArms_cons (cfg fuel v lits act rest dflt st) :
    evalArms cfg (fuel + 1) v ((lits, act) :: rest) dflt st =
      match anyLit cfg fuel v lits st with
      | (.ok true, st1) => evalExpr cfg fuel act st1
      | (.ok false, st1) => evalArms cfg fuel v rest dflt st1
      | (.error c, st1) => (.error c, st1) := by
  rw [evalArms, M_bind]
  rcases anyLit cfg fuel v lits st with ⟨r1, st1⟩
  cases r1 with
  | error c => rfl
  | ok b => cases b <;> rfl

theorem anyLit_cons (cfg fuel v l ls st) :
    anyLit cfg (fuel + 1) v (l :: ls) st =
      match evalExpr cfg fuel l st with
      | (.ok lv, st1) =>
        (match eqM lv v st1 with
         | (.ok true, st2) => (.ok true, st2)
         | (.ok false, st2) => anyLit cfg fuel v ls st2
         | (.error c, st2) => (.error c, st2))
      | (.error c, st1) => (.error c, st1) := by
  rw [anyLit, M_bind]
  rcases evalExpr cfg fuel l st with ⟨r1, st1⟩
  cases r1 with
  | error c => rfl
  | ok lv =>
    simp only []
    rw [M_bind]
    rcases eqM lv v st1 with ⟨r2, st2⟩
    cases r2 with
    | error c => rfl
    | ok b => cases b <;> rfl

theorem evalPlace_ident (cfg fuel sp ty name g f s st) :
    evalPlace cfg (fuel + 1) (.ident sp ty name g f s) st = (.ok { var := some (name, g) }, st) := by
  rw [evalPlace]; rfl

/-- The heap slot named by a base value and an index value: the body of `evalPlace` on `b[i]`, copied;
`evalPlace_index` holds by `rfl` only while the copy agrees with the model (likewise `placeOfM`, `evalPlace_member`). -/
def placeOf (b i : Val) (sp : Span) : M Place := do
  match b, i with
  | .ref a, .int k => do
    match ← readCell a with
    | .list xs =>
      match wrapIndex k xs.length with
      | some n => pure { addr := a, idx := n }
      | none => throwCtl (.fatal "IndexOutOfBounds"
          s!"Index out of bounds: cannot index a list of length {xs.length} with {if k.toInt < 0 then k.toInt + xs.length else k.toInt}" sp)
    | _ => throwCtl (.unsupported "index assignment target")
  | .ref a, .str k => do
    match ← readCell a with
    | .obj fs | .anyobj fs =>
      if (fs.lookup k).isSome then pure { addr := a, field := some k }
      else throwCtl (.unsupported "index assignment to a missing field")
    | _ => throwCtl (.unsupported "index assignment target")
  | _, _ => throwCtl (.unsupported "index assignment target")

theorem evalPlace_index (cfg fuel sp ty b i st) :
    evalPlace cfg (fuel + 1) (.index sp ty b i) st =
      match evalExpr cfg fuel b st with
      | (.ok bv, st1) =>
        (match evalExpr cfg fuel i st1 with
          | (.ok iv, st2) => placeOf bv iv sp st2
          | (.error c, st2) => (.error c, st2))
      | (.error c, st1) => (.error c, st1) := by
  rw [evalPlace, M_bind]
  rcases evalExpr cfg fuel b st with ⟨r1, st1⟩
  cases r1 with
  | error c => rfl
  | ok bv =>
    simp only []
    rw [M_bind]
    rcases evalExpr cfg fuel i st1 with ⟨r2, st2⟩
    cases r2 <;> rfl

/-- The body of `evalPlace` on `b.f`. -/
def placeOfM (b : Val) (name : String) : M Place := do
  match b with
  | .ref a => do
    match ← readCell a with
    | .obj fs =>
      if (fs.lookup name).isSome then pure { addr := a, field := some name }
      else throwCtl (.unsupported "member assignment to a missing field")
    | _ => throwCtl (.unsupported "member assignment target")
  | _ => throwCtl (.unsupported "member assignment target")

theorem evalPlace_member (cfg fuel sp ty b name st) :
    evalPlace cfg (fuel + 1) (.member sp ty b name .dot) st =
      match evalExpr cfg fuel b st with
      | (.ok bv, st1) => placeOfM bv name st1
      | (.error c, st1) => (.error c, st1) := by
  rw [evalPlace, M_bind]
  rcases evalExpr cfg fuel b st with ⟨r1, st1⟩
  cases r1 with
  | error c => rfl
  | ok bv => cases bv <;> rfl

theorem evalExpr_assign (cfg fuel asp op l r st) :
    evalExpr cfg (fuel + 1) (.assign asp op l r) st =
      match evalPlace cfg fuel l st with
      | (.ok pl, st0) =>
        (match (match op with
            | none => evalExpr cfg fuel r st0
            | some o =>
              (match readPlace pl st0 with
               | (.ok cur, st0') =>
                 (match evalExpr cfg fuel r st0' with
                  | (.ok b, st1) => binOp o cur b asp st1
                  | (.error c, st1) => (.error c, st1))
               | (.error c, st0') => (.error c, st0'))) with
         | (.ok v, st2) =>
           (match writePlace pl v st2 with
            | (.ok _, st3) => (.ok .null, st3)
            | (.error c, st3) => (.error c, st3))
         | (.error c, st2) => (.error c, st2))
      | (.error c, st0) => (.error c, st0) := by
  rw [evalExpr, M_bind]
  rcases evalPlace cfg fuel l st with ⟨r0, st0⟩
  cases r0 with
  | error c => rfl
  | ok pl =>
    simp only []
    cases op with
    | none =>
      simp only []
      rw [M_bind]
      rcases evalExpr cfg fuel r st0 with ⟨r1, st1⟩
      cases r1 with
      | error c => rfl
      | ok v =>
        simp only []
        rw [M_bind]
        rcases writePlace pl v st1 with ⟨r2, st2⟩
        cases r2 <;> rfl
    | some o =>
      simp only []
      rw [M_bind]
      rcases readPlace pl st0 with ⟨rc, st0'⟩
      cases rc with
      | error c => rfl
      | ok cur =>
        simp only []
        rw [M_bind]
        rcases evalExpr cfg fuel r st0' with ⟨r1, st1⟩
        cases r1 with
        | error c => rfl
        | ok b =>
          simp only []
          rw [M_bind]
          rcases binOp o cur b asp st1 with ⟨r2, st2⟩
          cases r2 with
          | error c => rfl
          | ok v =>
            simp only []
            rw [M_bind]
            rcases writePlace pl v st2 with ⟨r3, st3⟩
            cases r3 <;> rfl

theorem evalExpr_assign_short (cfg asp op isp ity name g isFn isSing r st) :
    evalExpr cfg 1 (.assign asp op (.ident isp ity name g isFn isSing) r) st = (.error .timeout, st) := by
  rw [evalExpr, M_bind, evalPlace]
  rfl

theorem evalExpr_assign_some (cfg fuel asp o isp ity name isFn isSing r st) :
    evalExpr cfg (fuel + 2) (.assign asp (some o) (.ident isp ity name false isFn isSing) r) st =
      match readPlace { var := some (name, false) } st with
      | (.ok cur, st0) =>
        (match evalExpr cfg (fuel + 1) r st0 with
         | (.ok b, st1) =>
           (match binOp o cur b asp st1 with
            | (.ok v, st2) =>
              (match writePlace { var := some (name, false) } v st2 with
               | (.ok _, st3) => (.ok .null, st3)
               | (.error c, st3) => (.error c, st3))
            | (.error c, st2) => (.error c, st2))
         | (.error c, st1) => (.error c, st1))
      | (.error c, st0) => (.error c, st0) := by
  rw [evalExpr_assign, evalPlace_ident]
  simp only []
  rcases readPlace { var := some (name, false) } st with ⟨r0, st0⟩
  cases r0 with
  | error c => rfl
  | ok cur =>
    simp only []
    rcases evalExpr cfg (fuel + 1) r st0 with ⟨r1, st1⟩
    cases r1 <;> rfl

theorem evalExpr_assign_none_bind (cfg fuel asp isp ity name isFn isSing r) :
    evalExpr cfg (fuel + 2) (.assign asp none (.ident isp ity name false isFn isSing) r) =
      evalExpr cfg (fuel + 1) r >>= fun v => writePlace { var := some (name, false) } v >>= fun _ => pure .null := by
  rw [evalExpr, evalPlace]; simp only [pure_bind]

theorem evalExpr_assign_some_bind (cfg fuel asp o isp ity name isFn isSing r) :
    evalExpr cfg (fuel + 2) (.assign asp (some o) (.ident isp ity name false isFn isSing) r) =
      readPlace { var := some (name, false) } >>= fun cur => evalExpr cfg (fuel + 1) r >>= fun b =>
        binOp o cur b asp >>= fun v => writePlace { var := some (name, false) } v >>= fun _ => pure .null := by
  rw [evalExpr, evalPlace]; simp only [pure_bind]

theorem evalExpr_member_bind (cfg fuel sp ty b name op) :
    evalExpr cfg (fuel + 1) (.member sp ty b name op) = evalExpr cfg fuel b >>= fun bv => memberVal bv name op sp := by
  rw [evalExpr]

theorem evalList_cons_bind (cfg fuel e es) :
    evalList cfg (fuel + 1) (e :: es) =
      evalExpr cfg fuel e >>= fun v => evalList cfg fuel es >>= fun vs => pure (v :: vs) := by
  rw [evalList]

theorem evalList_nil_bind (cfg fuel) : evalList cfg (fuel + 1) [] = pure [] := by
  rw [evalList]

theorem evalCall_bind (cfg fuel sp base args) :
    evalCall cfg (fuel + 1) sp base args = evalExpr cfg fuel base >>= fun f =>
      evalList cfg fuel (args.map (·.2)) >>= fun vals => applyFn cfg fuel sp f vals := by
  rw [evalCall]

theorem applyFn_fn (cfg fuel sp m name vals st fd) (h : findFn cfg.prog m name = some fd) :
    applyFn cfg (fuel + 1) sp (.fn m name) vals st = callBody cfg fuel sp m fd.params fd.body vals st := by
  rw [applyFn]
  simp only [h]

theorem applyFn_builtin (cfg fuel sp name vals st) :
    applyFn cfg (fuel + 1) sp (.builtin name) vals st = callBuiltin name vals sp st := by
  rw [applyFn]

theorem applyFn_bound (cfg f sp recv name vals st) :
    applyFn cfg (f + 1) sp (.bound recv name) vals st = callMember recv name vals sp st := by
  rw [applyFn]

theorem callBody_step (cfg : Cfg) (fuel : Nat) (sp : Span) (m : String) (params : List Param)
    (bsp : Span) (bty : Ty) (stmts : List Stmt) (oe : Option Expr) (vals : List Val) (st : St)
    (hp : ∀ p ∈ params, p.isSingleton = false) (hd : ¬ st.depth > cfg.callLimit)
    (hlen : params.length = vals.length) :
    callBody cfg (fuel + 1) sp m params (.mk bsp bty stmts oe) vals st =
      match evalBlock cfg fuel (.mk ⟨0, 0, 0, 0⟩ .null stmts oe)
          { st with scopes := [((params.map (·.name)).zip vals).reverse], module := m, depth := st.depth + 1 } with
      | (.error (.ret v), s1) => (.ok v, { s1 with scopes := st.scopes, module := st.module, depth := st.depth })
      | (.error .brk, s1) =>
        (.error (.unsupported "loop exit outside a loop"),
          { s1 with scopes := st.scopes, module := st.module, depth := st.depth })
      | (.error .cont, s1) =>
        (.error (.unsupported "loop exit outside a loop"),
          { s1 with scopes := st.scopes, module := st.module, depth := st.depth })
      | (r, s1) => (r, { s1 with scopes := st.scopes, module := st.module, depth := st.depth }) := by
  have hf1 : params.filter (fun p => !p.isSingleton) = params := by
    rw [List.filter_eq_self]; intro p hp'; simp [hp p hp']
  have hf2 : params.filter (fun p => p.isSingleton) = [] := by
    rw [List.filter_eq_nil_iff]; intro p hp'; simp [hp p hp']
  rw [callBody]
  simp only [hd, if_false, hf1, hf2, hlen, bne_self_eq_false, Bool.false_eq_true, List.filterMap_nil,
    List.length_nil, List.append_nil]
  rcases evalBlock cfg fuel (.mk ⟨0, 0, 0, 0⟩ .null stmts oe)
    { st with scopes := [((params.map (·.name)).zip vals).reverse], module := m, depth := st.depth + 1 } with ⟨r, s1⟩
  cases r with
  | ok v => rfl
  | error c => cases c <;> rfl

theorem callBody_overflow (cfg : Cfg) (fuel : Nat) (sp : Span) (m : String) (params : List Param) (body : Block)
    (vals : List Val) (st : St) (hd : st.depth > cfg.callLimit) :
    ∃ msg, callBody cfg (fuel + 1) sp m params body vals st = (.error (.fatal "StackOverFlow" msg sp), st) := by
  rw [callBody]
  simp only [hd, if_true]
  exact ⟨_, rfl⟩

theorem callBody_arity (cfg : Cfg) (fuel : Nat) (sp : Span) (m : String) (params : List Param) (body : Block)
    (vals : List Val) (st : St) (hp : ∀ p ∈ params, p.isSingleton = false) (hd : ¬ st.depth > cfg.callLimit)
    (hlen : params.length ≠ vals.length) :
    callBody cfg (fuel + 1) sp m params body vals st = (.error (.unsupported "arity"), st) := by
  have hf1 : params.filter (fun p => !p.isSingleton) = params := by
    rw [List.filter_eq_self]; intro p hp'; simp [hp p hp']
  rw [callBody]
  simp only [hd, if_false, hf1]
  have : (params.length != vals.length) = true := by simpa using hlen
  simp only [this, if_true]

theorem evalBlock_stmts (cfg fuel sp ty stmts st) :
    evalBlock cfg (fuel + 1) (.mk sp ty stmts none) st =
      match evalStmts cfg fuel stmts st with
      | (.ok _, st1) => (.ok .null, st1)
      | (.error c, st1) => (.error c, st1) := by
  rw [evalBlock, M_bind]
  rcases evalStmts cfg fuel stmts st with ⟨r1, st1⟩
  cases r1 <;> rfl

theorem evalBlock_tail (cfg fuel sp ty stmts e st) :
    evalBlock cfg (fuel + 1) (.mk sp ty stmts (some e)) st =
      match evalStmts cfg fuel stmts st with
      | (.ok _, st1) => evalExpr cfg fuel e st1
      | (.error c, st1) => (.error c, st1) := by
  rw [evalBlock, M_bind]
  rcases evalStmts cfg fuel stmts st with ⟨r1, st1⟩
  cases r1 <;> rfl

theorem evalBlock_pure (cfg fuel sp ty e st) :
    evalBlock cfg (fuel + 2) (.mk sp ty [] (some e)) st = evalExpr cfg (fuel + 1) e st := by
  rw [evalBlock, M_bind, evalStmts]
  rfl

theorem evalBlock_one (cfg sp ty e st) :
    evalBlock cfg 1 (.mk sp ty [] (some e)) st = (.error .timeout, st) := by
  rw [evalBlock, M_bind, evalStmts]
  rfl

theorem evalStmts_nil (cfg fuel st) : evalStmts cfg (fuel + 1) [] st = (.ok (), st) := by
  rw [evalStmts]; rfl

theorem evalStmts_cons (cfg fuel s ss st) :
    evalStmts cfg (fuel + 1) (s :: ss) st =
      match evalStmt cfg fuel s st with
      | (.ok _, st1) => evalStmts cfg fuel ss st1
      | (.error c, st1) => (.error c, st1) := by
  rw [evalStmts, M_bind]
  rcases evalStmt cfg fuel s st with ⟨r1, st1⟩
  cases r1 <;> rfl

theorem evalStmts_cons_bind (cfg fuel s ss) :
    evalStmts cfg (fuel + 1) (s :: ss) = evalStmt cfg fuel s >>= fun _ => evalStmts cfg fuel ss := by
  rw [evalStmts]

theorem evalStmt_let_bind (cfg fuel sp name vty oty e) :
    evalStmt cfg (fuel + 1) (.letS sp name vty false oty e) = evalExpr cfg fuel e >>= fun v => declare name v := by
  rw [evalStmt]; rfl

theorem evalStmt_exprS_bind (cfg fuel sp e) :
    evalStmt cfg (fuel + 1) (.exprS sp e) = evalExpr cfg fuel e >>= fun _ => pure () := by
  rw [evalStmt]

theorem evalStmt_ret_bind (cfg fuel sp e) :
    evalStmt cfg (fuel + 1) (.ret sp (some e)) = evalExpr cfg fuel e >>= fun v => throwCtl (.ret v) := by
  rw [evalStmt]

theorem evalStmt_exprS (cfg fuel sp e st) :
    evalStmt cfg (fuel + 1) (.exprS sp e) st =
      match evalExpr cfg fuel e st with
      | (.ok _, st1) => (.ok (), st1)
      | (.error c, st1) => (.error c, st1) := by
  rw [evalStmt, M_bind]
  rcases evalExpr cfg fuel e st with ⟨r1, st1⟩
  cases r1 <;> rfl

theorem evalStmt_ret (cfg fuel sp e st) :
    evalStmt cfg (fuel + 1) (.ret sp (some e)) st =
      match evalExpr cfg fuel e st with
      | (.ok v, st1) => (.error (.ret v), st1)
      | (.error c, st1) => (.error c, st1) := by
  rw [evalStmt, M_bind]
  rcases evalExpr cfg fuel e st with ⟨r1, st1⟩
  cases r1 <;> rfl

theorem evalStmt_forS_bind (cfg fuel sp name vty iter body) :
    evalStmt cfg (fuel + 1) (.forS sp name vty iter body) =
      evalExpr cfg fuel iter >>= fun it => iterElems it >>= fun elems => forRun cfg fuel name elems body := by
  rw [evalStmt]

theorem evalStmt_forS (cfg fuel sp name vty iter body st) :
    evalStmt cfg (fuel + 1) (.forS sp name vty iter body) st =
      match evalExpr cfg fuel iter st with
      | (.ok it, st1) =>
        (match iterElems it st1 with
          | (.ok elems, st2) => forRun cfg fuel name elems body st2
          | (.error c, st2) => (.error c, st2))
      | (.error c, st1) => (.error c, st1) := by
  rw [evalStmt, M_bind]
  rcases evalExpr cfg fuel iter st with ⟨r1, st1⟩
  cases r1 with
  | error c => rfl
  | ok it =>
    simp only []
    rw [M_bind]
    rcases iterElems it st1 with ⟨r2, st2⟩
    cases r2 <;> rfl

theorem loopRun_none_step (cfg fuel body st) :
    loopRun cfg (fuel + 1) none body st =
      match inScope (evalBlock cfg fuel body) st with
      | (.error .brk, s') => (.ok (), s')
      | (.error .cont, s') => loopRun cfg fuel none body s'
      | (.ok _, s') => loopRun cfg fuel none body s'
      | (.error e, s') => (.error e, s') := by
  rw [loopRun, M_bind]
  rfl

theorem loopRun_step (cfg fuel c body st) :
    loopRun cfg (fuel + 1) (some c) body st =
      match evalExpr cfg fuel c st with
      | (.ok (.bool true), st1) =>
        (match inScope (evalBlock cfg fuel body) st1 with
         | (.error .brk, s') => (.ok (), s')
         | (.error .cont, s') => loopRun cfg fuel (some c) body s'
         | (.ok _, s') => loopRun cfg fuel (some c) body s'
         | (.error e, s') => (.error e, s'))
      | (.ok (.bool false), st1) => (.ok (), st1)
      | (.ok _, st1) => (.error (.unsupported "while condition"), st1)
      | (.error e, st1) => (.error e, st1) := by
  rw [loopRun, M_bind]
  rcases evalExpr cfg fuel c st with ⟨r1, st1⟩
  cases r1 with
  | error e => rfl
  | ok v =>
    cases v <;> try rfl
    rename_i b
    cases b <;> rfl

theorem loopRun_none_bind (cfg fuel body) :
    loopRun cfg (fuel + 1) none body = fun s =>
      match inScope (evalBlock cfg fuel body) s with
      | (.error .brk, s') => (.ok (), s')
      | (.error .cont, s') => loopRun cfg fuel none body s'
      | (.ok _, s') => loopRun cfg fuel none body s'
      | (.error e, s') => (.error e, s') :=
  funext fun s => loopRun_none_step cfg fuel body s

theorem loopRun_bind (cfg fuel c body) :
    loopRun cfg (fuel + 1) (some c) body = evalExpr cfg fuel c >>= fun v =>
      match v with
      | .bool true => fun s =>
        (match inScope (evalBlock cfg fuel body) s with
         | (.error .brk, s') => (.ok (), s')
         | (.error .cont, s') => loopRun cfg fuel (some c) body s'
         | (.ok _, s') => loopRun cfg fuel (some c) body s'
         | (.error e, s') => (.error e, s'))
      | .bool false => pure ()
      | _ => throwCtl (.unsupported "while condition") := by
  rw [loopRun]
  simp only []
  congr 1
  funext v
  cases v <;> try rfl
  rename_i b; cases b <;> rfl

def roundSt (name : String) (x : Val) (s : St) : St := declareSt name x { s with scopes := [] :: s.scopes }

theorem forRun_nil (cfg fuel name body s) : forRun cfg (fuel + 1) name [] body s = (.ok (), s) := by
  rw [forRun]; rfl

theorem forRun_cons (cfg fuel name x xs body s) :
    forRun cfg (fuel + 1) name (x :: xs) body s =
      match ((evalBlock cfg fuel body (roundSt name x s)).1,
          { (evalBlock cfg fuel body (roundSt name x s)).2 with
            scopes := (evalBlock cfg fuel body (roundSt name x s)).2.scopes.tail }) with
      | (.error .brk, s') => (.ok (), s')
      | (.error .cont, s') => forRun cfg fuel name xs body s'
      | (.ok _, s') => forRun cfg fuel name xs body s'
      | (.error c, s') => (.error c, s') := by
  rw [forRun]
  rfl

theorem forRun_cons_stmts (cfg g name x xs bsp bty stmts s) :
    forRun cfg (g + 2) name (x :: xs) (.mk bsp bty stmts none) s =
      match evalStmts cfg g stmts (roundSt name x s) with
      | (.error .brk, s1) => (.ok (), { s1 with scopes := s1.scopes.tail })
      | (.error .cont, s1) => forRun cfg (g + 1) name xs (.mk bsp bty stmts none) { s1 with scopes := s1.scopes.tail }
      | (.ok _, s1) => forRun cfg (g + 1) name xs (.mk bsp bty stmts none) { s1 with scopes := s1.scopes.tail }
      | (.error c, s1) => (.error c, { s1 with scopes := s1.scopes.tail }) := by
  rw [forRun_cons, evalBlock_stmts]
  rcases evalStmts cfg g stmts (roundSt name x s) with ⟨r, s1⟩
  cases r with
  | ok u => rfl
  | error c => cases c <;> rfl

theorem forRun_cons_short (cfg name x xs bsp bty stmts s) :
    forRun cfg 1 name (x :: xs) (.mk bsp bty stmts none) s =
      (.error .timeout, { roundSt name x s with scopes := (roundSt name x s).scopes.tail }) := by
  rw [forRun_cons, evalBlock]
  rfl

end HmsProofs.Sim
