import HmsProofs.Lemmas.ConcProtocol
/-! Progress of the goroutine executing `VM.Wait` (fixed protocol): two measures, both for `Wait` stepping alone
(`waitRun`). Within a pass over its snapshot every step of `Wait` makes `passLen` smaller (it reads `s.wait` only, which
no core writes), so the pass ends. From the top of the loop, once every listed core has signalled, a scan takes each of
them off the list in three steps and returns. -/
namespace Hms.Conc
variable {s s' : PState}

/-- A bound on the steps `Wait` still takes in its current pass: every step makes it smaller
(`pass_step`). -/
def passLen : WaitPc → Nat
  | .scan r => 3 * r.length + 2
  | .rmWantLock _ _ r => 3 * r.length + 4
  | .rmWantRLock r => 3 * r.length + 3
  | .cancelWantLock .. | .sleeping => 1
  | _ => 0

/-- The number of cores still to be polled in the current pass (the length of `snapshotOf`, without the
core whose signal `Wait` holds): the measure in which the property states the bounds. -/
def restLen : WaitPc → Nat
  | .scan r => r.length
  | .rmWantLock _ _ r => r.length
  | .rmWantRLock r => r.length
  | _ => 0

theorem passLen_le (w : WaitPc) : passLen w ≤ 3 * restLen w + 4 := by
  cases w <;> simp only [passLen, restLen] <;> omega

theorem waitStep_enabled (s : PState) (hk : s.leaked = 0) (ha : s.wait.active = true) :
    (waitStep Cfg.fixed s).isSome = true := by
  -- numbered as in `waitStep_cases`: 1, 2 `Wait` not active; 11, 14 a lock operation behind a leaked read lock
  fun_cases waitStep Cfg.fixed s with
  | case1 hw | case2 _ hw => rw [hw] at ha; cases ha
  | case11 _ _ _ _ hl | case14 _ _ _ hl => exact absurd hk hl
  | case3 | case4 | case5 | case6 | case7 | case8 | case9 | case10 | case12 | case13 => rfl

theorem pass_step (hk : s.leaked = 0) (ha : s.wait.active = true) (ht : s.wait ≠ .top) :
    ∃ s', waitStep Cfg.fixed s = some s' ∧ s'.leaked = 0 ∧ passLen s'.wait < passLen s.wait ∧
      (s'.wait.active = true ∨ ∃ r, s'.wait = .returned r) := by
  obtain ⟨s', h⟩ := Option.isSome_iff_exists.mp (waitStep_enabled s hk ha)
  refine ⟨s', h, ?_⟩
  cases waitStep_cases h with
  | top hw e => exact absurd hw ht
  | sleeping hw e => rw [e, hw]; exact ⟨hk, Nat.zero_lt_one, .inl rfl⟩
  | retNone hw _ e => rw [e, hw]; exact ⟨hk, Nat.zero_lt_succ _, .inr ⟨_, rfl⟩⟩
  | toSleep hw _ e | remove _ _ _ hw _ e | relock _ hw e => rw [e, hw]; exact ⟨hk, Nat.lt_succ_self _, .inl rfl⟩
  | skip _ _ hw _ _ e => rw [e, hw]; exact ⟨hk, by simp only [passLen, List.length_cons]; omega, .inl rfl⟩
  | recv _ _ sg hw _ e =>
    rw [e, hw]; cases sg <;> exact ⟨hk, by simp only [passLen, List.length_cons]; omega, .inl rfl⟩
  | cancel _ _ hw _ e => rw [e, hw]; exact ⟨rfl, Nat.zero_lt_one, .inr ⟨_, rfl⟩⟩

theorem pass_ends (s : PState) (hk : s.leaked = 0) (ha : s.wait.active = true) :
    ∃ k, k ≤ passLen s.wait ∧ (waitRun Cfg.fixed k s).leaked = 0 ∧
      ((waitRun Cfg.fixed k s).wait = .top ∨ ∃ r, (waitRun Cfg.fixed k s).wait = .returned r) := by
  generalize hn : passLen s.wait = n
  induction n using Nat.strongRecOn generalizing s with
  | _ n ih =>
    by_cases ht : s.wait = .top
    · exact ⟨0, Nat.zero_le _, hk, .inl ht⟩
    · obtain ⟨s', h, hk', hlt, ha' | hr⟩ := pass_step hk ha ht
      · obtain ⟨k, hkn, hT⟩ := ih _ (hn ▸ hlt) s' hk' ha' rfl
        exact ⟨k + 1, by omega, by rw [waitRun_succ k h]; exact hT⟩
      · exact ⟨1, by omega, by rw [waitRun_succ 0 h]; exact ⟨hk', .inr hr⟩⟩

theorem scan_returns : ∀ (rest : List Nat) (s : PState), s.wait = .scan rest → s.leaked = 0 →
    (∀ c ∈ s.listed, c ∈ rest) → rest.Nodup → (∀ c ∈ rest, ∃ sg, s.core c = .signalled sg) →
    ∃ k, k ≤ 3 * rest.length + 1 ∧ ∃ r, (waitRun Cfg.fixed k s).wait = .returned r
  | [], s, hw, _, hsub, _, _ =>
    have hl : s.listed = [] := List.eq_nil_iff_forall_not_mem.mpr fun a ha => nomatch hsub a ha
    ⟨1, Nat.le_refl _, none, by rw [waitRun_step 0 (.retNone hw hl rfl)]; rfl⟩
  | c :: r, s, hw, hk, hsub, hnd, hsig => by
    obtain ⟨sg, hc⟩ := hsig c List.mem_cons_self
    obtain ⟨hcr, hnd'⟩ := List.nodup_cons.mp hnd
    cases sg with
    | some i =>
      have e : waitRun Cfg.fixed 2 s = _ :=
        calc waitRun Cfg.fixed 2 s
          _ = waitRun Cfg.fixed 1 _ := waitRun_step _ (.recv c r (some i) hw (.inl hc) rfl)
          _ = waitRun Cfg.fixed 0 _ := waitRun_step _ (.cancel c i rfl hk rfl)
      exact ⟨2, by rw [List.length_cons]; omega, some (c, i), by rw [e]; rfl⟩
    | none =>
      -- three steps take `c` off the list; the rest of the scan meets the same conditions
      obtain ⟨k, hk', res, hr⟩ := scan_returns r
        { s with core := upd s.core c (.received none), listed := s.listed.filter (· != c), wait := .scan r }
        rfl hk
        (fun d hd => by
          obtain ⟨hd, hdc⟩ := List.mem_filter.mp hd
          exact (List.mem_cons.mp (hsub d hd)).resolve_left (bne_iff_ne.mp hdc))
        hnd'
        (fun d hd => by
          obtain ⟨sg', hs⟩ := hsig d (List.mem_cons_of_mem _ hd)
          exact ⟨sg', by rw [← hs]; exact upd_other (fun e => hcr (e ▸ hd))⟩)
      have e : waitRun Cfg.fixed (k + 3) s = _ :=
        calc waitRun Cfg.fixed (k + 3) s
          _ = waitRun Cfg.fixed (k + 2) _ := waitRun_step _ (.recv c r none hw (.inl hc) rfl)
          _ = waitRun Cfg.fixed (k + 1) _ := waitRun_step _ (.remove c _ r rfl hk rfl)
          _ = waitRun Cfg.fixed k _ := waitRun_step _ (.relock r rfl rfl)
      exact ⟨k + 3, by rw [List.length_cons]; omega, res, by rw [e]; exact hr⟩

theorem top_returns (s : PState) (hw : s.wait = .top) (hk : s.leaked = 0) (hnd : s.listed.Nodup)
    (hsig : ∀ c ∈ s.listed, ∃ sg, s.core c = .signalled sg) :
    ∃ k, k ≤ 3 * s.listed.length + 2 ∧ ∃ r, (waitRun Cfg.fixed k s).wait = .returned r := by
  obtain ⟨k, hk', r, hr⟩ := scan_returns s.listed { s with wait := .scan s.listed } rfl hk (fun _ h => h) hnd hsig
  exact ⟨k + 1, by omega, r, by rw [waitRun_step k (.top hw rfl)]; exact hr⟩

/-- No core that `Wait` still has to collect is running: every listed core has signalled, except
the one whose signal `Wait` has just taken and is about to remove. -/
def Quiet (s : PState) : Prop :=
  s.leaked = 0 ∧ s.listed.Nodup ∧
    ∀ c ∈ s.listed, (∃ sg, s.core c = .signalled sg) ∨ (∃ st r, s.wait = .rmWantLock c st r)
      ∨ (∃ i, s.wait = .cancelWantLock c i)

namespace Quiet

theorem signalled (hq : Quiet s) (ht : s.wait.taken = none) :
    ∀ c ∈ s.listed, ∃ sg, s.core c = .signalled sg := fun c hc =>
  (hq.2.2 c hc).elim id fun h => by
    rcases h with ⟨_, _, e⟩ | ⟨_, e⟩ <;> rw [e] at ht <;> cases ht

theorem set_wait (hq : Quiet s) (ht : s.wait.taken = none) (w : WaitPc) :
    Quiet { s with wait := w } :=
  ⟨hq.1, hq.2.1, fun c hc => .inl (hq.signalled ht c hc)⟩

theorem recv (hq : Quiet s) (ht : s.wait.taken = none) {c : Nat} {w : WaitPc}
    (hw : (∃ st r, w = .rmWantLock c st r) ∨ ∃ i, w = .cancelWantLock c i) (v : CoreSt) :
    Quiet { s with core := upd s.core c v, wait := w } :=
  ⟨hq.1, hq.2.1, fun d hd => by
    by_cases e : d = c
    · exact .inr (e ▸ hw)
    · exact .inl ((hq.signalled ht d hd).imp fun _ h => (upd_other e).trans h)⟩

end Quiet

theorem quiet_step (hq : Quiet s) (h : waitStep Cfg.fixed s = some s') :
    Quiet s' ∧ s'.listed.length ≤ s.listed.length := by
  cases waitStep_cases h with
  | top hw e | sleeping hw e | retNone hw _ e | toSleep hw _ e | relock _ hw e | skip _ _ hw _ _ e =>
    exact e ▸ ⟨hq.set_wait (congrArg WaitPc.taken hw) _, Nat.le_refl _⟩
  | recv c r sg hw hc e =>
    refine e ▸ ⟨hq.recv (congrArg WaitPc.taken hw) ?_ _, Nat.le_refl _⟩
    cases sg
    · exact .inl ⟨_, _, rfl⟩
    · exact .inr ⟨_, rfl⟩
  | remove c st r hw hl e =>
    -- the core taken off the list is the one whose signal `Wait` held: the others have signalled
    refine e ▸ ⟨⟨hq.1, hq.2.1.sublist List.filter_sublist, fun d hd => ?_⟩, List.length_filter_le _ _⟩
    obtain ⟨hd, hdc⟩ := List.mem_filter.mp hd
    rcases hq.2.2 d hd with h | ⟨_, _, h⟩ | ⟨_, h⟩
    · exact .inl h
    · rw [hw] at h; cases h; exact absurd rfl (bne_iff_ne.mp hdc)
    · rw [hw] at h; cases h
  | cancel c i hw hl e => exact e ▸ ⟨⟨rfl, .nil, nofun⟩, Nat.zero_le _⟩

theorem quiet_waitRun (k : Nat) (s : PState) (hq : Quiet s) :
    Quiet (waitRun Cfg.fixed k s) ∧ (waitRun Cfg.fixed k s).listed.length ≤ s.listed.length := by
  fun_induction waitRun Cfg.fixed k s with
  | case1 | case3 => exact ⟨hq, Nat.le_refl _⟩
  | case2 _ _ _ h ih =>
    obtain ⟨q1, l1⟩ := quiet_step hq h
    obtain ⟨q2, l2⟩ := ih q1
    exact ⟨q2, Nat.le_trans l2 l1⟩

theorem wait_returns_of_quiet (s : PState) (hq : Quiet s) (ha : s.wait.active = true) :
    ∃ k, k ≤ 3 * restLen s.wait + 3 * s.listed.length + 6 ∧
      ∃ r, (waitRun Cfg.fixed k s).wait = .returned r := by
  obtain ⟨k1, hk1, _, ht⟩ := pass_ends s hq.1 ha
  have := passLen_le s.wait
  obtain ⟨q1, l1⟩ := quiet_waitRun k1 s hq
  rcases ht with htop | ⟨r, hr⟩
  · obtain ⟨k2, hk2, r, hr⟩ := top_returns _ htop q1.1 q1.2.1 (q1.signalled (congrArg WaitPc.taken htop))
    exact ⟨k1 + k2, by omega, r, by rw [waitRun_add]; exact hr⟩
  · exact ⟨k1, by omega, r, hr⟩

end Hms.Conc
