import HmsProofs.Lemmas.SimHSyn
import HmsProofs.Lemmas.SimFnExec
/-! Machine states across activations: `mkS s calls mp k stk mem out` is the base state `s` after `k` more instructions,
with the given call stack, memory pointer, operand stack, memory and world; globals and handlers stay those of `s`. -/
namespace HmsProofs.Sim
open Hms.Core Hms.Core.Comp Hms.Core.VM
open HmsProofs.Lemmas.VMRun (ofInt_toNat)

/-- What a run changes outside the frames: the heap and the output buffer. -/
structure World where
  heap : Array Cell
  out : String

def _root_.Hms.Core.St.world (st : St) : World := ⟨st.heap, st.out⟩

def mkS (s : VMState) (calls : List Frame) (mp : Int) (k : Nat) (stk : List SVal) (mem : List (Int × Val))
    (out : World) : VMState :=
  { s with calls := calls, mp := mp, steps := s.steps + k, stack := stk, mem := mem,
           st := { s.st with heap := out.heap, out := out.out } }

def baseOf (s : VMState) (fn : String) (rest : List Frame) (mp : Int) (out : World) : VMState :=
  { s with calls := ⟨fn, 0⟩ :: rest, mp := mp, st := { s.st with heap := out.heap, out := out.out } }

theorem mkS_eq_reach (s : VMState) (fn : String) (ip : Nat) (rest : List Frame) (mp : Int) (k : Nat)
    (stk : List SVal) (mem : List (Int × Val)) (out : World) :
    mkS s (⟨fn, ip⟩ :: rest) mp k stk mem out = reach (baseOf s fn rest mp out) ip k stk mem := rfl

/-! The VM's iterator table (`iters`, `nextIter`) is changed by `for` loops only. A run starts from any table and ends in a
table `it'` with `ItR fr it it'`: without `for` loops (`fr = false`) the same table, otherwise one in which the iterators that
existed before are untouched. -/

structure ItSt where
  iters : List (Nat × List Val)
  next : Nat

def withIt (s : VMState) (it : ItSt) : VMState := { s with iters := it.iters, nextIter := it.next }
def itOf (s : VMState) : ItSt := ⟨s.iters, s.nextIter⟩
theorem withIt_itOf (s : VMState) : withIt s (itOf s) = s := rfl

def ItLe (it it' : ItSt) : Prop := it.next ≤ it'.next ∧ ∀ j, j < it.next → it'.iters.lookup j = it.iters.lookup j

theorem ItLe.refl (it : ItSt) : ItLe it it := ⟨Nat.le_refl _, fun _ _ => rfl⟩
theorem ItLe.trans {a b c : ItSt} (h1 : ItLe a b) (h2 : ItLe b c) : ItLe a c :=
  ⟨Nat.le_trans h1.1 h2.1, fun j hj => (h2.2 j (Nat.lt_of_lt_of_le hj h1.1)).trans (h1.2 j hj)⟩

def ItR (fr : Bool) (it it' : ItSt) : Prop := if fr then ItLe it it' else it' = it

theorem ItR.refl (fr : Bool) (it : ItSt) : ItR fr it it := by
  cases fr
  · exact rfl
  · exact ItLe.refl it

theorem ItR.trans {fr : Bool} {a b c : ItSt} (h1 : ItR fr a b) (h2 : ItR fr b c) : ItR fr a c := by
  cases fr
  · exact (show c = b from h2).trans h1
  · exact ItLe.trans h1 h2

theorem ItR.le {fr : Bool} {a b : ItSt} (hfr : fr = true) (h : ItR fr a b) : ItLe a b := by
  subst hfr; exact h

theorem ItR.of_le {fr : Bool} {a b : ItSt} (hfr : fr = true) (h : ItLe a b) : ItR fr a b := by
  subst hfr; exact h

structure Mem where
  cells : List (Int × Val)
  it : ItSt

instance : Coe Mem (List (Int × Val)) := ⟨Mem.cells⟩

def Mem.set (m : Mem) (a : Int) (v : Val) : Mem := { m with cells := memSetL m.cells a v }

@[simp] theorem Mem.set_cells (m : Mem) (a : Int) (v : Val) : (m.set a v).cells = memSetL m.cells a v := rfl
@[simp] theorem Mem.set_it (m : Mem) (a : Int) (v : Val) : (m.set a v).it = m.it := rfl

def mkSI (s : VMState) (calls : List Frame) (mp : Int) (k : Nat) (stk : List SVal) (m : Mem) (out : World) : VMState :=
  mkS (withIt s m.it) calls mp k stk m.cells out

theorem mkSI_own (s : VMState) (calls : List Frame) (mp : Int) (k : Nat) (stk : List SVal)
    (mem : List (Int × Val)) (out : World) : mkSI s calls mp k stk ⟨mem, itOf s⟩ out = mkS s calls mp k stk mem out := rfl

/-- No object cell has a data field named like a builtin method: on such an object `o.len()` would call the field's value
instead of the method. -/
def HeapInv (h : Array Cell) : Prop :=
  ∀ (a : Nat) (fs : List (String × Val)), h[a]? = some (Cell.obj fs) → ∀ k ∈ methNames, fs.lookup k = none

theorem HeapInv.empty : HeapInv #[] := fun a fs h => by simp at h

theorem HeapInv.push {h : Array Cell} (hi : HeapInv h) (c : Cell)
    (hc : ∀ fs, c = .obj fs → ∀ k ∈ methNames, fs.lookup k = none) : HeapInv (h.push c) := by
  intro a fs ha
  rw [Array.getElem?_push] at ha
  split at ha
  · exact hc fs (Option.some.inj ha)
  · exact hi a fs ha

theorem HeapInv.set {h : Array Cell} (hi : HeapInv h) (a : Nat) (c : Cell)
    (hc : ∀ fs, c = .obj fs → ∀ k ∈ methNames, fs.lookup k = none) : HeapInv (h.setIfInBounds a c) := by
  intro b fs hb
  rw [Array.getElem?_setIfInBounds] at hb
  split at hb
  · split at hb
    · exact hc fs (Option.some.inj hb)
    · cases hb
  · exact hi b fs hb

/-- A run inside the activation `⟨fn, ·⟩ :: rest`, without interrupt or panic. `_fr` occurs in no field: it only indexes
the run by the fragment, so that `Runs.trans` joins runs of one fragment and the `MemLe fr` stated beside a run (what it
may do to the iterator table) speaks of the same one. -/
structure Runs (_fr : Bool) (code : Code) (lim : Limits) (s : VMState) (fn : String) (rest : List Frame) (mp : Int)
    (ip : Nat) (stk : List SVal) (mem : Mem) (out : World)
    (ip' : Nat) (stk' : List SVal) (mem' : Mem) (out' : World) : Prop where
  run : ∀ k, ∃ k', execHN code lim k' (mkSI s (⟨fn, ip⟩ :: rest) mp k stk mem out) =
    .next (mkSI s (⟨fn, ip'⟩ :: rest) mp (k + k') stk' mem' out')
  inv : HeapInv out.heap → HeapInv out'.heap

instance {fr code lim s fn rest mp ip stk mem out ip' stk' mem' out'} :
    CoeFun (Runs fr code lim s fn rest mp ip stk mem out ip' stk' mem' out')
      (fun _ => ∀ k, ∃ k', execHN code lim k' (mkSI s (⟨fn, ip⟩ :: rest) mp k stk mem out) =
        .next (mkSI s (⟨fn, ip'⟩ :: rest) mp (k + k') stk' mem' out')) := ⟨Runs.run⟩

def RunsF (code : Code) (lim : Limits) (s : VMState) (fn : String) (rest : List Frame) (mp : Int)
    (ip : Nat) (stk : List SVal) (mem : Mem) (out : World)
    (kd msg : String) (sp : Span) (out' : World) : Prop :=
  ∀ k, ∃ k' s', execHN code lim k' (mkSI s (⟨fn, ip⟩ :: rest) mp k stk mem out) = .intr (.fatal kd msg sp) s' ∧
    s'.st = { s.st with heap := out'.heap, out := out'.out } ∧ s'.globals = s.globals

section
variable {fr : Bool} {code : Code} {lim : Limits} {s : VMState} {fn : String} {rest : List Frame} {mp : Int}

theorem Runs.refl (ip stk mem out) : Runs fr code lim s fn rest mp ip stk mem out ip stk mem out :=
  ⟨fun _ => ⟨0, rfl⟩, id⟩

theorem Runs.prefix {ip stk mem out ip1 stk1 mem1 out1}
    (h : Runs fr code lim s fn rest mp ip stk mem out ip1 stk1 mem1 out1) (k : Nat) :
    ∃ k1, ∀ n, execHN code lim (k1 + n) (mkSI s (⟨fn, ip⟩ :: rest) mp k stk mem out) =
      execHN code lim n (mkSI s (⟨fn, ip1⟩ :: rest) mp (k + k1) stk1 mem1 out1) := by
  obtain ⟨k1, e1⟩ := h k
  exact ⟨k1, fun n => by rw [execHN_add, e1]⟩

theorem Runs.trans {ip stk mem out ip1 stk1 mem1 out1 ip2 stk2 mem2 out2}
    (h1 : Runs fr code lim s fn rest mp ip stk mem out ip1 stk1 mem1 out1)
    (h2 : Runs fr code lim s fn rest mp ip1 stk1 mem1 out1 ip2 stk2 mem2 out2) :
    Runs fr code lim s fn rest mp ip stk mem out ip2 stk2 mem2 out2 := by
  refine ⟨fun k => ?_, fun h => h2.inv (h1.inv h)⟩
  obtain ⟨k1, e1⟩ := h1.prefix k
  obtain ⟨k2, e2⟩ := h2 (k + k1)
  exact ⟨k1 + k2, by rw [e1, e2, Nat.add_assoc]⟩

theorem Runs.fatal {ip stk mem out ip1 stk1 mem1 out1 kd msg sp out2}
    (h1 : Runs fr code lim s fn rest mp ip stk mem out ip1 stk1 mem1 out1)
    (h2 : RunsF code lim s fn rest mp ip1 stk1 mem1 out1 kd msg sp out2) :
    RunsF code lim s fn rest mp ip stk mem out kd msg sp out2 := by
  intro k
  obtain ⟨k1, e1⟩ := h1.prefix k
  obtain ⟨k2, s', e2, hs⟩ := h2 (k + k1)
  exact ⟨k1 + k2, s', by rw [e1, e2], hs⟩

theorem Runs.cast {ip stk mem out ip' stk' mem' out' ip''}
    (h : Runs fr code lim s fn rest mp ip stk mem out ip' stk' mem' out') (e : ip' = ip'') :
    Runs fr code lim s fn rest mp ip stk mem out ip'' stk' mem' out' := e ▸ h

theorem Runs.of_runsTo {ip stk} {mem : Mem} {out ip' stk'} {cells' : List (Int × Val)}
    (h : ∀ it, RunsTo code lim (baseOf (withIt s it) fn rest mp out) ip stk mem.cells ip' stk' cells') :
    Runs fr code lim s fn rest mp ip stk mem out ip' stk' ⟨cells', mem.it⟩ out := ⟨fun k => by
  obtain ⟨k', e⟩ := h mem.it k
  exact ⟨k', execHN_of_execN code lim k' _ _ (fun _ _ _ h => StepRes.noConfusion h) e⟩, id⟩

theorem RunsF.of_runsFatal {ip stk} {mem : Mem} {out kd msg sp}
    (h : ∀ it, RunsFatal code lim (baseOf (withIt s it) fn rest mp out) ip stk mem.cells kd msg sp) :
    RunsF code lim s fn rest mp ip stk mem out kd msg sp out := by
  intro k
  obtain ⟨k', s', e, h1, _, h3, _⟩ := h mem.it k
  exact ⟨k', s', execHN_of_execN code lim k' _ _ (by intro _ _ _ h; cases h) e, h1, h3⟩

theorem Runs.of_step {ip ip' : Nat} {stk stk' : List SVal} {mem mem' : Mem} {out : World}
    (h : ∀ k, exec1 code lim (mkSI s (⟨fn, ip⟩ :: rest) mp k stk mem out) =
      .next (mkSI s (⟨fn, ip'⟩ :: rest) mp (k + 1) stk' mem' out)) :
    Runs fr code lim s fn rest mp ip stk mem out ip' stk' mem' out :=
  ⟨fun k => ⟨1, by rw [execHN_one]; exact exec1H_of_next (h k)⟩, id⟩
end

def CellsLe (b : Int) (mem mem' : List (Int × Val)) : Prop := ∀ a, a ≤ b → mem'.lookup a = mem.lookup a

theorem CellsLe.refl (b mem) : CellsLe b mem mem := fun _ _ => rfl
theorem CellsLe.trans {b mem mem1 mem2} (h1 : CellsLe b mem mem1) (h2 : CellsLe b mem1 mem2) : CellsLe b mem mem2 :=
  fun a ha => (h2 a ha).trans (h1 a ha)
theorem CellsLe.mono {b b' mem mem'} (h : CellsLe b mem mem') (hb : b' ≤ b) : CellsLe b' mem mem' :=
  fun a ha => h a (by omega)
theorem CellsLe.set (b : Int) (mem : List (Int × Val)) (a : Int) (v : Val) (h : b < a) :
    CellsLe b mem (memSetL mem a v) := by
  intro a' ha'
  rw [lookup_memSet, if_neg (by omega)]

structure MemLe (fr : Bool) (b : Int) (mem mem' : Mem) : Prop where
  cells : CellsLe b mem.cells mem'.cells
  it : ItR fr mem.it mem'.it

theorem MemLe.refl (fr b mem) : MemLe fr b mem mem := ⟨CellsLe.refl _ _, ItR.refl _ _⟩
theorem MemLe.trans {fr b mem mem1 mem2} (h1 : MemLe fr b mem mem1) (h2 : MemLe fr b mem1 mem2) : MemLe fr b mem mem2 :=
  ⟨h1.cells.trans h2.cells, h1.it.trans h2.it⟩
theorem MemLe.mono {fr b b' mem mem'} (h : MemLe fr b mem mem') (hb : b' ≤ b) : MemLe fr b' mem mem' :=
  ⟨h.cells.mono hb, h.it⟩
theorem MemLe.set (fr : Bool) (b : Int) (mem : Mem) (a : Int) (v : Val) (h : b < a) :
    MemLe fr b mem (mem.set a v) := ⟨CellsLe.set _ _ _ _ h, ItR.refl _ _⟩

theorem popN_append (t : VMState) (svs stk : List SVal) (h : t.stack = svs ++ stk) :
    popN svs.length t = some (svs.map (·.v), { t with stack := stk }) := by
  induction svs generalizing t with
  | nil =>
    simp only [List.nil_append] at h
    simp only [List.length_nil, popN, List.map_nil]
    rw [← h]
  | cons x svs ih =>
    simp only [List.length_cons, popN, pop1, h, List.cons_append]
    have := ih { t with stack := svs ++ stk } rfl
    simp only [Option.bind_eq_bind, Option.bind_some, this]
    rfl

def withH (s : VMState) (hs : List Handler) : VMState := { s with handlers := hs }

theorem withH_withIt (s : VMState) (hs : List Handler) (it : ItSt) : withIt (withH s hs) it = withH (withIt s it) hs := rfl

theorem mkSI_withH (s : VMState) (hs : List Handler) (calls : List Frame) (mp : Int) (k : Nat) (stk : List SVal)
    (m : Mem) (out : World) : mkSI (withH s hs) calls mp k stk m out = mkS (withH (withIt s m.it) hs) calls mp k stk m.cells out := rfl

theorem mkSI_eq_reach (s : VMState) (fn : String) (ip : Nat) (rest : List Frame) (mp : Int) (k : Nat)
    (stk : List SVal) (m : Mem) (out : World) :
    mkSI s (⟨fn, ip⟩ :: rest) mp k stk m out = reach (baseOf (withIt s m.it) fn rest mp out) ip k stk m.cells := rfl

theorem exec1_mkS {code : Code} {lim : Limits} {s : VMState} {fn : String} {ip : Nat} {rest : List Frame} {mp : Int}
    {k : Nat} {stk : List SVal} {mem : List (Int × Val)} {out : World} {c : List (RInstr × Span)} {i : RInstr} {sp : Span}
    (hf : findCode code fn = some c) (hx : c[ip]? = some (i, sp)) :
    exec1 code lim (mkS s (⟨fn, ip⟩ :: rest) mp k stk mem out) =
      step code lim (mkS s (⟨fn, ip⟩ :: rest) mp (k + 1) stk mem out) i sp := by
  have hfe : fetch code (mkS s (⟨fn, ip⟩ :: rest) mp k stk mem out) = some (i, sp) := by
    unfold fetch mkS
    simp [hf, hx]
  unfold exec1
  rw [hfe]
  rfl

theorem exec1_mkSI {code : Code} {lim : Limits} {s : VMState} {fn : String} {ip : Nat} {rest : List Frame} {mp : Int}
    {k : Nat} {stk : List SVal} {mem : Mem} {out : World} {c : List (RInstr × Span)} {i : RInstr} {sp : Span}
    (hf : findCode code fn = some c) (hx : c[ip]? = some (i, sp)) :
    exec1 code lim (mkSI s (⟨fn, ip⟩ :: rest) mp k stk mem out) =
      step code lim (mkSI s (⟨fn, ip⟩ :: rest) mp (k + 1) stk mem out) i sp :=
  exec1_mkS hf hx

section StepsS
variable {code : Code} {lim : Limits} {s : VMState} {fn : String} {ip : Nat} {rest : List Frame} {mp : Int}
variable {k : Nat} {stk : List SVal} {mem : List (Int × Val)} {out : World} {c : List (RInstr × Span)}
variable (hf : findCode code fn = some c)
include hf

theorem mkS_getGlob_builtin (name : String) (sp : Span) (hx : c[ip]? = some (.getGlob name, sp))
    (hg : s.globals.lookup name = none) (hb : builtinNames.contains name = true) :
    exec1 code lim (mkS s (⟨fn, ip⟩ :: rest) mp k stk mem out) =
      .next (mkS s (⟨fn, ip + 1⟩ :: rest) mp (k + 1) (⟨.builtin name, none⟩ :: stk) mem out) := by
  rw [exec1_mkS hf hx]
  simp only [step, mkS, hg, hb, if_true]
  rfl

theorem mkS_callVal_host (sp : Span) (f : Val) (m : List Val → Span → M Val)
    (hhost : (∃ name, f = .builtin name ∧ m = callBuiltin name) ∨ ∃ recv nm, f = .bound recv nm ∧ m = callMember recv nm)
    (o1 o2 : Option Org) (svs : List SVal) (r : Except Ctl Val) (out' : World)
    (hx : c[ip]? = some (.callVal, sp)) (hn : svs.length < 2 ^ 64)
    (hr : m (svs.map (·.v)) sp { s.st with heap := out.heap, out := out.out } =
      (r, { s.st with heap := out'.heap, out := out'.out })) :
    exec1 code lim (mkS s (⟨fn, ip⟩ :: rest) mp k
        (⟨.int (I64.ofInt (svs.length : Int)), o1⟩ :: ⟨f, o2⟩ :: (svs ++ stk)) mem out) =
      match r with
      | .ok .null => .next (mkS s (⟨fn, ip + 1⟩ :: rest) mp (k + 1) stk mem out')
      | .ok v => .next (mkS s (⟨fn, ip + 1⟩ :: rest) mp (k + 1) (⟨v, none⟩ :: stk) mem out')
      | .error e => ctlToRes e (mkS s (⟨fn, ip⟩ :: rest) mp (k + 1) stk mem out') := by
  rw [exec1_mkS hf hx]
  rcases hhost with ⟨name, rfl, rfl⟩ | ⟨recv, nm, rfl, rfl⟩
  all_goals
    simp only [step, mkS, ofInt_toNat _ hn]
    rw [popN_append _ svs stk rfl]
    simp only [runM, hr]
    cases r with
    | error e => rfl
    | ok v => cases v <;> rfl

theorem mkS_callVal_println (sp : Span) (svs : List SVal) (o1 o2 : Option Org) (t : String)
    (hx : c[ip]? = some (.callVal, sp)) (hn : svs.length < 2 ^ 64)
    (ht : printText out.heap (svs.map (·.v)) = some t) :
    exec1 code lim (mkS s (⟨fn, ip⟩ :: rest) mp k
        (⟨.int (I64.ofInt (svs.length : Int)), o1⟩ :: ⟨.builtin "println", o2⟩ :: (svs ++ stk)) mem out) =
      .next (mkS s (⟨fn, ip + 1⟩ :: rest) mp (k + 1) stk mem ⟨out.heap, out.out ++ t⟩) :=
  mkS_callVal_host hf sp _ _ (.inl ⟨_, rfl, rfl⟩) o1 o2 svs (.ok .null) ⟨out.heap, out.out ++ t⟩ hx hn
    (by rw [println_run]; simp only [ht])
end StepsS

section StepsI
variable (code : Code) (lim : Limits) (s : VMState) (fn : String) (ip : Nat) (rest : List Frame) (mp : Int)
variable (k : Nat) (stk : List SVal) (mem : Mem) (out : World) (c : List (RInstr × Span))
variable (hf : findCode code fn = some c)
include hf

theorem mkSI_callImm (g : String) (sp : Span) (hx : c[ip]? = some (.callImm g, sp)) :
    exec1 code lim (mkSI s (⟨fn, ip⟩ :: rest) mp k stk mem out) =
      .next (mkSI s (⟨g, 0⟩ :: ⟨fn, ip + 1⟩ :: rest) mp (k + 1) stk mem out) := by
  rw [exec1_mkSI hf hx]
  rfl

theorem mkSI_ret (sp : Span) (hx : c[ip]? = some (.ret, sp)) :
    exec1 code lim (mkSI s (⟨fn, ip⟩ :: rest) mp k stk mem out) = .next (mkSI s rest mp (k + 1) stk mem out) := by
  rw [exec1_mkSI hf hx]
  rfl

theorem mkSI_addMp (n : Int) (sp : Span) (hx : c[ip]? = some (.addMp n, sp)) (hlim : mp + n < (lim.memory : Int)) :
    exec1 code lim (mkSI s (⟨fn, ip⟩ :: rest) mp k stk mem out) =
      .next (mkSI s (⟨fn, ip + 1⟩ :: rest) (mp + n) (k + 1) stk mem out) := by
  rw [exec1_mkSI hf hx]
  simp only [step]
  rw [if_neg (by show ¬ mp + n ≥ _; omega)]
  rfl

theorem mkSI_setTry (tfn : String) (l : Nat) (sp : Span) (hx : c[ip]? = some (.setTry tfn l, sp)) :
    exec1 code lim (mkSI s (⟨fn, ip⟩ :: rest) mp k stk mem out) =
      .next (mkSI (withH s (⟨⟨tfn, l⟩, rest.length + 1, stk.length, mp⟩ :: s.handlers)) (⟨fn, ip + 1⟩ :: rest) mp
        (k + 1) stk mem out) := by
  rw [exec1_mkSI hf hx]
  rfl

theorem mkSI_popTry (sp : Span) (h : Handler) (hs : List Handler) (hx : c[ip]? = some (.popTry, sp)) :
    exec1 code lim (mkSI (withH s (h :: hs)) (⟨fn, ip⟩ :: rest) mp k stk mem out) =
      .next (mkSI (withH s hs) (⟨fn, ip + 1⟩ :: rest) mp (k + 1) stk mem out) := by
  rw [exec1_mkSI hf hx]
  rfl

/-- `1000000` is the fuel of the specification's `displayM`, which the VM's `Throw` runs. -/
theorem mkSI_throw (sp : Span) (v : Val) (o : Option Org) (d : String)
    (hx : c[ip]? = some (.throw, sp)) (hd : display out.heap 1000000 v = some d) :
    exec1 code lim (mkSI s (⟨fn, ip⟩ :: rest) mp k (⟨v, o⟩ :: stk) mem out) =
      .intr (.throw d sp) (mkSI s (⟨fn, ip + 1⟩ :: rest) mp (k + 1) stk mem out) := by
  rw [exec1_mkSI hf hx]
  simp only [step, mkSI, mkS, pop1, runM, displayM_run, hd, advance]
end StepsI

/-- The newest handler was installed in the activation `· :: rest` with operand stack `stk` and memory pointer `hmp`; the
exception is raised `frames'` activations deeper, with `xs` more operands. -/
theorem dispatch_mkSI (s : VMState) (tfn : String) (tl : Nat) (hmp : Int) (hs : List Handler)
    (frames' : List Frame) (f : Frame) (rest : List Frame) (mp' : Int) (K : Nat) (xs stk : List SVal)
    (mem' : Mem) (w' : World) (msg : String) (tsp : Span) :
    dispatch msg tsp (mkSI (withH s (⟨⟨tfn, tl⟩, rest.length + 1, stk.length, hmp⟩ :: hs)) (frames' ++ f :: rest) mp' K
        (xs ++ stk) mem' w') =
      .next (mkSI (withH s (⟨⟨tfn, tl⟩, rest.length + 1, stk.length, hmp⟩ :: hs)) (⟨tfn, tl⟩ :: rest) hmp K
        (⟨.ref w'.heap.size, none⟩ :: stk) mem' ⟨w'.heap.push (errCell msg tsp), w'.out⟩) := by
  unfold dispatch
  simp only [mkSI, mkS, withH, withIt]
  have h1 : (frames' ++ f :: rest).length - (rest.length + 1) = frames'.length := by
    simp only [List.length_append, List.length_cons]; omega
  have h2 : (xs ++ stk).length - stk.length = xs.length := by
    simp only [List.length_append]; omega
  simp only [h1, h2, List.drop_left]
  rfl

end HmsProofs.Sim
