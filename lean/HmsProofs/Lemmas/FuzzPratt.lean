import Hms.Parse.Normal
/-! The printers add no parentheses; a tree survives printing iff it is normal (C19). The repaired
rewrite rules wrap every operand that changes its position in a grouped node, so the resulting
trees are normal whenever the original was. -/
namespace HmsProofs.Lemmas.Fuzz
open Hms Hms.Pratt

theorem normal_mono (prec : Prec) : ∀ (t : Tree) (p q : Nat), p ≤ q → normal prec q t = true →
    normal prec p t = true
  | .atom _, _, _, _, h | .grp _, _, _, _, h | .pre _ _, _, _, _, h | .list _, _, _, _, h => by
    simpa only [normal] using h
  -- the context occurs in two conjuncts: a bound `_ > q` and `normal prec q l` for the left subtree `l`
  | .bin l _ _, p, q, hpq, h | .asg l _ _, p, q, hpq, h | .call l _, p, q, hpq, h | .index l _, p, q, hpq, h
  | .member l _ _, p, q, hpq, h | .cast l _, p, q, hpq, h | .range l _ _, p, q, hpq, h => by
    have ih := normal_mono prec l p q hpq
    simp only [normal, Bool.and_eq_true, decide_eq_true_eq] at h ⊢
    grind

theorem grouped_normal (prec : Prec) (p q : Nat) (t : Tree) (h : normal prec q t = true) :
    normal prec p (.grp t) = true := by
  simpa only [normal] using normal_mono prec t 0 q (Nat.zero_le _) h

theorem normal_bin {prec : Prec} {p : Nat} {l r : Tree} {o : TokKind} :
    normal prec p (.bin l o r) = true ↔
      isInfix o = true ∧ (prec o).1 > p ∧ normal prec p l = true ∧ rightSpineOK prec (prec o).1 l = true
        ∧ normal prec (prec o).2 r = true := by
  simp only [normal, Bool.and_eq_true, decide_eq_true_eq, and_assoc]

theorem commute_normal (prec : Prec) (p : Nat) (l r : Tree) (o : TokKind)
    (h : normal prec p (.bin l o r) = true) :
    normal prec p (.bin (.grp r) o (.grp l)) = true := by
  obtain ⟨hinfix, hp, hl, _, hr⟩ := normal_bin.1 h
  exact normal_bin.2 ⟨hinfix, hp, grouped_normal prec _ _ r hr, rfl, grouped_normal prec _ _ l hl⟩

theorem not_grouped_normal (prec : Prec) (p q : Nat) (t : Tree) (h : normal prec q t = true) :
    normal prec p (.pre .not_ (.grp t)) = true := by
  rw [normal, grouped_normal prec prefixBp q t h]; rfl

end HmsProofs.Lemmas.Fuzz
