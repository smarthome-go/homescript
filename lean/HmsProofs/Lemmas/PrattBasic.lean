import Hms.Parse.Normal
import HmsProofs.Lemmas.LexStep
/-! The successful runs of the expression-parser model, without fuel. `RunE prec p ts t out` (`RunL`, `RunA`): `parseE`
(`loop`, `parseArgs`) on `ts` returns `t` and leaves `out`. One call of `parseE` is "read a primary (`Call.prim`), then
enter the loop"; one iteration of `loop` is "stop, or perform one suffix operation (`Call.step`) and continue".
`PrattFuel` ties the functions to the relation twice: `parse_spec` (whatever they return at any fuel is a run, and the
fuel runs out only at a fuel of at most `2 * length`, one more for `parseArgs`) and `Run.ok` (a run is returned at every
fuel above that). Everything else about successful parses is proved about runs. -/
namespace HmsProofs.Lemmas.Pratt
open Hms Hms.Pratt

/-- The inclusive-range lookahead of the loop (`..` followed by `=`). -/
def rangeSplit : List TokKind → Bool × List TokKind
  | .assign :: r => (true, r)
  | r => (false, r)

theorem rangeSplit_len {rest rest1 : List TokKind} {incl : Bool} (h : rangeSplit rest = (incl, rest1)) :
    rest1.length ≤ rest.length := by
  unfold rangeSplit at h
  split at h <;> cases h <;> simp

theorem loop_nil (prec : Prec) (f p : Nat) (lhs : Tree) :
    loop prec (f+1) p lhs [] = .ok (lhs, []) := rfl

theorem loop_stop (prec : Prec) (f p : Nat) (lhs : Tree) (ts : List TokKind)
    (h : headLbp prec ts ≤ p) : loop prec (f+1) p lhs ts = .ok (lhs, ts) := by
  cases ts with
  | nil => rfl
  | cons k rest => simp [loop, Nat.not_lt.mpr (show (prec k).1 ≤ p from h)]

theorem beq_false_of_class {P : TokKind → Bool} {k c : TokKind} (h : P k = true) (hc : P c = false) :
    (k == c) = false := by
  cases hk : k == c with
  | false => rfl
  | true => rw [eq_of_beq hk, hc] at h; cases h

theorem assign_fails_earlier {k : TokKind} (h : isAssign k = true) :
    (k == .doubleDot) = false ∧ isInfix k = false := by
  unfold isAssign at h
  split at h
  rotate_right
  · cases h
  all_goals decide

theorem member_fails_earlier {k : TokKind} (h : isMemberOp k = true) :
    (k == .doubleDot) = false ∧ isInfix k = false ∧ isAssign k = false ∧ (k == .lParen) = false
      ∧ (k == .lBracket) = false := by
  unfold isMemberOp at h
  split at h
  rotate_right
  · cases h
  all_goals decide

theorem prefix_fails_earlier {k : TokKind} (h : isPrefix k = true) :
    isAtom k = false ∧ (k == .lParen) = false := by
  unfold isPrefix at h
  split at h
  rotate_right
  · cases h
  all_goals decide

/-- What a run is a run of, with its result. `prim`: the input `k :: rest` starts with the primary `lhs`, leaving
`rest'`; `step`: at operator token `k`, followed by `rest`, the loop extends `lhs` to `lhs'`, leaving `rest'`. -/
inductive Call where
  | parseE (p : Nat) (ts : List TokKind) (t : Tree) (out : List TokKind)
  | loop (p : Nat) (lhs : Tree) (ts : List TokKind) (t : Tree) (out : List TokKind)
  | parseArgs (close : TokKind) (ts : List TokKind) (xs : Args) (out : List TokKind)
  | prim (k : TokKind) (rest : List TokKind) (lhs : Tree) (rest' : List TokKind)
  | step (lhs : Tree) (k : TokKind) (rest : List TokKind) (lhs' : Tree) (rest' : List TokKind)

/-- The successful runs. One relation over the five kinds of call instead of five mutual ones, so that
`induction` applies. -/
inductive Run (prec : Prec) : Call → Prop
  | atom {k rest} : isAtom k = true → Run prec (.prim k rest (.atom k) rest)
  | grp {rest e rest'} : Run prec (.parseE 0 rest e (.rParen :: rest')) →
      Run prec (.prim .lParen rest (.grp e) rest')
  | pre {k rest e rest'} : isPrefix k = true → Run prec (.parseE prefixBp rest e rest') →
      Run prec (.prim k rest (.pre k e) rest')
  | list {rest xs rest'} : Run prec (.parseArgs .rBracket rest xs rest') →
      Run prec (.prim .lBracket rest (.list xs) rest')
  | range {lhs rest incl rest1 e rest'} : rangeSplit rest = (incl, rest1) →
      Run prec (.parseE 0 rest1 e rest') → Run prec (.step lhs .doubleDot rest (.range lhs incl e) rest')
  | bin {lhs k rest r rest'} : isInfix k = true → Run prec (.parseE (prec k).2 rest r rest') →
      Run prec (.step lhs k rest (.bin lhs k r) rest')
  | asg {lhs k rest r rest'} : isAssign k = true → validAssignTarget lhs = true →
      Run prec (.parseE (prec k).2 rest r rest') → Run prec (.step lhs k rest (.asg lhs k r) rest')
  | call {lhs rest xs rest'} : Run prec (.parseArgs .rParen rest xs rest') →
      Run prec (.step lhs .lParen rest (.call lhs xs) rest')
  | index {lhs rest i rest'} : Run prec (.parseE 0 rest i (.rBracket :: rest')) →
      Run prec (.step lhs .lBracket rest (.index lhs i) rest')
  | member {lhs k nm rest'} : isMemberOp k = true → (nm = .identifier ∨ nm = .underscore) →
      Run prec (.step lhs k (nm :: rest') (.member lhs k nm) rest')
  | cast {lhs rest'} : Run prec (.step lhs .as (.identifier :: rest') (.cast lhs .identifier) rest')
  | mk {p k rest lhs rest' t out} : Run prec (.prim k rest lhs rest') → Run prec (.loop p lhs rest' t out) →
      Run prec (.parseE p (k :: rest) t out)
  | stop {p lhs ts} : headLbp prec ts ≤ p → Run prec (.loop p lhs ts lhs ts)
  | step {p lhs k rest lhs' rest' t out} : (prec k).1 > p → Run prec (.step lhs k rest lhs' rest') →
      Run prec (.loop p lhs' rest' t out) → Run prec (.loop p lhs (k :: rest) t out)
  | close {close rest} : Run prec (.parseArgs close (close :: rest) .nil rest)
  | more {close k rest e rest' xs out} : (k == close) = false →
      Run prec (.parseE 0 (k :: rest) e (.comma :: rest')) → Run prec (.parseArgs close rest' xs out) →
      Run prec (.parseArgs close (k :: rest) (.cons e xs) out)
  | last {close k rest e out} : (k == close) = false → close ≠ .comma →
      Run prec (.parseE 0 (k :: rest) e (close :: out)) → Run prec (.parseArgs close (k :: rest) (.cons e .nil) out)

abbrev RunE (prec : Prec) (p : Nat) (ts : List TokKind) (t : Tree) (out : List TokKind) : Prop :=
  Run prec (.parseE p ts t out)
abbrev RunL (prec : Prec) (p : Nat) (lhs : Tree) (ts : List TokKind) (t : Tree) (out : List TokKind) : Prop :=
  Run prec (.loop p lhs ts t out)
abbrev RunA (prec : Prec) (close : TokKind) (ts : List TokKind) (xs : Args) (out : List TokKind) : Prop :=
  Run prec (.parseArgs close ts xs out)

end HmsProofs.Lemmas.Pratt
