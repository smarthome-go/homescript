import Hms.Mod.Graph
import HmsProofs.Lemmas.Unvisited

/-! The import-cycle check `importGraphIsCyclic` with the visited set (finding A8) answers `true` iff `start` reaches
itself along at least one import edge (`cycle_check_correct`; `Path` has no empty path). Soundness is a direct induction.
Completeness is the DFS closure argument: when a call returns `false` (with enough fuel), every node it added to the
visited list, and the node it expanded, is *closed*: no successor is `orig` and every successor is in the returned
visited list.

Fuel is measured by `white (adj.map Prod.fst) vis`, the number of keys of `adj` not yet visited. A call on `node` has
enough fuel when `white … vis < fuel`, or `node` has no entry: marking such a node does not lower the measure, but the
call expands nothing and `node` is closed whatever the fuel. Hence the side condition of the completeness lemmas. -/
namespace Hms.Mod
open Hms.Pos.Imports (white white_mono white_lt white_keys_le)

/-- `b` is a direct import of `a` (only modules with an entry in `adj` have out-edges;
`List.lookup` = first entry). -/
def Edge (adj : Adj) (a b : String) : Prop := ∃ ns, adj.lookup a = some ns ∧ b ∈ ns

inductive Path (adj : Adj) : String → String → Prop
  | single {a b} : Edge adj a b → Path adj a b
  | cons {a b c} : Edge adj a b → Path adj b c → Path adj a c

theorem nbrLoop_true {adj : Adj} {orig : String}
    {step : List String → String → Bool × List String}
    (hstep : ∀ vis node vis', step vis node = (true, vis') → Path adj node orig)
    (nbrs vis vis' : List String) (h : nbrLoop step orig vis nbrs = (true, vis')) :
    ∃ b, b ∈ nbrs ∧ (b = orig ∨ Path adj b orig) := by
  have tail {node rest} : (∃ b, b ∈ rest ∧ (b = orig ∨ Path adj b orig)) →
      ∃ b, b ∈ node :: rest ∧ (b = orig ∨ Path adj b orig) :=
    .imp fun b hb => ⟨List.mem_cons_of_mem _ hb.1, hb.2⟩
  fun_induction nbrLoop step orig vis nbrs with
  | case1 => cases h
  | case2 vis node rest hno => exact ⟨node, List.mem_cons_self, .inl (beq_iff_eq.mp hno)⟩
  | case3 vis node rest _ _ ih => exact tail (ih h)
  | case4 vis node rest _ _ v1 hs => exact ⟨node, List.mem_cons_self, .inr (hstep _ _ _ hs)⟩
  | case5 vis node rest _ _ v1 _ ih => exact tail (ih h)

theorem cyclicFrom_true (adj : Adj) (orig : String) :
    ∀ (fuel : Nat) (vis : List String) (start : String) (vis' : List String),
      cyclicFrom adj orig fuel vis start = (true, vis') → Path adj start orig
  | 0, vis, start, vis', h => by rw [cyclicFrom] at h; cases h
  | fuel + 1, vis, start, vis', h => by
    rw [cyclicFrom] at h
    cases hl : adj.lookup start with
    | none => rw [hl] at h; cases h
    | some nbrs =>
      rw [hl] at h
      obtain ⟨b, hb, hp⟩ := nbrLoop_true (cyclicFrom_true adj orig fuel) nbrs vis vis' h
      have he : Edge adj start b := ⟨nbrs, hl, hb⟩
      exact hp.elim (fun e => e ▸ .single he) (.cons he)

def Closed (adj : Adj) (orig : String) (S : List String) (x : String) : Prop :=
  ∀ ns, adj.lookup x = some ns → ∀ b, b ∈ ns → b ≠ orig ∧ b ∈ S

section
variable {adj : Adj} {orig : String}

theorem Closed.mono {S S' : List String} {x : String}
    (h : Closed adj orig S x) (hs : ∀ y, y ∈ S → y ∈ S') : Closed adj orig S' x :=
  fun ns hl b hb => ⟨(h ns hl b hb).1, hs _ (h ns hl b hb).2⟩

def Post (adj : Adj) (orig : String) (vis vis' : List String) : Prop :=
  (∀ x, x ∈ vis → x ∈ vis') ∧ (∀ x, x ∈ vis' → x ∈ vis ∨ Closed adj orig vis' x)

theorem Post.refl {vis : List String} : Post adj orig vis vis :=
  ⟨fun _ hx => hx, fun _ hx => Or.inl hx⟩

/-- Marking `node`, exploring it (after which it is closed) and going on keeps the postcondition. -/
theorem Post.step {node : String} {vis v1 vis' : List String}
    (h1 : Post adj orig (node :: vis) v1) (hcl : Closed adj orig v1 node) (h2 : Post adj orig v1 vis') :
    Post adj orig vis vis' := by
  refine ⟨fun x hx => h2.1 x (h1.1 x (List.mem_cons_of_mem _ hx)), fun x hx => ?_⟩
  rcases h2.2 x hx with hx1 | hx1
  · rcases h1.2 x hx1 with hx0 | hx0
    · rcases List.mem_cons.1 hx0 with rfl | hx0
      · exact Or.inr (hcl.mono h2.1)
      · exact Or.inl hx0
    · exact Or.inr (hx0.mono h2.1)
  · exact Or.inr hx1

theorem Closed.of_lookup_none {S : List String} {x : String}
    (hl : adj.lookup x = none) : Closed adj orig S x :=
  fun ns hn => by rw [hl] at hn; cases hn

theorem nbrLoop_false {f : Nat}
    {step : List String → String → Bool × List String}
    (hstep : ∀ vis node vis', (white (adj.map Prod.fst) vis < f ∨ adj.lookup node = none) →
      step vis node = (false, vis') → Post adj orig vis vis' ∧ Closed adj orig vis' node)
    (nbrs vis vis' : List String) (hf : white (adj.map Prod.fst) vis ≤ f)
    (h : nbrLoop step orig vis nbrs = (false, vis')) :
    Post adj orig vis vis' ∧ ∀ b, b ∈ nbrs → b ≠ orig ∧ b ∈ vis' := by
  fun_induction nbrLoop step orig vis nbrs with
  | case1 => cases h; exact ⟨.refl, nofun⟩
  | case2 | case4 => cases h
  | case3 vis node rest hno hc ih =>
    obtain ⟨hp, hr⟩ := ih hf h
    exact ⟨hp, List.forall_mem_cons.mpr ⟨⟨fun e => hno (beq_iff_eq.mpr e), hp.1 _ (List.contains_iff_mem.mp hc)⟩, hr⟩⟩
  | case5 vis node rest hno hc v1 hs ih =>
    have hc : node ∉ vis := fun hm => hc (List.contains_iff_mem.mpr hm)
    -- marking `node` lowers the measure if `node` has an entry; if it has none, no fuel is needed
    have hsuff : white (adj.map Prod.fst) (node :: vis) < f ∨ adj.lookup node = none := by
      cases hl : adj.lookup node with
      | none => exact .inr rfl
      | some ns => exact .inl (Nat.lt_of_lt_of_le (white_lt (adj.map Prod.fst) (List.lookup_key_mem hl) hc) hf)
    obtain ⟨h1, hcl1⟩ := hstep _ _ _ hsuff hs
    obtain ⟨h2, hr⟩ := ih (Nat.le_trans (white_mono (adj.map Prod.fst) fun x hx => h1.1 x (List.mem_cons_of_mem _ hx)) hf) h
    exact ⟨.step h1 hcl1 h2, List.forall_mem_cons.mpr
      ⟨⟨fun e => hno (beq_iff_eq.mpr e), h2.1 _ (h1.1 _ List.mem_cons_self)⟩, hr⟩⟩

theorem cyclicFrom_false (adj : Adj) (orig : String) :
    ∀ (fuel : Nat) (vis : List String) (start : String) (vis' : List String),
      (white (adj.map Prod.fst) vis < fuel ∨ adj.lookup start = none) →
      cyclicFrom adj orig fuel vis start = (false, vis') →
      Post adj orig vis vis' ∧ Closed adj orig vis' start
  | 0, vis, start, vis', hf, h => by
    rw [cyclicFrom] at h
    cases h
    exact ⟨.refl, .of_lookup_none (hf.resolve_left (Nat.not_lt_zero _))⟩
  | fuel + 1, vis, start, vis', hf, h => by
    rw [cyclicFrom] at h
    cases hl : adj.lookup start with
    | none =>
      rw [hl] at h
      cases h
      exact ⟨.refl, .of_lookup_none hl⟩
    | some nbrs =>
      rw [hl] at h
      have hf' : white (adj.map Prod.fst) vis ≤ fuel :=
        Nat.le_of_lt_succ (hf.resolve_right (by rw [hl]; exact Option.some_ne_none _))
      obtain ⟨hp, hr⟩ := nbrLoop_false (cyclicFrom_false adj orig fuel) nbrs vis vis' hf' h
      exact ⟨hp, fun ns hn => by rw [hl] at hn; cases hn; exact hr⟩

end

theorem Path.closed {adj : Adj} {orig : String} {S : List String}
    (hS : ∀ x, x ∈ S → Closed adj orig S x) {a b : String} (hp : Path adj a b) (ha : a ∈ S) :
    b ≠ orig ∧ b ∈ S := by
  induction hp with
  | single he =>
    obtain ⟨ns, hl, hb⟩ := he
    exact hS _ ha ns hl _ hb
  | cons he _ ih =>
    obtain ⟨ns, hl, hb⟩ := he
    exact ih (hS _ ha ns hl _ hb).2

theorem cyclicFrom_correct (adj : Adj) (start : String) (fuel : Nat)
    (h : white (adj.map Prod.fst) [start] < fuel) :
    (cyclicFrom adj start fuel [start] start).1 = true ↔ Path adj start start := by
  cases hr : cyclicFrom adj start fuel [start] start with
  | mk r S =>
    cases r with
    | true => exact ⟨fun _ => cyclicFrom_true adj start fuel _ _ _ hr, fun _ => rfl⟩
    | false =>
      -- the returned set contains `start`, is closed, and so contains all that `start` reaches
      obtain ⟨⟨hsub, hnew⟩, hcl⟩ := cyclicFrom_false adj start fuel _ _ _ (Or.inl h) hr
      have hS : ∀ x, x ∈ S → Closed adj start S x := fun x hx =>
        (hnew x hx).elim (fun hx0 => List.mem_singleton.mp hx0 ▸ hcl) id
      exact ⟨fun ht => Bool.noConfusion ht,
        fun hp => ((Path.closed hS hp (hsub _ List.mem_cons_self)).1 rfl).elim⟩

theorem cycle_check_correct (adj : Adj) (start : String) :
    importGraphIsCyclic adj start = true ↔ Path adj start start :=
  cyclicFrom_correct adj start (adj.length + 1)
    (Nat.lt_succ_of_le (white_keys_le adj [start]))

/-- Without the visited set the search does not return from a node on a two-cycle that avoids `orig`. -/
theorem unfixed_two_cycle {adj : Adj} {orig a b : String} (ha : adj.lookup a = some [b])
    (hb : adj.lookup b = some [a]) (hao : (a == orig) = false) (hbo : (b == orig) = false) :
    ∀ fuel, cyclicFromUnfixed adj orig fuel a = none ∧ cyclicFromUnfixed adj orig fuel b = none
  | 0 => ⟨rfl, rfl⟩
  | fuel + 1 => by
    obtain ⟨iha, ihb⟩ := unfixed_two_cycle ha hb hao hbo fuel
    constructor
    · simp only [cyclicFromUnfixed, ha, List.foldl_cons, List.foldl_nil, hbo, Bool.false_eq_true,
        if_false, ihb]
    · simp only [cyclicFromUnfixed, hb, List.foldl_cons, List.foldl_nil, hao, Bool.false_eq_true,
        if_false, iha]

end Hms.Mod
