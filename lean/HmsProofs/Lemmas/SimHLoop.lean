import HmsProofs.Lemmas.SimHStmt2
namespace HmsProofs.Sim
open Hms.Core Hms.Core.Comp Hms.Core.VM

/-- **One round of a loop.** The body, compiled inside the loop `(brk, cnt)` whose scopes are those of `env`, runs from
`ipB` to `ipBe`; `K` is what the specification does next. `break` leaves through `hbrk`, `continue` and the end of the
body go on through `hcont` and `hnext` — each time with the invariant of `env` again —, `return`, fatal errors and
exceptions leave the enclosing statement as they are. -/
theorem SimJ.round {G : GCtx} {A : Act} {loops : List (String × String)} {lscopes : CScopes} {d : Nat} {env : CEnv}
    {brk cnt : String} {IB : Stable (Lvl.stmt G A ((brk, cnt) :: loops) env.scopes 0)} {PB : St → Mem → Prop}
    {mB : M Val} {K : M Unit} {Q : Unit → St → Mem → List SVal → Prop} {P' : St → Mem → Prop} {ipB ipBe ipe : Nat}
    {stk : List SVal} {mem : Mem} {st : St}
    (hb : SimJ (.stmt G A ((brk, cnt) :: loops) env.scopes 0) IB ipB ipBe [] stk mem st mB (fun _ _ _ ys => ys = []) PB)
    (hIB : (Stable.grel G A loops lscopes d env).P st mem → IB.P st mem)
    (hPB : (Stable.grel G A loops lscopes d env).P st mem → ∀ st' mem', PB st' mem' →
      GRel G A env.scopes env.vm st'.scopes mem')
    (hnext : ∀ mem' st', SimJ (.stmt G A loops lscopes d) (.grel G A loops lscopes d env) ipBe ipe [] stk mem' st' K Q P')
    (hcont : ∀ mem' st', SimJ (.stmt G A loops lscopes d) (.grel G A loops lscopes d env) (A.lab cnt) ipe [] stk mem' st' K Q P')
    (hbrk : ∀ mem' st', SimJ (.stmt G A loops lscopes d) (.grel G A loops lscopes d env) (A.lab brk) ipe [] stk mem' st'
      (pure ()) Q P') :
    SimJ (.stmt G A loops lscopes d) (.grel G A loops lscopes d env) ipB ipe [] stk mem st
      (fun s => match mB s with
        | (.error .brk, s') => (.ok (), s')
        | (.error .cont, s') => K s'
        | (.ok _, s') => K s'
        | (.error e, s') => (.error e, s')) Q P' := by
  intro hI ip0 mem0 st0 hat
  -- as in `StmtM.link`: from the base for the result, from the point itself for `SpecOK`
  have h0 := hb (hIB hI) ip0 mem0 st0 hat.relevel
  have h1 := hb (hIB hI) ipB mem st .refl
  simp only []
  generalize mB st = r2 at h0 h1 ⊢
  obtain ⟨r2, s'⟩ := r2
  cases r2 with
  | ok v =>
    obtain ⟨ys, mem1, rfl, hpb, hat1⟩ := h0
    obtain ⟨_, _, _, _, hat1'⟩ := h1
    exact hnext mem1 s' ⟨hPB hI _ _ hpb, hI.2.1.scopes_out s' hat1'.frame hat1'.run.inv, hI.2.2⟩ ip0 mem0 st0 hat1.relevel
  | error c =>
    cases c
    case brk =>
      obtain ⟨hfr, mem1, hrun, hml, hx⟩ := h0
      obtain ⟨hfr', _, hrun', _, _⟩ := h1
      exact hbrk mem1 s' ⟨hI.1.of_scopes (by simpa using hx), hI.2.1.scopes_out s' hfr' hrun'.inv, hI.2.2⟩ ip0 mem0 st0
        ⟨hrun, hfr, hml⟩
    case cont =>
      obtain ⟨hfr, mem1, hrun, hml, hx⟩ := h0
      obtain ⟨hfr', _, hrun', _, _⟩ := h1
      exact hcont mem1 s' ⟨hI.1.of_scopes (by simpa using hx), hI.2.1.scopes_out s' hfr' hrun'.inv, hI.2.2⟩ ip0 mem0 st0
        ⟨hrun, hfr, hml⟩
    case ret v => exact h0
    case fatal kd fm fsp => exact h0
    case throw msg tsp =>
      obtain ⟨hfr, mem1, hT, hml, hx⟩ := h0
      refine ⟨hfr, mem1, hT, hml, ?_⟩
      rw [hI.2.2]
      exact ⟨ScopesRel.drop d (by simpa using hx.1), hx.2⟩
    case unsupported | timeout => exact True.intro

/-- `loopRun (n + 1)` is the condition, one round of the body, and `loopRun n` again; the code after the round is the same
code at the same `ip`, so what follows the round is the induction hypothesis `hPL` itself (`hagain`). -/
theorem pgl_step (G : GCtx) (n : Nat) (hPE : PE G n) (hPBS : PGBS G n) (hPL : PGL G n) : PGL G (n + 1) := by
  intro A hA loops lscopes d sp cnd body env
  cases cnd with
  | some c =>
    intro stmt hs hT hws hN
    have hs' := hs
    simp only [stmt, Frag.okFS, Bool.and_eq_true] at hs'
    obtain ⟨hcnd, hbody⟩ := hs'
    have hws' := hws
    simp only [stmt, Frag.wsGS, Bool.and_eq_true] at hws'
    obtain ⟨hwc, hwb⟩ := hws'
    have hT' := hT
    simp only [stmt, Frag.identsGS, List.mem_append] at hT'
    have hN' := hN
    have hloop := hPL A hA loops lscopes d sp (some c) body env hs hT hws hN
    simp only [stmt, cgS, codeVars_append, List.mem_append] at hN' hloop ⊢
    generalize freshLabel G.mod env.lm "loop_head" = head at hN' hloop hwb ⊢
    generalize freshLabel G.mod head.2 "loop_end" = after at hN' hloop hwb ⊢
    generalize hC : cgE G.mod (ρS env.scopes) A.φ c after.2 = cc at hN' hloop hwb ⊢
    generalize hB : cgBS G.mod A.src A.φ ((after.1, head.1) :: loops) body { env with lm := cc.2 } = cb at hN' hloop ⊢
    have hscB : cb.2.scopes = env.scopes := by rw [← hB]; exact (cgBS_envLe ..).scopes
    intro ip stk mem spec hpl
    have hagain := fun mem' st' => hloop ip stk mem' st' hpl
    unplace at hpl hagain
    obtain ⟨ehead, hplC, ijif, hplB, ijmp, eafter⟩ := hpl
    rw [loopRun_bind]
    refine (hPE A hA _ Stable.grel_rel c after.2 hcnd hwc (fun x hx => hT' x (Or.inl hx)) ip [] stk mem spec
      (hC ▸ hplC)).bind fun v st1 mem1 ys ⟨o, _, eys⟩ => ?_
    subst eys
    rw [hC]
    cases v with
    | bool bv =>
      cases bv with
      | false =>
        exact .from (pre1 := []) ((hA.jumpIfFalse ijif).cast ((if_neg Bool.false_ne_true).trans eafter))
          (SimJ.ret fun hI => ⟨rfl, hI.1⟩)
      | true =>
        refine .from (pre1 := []) ((hA.jumpIfFalse ijif).cast (if_pos rfl)) ?_
        refine SimJ.round (hPBS A hA ((after.1, head.1) :: loops) env.scopes 0 body { env with lm := cc.2 } hbody
          (fun x hx => hT' x (Or.inr hx)) hwb (fun m hm => hN' m (Or.inl (Or.inr (hB ▸ hm)))) _ stk mem1 st1 (hB ▸ hplB))
          (fun hI => ⟨hI.1, hI.2.1, rfl⟩)
          (fun hI st' mem' hq => hI.1.of_scopes ⟨by rw [← hscB, ← hB]; exact hq.rel.scopes,
            hq.ghost⟩)
          (fun mem' st' => ?_) (fun mem' st' => ?_) (fun mem' st' => ?_)
        · rw [hB]; exact .from (pre := []) (pre1 := []) ((hA.jump ijmp).cast ehead) (hagain mem' st')
        · rw [ehead]; exact hagain mem' st'
        · rw [eafter]; exact SimJ.ret fun hI => ⟨rfl, hI.1⟩
    | _ => exact SimJ.outside rfl (Or.inl ⟨_, rfl⟩)
  | none =>
    intro stmt hs hT hws hN
    have hbody := hs
    simp only [stmt, Frag.okFS] at hbody
    have hwb := hws
    simp only [stmt, Frag.wsGS] at hwb
    have hT' := hT
    simp only [stmt, Frag.identsGS] at hT'
    have hN' := hN
    have hloop := hPL A hA loops lscopes d sp none body env hs hT hws hN
    simp only [stmt, cgS, codeVars_append, List.mem_append] at hN' hloop ⊢
    generalize freshLabel G.mod env.lm "loop_head" = head at hN' hloop hwb ⊢
    generalize freshLabel G.mod head.2 "loop_end" = after at hN' hloop hwb ⊢
    generalize hB : cgBS G.mod A.src A.φ ((after.1, head.1) :: loops) body { env with lm := after.2 } = cb at hN' hloop ⊢
    have hscB : cb.2.scopes = env.scopes := by rw [← hB]; exact (cgBS_envLe ..).scopes
    intro ip stk mem spec hpl
    have hagain := fun mem' st' => hloop ip stk mem' st' hpl
    unplace at hpl hagain
    obtain ⟨ehead, hplB, ijmp, eafter⟩ := hpl
    rw [loopRun_none_bind]
    refine SimJ.round (hPBS A hA ((after.1, head.1) :: loops) env.scopes 0 body { env with lm := after.2 } hbody hT' hwb
      (fun m hm => hN' m (Or.inl (Or.inr (hB ▸ hm)))) _ stk mem spec (hB ▸ hplB))
      (fun hI => ⟨hI.1, hI.2.1, rfl⟩)
      (fun hI st' mem' hq => hI.1.of_scopes ⟨by rw [← hscB, ← hB]; exact hq.rel.scopes,
        hq.ghost⟩)
      (fun mem' st' => ?_) (fun mem' st' => ?_) (fun mem' st' => ?_)
    · rw [hB]; exact .from (pre := []) (pre1 := []) ((hA.jump ijmp).cast ehead) (hagain mem' st')
    · rw [ehead]; exact hagain mem' st'
    · rw [eafter]; exact SimJ.ret fun hI => ⟨rfl, hI.1⟩

end HmsProofs.Sim
