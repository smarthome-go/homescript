import HmsProofs.Lemmas.CheckBasic
/-! Completeness of the checker (C03): every derivation of the declarative typing relation is
reproduced by the checker without a diagnostic and with exactly the derivation's attributes.
Mutual induction on the derivation: the recursors of the judgements are applied to one common
list of cases (`complete_derivation`). -/

namespace HmsProofs.Lemmas.Check
open Hms.Check

/-! In `CArms` the states `{ rt := _, dflt := _ }` have `hadErr = false` by the default of `MSt`: a derivation is a
run in which the result type of the `match` is never frozen. -/
abbrev CRaw (Γ e t x c l) (_ : Raw Γ e t x c l) : Prop :=
  ∀ s, anyOK s t = true → checkExpr Γ s e = { errs := [], ty := t, ex := x || t.isNever, cst := c, tys := l }
abbrev CExpr (Γ s e t x c l) (_ : HasType Γ s e t x c l) : Prop :=
  checkExpr Γ s e = { errs := [], ty := t, ex := x, cst := c, tys := l }
abbrev CElems (Γ lt xs lt' x c l) (_ : ElemsOK Γ lt xs lt' x c l) : Prop :=
  checkElems Γ lt xs = { errs := [], lt := lt', ex := x, cst := c, tys := l }
abbrev CFields (Γ seen fs fields x c l) (_ : FieldsOK Γ seen fs fields x c l) : Prop :=
  checkFields Γ seen fs = { errs := [], fields := fields, ex := x, cst := c, tys := l }
abbrev CArgs (Γ ps rest as x l) (_ : ArgsOK Γ ps rest as x l) : Prop :=
  checkArgs Γ ps rest as = { errs := [], ex := x, tys := l }
abbrev CSArgs (Γ ps rest as x l) (_ : SpawnArgsOK Γ ps rest as x l) : Prop :=
  checkSpawnArgs Γ ps rest as = { errs := [], ex := x, tys := l }
abbrev CArms (Γ ctl rt d arms rt' d' x l) (_ : ArmsOK Γ ctl rt d arms rt' d' x l) : Prop :=
  checkArms Γ ctl { rt := rt, dflt := d } arms = { errs := [], st := { rt := rt', dflt := d' }, ex := x, tys := l }
abbrev CLits (Γ ctl lits x l) (_ : LitsOK Γ ctl lits x l) : Prop :=
  checkLits Γ ctl lits = { errs := [], ex := x, tys := l }
abbrev CStmt (Γ st t x l v) (_ : StmtOK Γ st t x l v) : Prop :=
  checkStmt Γ st = { errs := [], ty := t, ex := x, tys := l, vars := v }
abbrev CStmts (Γ ss n x l v) (_ : StmtsOK Γ ss n x l v) : Prop :=
  checkStmts Γ ss = { errs := [], never := n, ex := x, tys := l, vars := v }
abbrev CBlock (Γ b t x c l) (_ : BlockOK Γ b t x c l) : Prop :=
  checkBlock Γ b = { errs := [], ty := t, ex := x, cst := c, tys := l }

theorem complete_derivation :
    (∀ {Γ s e t x c l} h, CExpr Γ s e t x c l h) ∧
    (∀ {Γ lt xs lt' x c l} h, CElems Γ lt xs lt' x c l h) ∧ (∀ {Γ seen fs fields x c l} h, CFields Γ seen fs fields x c l h) ∧
    (∀ {Γ ps rest as x l} h, CArgs Γ ps rest as x l h) ∧ (∀ {Γ ps rest as x l} h, CSArgs Γ ps rest as x l h) ∧
    (∀ {Γ ctl rt d arms rt' d' x l} h, CArms Γ ctl rt d arms rt' d' x l h) ∧ (∀ {Γ ctl lits x l} h, CLits Γ ctl lits x l h) ∧
    (∀ {Γ st t x l v} h, CStmt Γ st t x l v h) ∧ (∀ {Γ ss n x l v} h, CStmts Γ ss n x l v h) ∧
    (∀ {Γ b t x c l} h, CBlock Γ b t x c l h) := by
  -- the holes are named, so the ten recursors share them (each takes the same list of names) and every case is proved once
  refine ⟨
    @HasType.rec CRaw CExpr CElems CFields CArgs CSArgs CArms CLits CStmt CStmts CBlock ?int ?float ?bool ?str ?null
      ?none ?anyobj ?ident ?range ?list ?obj ?lambda ?grp ?pre ?infx ?assign ?callFn ?callVar ?callDiv ?spawnFn
      ?spawnVar ?spawnDiv ?index ?member ?cast ?blk ?ifElse ?ifThen ?matchE ?tryE ?mk ?enil ?econs ?fnil ?fcons ?anil
      ?acons ?snil ?scons ?mnil ?mlits ?mdflt ?lnil ?ldflt ?llit ?letS ?ret ?retNone ?brk ?cont ?loopS ?whileS ?forS
      ?exprS ?ssnil ?sscons ?bmk ?bmkNoTail,
    @ElemsOK.rec CRaw CExpr CElems CFields CArgs CSArgs CArms CLits CStmt CStmts CBlock ?int ?float ?bool ?str ?null
      ?none ?anyobj ?ident ?range ?list ?obj ?lambda ?grp ?pre ?infx ?assign ?callFn ?callVar ?callDiv ?spawnFn
      ?spawnVar ?spawnDiv ?index ?member ?cast ?blk ?ifElse ?ifThen ?matchE ?tryE ?mk ?enil ?econs ?fnil ?fcons ?anil
      ?acons ?snil ?scons ?mnil ?mlits ?mdflt ?lnil ?ldflt ?llit ?letS ?ret ?retNone ?brk ?cont ?loopS ?whileS ?forS
      ?exprS ?ssnil ?sscons ?bmk ?bmkNoTail,
    @FieldsOK.rec CRaw CExpr CElems CFields CArgs CSArgs CArms CLits CStmt CStmts CBlock ?int ?float ?bool ?str
      ?null ?none ?anyobj ?ident ?range ?list ?obj ?lambda ?grp ?pre ?infx ?assign ?callFn ?callVar ?callDiv ?spawnFn
      ?spawnVar ?spawnDiv ?index ?member ?cast ?blk ?ifElse ?ifThen ?matchE ?tryE ?mk ?enil ?econs ?fnil ?fcons ?anil
      ?acons ?snil ?scons ?mnil ?mlits ?mdflt ?lnil ?ldflt ?llit ?letS ?ret ?retNone ?brk ?cont ?loopS ?whileS ?forS
      ?exprS ?ssnil ?sscons ?bmk ?bmkNoTail,
    @ArgsOK.rec CRaw CExpr CElems CFields CArgs CSArgs CArms CLits CStmt CStmts CBlock ?int ?float ?bool ?str ?null
      ?none ?anyobj ?ident ?range ?list ?obj ?lambda ?grp ?pre ?infx ?assign ?callFn ?callVar ?callDiv ?spawnFn
      ?spawnVar ?spawnDiv ?index ?member ?cast ?blk ?ifElse ?ifThen ?matchE ?tryE ?mk ?enil ?econs ?fnil ?fcons ?anil
      ?acons ?snil ?scons ?mnil ?mlits ?mdflt ?lnil ?ldflt ?llit ?letS ?ret ?retNone ?brk ?cont ?loopS ?whileS ?forS
      ?exprS ?ssnil ?sscons ?bmk ?bmkNoTail,
    @SpawnArgsOK.rec CRaw CExpr CElems CFields CArgs CSArgs CArms CLits CStmt CStmts CBlock ?int ?float ?bool ?str
      ?null ?none ?anyobj ?ident ?range ?list ?obj ?lambda ?grp ?pre ?infx ?assign ?callFn ?callVar ?callDiv ?spawnFn
      ?spawnVar ?spawnDiv ?index ?member ?cast ?blk ?ifElse ?ifThen ?matchE ?tryE ?mk ?enil ?econs ?fnil ?fcons ?anil
      ?acons ?snil ?scons ?mnil ?mlits ?mdflt ?lnil ?ldflt ?llit ?letS ?ret ?retNone ?brk ?cont ?loopS ?whileS ?forS
      ?exprS ?ssnil ?sscons ?bmk ?bmkNoTail,
    @ArmsOK.rec CRaw CExpr CElems CFields CArgs CSArgs CArms CLits CStmt CStmts CBlock ?int ?float ?bool ?str ?null
      ?none ?anyobj ?ident ?range ?list ?obj ?lambda ?grp ?pre ?infx ?assign ?callFn ?callVar ?callDiv ?spawnFn
      ?spawnVar ?spawnDiv ?index ?member ?cast ?blk ?ifElse ?ifThen ?matchE ?tryE ?mk ?enil ?econs ?fnil ?fcons ?anil
      ?acons ?snil ?scons ?mnil ?mlits ?mdflt ?lnil ?ldflt ?llit ?letS ?ret ?retNone ?brk ?cont ?loopS ?whileS ?forS
      ?exprS ?ssnil ?sscons ?bmk ?bmkNoTail,
    @LitsOK.rec CRaw CExpr CElems CFields CArgs CSArgs CArms CLits CStmt CStmts CBlock ?int ?float ?bool ?str ?null
      ?none ?anyobj ?ident ?range ?list ?obj ?lambda ?grp ?pre ?infx ?assign ?callFn ?callVar ?callDiv ?spawnFn
      ?spawnVar ?spawnDiv ?index ?member ?cast ?blk ?ifElse ?ifThen ?matchE ?tryE ?mk ?enil ?econs ?fnil ?fcons ?anil
      ?acons ?snil ?scons ?mnil ?mlits ?mdflt ?lnil ?ldflt ?llit ?letS ?ret ?retNone ?brk ?cont ?loopS ?whileS ?forS
      ?exprS ?ssnil ?sscons ?bmk ?bmkNoTail,
    @StmtOK.rec CRaw CExpr CElems CFields CArgs CSArgs CArms CLits CStmt CStmts CBlock ?int ?float ?bool ?str ?null
      ?none ?anyobj ?ident ?range ?list ?obj ?lambda ?grp ?pre ?infx ?assign ?callFn ?callVar ?callDiv ?spawnFn
      ?spawnVar ?spawnDiv ?index ?member ?cast ?blk ?ifElse ?ifThen ?matchE ?tryE ?mk ?enil ?econs ?fnil ?fcons ?anil
      ?acons ?snil ?scons ?mnil ?mlits ?mdflt ?lnil ?ldflt ?llit ?letS ?ret ?retNone ?brk ?cont ?loopS ?whileS ?forS
      ?exprS ?ssnil ?sscons ?bmk ?bmkNoTail,
    @StmtsOK.rec CRaw CExpr CElems CFields CArgs CSArgs CArms CLits CStmt CStmts CBlock ?int ?float ?bool ?str ?null
      ?none ?anyobj ?ident ?range ?list ?obj ?lambda ?grp ?pre ?infx ?assign ?callFn ?callVar ?callDiv ?spawnFn
      ?spawnVar ?spawnDiv ?index ?member ?cast ?blk ?ifElse ?ifThen ?matchE ?tryE ?mk ?enil ?econs ?fnil ?fcons ?anil
      ?acons ?snil ?scons ?mnil ?mlits ?mdflt ?lnil ?ldflt ?llit ?letS ?ret ?retNone ?brk ?cont ?loopS ?whileS ?forS
      ?exprS ?ssnil ?sscons ?bmk ?bmkNoTail,
    @BlockOK.rec CRaw CExpr CElems CFields CArgs CSArgs CArms CLits CStmt CStmts CBlock ?int ?float ?bool ?str ?null
      ?none ?anyobj ?ident ?range ?list ?obj ?lambda ?grp ?pre ?infx ?assign ?callFn ?callVar ?callDiv ?spawnFn
      ?spawnVar ?spawnDiv ?index ?member ?cast ?blk ?ifElse ?ifThen ?matchE ?tryE ?mk ?enil ?econs ?fnil ?fcons ?anil
      ?acons ?snil ?scons ?mnil ?mlits ?mdflt ?lnil ?ldflt ?llit ?letS ?ret ?retNone ?brk ?cont ?loopS ?whileS ?forS
      ?exprS ?ssnil ?sscons ?bmk ?bmkNoTail⟩
  all_goals intros; simp only [CRaw, CExpr, CElems, CFields, CArgs, CSArgs, CArms, CLits, CStmt, CStmts, CBlock] at *
  /- One case per rule of `Hms/Check/Typing.lean`: its premises in the order of the rule, then the induction hypotheses
  (`ih…`) for those that are derivations; the checker's equation for the construct is rewritten with them. -/
  case int | float | bool | str | null | none | anyobj => intro s hany; exact wrap_of_ok hany
  case ident hlookup => intro s hany; simp only [checkExpr, hlookup]; exact wrap_of_ok hany
  case range ha hb hinta hintb iha ihb =>
    intro s hany
    simp only [checkExpr, iha, ihb, compat_iff.mp hinta, compat_iff.mp hintb, Option.isSome_none, Bool.false_eq_true,
      ↓reduceIte, List.append_nil]
    exact wrap_of_ok hany
  case list hxs ih | obj hfs ih | grp he ih | blk hb ih => intro s hany; simp only [checkExpr, ih]; exact wrap_of_ok hany
  case lambda hparams hdistinct hret hbody hfits ihbody =>
    intro s hany
    simp only [checkExpr, hparams, hdistinct, hret, ihbody, tcErr_nil_iff.mpr hfits, replicate_zero, List.append_nil]
    exact wrap_of_ok hany
  case infx hl hr hfits hop ihl ihr =>
    intro s hany
    simp only [checkExpr, ihl, ihr, hop, tcErr_nil_iff.mpr hfits, List.append_nil]; exact wrap_of_ok hany
  case assign hl hr hfits hop ihl ihr =>
    intro s hany
    simp only [checkExpr, ihl, ihr, tcErr_nil_iff.mpr hfits, hop, List.append_nil, Bool.true_or, ↓reduceIte]
    exact wrap_of_ok hany
  case callFn hbase hcallee harity hargs ihbase ihargs =>
    intro s hany
    simp only [checkExpr, ihbase, hcallee, harity, bne_self_eq_false, Bool.false_eq_true, ↓reduceIte, ihargs, List.append_nil]
    exact wrap_of_ok hany
  case callVar hbase hcallee harity hargs ihbase ihargs =>
    intro s hany
    simp only [checkExpr, ihbase, hcallee, var_arity_iff.mpr harity, Bool.false_eq_true, ↓reduceIte, ihargs, List.append_nil]
    exact wrap_of_ok hany
  case spawnFn hbase hcallee hnovar harity hargs ihbase ihargs =>
    intro s hany; rw [checkExpr_ident] at ihbase
    simp only [checkExpr, ihbase, hcallee, harity, bne_self_eq_false, Bool.false_eq_true, ↓reduceIte, ihargs,
      spawnTargetErr_nil_iff.mpr hnovar, List.append_nil]
    exact wrap_of_ok hany
  case spawnVar hbase hcallee hnovar harity hargs ihbase ihargs =>
    intro s hany; rw [checkExpr_ident] at ihbase
    simp only [checkExpr, ihbase, hcallee, var_arity_iff.mpr harity, Bool.false_eq_true, ↓reduceIte, ihargs,
      spawnTargetErr_nil_iff.mpr hnovar, List.append_nil]
    exact wrap_of_ok hany
  case spawnDiv hbase hcallee ihbase =>
    intro s hany; rw [checkExpr_ident] at ihbase
    simp only [checkExpr, ihbase, hcallee]; exact wrap_of_ok hany
  case index hb hi hrule ihb ihi =>
    intro s hany; simp only [checkExpr, ihb, ihi, hrule, List.append_nil]; exact wrap_of_ok hany
  case pre he hrule ih | callDiv hbase hrule ih | member hb hrule ih => intro s hany; simp only [checkExpr, ih, hrule]; exact wrap_of_ok hany
  case cast he hconv hcast ihe =>
    intro s hany; simp only [checkExpr, ihe, hconv, hcast, ↓reduceIte, List.append_nil]; exact wrap_of_ok hany
  case ifElse hc hbool ht he hbranch ihc iht ihe =>
    intro s hany
    simp only [checkExpr, ihc, iht, ihe, tcErr_nil_iff.mpr hbool, tcErr_nil_iff.mpr hbranch, List.append_nil,
      List.isEmpty_nil, Bool.not_true, Bool.false_eq_true, ↓reduceIte]
    exact wrap_of_ok hany
  case ifThen hc hbool ht hnull ihc iht =>
    intro s hany
    simp only [checkExpr, ihc, iht, tcErr_nil_iff.mpr hbool, compat_iff.mp hnull, Option.isSome_none, Bool.false_eq_true,
      ↓reduceIte, List.append_nil]
    exact wrap_of_ok hany
  case matchE hc harms hdefault ihc iharms =>
    intro s hany
    simp only [checkExpr, ihc, iharms, match_default_iff.mpr hdefault, Bool.false_eq_true, ↓reduceIte, List.append_nil]
    exact wrap_of_ok hany
  case tryE ht hc hbranch iht ihc =>
    intro s hany
    simp only [checkExpr, iht, ihc, tcErr_nil_iff.mpr hbranch, List.append_nil, List.isEmpty_nil, Bool.not_true,
      Bool.false_eq_true, ↓reduceIte]
    exact wrap_of_ok hany
  case mk hraw hany ihraw => exact ihraw _ hany
  case econs he helem hrest ihe ihrest => simp only [checkElems, ihe, helem, ↓reduceIte, ihrest, List.append_nil]
  case fcons hnotbuiltin hfresh he hrest ihe ihrest =>
    simp only [checkFields, hnotbuiltin, hfresh, Bool.false_eq_true, ↓reduceIte, ihe, ihrest, List.append_nil]
  case acons ha hnotnull hfits hrest iha ihrest =>
    simp only [checkArgs, iha, beq_eq_false_iff_ne.mpr hnotnull, Bool.false_eq_true, ↓reduceIte, tcErr_nil_iff.mpr hfits,
      ihrest, List.append_nil, List.isEmpty_nil]
  case scons ha hnotnull hnotfn hfits hrest iha ihrest =>
    simp only [checkSpawnArgs, iha, beq_eq_false_iff_ne.mpr hnotnull, beq_eq_false_iff_ne.mpr hnotfn, Bool.false_eq_true,
      ↓reduceIte, tcErr_nil_iff.mpr hfits, ihrest, List.append_nil, List.isEmpty_nil]
  case mlits hact hjoin hnodefault hlits hrest ihact ihlits ihrest =>
    simp only [checkArms, Bool.false_eq_true, ↓reduceIte, ihact, hjoin, hnodefault, ihlits, ihrest, List.append_nil]
  case mdflt hact hjoin hdefault hrest ihact ihrest =>
    simp only [checkArms, Bool.false_eq_true, ↓reduceIte, ihact, hjoin, hdefault, ihrest, List.append_nil]
  case llit he hfits hrest ihe ihrest => simp only [checkLits, ihe, tcErr_nil_iff.mpr hfits, ihrest, List.append_nil]
  case letS he hlet ihe =>
    simp only [checkStmt, ihe, letRule, Bool.false_and, Bool.false_eq_true, ↓reduceIte, letVarTy_complete hlet,
      List.append_nil]
  case ret he hret hfits ihe => simp only [checkStmt, ihe, hret, tcErr_nil_iff.mpr hfits, List.append_nil]
  case retNone hret hfits => simp only [checkStmt, hret, tcErr_nil_iff.mpr hfits]
  case brk hloop | cont hloop => simp only [checkStmt, hloop, ↓reduceIte]
  case loopS hbody hnovalue ihbody => simp only [checkStmt, ihbody, loopBodyErr_nil_iff.mpr hnovalue, List.append_nil]
  case whileS hc hbool hbody hnovalue ihc ihbody =>
    simp only [checkStmt, ihc, tcErr_nil_iff.mpr hbool, ihbody, loopBodyErr_nil_iff.mpr hnovalue, List.append_nil]
  case forS hit hiter hbody hnovalue ihit ihbody =>
    simp only [checkStmt, ihit, hiter, ihbody, loopBodyErr_nil_iff.mpr hnovalue, List.append_nil]
  case ldflt hrest ih | exprS he ih | bmkNoTail hss ih => simp only [checkLits, checkStmt, checkBlock, ih]
  case enil | fnil | anil | snil | mnil | lnil | ssnil =>
    simp only [checkElems, checkFields, checkArgs, checkSpawnArgs, checkArms, checkLits, checkStmts]
  case sscons hfirst hrest ihfirst ihrest | bmk hfirst hrest ihfirst ihrest => simp only [checkStmts, checkBlock, ihfirst, ihrest, List.append_nil]

/-! The theorems per judgement; those that start from the syntax have the argument order of the soundness theorems. -/

theorem complete_expr {Γ s e t x c l} (h : HasType Γ s e t x c l) :
    checkExpr Γ s e = { errs := [], ty := t, ex := x, cst := c, tys := l } :=
  complete_derivation.1 h
theorem complete_elems : (xs : PExprs) → ∀ (Γ : Ctx) (lt lt' : Ty) (x c : Bool) (l : List Ty),
    ElemsOK Γ lt xs lt' x c l → checkElems Γ lt xs = { errs := [], lt := lt', ex := x, cst := c, tys := l } :=
  fun _ _ _ _ _ _ _ h => complete_derivation.2.1 h
theorem complete_fields : (fs : PFields) → ∀ (Γ : Ctx) (seen : List String) (fields : List (String × Ty)) (x c : Bool)
    (l : List Ty), FieldsOK Γ seen fs fields x c l →
    checkFields Γ seen fs = { errs := [], fields := fields, ex := x, cst := c, tys := l } :=
  fun _ _ _ _ _ _ _ h => complete_derivation.2.2.1 h
theorem complete_args : (as : PExprs) → ∀ (Γ : Ctx) (ps : List Ty) (rest : Option Ty) (x : Bool) (l : List Ty),
    ArgsOK Γ ps rest as x l → checkArgs Γ ps rest as = { errs := [], ex := x, tys := l } :=
  fun _ _ _ _ _ _ h => complete_derivation.2.2.2.1 h
theorem complete_sargs : (as : PExprs) → ∀ (Γ : Ctx) (ps : List Ty) (rest : Option Ty) (x : Bool) (l : List Ty),
    SpawnArgsOK Γ ps rest as x l → checkSpawnArgs Γ ps rest as = { errs := [], ex := x, tys := l } :=
  fun _ _ _ _ _ _ h => complete_derivation.2.2.2.2.1 h
theorem complete_arms : (arms : PArms) → ∀ (Γ : Ctx) (ctl : Ty) (st : MSt) (rt' : Ty) (d' : Option (List Ty)) (x : Bool)
    (l : List Ty), st.hadErr = false → ArmsOK Γ ctl st.rt st.dflt arms rt' d' x l →
    checkArms Γ ctl st arms = { errs := [], st := { rt := rt', hadErr := false, dflt := d' }, ex := x, tys := l }
  | _, _, _, ⟨_, _, _⟩, _, _, _, _, rfl, h => complete_derivation.2.2.2.2.2.1 h
theorem complete_lits : (lits : PLits) → ∀ (Γ : Ctx) (ctl : Ty) (x : Bool) (l : List Ty),
    LitsOK Γ ctl lits x l → checkLits Γ ctl lits = { errs := [], ex := x, tys := l } :=
  fun _ _ _ _ _ h => complete_derivation.2.2.2.2.2.2.1 h
theorem complete_stmt {Γ st t x l v} (h : StmtOK Γ st t x l v) :
    checkStmt Γ st = { errs := [], ty := t, ex := x, tys := l, vars := v } :=
  complete_derivation.2.2.2.2.2.2.2.1 h
theorem complete_stmts : (ss : PStmts) → ∀ (Γ : Ctx) (n x : Bool) (l : List Ty) (v : List (String × Ty)),
    StmtsOK Γ ss n x l v → checkStmts Γ ss = { errs := [], never := n, ex := x, tys := l, vars := v } :=
  fun _ _ _ _ _ _ h => complete_derivation.2.2.2.2.2.2.2.2.1 h
theorem complete_block {Γ b t x c l} (h : BlockOK Γ b t x c l) :
    checkBlock Γ b = { errs := [], ty := t, ex := x, cst := c, tys := l } :=
  complete_derivation.2.2.2.2.2.2.2.2.2 h

end HmsProofs.Lemmas.Check
