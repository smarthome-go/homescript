import HmsProofs.Lemmas.SimExec
/-! `reach s ip k stk mem` is `s` after `k` more instructions inside the current frame: the frame's `ip`, the stack and
the memory are as given, everything else (call stack below, heap, output, globals, handlers) is as in `s`. `Placed`
says that symbolic code (with labels) sits, stripped and lowered, at an index of the VM code and that `lab` resolves
the labels defined inside it to their positions. `RunsTo` and `RunsFatal` are runs between such states whatever the
step counter: the form in which the statements `SimP`, `SimS` of the later files speak of the VM. The single steps
are equations of `exec1` on `reach` states (`reach_push`, …); those that the later files chain are stated once more as
`RunsTo` (`RunsTo.push`, …). -/
namespace HmsProofs.Sim
open Hms.Core Hms.Core.Comp Hms.Core.VM

def setIp (ip : Nat) : List Frame → List Frame
  | f :: rest => { f with ip := ip } :: rest
  | [] => []

def reach (s : VMState) (ip k : Nat) (stk : List SVal) (mem : List (Int × Val)) : VMState :=
  { s with stack := stk, calls := setIp ip s.calls, steps := s.steps + k, mem := mem }

theorem reach_self (s : VMState) (f : Frame) (rest : List Frame) (hc : s.calls = f :: rest) :
    reach s f.ip 0 s.stack s.mem = s := by
  obtain ⟨stack, calls, mem, mp, handlers, iters, nextIter, globals, vst, polls, steps⟩ := s
  simp only at hc
  subst hc
  rfl

/-- `SameStore s s'` but for the memory, which is that of the `reach` state and not `s.mem`. -/
def SameStoreM (s : VMState) (mem : List (Int × Val)) (s' : VMState) : Prop :=
  s'.st = s.st ∧ s'.mem = mem ∧ s'.mp = s.mp ∧ s'.globals = s.globals ∧ s'.handlers = s.handlers

theorem step_pre (code : Code) (lim : Limits) (t : VMState) (op : PrefixOp) (sp : Span) (a v : Val)
    (oa : Option Org) (stk : List SVal) (lab : String → Nat) (σ : String → Nat)
    (hs : t.stack = ⟨a, oa⟩ :: stk) (hv : preOp op a = .ok v) :
    step code lim t (mapLV lab σ (preI op)) sp = .next (advance (push1 { t with stack := stk } v)) := by
  unfold preOp at hv
  split at hv <;> cases hv <;> simp only [preI, mapLV, step, pop1, hs]

theorem step_arith (code : Code) (lim : Limits) (t : VMState) (op : InfixOp) (i : SInstr) (sp : Span)
    (lab : String → Nat) (σ : String → Nat) (h : arithI op = [i]) :
    step code lim t (mapLV lab σ i) sp = binArith op t sp := by
  cases op <;> simp [arithI] at h <;> subst h <;> rfl

theorem reach_eq {s : VMState} {f : Frame} {rest : List Frame} (hc : s.calls = f :: rest) (ip k : Nat)
    (stk : List SVal) (mem : List (Int × Val)) :
    reach s ip k stk mem =
      { s with stack := stk, calls := { f with ip := ip } :: rest, steps := s.steps + k, mem := mem } := by
  unfold reach
  rw [hc]
  rfl

theorem exec1_reach {code : Code} {s : VMState} {f : Frame} {rest : List Frame} {c : List (RInstr × Span)}
    {ip : Nat} {i : RInstr} {sp : Span} (lim : Limits) (hc : s.calls = f :: rest)
    (hf : findCode code f.fn = some c) (hx : c[ip]? = some (i, sp)) (k : Nat) (stk : List SVal)
    (mem : List (Int × Val)) :
    exec1 code lim (reach s ip k stk mem) =
      step code lim { s with stack := stk, calls := { f with ip := ip } :: rest, steps := s.steps + k + 1,
                             mem := mem } i sp := by
  unfold exec1
  rw [reach_eq hc, fetch_of code _ { f with ip := ip } rest c _ rfl hf hx]

section Steps
variable (code : Code) (lim : Limits) (s : VMState) (ip k : Nat) (stk : List SVal) (mem : List (Int × Val))
variable (f : Frame) (rest : List Frame) (c : List (RInstr × Span))
variable (hc : s.calls = f :: rest) (hf : findCode code f.fn = some c)
include hc hf

theorem reach_push (pv : PVal) (sp : Span) (v : Val) (hx : c[ip]? = some (.copyPush pv, sp))
    (hp : ∀ st, pvalToVal st pv = (v, st)) :
    exec1 code lim (reach s ip k stk mem) = .next (reach s (ip + 1) (k + 1) (⟨v, none⟩ :: stk) mem) := by
  rw [exec1_reach lim hc hf hx, reach_eq hc]
  simp only [step, hp]
  rfl

theorem reach_getVar (slot : Nat) (sp : Span) (v : Val) (hx : c[ip]? = some (.getVar slot, sp))
    (h0 : 0 ≤ s.mp - (slot : Int)) (h1 : s.mp - (slot : Int) < (lim.memory : Int))
    (hm : mem.lookup (s.mp - (slot : Int)) = some v) :
    exec1 code lim (reach s ip k stk mem) = .next (reach s (ip + 1) (k + 1) (⟨v, none⟩ :: stk) mem) := by
  rw [exec1_reach lim hc hf hx, reach_eq hc]
  simp only [step, memGet, hm]
  rw [if_neg (by omega)]
  rfl

theorem reach_pre (op : PrefixOp) (sp : Span) (lab σ : String → Nat) (a v : Val) (oa : Option Org)
    (hx : c[ip]? = some (mapLV lab σ (preI op), sp)) (hv : preOp op a = .ok v) :
    exec1 code lim (reach s ip k (⟨a, oa⟩ :: stk) mem) = .next (reach s (ip + 1) (k + 1) (⟨v, none⟩ :: stk) mem) := by
  rw [exec1_reach lim hc hf hx, reach_eq hc]
  rw [step_pre code lim _ op sp a v oa stk lab σ rfl hv]
  simp only [advance, push1, Nat.add_assoc]

theorem reach_bin (op : InfixOp) (i : SInstr) (sp : Span) (lab σ : String → Nat) (a b : Val)
    (oa ob : Option Org) (st : St)
    (hi : arithI op = [i]) (hne : op ≠ .ne)
    (hx : c[ip]? = some (mapLV lab σ i, sp)) (hheap : s.st.heap = st.heap) :
    match binOp op a b sp st with
    | (.ok v, _) =>
      exec1 code lim (reach s ip k (⟨b, ob⟩ :: ⟨a, oa⟩ :: stk) mem) =
        .next (reach s (ip + 1) (k + 1) (⟨v, none⟩ :: stk) mem)
    | (.error (.fatal kd m fsp), _) =>
      ∃ s', exec1 code lim (reach s ip k (⟨b, ob⟩ :: ⟨a, oa⟩ :: stk) mem) = .intr (.fatal kd m fsp) s' ∧
        SameStoreM s mem s'
    | _ => True := by
  have hho := binOp_heapOnly op a b sp st s.st hheap
  simp only [exec1_reach lim hc hf hx]
  simp only [reach_eq hc]
  rw [step_arith code lim _ op i sp lab σ hi, binArith_eq op _ sp ⟨b, ob⟩ ⟨a, oa⟩ stk rfl]
  cases hk : okKinds op a b with
  | false =>
    obtain ⟨w, hw⟩ := binOp_unsup op a b sp st hk hne
    rw [hw]; trivial
  | true =>
    simp only [Bool.not_true, Bool.false_eq_true, if_false, runM]
    rw [hho]
    rcases hb : binOp op a b sp st with ⟨r, st'⟩
    cases r with
    | ok v =>
      simp only [advance, push1, Nat.add_assoc]
    | error cerr =>
      cases cerr <;> try trivial
      exact ⟨_, rfl, ⟨rfl, rfl, rfl, rfl, rfl⟩⟩

theorem reach_jump (l : Nat) (sp : Span) (hx : c[ip]? = some (.jump l, sp)) :
    exec1 code lim (reach s ip k stk mem) = .next (reach s l (k + 1) stk mem) := by
  rw [exec1_reach lim hc hf hx, reach_eq hc]
  rfl

theorem reach_jumpIfFalse (l : Nat) (sp : Span) (b : Bool) (ob : Option Org)
    (hx : c[ip]? = some (.jumpIfFalse l, sp)) :
    exec1 code lim (reach s ip k (⟨.bool b, ob⟩ :: stk) mem) =
      .next (reach s (if b then ip + 1 else l) (k + 1) stk mem) := by
  rw [exec1_reach lim hc hf hx, reach_eq hc]
  cases b <;> rfl

theorem reach_setVar (slot : Nat) (sp : Span) (v : Val) (ov : Option Org)
    (hx : c[ip]? = some (.setVar slot, sp))
    (h0 : 0 ≤ s.mp - (slot : Int)) (h1 : s.mp - (slot : Int) < (lim.memory : Int)) :
    exec1 code lim (reach s ip k (⟨v, ov⟩ :: stk) mem) =
      .next (reach s (ip + 1) (k + 1) stk
        ((s.mp - (slot : Int), v) :: mem.filter (·.1 != s.mp - (slot : Int)))) := by
  rw [exec1_reach lim hc hf hx, reach_eq hc]
  simp only [step, pop1]
  rw [if_neg (by omega)]
  rfl

theorem reach_drop (sp : Span) (v : SVal) (hx : c[ip]? = some (.drop, sp)) :
    exec1 code lim (reach s ip k (v :: stk) mem) = .next (reach s (ip + 1) (k + 1) stk mem) := by
  rw [exec1_reach lim hc hf hx, reach_eq hc]
  rfl

end Steps

/-- The room `frag` takes in the VM code: labels are not instructions there. -/
def nI (frag : SCode) : Nat := (stripLabels frag).length

@[simp] theorem nI_nil : nI [] = 0 := rfl
@[simp] theorem nI_append (a b : SCode) : nI (a ++ b) = nI a + nI b := by simp [nI, stripLabels_append]
@[simp] theorem nI_label (l : String) (sp : Span) (r : SCode) : nI ((Instr.label l, sp) :: r) = nI r := rfl
theorem nI_instr (i : SInstr) (sp : Span) (r : SCode) (h : isLabel i = false) : nI ((i, sp) :: r) = nI r + 1 := by
  simp [nI, stripLabels_cons_other _ _ _ h]

def LabOK (lab : String → Nat) (ip0 : Nat) (frag : SCode) : Prop :=
  ∀ a l sp b, frag = a ++ (Instr.label l, sp) :: b → lab l = ip0 + (stripLabels a).length

def Placed (lab σ : String → Nat) (c : List (RInstr × Span)) (ip0 : Nat) (frag : SCode) : Prop :=
  CodeAt c ip0 ((stripLabels frag).map (lower lab σ)) ∧ LabOK lab ip0 frag

theorem Placed.append {lab σ c ip0 A B} (h : Placed lab σ c ip0 (A ++ B)) :
    Placed lab σ c ip0 A ∧ Placed lab σ c (ip0 + nI A) B := by
  obtain ⟨h1, h2⟩ := h
  rw [stripLabels_append, List.map_append] at h1
  obtain ⟨h1a, h1b⟩ := h1.append
  simp only [List.length_map] at h1b
  refine ⟨⟨h1a, ?_⟩, ⟨h1b, ?_⟩⟩
  · intro a l sp b hab
    exact h2 a l sp (b ++ B) (by rw [hab]; simp)
  · intro a l sp b hab
    have := h2 (A ++ a) l sp b (by rw [hab]; simp)
    rw [this, stripLabels_append, List.length_append, Nat.add_assoc]
    rfl

theorem Placed.label {lab σ c ip0 l sp rest} (h : Placed lab σ c ip0 ((Instr.label l, sp) :: rest)) :
    lab l = ip0 ∧ Placed lab σ c ip0 rest := by
  obtain ⟨h1, h2⟩ := h
  refine ⟨by simpa [stripLabels] using h2 [] l sp rest rfl, ⟨by rwa [stripLabels_cons_label] at h1, ?_⟩⟩
  intro a l' sp' b hab
  have := h2 ((Instr.label l, sp) :: a) l' sp' b (by rw [hab]; rfl)
  rwa [stripLabels_cons_label] at this

theorem Placed.instr {lab σ c ip0 i sp rest} (hi : isLabel i = false)
    (h : Placed lab σ c ip0 ((i, sp) :: rest)) :
    c[ip0]? = some (mapLV lab σ i, sp) ∧ Placed lab σ c (ip0 + 1) rest := by
  obtain ⟨h1, h2⟩ := h
  rw [stripLabels_cons_other _ _ _ hi, List.map_cons] at h1
  have h1' := CodeAt.append (xs := [lower lab σ (i, sp)]) (ys := (stripLabels rest).map (lower lab σ)) h1
  refine ⟨h1.head, ⟨h1'.2, ?_⟩⟩
  intro a l' sp' b hab
  have := h2 ((i, sp) :: a) l' sp' b (by rw [hab]; rfl)
  rw [stripLabels_cons_other _ _ _ hi, List.length_cons] at this
  omega

theorem Placed.of_plain {lab σ c ip0 frag} (hp : ∀ p ∈ frag, isLabel p.1 = false)
    (h : CodeAt c ip0 (frag.map (lower lab σ))) : Placed lab σ c ip0 frag := by
  refine ⟨by rwa [stripLabels_eq_self frag hp], ?_⟩
  intro a l sp b hab
  have := hp (Instr.label l, sp) (by rw [hab]; simp)
  cases this

/-! `Placed` distributes over `++` and `::` in both directions: a layout is taken apart by rewriting. -/

theorem Placed.nil_iff {lab σ c ip0} : Placed lab σ c ip0 [] ↔ True :=
  ⟨fun _ => trivial, fun _ => ⟨fun k hk => by simp [stripLabels] at hk, fun a l sp b h => by simp at h⟩⟩

theorem Placed.append_iff {lab σ c ip0 A B} :
    Placed lab σ c ip0 (A ++ B) ↔ Placed lab σ c ip0 A ∧ Placed lab σ c (ip0 + nI A) B := by
  refine ⟨Placed.append, fun ⟨⟨a1, a2⟩, ⟨b1, b2⟩⟩ => ⟨?_, ?_⟩⟩
  · rw [stripLabels_append, List.map_append]
    exact CodeAt.of_append a1 (by simpa [nI] using b1)
  · intro a l sp b hab
    rcases List.append_eq_append_iff.mp hab with ⟨a', rfl, hB⟩ | ⟨c', rfl, hc⟩
    · have := b2 a' l sp b hB
      rw [this, stripLabels_append, List.length_append, nI, Nat.add_assoc]
    · cases c' with
      | nil =>
        have := b2 [] l sp b (by simpa using hc.symm)
        simp only [List.append_nil] at this ⊢
        rw [this]; simp [nI, stripLabels]
      | cons x c'' =>
        simp only [List.cons_append, List.cons.injEq] at hc
        obtain ⟨rfl, rfl⟩ := hc
        exact a2 a l sp c'' rfl

theorem isLabel_eq_false {i : SInstr} (h : ∀ l, i = .label l → False) : isLabel i = false := by
  unfold isLabel
  split
  · exact (h _ rfl).elim
  · rfl

/-- The `match` lets `simp only` decide by itself whether a concrete instruction is a label. -/
theorem Placed.cons_iff {lab σ : String → Nat} {c ip0} {i : SInstr} {sp rest} :
    Placed lab σ c ip0 ((i, sp) :: rest) ↔
      match i with
      | .label l => lab l = ip0 ∧ Placed lab σ c ip0 rest
      | i => c[ip0]? = some (mapLV lab σ i, sp) ∧ Placed lab σ c (ip0 + 1) rest := by
  have key : Placed lab σ c ip0 ([(i, sp)] ++ rest) ↔
      Placed lab σ c ip0 [(i, sp)] ∧ Placed lab σ c (ip0 + nI [(i, sp)]) rest := Placed.append_iff
  split
  next l =>
    refine ⟨Placed.label, fun ⟨e, h⟩ => key.mpr ⟨⟨fun k hk => (nomatch hk), fun a l' sp' b hab => ?_⟩, h⟩⟩
    cases a with
    | nil => cases hab; exact e
    | cons _ a' => cases a' <;> cases hab
  next hi =>
    have hi := isLabel_eq_false hi
    refine ⟨Placed.instr hi, fun ⟨e, h⟩ => key.mpr ⟨Placed.of_plain (fun p hp => ?_) fun k hk => ?_, ?_⟩⟩
    · cases List.mem_singleton.mp hp; exact hi
    · cases Nat.lt_one_iff.mp hk; exact e
    · rw [nI_instr _ _ _ hi]; exact h

theorem nI_cons (i : SInstr) (sp : Span) (r : SCode) :
    nI ((i, sp) :: r) = (match i with | .label _ => 0 | _ => 1) + nI r := by
  split
  · rw [nI_label, Nat.zero_add]
  · rw [nI_instr _ _ _ (isLabel_eq_false ‹_›), Nat.add_comm]

/-- `unplace at hpl` takes the placement of a concrete layout `A ++ [(i, sp), …] ++ B …` apart: `hpl` becomes the
conjunction, in the order of the code, of `Placed … A`-facts for the variable segments, fetch facts
`c[ip + nI A + k]? = some (instruction with labels and slots resolved, sp)` and label equations `lab l = ip + …`, with
all offsets (also in the goal, and in further hypotheses named after `hpl`) associated to the left; an
`obtain ⟨…⟩ := hpl` names them. -/
macro "unplace" " at " hs:(ppSpace colGt ident)+ : tactic =>
  `(tactic| simp only [Placed.append_iff, Placed.cons_iff, Placed.nil_iff, nI_append, nI_cons, nI_nil, mapLV, and_true,
    and_assoc, Nat.add_zero, Nat.zero_add, ← Nat.add_assoc] at $[$hs:ident]* ⊢)


/-- From `(ip, stk, mem)` to `(ip', stk', mem')` without interrupt or panic, whatever the step counter was. -/
def RunsTo (code : Code) (lim : Limits) (s : VMState) (ip : Nat) (stk : List SVal) (mem : List (Int × Val))
    (ip' : Nat) (stk' : List SVal) (mem' : List (Int × Val)) : Prop :=
  ∀ k, ∃ k', execN code lim k' (reach s ip k stk mem) = .next (reach s ip' (k + k') stk' mem')

/-- The conjuncts after the run are `SameStore` without the memory. -/
def RunsFatal (code : Code) (lim : Limits) (s : VMState) (ip : Nat) (stk : List SVal) (mem : List (Int × Val))
    (kd msg : String) (sp : Span) : Prop :=
  ∀ k, ∃ k' s', execN code lim k' (reach s ip k stk mem) = .intr (.fatal kd msg sp) s' ∧
    s'.st = s.st ∧ s'.mp = s.mp ∧ s'.globals = s.globals ∧ s'.handlers = s.handlers

theorem RunsTo.refl (code lim s ip stk mem) : RunsTo code lim s ip stk mem ip stk mem :=
  fun _ => ⟨0, rfl⟩

theorem RunsTo.trans {code lim s ip stk mem ip1 stk1 mem1 ip2 stk2 mem2}
    (h1 : RunsTo code lim s ip stk mem ip1 stk1 mem1) (h2 : RunsTo code lim s ip1 stk1 mem1 ip2 stk2 mem2) :
    RunsTo code lim s ip stk mem ip2 stk2 mem2 := by
  intro k
  obtain ⟨k1, e1⟩ := h1 k
  obtain ⟨k2, e2⟩ := h2 (k + k1)
  refine ⟨k1 + k2, ?_⟩
  rw [execN_add, e1]
  simp only [e2, Nat.add_assoc]

theorem RunsTo.cast {code lim s ip stk mem ip' stk' mem' ip''} (h : RunsTo code lim s ip stk mem ip' stk' mem')
    (e : ip' = ip'') : RunsTo code lim s ip stk mem ip'' stk' mem' := e ▸ h

theorem RunsTo.fatal {code lim s ip stk mem ip1 stk1 mem1 kd msg sp}
    (h1 : RunsTo code lim s ip stk mem ip1 stk1 mem1) (h2 : RunsFatal code lim s ip1 stk1 mem1 kd msg sp) :
    RunsFatal code lim s ip stk mem kd msg sp := by
  intro k
  obtain ⟨k1, e1⟩ := h1 k
  obtain ⟨k2, s', e2, hs⟩ := h2 (k + k1)
  refine ⟨k1 + k2, s', ?_, hs⟩
  rw [execN_add, e1]
  simp only [e2]

theorem RunsTo.of_exec1 {code lim s ip stk mem ip' stk' mem'}
    (h : ∀ k, exec1 code lim (reach s ip k stk mem) = .next (reach s ip' (k + 1) stk' mem')) :
    RunsTo code lim s ip stk mem ip' stk' mem' :=
  fun k => ⟨1, by rw [execN_one]; exact h k⟩

section Instructions
variable {code : Code} {lim : Limits} {s : VMState} {f : Frame} {rest : List Frame} {c : List (RInstr × Span)}
variable {ip : Nat} {stk : List SVal} {mem : List (Int × Val)} {sp : Span}
variable (hc : s.calls = f :: rest) (hf : findCode code f.fn = some c)
include hc hf

theorem RunsTo.push {pv v} (hx : c[ip]? = some (.copyPush pv, sp)) (hp : ∀ st, pvalToVal st pv = (v, st)) :
    RunsTo code lim s ip stk mem (ip + 1) (⟨v, none⟩ :: stk) mem :=
  .of_exec1 fun k => reach_push code lim s ip k stk mem f rest c hc hf pv sp v hx hp

theorem RunsTo.getVar {slot v} (hx : c[ip]? = some (.getVar slot, sp))
    (h0 : 0 ≤ s.mp - (slot : Int)) (h1 : s.mp - (slot : Int) < (lim.memory : Int))
    (hm : mem.lookup (s.mp - (slot : Int)) = some v) :
    RunsTo code lim s ip stk mem (ip + 1) (⟨v, none⟩ :: stk) mem :=
  .of_exec1 fun k => reach_getVar code lim s ip k stk mem f rest c hc hf slot sp v hx h0 h1 hm

theorem RunsTo.pre (op : PrefixOp) {lab σ a v oa} (hx : c[ip]? = some (mapLV lab σ (preI op), sp))
    (hv : preOp op a = .ok v) :
    RunsTo code lim s ip (⟨a, oa⟩ :: stk) mem (ip + 1) (⟨v, none⟩ :: stk) mem :=
  .of_exec1 fun k => reach_pre code lim s ip k stk mem f rest c hc hf op sp lab σ a v oa hx hv

theorem RunsTo.jump {l} (hx : c[ip]? = some (.jump l, sp)) : RunsTo code lim s ip stk mem l stk mem :=
  .of_exec1 fun k => reach_jump code lim s ip k stk mem f rest c hc hf l sp hx

theorem RunsTo.jumpIfFalse {l b ob} (hx : c[ip]? = some (.jumpIfFalse l, sp)) :
    RunsTo code lim s ip (⟨.bool b, ob⟩ :: stk) mem (if b then ip + 1 else l) stk mem :=
  .of_exec1 fun k => reach_jumpIfFalse code lim s ip k stk mem f rest c hc hf l sp b ob hx

theorem RunsTo.setVar {slot v ov} (hx : c[ip]? = some (.setVar slot, sp))
    (h0 : 0 ≤ s.mp - (slot : Int)) (h1 : s.mp - (slot : Int) < (lim.memory : Int)) :
    RunsTo code lim s ip (⟨v, ov⟩ :: stk) mem (ip + 1) stk
      ((s.mp - (slot : Int), v) :: mem.filter (·.1 != s.mp - (slot : Int))) :=
  .of_exec1 fun k => reach_setVar code lim s ip k stk mem f rest c hc hf slot sp v ov hx h0 h1

end Instructions

theorem RunsTo.from_state {code lim} {s : VMState} {f : Frame} {rest ip' stk' mem'}
    (hc : s.calls = f :: rest) (h : RunsTo code lim s f.ip s.stack s.mem ip' stk' mem') :
    ∃ k', execN code lim k' s = .next (reach s ip' k' stk' mem') := by
  obtain ⟨k', e⟩ := h 0
  rw [reach_self s f rest hc] at e
  exact ⟨k', by simpa using e⟩

theorem RunsFatal.from_state {code lim} {s : VMState} {f : Frame} {rest kd msg sp}
    (hc : s.calls = f :: rest) (h : RunsFatal code lim s f.ip s.stack s.mem kd msg sp) :
    ∃ k' s', execN code lim k' s = .intr (.fatal kd msg sp) s' ∧
      s'.st = s.st ∧ s'.mp = s.mp ∧ s'.globals = s.globals ∧ s'.handlers = s.handlers := by
  obtain ⟨k', s', e, hs⟩ := h 0
  rw [reach_self s f rest hc] at e
  exact ⟨k', s', e, hs⟩

end HmsProofs.Sim
