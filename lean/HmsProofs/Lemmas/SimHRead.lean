import HmsProofs.Lemmas.SimHObj
import HmsProofs.Lemmas.SimHSeq
/-! Cell reads `l[i]`, `o.f` and the argument-free methods (`meth0`) as links of a chain: the instruction (`Index`,
`Member`, `Call_Val` on a bound method) is a `SimM.prim` around the specification's own read, which only reads the heap;
the value arrives with the origin of its cell. -/
namespace HmsProofs.Sim
open Hms.Core Hms.Core.Comp Hms.Core.VM

theorem member_runs (G : GCtx) (A : Act) (hA : A.OK G) (sp : Span) (ip : Nat) (stk : List SVal) (mem : Mem)
    (st : St) (bv : Val) (name : String) (ob : Option Org) (hx : A.c[ip]? = some (.member name, sp)) :
    match memberVal bv name .dot sp st with
    | (.ok v, _) => Runs G.fr G.code G.lim G.s A.fn A.rest A.mp ip (⟨bv, ob⟩ :: stk) mem st.world
        (ip + 1) (⟨v, memOrg st.heap bv name⟩ :: stk) mem st.world
    | (.error (.unsupported _), _) => True
    | _ => False := by
  obtain ⟨hHO, herr⟩ := memberVal_dot_reads bv name sp
  have hvm : ∀ it, (memberVal bv name .dot sp { (withIt G.s it).st with heap := st.world.heap, out := st.world.out }).1 =
      (memberVal bv name .dot sp st).1 := fun it => hHO.fst_eq rfl
  rcases hr : memberVal bv name .dot sp st with ⟨r, st'⟩
  rw [hr] at hvm
  cases r with
  | ok v =>
    refine hA.step mem id fun it_ k => ?_
    rw [mkS_member hA.code sp name bv ob hx,
      hvm it_]
    rfl
  | error c =>
    obtain ⟨w, rfl⟩ := herr st c st' hr
    trivial

section
variable {G : GCtx} {A : Act} {L : Lvl G A} {I : Stable L} {sc : CScopes} {ip : Nat} {pre stk : List SVal} {mem : Mem} {st : St}

theorem SimM.index (hA : A.OK G) (sp : Span) (bv iv : Val) (ob oi : Option Org) :
    SimM L I [((Instr.index : SInstr), sp)] ip (⟨iv, oi⟩ :: ⟨bv, ob⟩ :: pre) stk mem st (indexVal bv iv sp)
      (fun v st' _ ys => ys = ⟨v, idxOrg st'.heap bv iv⟩ :: pre) := by
  obtain ⟨hHO, herr⟩ := indexVal_reads bv iv sp
  refine .prim (hHO.state st) fun hpl => ?_
  have hx := (hpl.instr (i := .index) rfl).1
  have hvm : ∀ it, (indexVal bv iv sp { (withIt G.s it).st with heap := st.world.heap, out := st.world.out }).1 =
      (indexVal bv iv sp st).1 := fun it => hHO.fst_eq rfl
  rcases hr : indexVal bv iv sp st with ⟨r, st'⟩
  rw [hr] at hvm
  cases r with
  | ok v =>
    exact ⟨_, rfl, hA.step mem id fun it k =>
      (mkS_index (stk := pre ++ stk) hA.code sp bv iv ob oi hx).trans (by rw [hvm it]; rfl)⟩
  | error c =>
    rcases herr st c st' hr with ⟨kd, m, rfl⟩ | ⟨w, rfl⟩
    · intro k
      refine ⟨1, mkS (withIt G.s mem.it) (⟨A.fn, ip⟩ :: A.rest) A.mp (k + 1) (pre ++ stk) mem.cells st.world, ?_, rfl, rfl⟩
      rw [execHN_one]
      apply exec1H_of_fatal
      show exec1 G.code G.lim (mkS (withIt G.s mem.it) (⟨A.fn, ip⟩ :: A.rest) A.mp k (⟨iv, oi⟩ :: ⟨bv, ob⟩ :: (pre ++ stk))
        mem.cells st.world) = _
      rw [mkS_index hA.code sp bv iv ob oi hx, hvm mem.it]
      rfl
    · trivial

theorem SimM.member (hA : A.OK G) (sp : Span) (bv : Val) (name : String) (ob : Option Org) :
    SimM L I [((Instr.member name : SInstr), sp)] ip (⟨bv, ob⟩ :: pre) stk mem st (memberVal bv name .dot sp)
      (fun v st' _ ys => ys = ⟨v, memOrg st'.heap bv name⟩ :: pre) := by
  refine .prim ((memberVal_dot_reads bv name sp).heapOnly.state st) fun hpl => ?_
  have h := member_runs G A hA sp ip (pre ++ stk) mem st bv name ob (hpl.instr rfl).1
  generalize memberVal bv name .dot sp st = r at h ⊢
  obtain ⟨r, st1⟩ := r
  cases r with
  | ok v => exact ⟨_, rfl, h⟩
  | error c => cases c <;> first | exact h | exact False.elim h

theorem index_step (hA : A.OK G) (n : Nat) (sp : Span) (ty : Ty) (b i : Expr) (lm : LM)
    (hb : ∀ ip pre mem st, SimM L I (cgE G.mod (ρS sc) A.φ b lm).1 ip pre stk mem st (evalExpr G.cfg n b) (QOE pre))
    (hi : ∀ ip pre mem st, SimM L I (cgE G.mod (ρS sc) A.φ i (cgE G.mod (ρS sc) A.φ b lm).2).1 ip pre stk mem st
      (evalExpr G.cfg n i) (QOE pre)) :
    SimM L I (cgE G.mod (ρS sc) A.φ (.index sp ty b i) lm).1 ip pre stk mem st
      (evalExpr G.cfg (n + 1) (.index sp ty b i)) (QOE pre) := by
  rw [cgE, evalExpr]
  simp only [List.append_assoc]
  exact (hb _ _ _ _).seq fun bv _ _ _ ⟨ob, e⟩ => e ▸ (hi _ _ _ _).seq fun iv _ _ _ ⟨oi, e⟩ => e ▸
    (SimM.index hA sp bv iv ob oi).mono fun _ _ _ _ _ e => ⟨_, e⟩

theorem member_step (hA : A.OK G) (n : Nat) (sp : Span) (ty : Ty) (b : Expr) (name : String) (lm : LM)
    (hb : ∀ ip pre mem st, SimM L I (cgE G.mod (ρS sc) A.φ b lm).1 ip pre stk mem st (evalExpr G.cfg n b) (QOE pre)) :
    SimM L I (cgE G.mod (ρS sc) A.φ (.member sp ty b name .dot) lm).1 ip pre stk mem st
      (evalExpr G.cfg (n + 1) (.member sp ty b name .dot)) (QOE pre) := by
  rw [cgE, evalExpr]
  exact (hb _ _ _ _).seq fun bv _ _ _ ⟨ob, e⟩ => e ▸ (SimM.member hA sp bv name ob).mono fun _ _ _ _ _ e => ⟨_, e⟩
end

theorem memberVal_method (b : Val) (name : String) (sp : Span) (st : St) (hinv : HeapInv st.heap)
    (hn : name ∈ methNames) :
    memberVal b name .dot sp st = (.ok (.bound b name), st) ∨
      ∃ w, memberVal b name .dot sp st = (.error (.unsupported w), st) := by
  rw [memberVal_dot]
  cases b <;> try (left; rfl)
  case ref a =>
    simp only []
    cases hc : st.heap[a]? with
    | none => right; exact ⟨_, rfl⟩
    | some c =>
      cases c <;> try (left; rfl)
      rename_i fs
      left
      simp only [hinv a fs hc name hn]
  case range x y i =>
    left
    simp only [methNames, List.mem_cons, List.mem_nil_iff, or_false] at hn
    rcases hn with rfl | rfl | rfl | rfl | rfl | rfl <;> rfl

theorem callMember_opt0_heapOnly (nm : String) (hnm : nm = "is_some" ∨ nm = "is_none") (recv : Val) (sp : Span) :
    HeapOnly (callMember recv nm [] sp) := by
  intro st st' hh
  rcases callMember_opt0 nm hnm recv sp st with ⟨o, rfl, h⟩ | ⟨w, h⟩
  · rcases hnm with rfl | rfl <;> rfl
  · rw [h st' hh, h st rfl]

theorem callMember_len_heapOnly (recv : Val) (sp : Span) : HeapOnly (callMember recv "len" [] sp) := by
  intro st st' hh
  rw [callMember_len, callMember_len, hh]
  cases recv <;> try rfl
  rename_i a
  simp only []
  cases st.heap[a]? with
  | none => rfl
  | some c => cases c <;> rfl

theorem callMember_meth0 (nm : String) (hnm : nm ∈ meth0) (sp : Span) :
    (∀ recv, HeapOnly (callMember recv nm [] sp)) ∧
    (∀ recv st v st', callMember recv nm [] sp st = (.ok v, st') → v ≠ .null) ∧
    (∀ recv st c st', callMember recv nm [] sp st = (.error c, st') → ∃ w, c = .unsupported w) := by
  simp only [meth0, List.mem_cons, List.mem_nil_iff, or_false] at hnm
  rcases hnm with rfl | hnm
  · refine ⟨fun recv => callMember_len_heapOnly recv sp, ?_, ?_⟩
    · intro recv st v st' h
      rw [callMember_len] at h
      cases recv <;> simp only [] at h <;> try (cases h; done)
      · cases h; intro h'; cases h'
      · rename_i a
        cases hc : st.heap[a]? with
        | none => rw [hc] at h; cases h
        | some c =>
          rw [hc] at h
          cases c <;> first | (cases h; intro h'; cases h') | cases h
    · intro recv st c st' h
      rw [callMember_len] at h
      cases recv <;> simp only [] at h <;> try (first | (cases h; done) | (cases h; exact ⟨_, rfl⟩))
      rename_i a
      cases hc : st.heap[a]? with
      | none => rw [hc] at h; cases h; exact ⟨_, rfl⟩
      | some cl =>
        rw [hc] at h
        cases cl <;> first | (cases h; exact ⟨_, rfl⟩) | cases h
  · refine ⟨fun recv => callMember_opt0_heapOnly nm hnm recv sp, ?_, ?_⟩
    · intro recv st v st' h
      rcases callMember_opt0 nm hnm recv sp st with ⟨o, _, h'⟩ | ⟨w, h'⟩
      · rw [h'] at h; cases h; intro hx; cases hx
      · rw [h' st rfl] at h; cases h
    · intro recv st c st' h
      rcases callMember_opt0 nm hnm recv sp st with ⟨o, _, h'⟩ | ⟨w, h'⟩
      · rw [h'] at h; cases h
      · rw [h' st rfl] at h; cases h; exact ⟨_, rfl⟩

theorem meth0_sub : ∀ nm ∈ meth0, nm ∈ methNames := by decide

theorem evalExpr_meth0 (cfg : Cfg) (g : Nat) (csp : Span) (cty : Ty) (msp : Span) (mty : Ty) (b : Expr) (nm : String) :
    evalExpr cfg (g + 3) (.call csp cty (.member msp mty b nm .dot) [] false) =
      evalExpr cfg g b >>= fun bv => memberVal bv nm .dot msp >>= fun f => applyFn cfg (g + 1) csp f [] := by
  rw [evalExpr]
  simp only [Bool.false_eq_true, if_false]
  rw [evalCall, evalExpr, List.map_nil, evalList]
  simp only [bind_assoc, pure_bind]

section
variable {G : GCtx} {A : Act} {L : Lvl G A} {I : Stable L} {sc : CScopes} {ip : Nat} {pre stk : List SVal} {mem : Mem} {st : St}

theorem SimM.callMeth0 (hA : A.OK G) (csp : Span) (nm : String) (hnm : nm ∈ meth0) (bv : Val) (o : Option Org) :
    SimM L I [((Instr.copyPush (.int 0) : SInstr), csp), (.callVal, csp)] ip (⟨.bound bv nm, o⟩ :: pre) stk mem st
      (callMember bv nm [] csp) (fun v _ _ ys => ys = ⟨v, none⟩ :: pre) := by
  obtain ⟨hHO, hnn, herr⟩ := callMember_meth0 nm hnm csp
  refine .prim ((hHO bv).state st) fun hpl => ?_
  obtain ⟨ipush, hX2⟩ := hpl.instr (i := .copyPush (.int 0)) rfl
  obtain ⟨icall, _⟩ := hX2.instr (i := .callVal) rfl
  have hst := (hHO bv).state st
  rcases hr : callMember bv nm [] csp st with ⟨r, st2⟩
  rw [hr] at hst
  obtain rfl : st2 = st := hst
  cases r with
  | error c =>
    obtain ⟨w, rfl⟩ := herr bv st2 c st2 hr
    trivial
  | ok nv =>
    exact ⟨_, rfl, (hA.push (.int (I64.ofInt 0)) ipush (fun _ => rfl) _ mem st2.world).trans
      (hA.step mem id fun _ _ => mkS_callVal_value (stk := pre ++ stk) hA.code csp nm bv none _ [] nv _ icall
        (by decide) ((hHO bv).eq_of_heap hr rfl) (hnn bv st2 nv st2 hr))⟩

/-- `l.len()`, `o.is_some()`, `o.is_none()`: under the heap invariant the member read yields the bound method. -/
theorem meth0_step (hA : A.OK G) (hfr : G.fr = true) (hsp : ∀ {st mem}, I.P st mem → SpecOK G A.mp st) (g : Nat)
    (nm : String) (hnm : nm ∈ meth0)
    (csp : Span) (cty : Ty) (msp : Span) (mty : Ty) (b : Expr) (lm : LM)
    (hb : ∀ ip pre mem st, SimM L I (cgE G.mod (ρS sc) A.φ b lm).1 ip pre stk mem st (evalExpr G.cfg g b)
      (QOE pre)) :
    SimM L I (cgE G.mod (ρS sc) A.φ (.call csp cty (.member msp mty b nm .dot) [] false) lm).1 ip pre stk
      mem st (evalExpr G.cfg (g + 3) (.call csp cty (.member msp mty b nm .dot) [] false)) (QOE pre) := by
  rw [cgE, evalExpr_meth0]
  refine (hb _ _ _ _).seq fun bv st1 mem1 _ ⟨ob, e⟩ => e ▸ .withInv fun hI => ?_
  rcases memberVal_method bv nm msp st1 ((hsp hI).heap hfr) (meth0_sub nm hnm) with hm | ⟨w, hm⟩
  · refine ((SimM.member hA msp bv nm ob).mono fun _ _ _ _ hf e => And.intro hf e).seq
      (cB := [(.copyPush (.int 0), csp), (.callVal, csp)]) fun f st2 _ _ ⟨hf, e⟩ => ?_
    obtain ⟨rfl, rfl⟩ : f = .bound bv nm ∧ st2 = st1 := by
      rw [hm] at hf
      cases hf
      exact ⟨rfl, rfl⟩
    rw [e, applyFn]
    exact (SimM.callMeth0 hA csp nm hnm bv _).mono fun _ _ _ _ _ e => ⟨_, e⟩
  · exact fun _ => .outside (by rw [M_bind, hm]) (.inl ⟨_, rfl⟩)
end

end HmsProofs.Sim
