import Hms.Mod.Graph
/-! The import decision (`importItem`). Whether an item is refused depends on the consulted tables only
(`importOne_cases`); what it declares in the importing module does not depend on them at all (`importOne_tables`). So
the item loop is an induction that threads `declareItem` (`importItems_cons`), and the statement is that loop run in
the state `stateBeforeItems` (`importStmt_found`). -/
namespace Hms.Mod

/-- The classes that refuse an import item: missing (or of the wrong kind) or not `pub`. -/
def DiagClass.isRefusal : DiagClass → Bool
  | .notype | .noitem | .privtype | .privfn | .privvar => true
  | _ => false

/-- What one imported item declares in the importing module (independent of the target). -/
def declareItem (c : Tables) (it : ImpItem) : Tables :=
  match it.kind with
  | .type => c.addType it.name false
  | .normal => c.addValue it.name false

/-- The requested names are new in the importing module and pairwise different. -/
def freshItems (c : Tables) : List ImpItem → Bool
  | [] => true
  | it :: rest =>
    (match it.kind with
      | .type => (c.types.lookup it.name).isNone
      | .normal => (c.values.lookup it.name).isNone) && freshItems (declareItem c it) rest

theorem importOne_tables (t c : Tables) (it : ImpItem) : (importOne t c it).2 = declareItem c it := by
  unfold importOne declareItem
  cases it.kind with
  | type => cases t.types.lookup it.name <;> rfl
  | normal =>
    cases t.fns.lookup it.name with
    | some _ => rfl
    | none => cases t.values.lookup it.name <;> rfl

/-- Either the item is importable and only "already exists in current scope" can be raised, or it is not and a
refusing class is raised. -/
theorem importOne_cases (t c : Tables) (it : ImpItem) :
    (itemLegal t it = true ∧ (importOne t c it).1 =
      (match it.kind with | .type => dupType c it.name | .normal => dupValue c it.name)) ∨
    (itemLegal t it = false ∧ ∃ d ∈ (importOne t c it).1, d.isRefusal = true) := by
  unfold itemLegal importOne
  cases it.kind with
  | type =>
    cases t.types.lookup it.name with
    | none => exact .inr ⟨rfl, .notype, List.mem_cons_self, rfl⟩
    | some pub =>
      cases pub with
      | true => exact .inl ⟨rfl, rfl⟩
      | false => exact .inr ⟨rfl, .privtype, List.mem_cons_self, rfl⟩
  | normal =>
    cases t.fns.lookup it.name with
    | some pub =>
      cases pub with
      | true => exact .inl ⟨rfl, rfl⟩
      | false => exact .inr ⟨rfl, .privfn, List.mem_cons_self, rfl⟩
    | none =>
      cases t.values.lookup it.name with
      | none => exact .inr ⟨rfl, .noitem, List.mem_cons_self, rfl⟩
      | some pub =>
        cases pub with
        | true => exact .inl ⟨rfl, rfl⟩
        | false => exact .inr ⟨rfl, .privvar, List.mem_cons_self, rfl⟩

theorem importOne_illegal (t c : Tables) (it : ImpItem) (h : itemLegal t it = false) :
    ∃ d ∈ (importOne t c it).1, d.isRefusal = true := by
  rcases importOne_cases t c it with ⟨hl, _⟩ | ⟨_, hr⟩
  · rw [h] at hl; cases hl
  · exact hr

theorem importOne_legal (t c : Tables) (it : ImpItem) (h : itemLegal t it = true) :
    (importOne t c it).1 = (match it.kind with | .type => dupType c it.name | .normal => dupValue c it.name) := by
  rcases importOne_cases t c it with ⟨_, he⟩ | ⟨hl, _⟩
  · exact he
  · rw [h] at hl; cases hl

theorem isRefusal_of_mem_dup {c : Tables} {n : String} {k : ImpKind} {d : DiagClass}
    (h : d ∈ (match k with | .type => dupType c n | .normal => dupValue c n)) : d.isRefusal = false := by
  cases k
  all_goals
    simp only [dupValue, dupType] at h
    split at h
    · rw [List.mem_singleton.mp h]; rfl
    · cases h

theorem importItems_cons (t : Tables) (c : Tables) (it : ImpItem) (rest : List ImpItem) :
    (importItems (some t) c (it :: rest)).1 =
      (importOne t c it).1 ++ (importItems (some t) (declareItem c it) rest).1 := by
  simp only [importItems, Option.getD_some, importOne_tables]

theorem importItems_illegal (t c : Tables) (items : List ImpItem)
    (h : ∃ it ∈ items, itemLegal t it = false) :
    ∃ d ∈ (importItems (some t) c items).1, d.isRefusal = true := by
  induction items generalizing c with
  | nil => obtain ⟨it, hm, _⟩ := h; cases hm
  | cons it rest ih =>
    rw [importItems_cons]
    obtain ⟨bad, hm, hb⟩ := h
    rcases List.mem_cons.mp hm with rfl | hm
    · obtain ⟨d, hd, hr⟩ := importOne_illegal t c bad hb
      exact ⟨d, List.mem_append_left _ hd, hr⟩
    · obtain ⟨d, hd, hr⟩ := ih (declareItem c it) ⟨bad, hm, hb⟩
      exact ⟨d, List.mem_append_right _ hd, hr⟩

theorem importItems_legal (t c : Tables) (items : List ImpItem)
    (h : ∀ it ∈ items, itemLegal t it = true) (hf : freshItems c items = true) :
    (importItems (some t) c items).1 = [] := by
  induction items generalizing c with
  | nil => rfl
  | cons it rest ih =>
    rw [importItems_cons]
    simp only [freshItems, Bool.and_eq_true] at hf
    have h1 := importOne_legal t c it (h it List.mem_cons_self)
    have h2 := ih (declareItem c it) (fun x hx => h x (List.mem_cons_of_mem _ hx)) hf.2
    rw [h1, h2]
    cases hk : it.kind <;> simp only [hk] at hf ⊢
    · simp [dupValue, Option.isNone_iff_eq_none.mp hf.1]
    · simp [dupType, Option.isNone_iff_eq_none.mp hf.1]

theorem importItems_legal_no_refusal (t c : Tables) (items : List ImpItem)
    (h : ∀ it ∈ items, itemLegal t it = true) :
    ∀ d ∈ (importItems (some t) c items).1, d.isRefusal = false := by
  induction items generalizing c with
  | nil => intro d hd; cases hd
  | cons it rest ih =>
    rw [importItems_cons]
    intro d hd
    rcases List.mem_append.mp hd with hd | hd
    · rw [importOne_legal t c it (h it List.mem_cons_self)] at hd
      exact isRefusal_of_mem_dup hd
    · exact ih (declareItem c it) (fun x hx => h x (List.mem_cons_of_mem _ hx)) d hd

theorem mem_addDiags {st : AState} {m : String} {idx : Option Nat} {cs : List DiagClass} {c : DiagClass}
    (h : c ∈ cs) : ⟨c, m, idx⟩ ∈ (st.addDiags m idx cs).diags := by
  unfold AState.addDiags
  exact List.mem_append_right _ (List.mem_map.mpr ⟨c, h, rfl⟩)

theorem set_diags (st : AState) (n : String) (t : Tables) : (st.set n t).diags = st.diags := by
  unfold AState.set; split <;> rfl

/-- The state in which the items of the statement are looked up: the part of `importStmt` between the module lookup and
the item loop. It takes the arguments of `importStmt`, of which it does not need `ms`. -/
def stateBeforeItems (_ms : Modules) (rec : AState → String → AState) (name : String)
    (st : AState) (idx : Nat) (imp : Import) : AState :=
  let cur := (st.get name).getD Tables.fresh
  let st := st.set name { cur with importsModules := cur.importsModules ++ [imp.target] }
  if (st.get imp.target).isSome then st
  else
    let st := rec st imp.target
    if importGraphIsCyclic st.adj name then st.addDiags name (some idx) [.cyclic] else st

theorem importStmt_found {ms : Modules} {rec : AState → String → AState} {name : String}
    {st : AState} {idx : Nat} {imp : Import} {t : Module} (h : findMod ms imp.target = some t) :
    (importStmt ms rec name st idx imp).diags =
      let sb := stateBeforeItems ms rec name st idx imp
      let cur := (sb.get name).getD Tables.fresh
      let tgt := if imp.target == name then none else sb.get imp.target
      sb.diags ++ (importItems tgt cur imp.items).1.map fun c => ⟨c, name, some idx⟩ := by
  unfold importStmt stateBeforeItems
  simp only [h]
  rw [set_diags]
  rfl

end Hms.Mod
