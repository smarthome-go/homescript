import HmsProofs.Lemmas.ListAux
import HmsProofs.Lemmas.SimPure
/-! Mangled names are injective. `mangleLabel` forms `<module>.<ident>.<count>` (`labelName`) and `mangleVar` forms
`@<module>.<ident>.<count>` (`mangleName`). The decimal count contains no `.`, so the *last* `.` of a name separates
the count from the rest: for a fixed module the name determines `(ident, count)`, for every identifier, with or
without digits or dots. -/
namespace HmsProofs.Sim
open Hms.Core Hms.Core.Comp

def labelName (mod ident : String) (c : Nat) : String := s!"{mod}.{ident}.{c}"

theorem freshLabel_fst (mod : String) (lm : LM) (ident : String) :
    (freshLabel mod lm ident).1 = labelName mod ident ((lm.lookup ident).getD 0) := rfl

theorem labelName_toList (mod ident : String) (c : Nat) :
    (labelName mod ident c).toList =
      mod.toList ++ (".".toList ++ (ident.toList ++ (".".toList ++ Nat.toDigits 10 c))) := by
  show (mod ++ "." ++ ident ++ "." ++ toString c).toList = _
  simp only [String.toList_append, Nat.toString_eq_repr, Nat.toList_repr, List.append_assoc]

theorem labelName_inj (mod id1 id2 : String) (c1 c2 : Nat)
    (h : labelName mod id1 c1 = labelName mod id2 c2) : id1 = id2 ∧ c1 = c2 := by
  have := congrArg String.toList h
  rw [labelName_toList, labelName_toList] at this
  have h1 := List.append_cancel_left (List.append_cancel_left this)
  have hd : ".".toList = ['.'] := rfl
  rw [hd] at h1
  obtain ⟨e1, e2⟩ := List.split_last_sep (sep := '.') h1 (Nat.dot_not_mem_toDigits c1) (Nat.dot_not_mem_toDigits c2)
  exact ⟨String.toList_inj.mp e1, Nat.toDigits_injective e2⟩

/-- The label identifiers used by the compiler. -/
def labelIdents : List String :=
  ["return_true", "after_infix", "return_false", "if_after", "else", "match_after", "case",
   "match_default", "exception_label", "after_catch_label", "loop_head", "loop_end", "loop_update",
   "cleanup"]

def mangleName (mod ident : String) (c : Nat) : String := s!"@{mod}.{ident}.{c}"

theorem mangleName_inj (mod x y : String) (c d : Nat)
    (h : mangleName mod x c = mangleName mod y d) : x = y ∧ c = d :=
  labelName_inj ("@" ++ mod) x y c d h

def cnt (lm : LM) (ident : String) : Nat := (lm.lookup ident).getD 0

theorem cnt_fresh (mod : String) (lm : LM) (ident k : String) :
    cnt (freshLabel mod lm ident).2 k = if k = ident then cnt lm ident + 1 else cnt lm k := by
  unfold cnt freshLabel
  simp only
  cases h : lm.lookup ident with
  | some n =>
    simp only [Option.isSome_some, if_true]
    have e : (fun (x : String × Nat) => match x with | (k, n) => if k == ident then (k, n + 1) else (k, n)) =
        fun p => (p.1, if p.1 = ident then p.2 + 1 else p.2) := by
      funext p
      by_cases h : p.1 = ident <;> simp [h]
    rw [e, lookup_map_val (fun q n => if q = ident then n + 1 else n)]
    by_cases hk : k = ident
    · subst hk; simp [h]
    · simp only [hk, if_false]
      cases lm.lookup k <;> rfl
  | none =>
    simp only [Option.isSome_none, Bool.false_eq_true, if_false, List.lookup_append]
    by_cases hk : k = ident
    · subst hk; simp [h]
    · have : (k == ident) = false := by simpa using hk
      simp only [hk, if_false, List.lookup_cons, this, List.lookup_nil]
      cases lm.lookup k <;> rfl

/-- The labels `ls` were generated while the counters went from `lm` to `lm'`. -/
structure LblInv (mod : String) (lm lm' : LM) (ls : List String) : Prop where
  mono : ∀ id, cnt lm id ≤ cnt lm' id
  nodup : ls.Nodup
  range : ∀ l ∈ ls, ∃ id c, id ∈ labelIdents ∧ l = labelName mod id c ∧ cnt lm id ≤ c ∧ c < cnt lm' id

theorem LblInv.nil (mod : String) (lm : LM) : LblInv mod lm lm [] :=
  ⟨fun _ => Nat.le_refl _, List.nodup_nil, by simp⟩

theorem LblInv.single (mod : String) (lm : LM) (ident : String) (h : ident ∈ labelIdents) :
    LblInv mod lm (freshLabel mod lm ident).2 [(freshLabel mod lm ident).1] := by
  refine ⟨?_, by simp, ?_⟩
  · intro id; rw [cnt_fresh]; split <;> (try subst_vars) <;> omega
  · intro l hl
    simp only [List.mem_singleton] at hl
    subst hl
    exact ⟨ident, cnt lm ident, h, rfl, Nat.le_refl _, by rw [cnt_fresh]; simp⟩

theorem LblInv.append {mod lm lm1 lm2 ls1 ls2} (h1 : LblInv mod lm lm1 ls1) (h2 : LblInv mod lm1 lm2 ls2) :
    LblInv mod lm lm2 (ls1 ++ ls2) := by
  refine ⟨fun id => Nat.le_trans (h1.mono id) (h2.mono id), ?_, ?_⟩
  · rw [List.nodup_append]
    refine ⟨h1.nodup, h2.nodup, ?_⟩
    intro a ha b hb hab
    subst hab
    obtain ⟨id1, c1, hi1, e1, _, u1⟩ := h1.range a ha
    obtain ⟨id2, c2, hi2, e2, l2, _⟩ := h2.range a hb
    obtain ⟨rfl, rfl⟩ := labelName_inj mod id1 id2 c1 c2 (e1.symm.trans e2)
    omega
  · intro l hl
    rcases List.mem_append.mp hl with hl | hl
    · obtain ⟨id, c, hi, e, lo, up⟩ := h1.range l hl
      exact ⟨id, c, hi, e, lo, Nat.lt_of_lt_of_le up (h2.mono id)⟩
    · obtain ⟨id, c, hi, e, lo, up⟩ := h2.range l hl
      exact ⟨id, c, hi, e, Nat.le_trans (h1.mono id) lo, up⟩

theorem definedLabels_rules :
    (∀ x y : SCode, definedLabels (x ++ y) = definedLabels x ++ definedLabels y) ∧
    (∀ (i : SInstr) (sp : Span) (r : SCode),
      definedLabels ((i, sp) :: r) = (labelOf? i).toList ++ definedLabels r) ∧
    definedLabels [] = [] ∧
    (∀ (a : String) (l₁ l₂ : List String), (l₁ ++ l₂).count a = l₁.count a + l₂.count a) ∧
    (∀ (a b : String) (l : List String), (b :: l).count a = l.count a + if b == a then 1 else 0) ∧
    (∀ a : String, ([] : List String).count a = 0) :=
  ⟨definedLabels_append, definedLabels_cons, rfl, fun _ _ _ => List.count_append, fun _ _ _ => List.count_cons,
    fun _ => List.count_nil⟩

/-- The compiler draws all labels of a construct first and defines them afterwards, in code order, so the labels the
code defines are the generated ones rearranged. The rearrangement is settled by counting: `definedLabels_rules`
computes `List.count a` on both sides and `omega` compares. -/
theorem LblInv.of_count_le {mod lm lm' ls ls'} (h : LblInv mod lm lm' ls) (hc : ∀ a, ls'.count a ≤ ls.count a) :
    LblInv mod lm lm' ls' :=
  ⟨h.mono, List.nodup_iff_count.mpr fun a => Nat.le_trans (hc a) (List.nodup_iff_count.mp h.nodup a),
    fun l hl => h.range l (List.count_pos_iff.mp (Nat.lt_of_lt_of_le (List.count_pos_iff.mpr hl) (hc l)))⟩

theorem cpE_labels (mod : String) (ρ : String → Option String) :
    (∀ (e : Expr) (lm : LM), LblInv mod lm (cpE mod ρ e lm).2 (definedLabels (cpE mod ρ e lm).1)) ∧
    (∀ (b : Block) (lm : LM), LblInv mod lm (cpB mod ρ b lm).2 (definedLabels (cpB mod ρ b lm).1)) := by
  refine cpE.mutual_induct_unfolding mod ρ
    (motive_1 := fun _ lm r => LblInv mod lm r.2 (definedLabels r.1))
    (motive_2 := fun _ lm r => LblInv mod lm r.2 (definedLabels r.1))
    ?int ?bool ?str ?null ?none ?grouped ?ident ?pre ?or ?and ?arith ?ifE ?other ?block ?blockOther
  case int | bool | str | null | none | other | blockOther => intros; exact LblInv.nil mod _
  case grouped | block => intros; assumption
  case ident => intro sp ty name g f si lm; cases ρ name <;> exact LblInv.nil mod lm
  case pre =>
    intro sp ty op e lm ih
    simpa only [definedLabels_append, definedLabels_instr _ _ _ (preI_notLabel op), definedLabels_nil, List.append_nil]
      using ih
  case arith =>
    intro sp ty op l r lm _ _ cl cr ihl ihr
    simpa only [definedLabels_append, definedLabels_arithI, List.append_nil] using ihl.append ihr
  case or =>
    intro sp ty l r lm rt af cl cr ihl ihr
    refine ((((LblInv.single mod lm "return_true" (by decide)).append
      (LblInv.single mod rt.2 "after_infix" (by decide))).append ihl).append ihr).of_count_le fun a => ?_
    simp only [rt, af, cl, cr, definedLabels_rules, labelOf?, Option.toList, List.nil_append]
    omega
  case and =>
    intro sp ty l r lm rf af cl cr ihl ihr
    refine ((((LblInv.single mod lm "return_false" (by decide)).append
      (LblInv.single mod rf.2 "after_infix" (by decide))).append ihl).append ihr).of_count_le fun a => ?_
    simp only [rf, af, cl, cr, definedLabels_rules, labelOf?, Option.toList, List.nil_append]
    omega
  case ifE =>
    intro sp ty c t eb lm cc after els ct ce ihc iht ihe
    refine ((((ihc.append (LblInv.single mod cc.2 "if_after" (by decide))).append
      (LblInv.single mod after.2 "else" (by decide))).append iht).append ihe).of_count_le fun a => ?_
    simp only [cc, after, els, ct, ce, definedLabels_rules, labelOf?, Option.toList, List.nil_append]
    omega

end HmsProofs.Sim
