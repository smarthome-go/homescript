import HmsProofs.Lemmas.PrattFuel
/-! Completeness in continuation style: if the loop, entered with the finished tree `t` and the remaining input, runs
to `t'` leaving `out`, then so does `parseE` on `flatten t ++ rest`. The statement is about runs (`RunE`, `RunL`,
`RunA`), so the induction has no fuel in it; `Run.ok` turns a run into a result of the function. -/
namespace HmsProofs.Lemmas.Pratt
open Hms Hms.Pratt

variable {prec : Prec}

def isStart (k : TokKind) : Bool := isAtom k || k == .lParen || isPrefix k || k == .lBracket

theorem flat_start (prec : Prec) : ∀ {t : Tree} {c : List TokKind}, Flat t c →
    ∀ p, normal prec p t = true → ∃ k tl, c = k :: tl ∧ isStart k = true
  | _, _, .atom k, _, h => ⟨k, [], rfl, by simp [normal] at h; simp [isStart, h]⟩
  | _, _, .grp _, _, _ => ⟨.lParen, _, rfl, by decide⟩
  | _, _, .pre _, _, h => ⟨_, _, rfl, by simp [normal] at h; simp [isStart, h.1]⟩
  | _, _, .list _, _, _ => ⟨.lBracket, _, rfl, by decide⟩
  | _, _, .bin hl _, p, h | _, _, .call hl _, p, h | _, _, .index hl _, p, h | _, _, .range hl _, p, h => by
    simp only [normal, Bool.and_eq_true] at h
    obtain ⟨k, tl, rfl, hs⟩ := flat_start prec hl p h.1.1.2
    exact ⟨k, _, rfl, hs⟩
  | _, _, .asg hl _, p, h => by
    simp only [normal, Bool.and_eq_true] at h
    obtain ⟨k, tl, rfl, hs⟩ := flat_start prec hl p h.1.1.1.2
    exact ⟨k, _, rfl, hs⟩
  | _, _, .member hl, p, h | _, _, .cast hl, p, h => by
    simp only [normal, Bool.and_eq_true] at h
    obtain ⟨k, tl, rfl, hs⟩ := flat_start prec hl p h.1.2
    exact ⟨k, _, rfl, hs⟩

theorem flatten_start (prec : Prec) (t : Tree) (p : Nat) (h : normal prec p t = true) :
    ∃ k tl, flatten t = k :: tl ∧ isStart k = true :=
  flat_start prec (flat_flatten t) p h

theorem rangeSplit_start {b : Tree} {p : Nat} (h : normal prec p b = true)
    (rest : List TokKind) : rangeSplit (flatten b ++ rest) = (false, flatten b ++ rest) := by
  obtain ⟨k, tl, hk, hs⟩ := flatten_start prec b p h
  rw [hk]
  have hne := beq_false_of_class (c := .assign) hs rfl
  unfold rangeSplit
  split
  · rename_i heq
    simp only [List.cons_append, List.cons.injEq] at heq
    exact absurd (heq.1 ▸ hne) (by decide)
  · rfl

mutual
theorem complete_E (hs : TableSane prec) : ∀ (t : Tree) (p : Nat) (rest : List TokKind) {t' : Tree}
    {out : List TokKind}, normal prec p t = true → rightSpineOK prec (headLbp prec rest) t = true →
    RunL prec p t rest t' out → RunE prec p (flatten t ++ rest) t' out
  | .atom k, p, rest, _, _, hn, _, hL => .mk (.atom (by simpa only [normal] using hn)) hL
  | .grp e, p, rest, _, _, hn, _, hL => by
    simp only [normal] at hn
    have he := complete_E hs e 0 (.rParen :: rest) hn
      (by simp [headLbp, hs.1, rightSpineOK_zero]) (.stop (by simp [headLbp, hs.1]))
    have : flatten (.grp e) ++ rest = .lParen :: (flatten e ++ .rParen :: rest) := by simp [flatten]
    exact this ▸ .mk (.grp he) hL
  | .pre op e, p, rest, _, _, hn, hsp, hL => by
    simp only [normal, Bool.and_eq_true] at hn
    simp only [rightSpineOK, Bool.and_eq_true, decide_eq_true_eq] at hsp
    exact .mk (.pre hn.1 (complete_E hs e prefixBp rest hn.2 hsp.2 (.stop hsp.1))) hL
  | .list xs, p, rest, _, _, hn, _, hL => by
    simp only [normal] at hn
    have : flatten (.list xs) ++ rest = .lBracket :: (flattenArgs xs ++ .rBracket :: rest) := by
      simp [flatten]
    exact this ▸ .mk (.list (complete_run_A hs xs .rBracket rest hn (.inr rfl))) hL
  | .bin l o r, p, rest, _, _, hn, hsp, hL => by
    simp only [normal, Bool.and_eq_true, decide_eq_true_eq] at hn
    simp only [rightSpineOK, Bool.and_eq_true, decide_eq_true_eq] at hsp
    obtain ⟨⟨⟨⟨hop, hgt⟩, hnl⟩, hsl⟩, hnr⟩ := hn
    have : flatten (.bin l o r) ++ rest = flatten l ++ o :: (flatten r ++ rest) := by simp [flatten]
    exact this ▸ complete_E hs l p _ hnl (by simpa [headLbp] using hsl)
      (.step hgt (.bin hop (complete_E hs r (prec o).2 rest hnr hsp.2 (.stop hsp.1))) hL)
  | .asg l o r, p, rest, _, _, hn, hsp, hL => by
    simp only [normal, Bool.and_eq_true, decide_eq_true_eq] at hn
    simp only [rightSpineOK, Bool.and_eq_true, decide_eq_true_eq] at hsp
    obtain ⟨⟨⟨⟨⟨hop, hgt⟩, hnl⟩, hsl⟩, hv⟩, hnr⟩ := hn
    have : flatten (.asg l o r) ++ rest = flatten l ++ o :: (flatten r ++ rest) := by simp [flatten]
    exact this ▸ complete_E hs l p _ hnl (by simpa [headLbp] using hsl)
      (.step hgt (.asg hop hv (complete_E hs r (prec o).2 rest hnr hsp.2 (.stop hsp.1))) hL)
  | .call f args, p, rest, _, _, hn, _, hL => by
    simp only [normal, Bool.and_eq_true, decide_eq_true_eq] at hn
    obtain ⟨⟨⟨hgt, hnf⟩, hsf⟩, hna⟩ := hn
    have : flatten (.call f args) ++ rest
        = flatten f ++ .lParen :: (flattenArgs args ++ .rParen :: rest) := by simp [flatten]
    exact this ▸ complete_E hs f p _ hnf (by simpa [headLbp] using hsf)
      (.step hgt (.call (complete_run_A hs args .rParen rest hna (.inl rfl))) hL)
  | .index b i, p, rest, _, _, hn, _, hL => by
    simp only [normal, Bool.and_eq_true, decide_eq_true_eq] at hn
    obtain ⟨⟨⟨hgt, hnb⟩, hsb⟩, hni⟩ := hn
    have hi := complete_E hs i 0 (.rBracket :: rest) hni
      (by simp [headLbp, hs.2.1, rightSpineOK_zero]) (.stop (by simp [headLbp, hs.2.1]))
    have : flatten (.index b i) ++ rest
        = flatten b ++ .lBracket :: (flatten i ++ .rBracket :: rest) := by simp [flatten]
    exact this ▸ complete_E hs b p _ hnb (by simpa [headLbp] using hsb) (.step hgt (.index hi) hL)
  | .member b op nm, p, rest, _, _, hn, _, hL => by
    simp only [normal, Bool.and_eq_true, Bool.or_eq_true, decide_eq_true_eq, beq_iff_eq] at hn
    obtain ⟨⟨⟨⟨hop, hnm⟩, hgt⟩, hnb⟩, hsb⟩ := hn
    have : flatten (.member b op nm) ++ rest = flatten b ++ op :: (nm :: rest) := by simp [flatten]
    exact this ▸ complete_E hs b p _ hnb (by simpa [headLbp] using hsb) (.step hgt (.member hop hnm) hL)
  | .cast b ty, p, rest, _, _, hn, _, hL => by
    simp only [normal, Bool.and_eq_true, decide_eq_true_eq, beq_iff_eq] at hn
    obtain ⟨⟨⟨hty, hgt⟩, hnb⟩, hsb⟩ := hn
    subst hty
    have : flatten (.cast b .identifier) ++ rest = flatten b ++ .as :: (.identifier :: rest) := by
      simp [flatten]
    exact this ▸ complete_E hs b p _ hnb (by simpa [headLbp] using hsb) (.step hgt .cast hL)
  | .range a incl b, p, rest, _, _, hn, hsp, hL => by
    simp only [normal, Bool.and_eq_true, decide_eq_true_eq] at hn
    simp only [rightSpineOK, Bool.and_eq_true, decide_eq_true_eq] at hsp
    obtain ⟨⟨⟨hgt, hna⟩, hsa⟩, hnb⟩ := hn
    have hb := complete_E hs b 0 rest hnb hsp.2 (.stop (by omega))
    have : flatten (.range a incl b) ++ rest
        = flatten a ++ .doubleDot :: ((if incl then [TokKind.assign] else []) ++ (flatten b ++ rest)) := by
      cases incl <;> simp [flatten]
    have hrs : rangeSplit ((if incl then [TokKind.assign] else []) ++ (flatten b ++ rest))
        = (incl, flatten b ++ rest) := by
      cases incl
      · simpa using rangeSplit_start hnb rest
      · rfl
    exact this ▸ complete_E hs a p _ hna (by simpa [headLbp] using hsa) (.step hgt (.range hrs hb) hL)
theorem complete_run_A (hs : TableSane prec) : ∀ (xs : Args) (close : TokKind) (rest : List TokKind),
    normalArgs prec xs = true → (close = .rParen ∨ close = .rBracket) →
    RunA prec close (flattenArgs xs ++ close :: rest) xs rest
  | .nil, close, rest, _, _ => .close
  | .cons x .nil, close, rest, hn, hc => by
    simp only [normalArgs, Bool.and_eq_true] at hn
    have hc0 : (prec close).1 = 0 := by rcases hc with rfl | rfl; exact hs.1; exact hs.2.1
    have he := complete_E hs x 0 (close :: rest) hn.1
      (by simp [headLbp, hc0, rightSpineOK_zero]) (.stop (by simp [headLbp, hc0]))
    obtain ⟨k, tl, hk, hst⟩ := flatten_start prec x 0 hn.1
    simp only [flattenArgs]
    rw [hk] at he ⊢
    exact .last (beq_false_of_class hst (by rcases hc with rfl | rfl <;> rfl))
      (by rcases hc with rfl | rfl <;> decide) he
  | .cons x (.cons y ys), close, rest, hn, hc => by
    simp only [normalArgs, Bool.and_eq_true] at hn
    have he := complete_E hs x 0 (.comma :: (flattenArgs (.cons y ys) ++ close :: rest)) hn.1
      (by simp [headLbp, hs.2.2, rightSpineOK_zero]) (.stop (by simp [headLbp, hs.2.2]))
    have ha := complete_run_A hs (.cons y ys) close rest (by simp [normalArgs, hn.2]) hc
    obtain ⟨k, tl, hk, hst⟩ := flatten_start prec x 0 hn.1
    have : flattenArgs (.cons x (.cons y ys)) ++ close :: rest
        = flatten x ++ .comma :: (flattenArgs (.cons y ys) ++ close :: rest) := by
      simp [flattenArgs]
    rw [this]
    rw [hk] at he ⊢
    exact .more (beq_false_of_class hst (by rcases hc with rfl | rfl <;> rfl)) he ha
end

def AOk (prec : Prec) (close : TokKind) (ts : List TokKind) (r : Args × List TokKind) : Prop :=
  ∃ n, ∀ m, n ≤ m → parseArgs prec m close ts = .ok r

theorem complete_A (hs : TableSane prec) : ∀ (xs : Args) (close : TokKind) (rest : List TokKind),
    normalArgs prec xs = true → (close = .rParen ∨ close = .rBracket) →
    AOk prec close (flattenArgs xs ++ close :: rest) (xs, rest) :=
  fun xs close rest hn hc => ⟨_, (complete_run_A hs xs close rest hn hc).ok⟩

end HmsProofs.Lemmas.Pratt
