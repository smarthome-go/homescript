import HmsProofs.Lemmas.SimHCast
/-! Expressions, by induction on the specification's fuel. Each statement is a `SimM` at any level and under any invariant
that describes the compiler scopes (`Stable.Rel`), so that it is a link of a chain wherever an expression stands: inside
an expression, in a statement, in a loop. -/
namespace HmsProofs.Sim
open Hms.Core Hms.Core.Comp Hms.Core.VM

/-- At fuel `fuel`, every expression of the fragment is simulated in every sound activation. -/
def PE (G : GCtx) (fuel : Nat) : Prop :=
  ∀ (A : Act), A.OK G → ∀ {L : Lvl G A} (I : Stable L) {sc : CScopes} {vm : List (String × Nat)}, I.Rel sc vm →
    ∀ (e : Expr) (lm : LM), Frag.okE G.fr e = true → Frag.wsGE sc A.φ e = true → (∀ x ∈ Frag.namesGE e, x ∈ A.T) →
    ∀ (ip : Nat) (pre stk : List SVal) (mem : Mem) (st : St),
      SimM L I (cgE G.mod (ρS sc) A.φ e lm).1 ip pre stk mem st (evalExpr G.cfg fuel e) (QGE G pre)

/-- … every block expression, evaluated in a scope of its own. -/
def PGB (G : GCtx) (fuel : Nat) : Prop :=
  ∀ (A : Act), A.OK G → ∀ {L : Lvl G A} (I : Stable L) {sc : CScopes} {vm : List (String × Nat)}, I.Rel sc vm →
    ∀ (b : Block) (lm : LM), Frag.okEB G.fr b = true → Frag.resolved sc (Frag.varsGB b) = true →
    Frag.callsOK sc A.φ (Frag.callsGB b) = true → (∀ x ∈ Frag.varsGB b ++ Frag.callsGB b, x ∈ A.T) →
    ∀ (ip : Nat) (pre stk : List SVal) (mem : Mem) (st : St),
      SimM L I (cgB G.mod (ρS sc) A.φ b lm).1 ip pre stk mem st (inScope (evalBlock G.cfg fuel b)) (QGE G pre)

/-- … every argument list with at most one argument that is not an atom. -/
def PArgs (G : GCtx) (fuel : Nat) : Prop :=
  ∀ (A : Act), A.OK G → ∀ {L : Lvl G A} (I : Stable L) {sc : CScopes} {vm : List (String × Nat)}, I.Rel sc vm →
    ∀ (args : List (String × Expr)) (lm : LM), Frag.okEArgs G.fr args = true → Frag.oneNonAtom args = true →
    Frag.wsGArgs sc A.φ args = true → (∀ x ∈ Frag.namesGArgs args, x ∈ A.T) →
    ∀ (ip : Nat) (pre stk : List SVal) (mem : Mem) (st : St),
      SimM L I (cgArgs G.mod (ρS sc) A.φ args lm).1 ip pre stk mem st (evalList G.cfg fuel (args.map (·.2))) (QArgs G pre)

/-- … every element read `l[i]`, `o.f` and arithmetic over them (`Frag.okXE`), where the value may carry the origin of
the cell it was read from. -/
def PX (G : GCtx) (fuel : Nat) : Prop :=
  ∀ (A : Act), A.OK G → ∀ {L : Lvl G A} (I : Stable L) {sc : CScopes} {vm : List (String × Nat)}, I.Rel sc vm →
    ∀ (e : Expr) (lm : LM), Frag.okXE e = true → Frag.wsGE sc A.φ e = true → (∀ x ∈ Frag.namesGE e, x ∈ A.T) →
    ∀ (ip : Nat) (pre stk : List SVal) (mem : Mem) (st : St),
      SimM L I (cgE G.mod (ρS sc) A.φ e lm).1 ip pre stk mem st (evalExpr G.cfg fuel e) (QOE pre)

/-- … every value position of a statement (`Frag.okV`). -/
def PV (G : GCtx) (fuel : Nat) : Prop :=
  ∀ (A : Act), A.OK G → ∀ {L : Lvl G A} (I : Stable L) {sc : CScopes} {vm : List (String × Nat)}, I.Rel sc vm →
    ∀ (e : Expr) (lm : LM), Frag.okV G.fr e = true → Frag.wsGE sc A.φ e = true → (∀ x ∈ Frag.namesGE e, x ∈ A.T) →
    ∀ (ip : Nat) (pre stk : List SVal) (mem : Mem) (st : St),
      SimM L I (cgE G.mod (ρS sc) A.φ e lm).1 ip pre stk mem st (evalExpr G.cfg fuel e) (QOE pre)

theorem PE.simGE {G : GCtx} {n : Nat} (h : PE G n) (A : Act) (hA : A.OK G) (e : Expr) (st : St) (ip : Nat) (stk : List SVal) (mem : Mem) (lm : LM)
    (scopes : CScopes) (vm : List (String × Nat))
    (hok : Frag.okE G.fr e = true) (hws : Frag.wsGE scopes A.φ e = true) (hT : ∀ x ∈ Frag.namesGE e, x ∈ A.T)
    (hpl : Placed A.lab A.σ A.c ip (cgE G.mod (ρS scopes) A.φ e lm).1)
    (hrel : StRel G.mod A.T A.N A.σ G.lim A.mp scopes vm st.scopes mem) (hsp : SpecOK G A.mp st) :
    SimGE G A ip (nI (cgE G.mod (ρS scopes) A.φ e lm).1) stk mem st (evalExpr G.cfg n e st) :=
  (h A hA (.strel G A scopes vm) Stable.strel_rel e lm hok hws hT ip [] stk mem st).simGE hpl ⟨hrel, hsp⟩

theorem PArgs.simArgs {G : GCtx} {n : Nat} (h : PArgs G n) (A : Act) (hA : A.OK G) (args : List (String × Expr)) (st : St) (ip : Nat) (stk : List SVal) (mem : Mem) (lm : LM)
    (scopes : CScopes) (vm : List (String × Nat))
    (hok : Frag.okEArgs G.fr args = true) (hone : Frag.oneNonAtom args = true)
    (hws : Frag.wsGArgs scopes A.φ args = true) (hT : ∀ x ∈ Frag.namesGArgs args, x ∈ A.T)
    (hpl : Placed A.lab A.σ A.c ip (cgArgs G.mod (ρS scopes) A.φ args lm).1)
    (hrel : StRel G.mod A.T A.N A.σ G.lim A.mp scopes vm st.scopes mem) (hsp : SpecOK G A.mp st) :
    SimArgs G A ip (nI (cgArgs G.mod (ρS scopes) A.φ args lm).1) stk mem st (evalList G.cfg n (args.map (·.2)) st) :=
  (h A hA (.strel G A scopes vm) Stable.strel_rel args lm hok hone hws hT ip [] stk mem st).simArgs hpl ⟨hrel, hsp⟩

theorem PX.simOE {G : GCtx} {n : Nat} (h : PX G n) (A : Act) (hA : A.OK G) (e : Expr) (st : St) (ip : Nat) (stk : List SVal) (mem : Mem) (lm : LM)
    (scopes : CScopes) (vm : List (String × Nat))
    (hok : Frag.okXE e = true) (hws : Frag.wsGE scopes A.φ e = true) (hT : ∀ x ∈ Frag.namesGE e, x ∈ A.T)
    (hpl : Placed A.lab A.σ A.c ip (cgE G.mod (ρS scopes) A.φ e lm).1)
    (hrel : StRel G.mod A.T A.N A.σ G.lim A.mp scopes vm st.scopes mem) (hsp : SpecOK G A.mp st) :
    SimOE G A ip (nI (cgE G.mod (ρS scopes) A.φ e lm).1) stk mem st (evalExpr G.cfg n e st) :=
  (h A hA (.strel G A scopes vm) Stable.strel_rel e lm hok hws hT ip [] stk mem st).simOE hpl ⟨hrel, hsp⟩

section
variable {G : GCtx} {A : Act} {L : Lvl G A} {I : Stable L} {sc : CScopes} {ip : Nat} {pre stk : List SVal} {mem : Mem} {st : St}

theorem SimM.unop (hA : A.OK G) (sp : Span) (op : PrefixOp) (a : Val) (oa : Option Org) :
    SimM L I [(preI op, sp)] ip (⟨a, oa⟩ :: pre) stk mem st (fun st => (preOp op a, st))
      (fun v _ _ ys => ys = ⟨v, none⟩ :: pre) := by
  refine .prim rfl fun hpl => ?_
  dsimp only
  cases hpo : preOp op a with
  | ok v =>
    exact ⟨_, rfl, (hA.pre (hpl.instr (preI_notLabel op)).1 hpo).cast (by rw [nI_instr _ _ _ (preI_notLabel op)]; rfl)⟩
  | error c =>
    obtain ⟨w, rfl⟩ := preOp_error hpo
    trivial

/-- The arithmetic instruction(s) of `op` (`!=` is `Eq; Not`) do what `binOp` does, which only reads the heap. -/
theorem SimM.arith (hA : A.OK G) (sp : Span) (op : InfixOp) (a b : Val) (oa ob : Option Org) (hlog : Frag.isLogical op = false) :
    SimM L I ((arithI op).map (·, sp)) ip (⟨b, ob⟩ :: ⟨a, oa⟩ :: pre) stk mem st (binOp op a b sp)
      (fun v _ _ ys => ys = ⟨v, none⟩ :: pre) := by
  refine .prim ((binOp_heapOnly op a b sp).state st) fun hpl => ?_
  have ha := fun it => exec_arith G.code G.lim (baseOf (withIt G.s it) A.fn A.rest A.mp st.world) ⟨A.fn, 0⟩ A.rest A.c
    A.σ A.lab rfl hA.code op sp a b oa ob st ip (pre ++ stk) mem hlog hpl rfl
  generalize binOp op a b sp st = rb at ha ⊢
  obtain ⟨rb, st'⟩ := rb
  cases rb with
  | ok v => exact ⟨_, rfl, Runs.of_runsTo ha⟩
  | error c =>
    cases c
    case fatal kd m fsp => exact RunsF.of_runsFatal ha
    case unsupported | timeout => exact True.intro
    all_goals exact (ha ⟨[], 0⟩).elim

theorem evalExpr_pre_bind (cfg : Cfg) (fuel : Nat) (sp : Span) (ty : Ty) (op : PrefixOp) (e : Expr) :
    evalExpr cfg (fuel + 1) (.pre sp ty op e) = evalExpr cfg fuel e >>= fun v st => (preOp op v, st) := by
  funext st
  rw [evalExpr_pre, M_bind]
  rcases evalExpr cfg fuel e st with ⟨r, st1⟩
  cases r <;> rfl

theorem pre_step (hA : A.OK G) (n : Nat) (sp : Span) (ty : Ty) (op : PrefixOp) (e : Expr) (lm : LM)
    (he : ∀ ip pre mem st, SimM L I (cgE G.mod (ρS sc) A.φ e lm).1 ip pre stk mem st (evalExpr G.cfg n e) (QOE pre)) :
    SimM L I (cgE G.mod (ρS sc) A.φ (.pre sp ty op e) lm).1 ip pre stk mem st
      (evalExpr G.cfg (n + 1) (.pre sp ty op e)) (QGE G pre) := by
  rw [cgE, evalExpr_pre_bind]
  exact (he _ _ _ _).seq fun a _ _ _ ⟨oa, e⟩ => e ▸ (SimM.unop hA sp op a oa).mono fun _ _ _ _ _ e => ⟨_, OrgOK.none _, e⟩

theorem cgE_infix (mod : String) (ρ φ : String → Option String) (sp ty op l r) (lm : LM)
    (h : Frag.isLogical op = false) :
    cgE mod ρ φ (.infix sp ty op l r) lm =
      ((cgE mod ρ φ l lm).1 ++ (cgE mod ρ φ r (cgE mod ρ φ l lm).2).1 ++ (arithI op).map (·, sp),
       (cgE mod ρ φ r (cgE mod ρ φ l lm).2).2) := by
  cases op <;> first | rfl | cases h

theorem infix_step (hA : A.OK G) (n : Nat) (sp : Span) (ty : Ty) (op : InfixOp) (l r : Expr) (lm : LM)
    (hlog : Frag.isLogical op = false)
    (hl : ∀ ip pre mem st, SimM L I (cgE G.mod (ρS sc) A.φ l lm).1 ip pre stk mem st (evalExpr G.cfg n l) (QOE pre))
    (hr : ∀ ip pre mem st, SimM L I (cgE G.mod (ρS sc) A.φ r (cgE G.mod (ρS sc) A.φ l lm).2).1 ip pre stk mem st
      (evalExpr G.cfg n r) (QOE pre)) :
    SimM L I (cgE G.mod (ρS sc) A.φ (.infix sp ty op l r) lm).1 ip pre stk mem st
      (evalExpr G.cfg (n + 1) (.infix sp ty op l r)) (QGE G pre) := by
  rw [cgE_infix _ _ _ _ _ _ _ _ _ hlog, evalExpr_infix_bind _ _ _ _ _ _ _ (Frag.not_logical hlog)]
  simp only [List.append_assoc]
  exact (hl _ _ _ _).seq fun a _ _ _ ⟨oa, e⟩ => e ▸ (hr _ _ _ _).seq fun b _ _ _ ⟨ob, e⟩ => e ▸
    (SimM.arith hA sp op a b oa ob hlog).mono fun _ _ _ _ _ e => ⟨_, OrgOK.none _, e⟩
theorem ifE_step (hA : A.OK G) (n : Nat) (sp : Span) (ty : Ty) (cnd : Expr) (t eb : Block) (lm : LM)
    (hc : ∀ lm' ip pre mem st, SimM L I (cgE G.mod (ρS sc) A.φ cnd lm').1 ip pre stk mem st (evalExpr G.cfg n cnd) (QOE pre))
    (ht : ∀ lm' ip pre mem st, SimM L I (cgB G.mod (ρS sc) A.φ t lm').1 ip pre stk mem st (inScope (evalBlock G.cfg n t))
      (QGE G pre))
    (he : ∀ lm' ip pre mem st, SimM L I (cgB G.mod (ρS sc) A.φ eb lm').1 ip pre stk mem st (inScope (evalBlock G.cfg n eb))
      (QGE G pre)) :
    SimM L I (cgE G.mod (ρS sc) A.φ (.ifE sp ty cnd t (some eb)) lm).1 ip pre stk mem st
      (evalExpr G.cfg (n + 1) (.ifE sp ty cnd t (some eb))) (QGE G pre) := by
  simp only [cgE]
  rw [evalExpr_ifE_bind]
  intro hpl
  unplace at hpl
  obtain ⟨hpC, ijif, hpT, ijmp, eels, hpE, eaft⟩ := hpl
  exact .ite hA ijif (hc _ _ _ _ _ hpC) (fun _ _ => ((ht _ _ _ _ _ hpT).to fun _ _ _ => hA.jump ijmp).exit eaft)
    (fun _ _ => by rw [eels]; exact he _ _ _ _ _ hpE)

/-- A call of a top-level function: the identifier denotes it (no variable or global of that name), the arguments,
`Call_Imm`, the callee's body. -/
theorem call_step (hA : A.OK G) (hG : G.OK') {vm : List (String × Nat)} (hI : I.Rel sc vm) (a : Nat) (sp : Span) (ty : Ty)
    (isp : Span) (ity : Ty) (name : String) (g f si : Bool) (args : List (String × Expr)) (lm : LM)
    (hρ : ρS sc name = none) (hφ : (A.φ name).isSome = true) (hnT : name ∈ A.T)
    (hargs : ∀ ip pre mem st, SimM L I (cgArgs G.mod (ρS sc) A.φ args lm).1 ip pre stk mem st
      (evalList G.cfg (a + 1) (args.map (·.2))) (QArgs G pre))
    (hPCall : PCall G a) :
    SimM L I (cgE G.mod (ρS sc) A.φ (.call sp ty (.ident isp ity name g f si) args false) lm).1 ip pre stk mem st
      (evalExpr G.cfg (a + 3) (.call sp ty (.ident isp ity name g f si) args false)) (QGE G pre) := by
  cases hφ' : A.φ name with
  | none => simp [hφ'] at hφ
  | some fm =>
  obtain ⟨rfl, hK, fd, hfind, hresolve⟩ := hA.phi name fm hφ'
  obtain ⟨If, stmts, e', hFn, hgh⟩ := hG.prog name fd hK hfind
  simp only [cgE, hφ', Option.getD_some]
  rw [evalExpr]
  simp only [Bool.false_eq_true, if_false]
  rw [evalCall]
  refine .withInv fun hi => ?_
  obtain ⟨hrel, hsp⟩ := hI hi
  refine .bindOk (evalExpr_fnIdent G.cfg a isp ity name g f si st G.mod fd
    (hrel.scopes.read_none A.T A.σ G.lim A.mp hnT hρ) (by rw [hsp.globals]; rfl)
    (by rw [hsp.module]; exact hresolve)) ?_
  refine (hargs _ _ _ _).seq fun vals st1 mem1 _ ⟨svals, hsv, _, e⟩ => e ▸ ?_
  rw [applyFn]
  simp only [hfind]
  exact .call hA fun hi1 => hsv ▸ hPCall name fd If stmts e' hK hfind hFn hgh sp svals st1 (⟨A.fn, _⟩ :: A.rest) A.mp
    (pre ++ stk) mem1 (hI hi1).2 (by have := hA.lo; omega)

/-- `match` over literals: the control value, the comparison cascade to the arm that hits or past all tests to the
default, the chosen body, the jump behind the `match`. -/
theorem matchE_step (hA : A.OK G) (n : Nat) (sp : Span) (ty : Ty) (c : Expr) (arms : List (List Expr × Expr)) (d : Expr)
    (lm : LM) (hlit : ∀ a ∈ arms, ∀ l ∈ a.1, Frag.litE l = true)
    (hc : ∀ lm' ip pre mem st, SimM L I (cgE G.mod (ρS sc) A.φ c lm').1 ip pre stk mem st (evalExpr G.cfg n c) (QOE pre))
    (hbody : ∀ (f' : Nat) (e : Expr), f' ≤ n → (e = d ∨ ∃ a ∈ arms, e = a.2) → ∀ lm' ip pre mem st,
      SimM L I (cgE G.mod (ρS sc) A.φ e lm').1 ip pre stk mem st (evalExpr G.cfg f' e) (QGE G pre)) :
    SimM L I (cgE G.mod (ρS sc) A.φ (.matchE sp ty c arms (some d)) lm).1 ip pre stk mem st
      (evalExpr G.cfg (n + 1) (.matchE sp ty c arms (some d))) (QGE G pre) := by
  simp only [cgE]
  rw [evalExpr]
  generalize hCC : cgE G.mod (ρS sc) A.φ c lm = CC
  generalize freshLabel G.mod CC.2 "match_after" = aft
  generalize hTs : armTests G.mod sp arms aft.2 = ts
  generalize freshLabel G.mod ts.2.2 "match_default" = dfl
  generalize hBs : cgArms G.mod (ρS sc) A.φ sp aft.1 arms ts.2.1 dfl.2 = bs
  generalize hCD : cgE G.mod (ρS sc) A.φ d bs.2 = CD
  intro hpl
  unplace at hpl
  obtain ⟨hplC, hplT, ijd, hplB, edfl, idrop, hplD, ija, eaft⟩ := hpl
  have hlen : arms.length = ts.2.1.length := by rw [← hTs, armTests_length]
  refine (hc lm _ _ _ _ (hCC ▸ hplC)).bind fun cv st1 mem1 _ ⟨ov, e⟩ => e ▸ ?_
  rw [hCC]
  rcases armTests_choice G A hA sp ⟨cv, ov⟩ (pre ++ stk) mem1 st1 arms d aft.2 (ip + nI CC.1) n hlit hTs hplT with
    h | ⟨msg, h⟩ | ⟨i, a, nm, f', hi, hnm, hf, h, hrunT⟩ | ⟨f', hf, h, hrunT⟩
  · exact .outside h (.inr rfl)
  · exact .outside h (.inl ⟨msg, rfl⟩)
  · -- arm `i` is taken
    obtain ⟨lmi, idr, hplA, ijmp⟩ := cgArms_at A G.mod (ρS sc) A.φ sp aft.1 arms ts.2.1 dfl.2 _ hlen (hBs ▸ hplB) i a nm hi hnm
    exact .congr h (.from (hrunT.trans (hA.drop idr))
      (((hbody f' a.2 (by omega) (.inr ⟨a, List.mem_of_getElem? hi, rfl⟩) lmi _ _ _ _ hplA).to
        fun _ _ _ => hA.jump ijmp).exit eaft))
  · -- the default
    exact .congr h (.from ((((hrunT.trans (hA.jump ijd)).trans (hA.drop (by rw [edfl]; exact idrop))).cast (by rw [edfl])))
      (((hbody f' d (by omega) (.inl rfl) bs.2 _ _ _ _ (hCD ▸ hplD)).to fun _ _ _ => hA.jump (hCD ▸ ija)).exit eaft))
end

theorem inScope_frame (st st1 : St)
    (h : st1 = { ({ st with scopes := [] :: st.scopes } : St) with out := st1.out, heap := st1.heap }) :
    ({ st1 with scopes := st1.scopes.tail } : St) = { st with out := st1.out, heap := st1.heap } := by
  obtain ⟨h1, g1, s1, c1, o1, t1, m1, d1⟩ := st1
  obtain ⟨h0, g0, s0, c0, o0, t0, m0, d0⟩ := st
  simp only [St.mk.injEq] at h ⊢
  obtain ⟨_, rfl, rfl, rfl, _, rfl, rfl, rfl⟩ := h
  simp

/-- The VM has no instruction for either end of a scope: what is simulated from the state with the scope pushed is
simulated, as `inScope`, from the state itself. -/
theorem SimGE.inScope {G : GCtx} {A : Act} {ip n : Nat} {stk : List SVal} {mem : Mem} {st : St} {m : M Val}
    (h : SimGE G A ip n stk mem { st with scopes := [] :: st.scopes } (m { st with scopes := [] :: st.scopes })) :
    SimGE G A ip n stk mem st (inScope m st) := by
  rw [inScope_run]
  generalize m { st with scopes := [] :: st.scopes } = r1 at h ⊢
  obtain ⟨r1, st1⟩ := r1
  cases r1 with
  | ok v =>
    obtain ⟨hfr, mem', ov, hov, hrun, hml⟩ := h
    exact ⟨inScope_frame st st1 hfr, mem', ov, hov, hrun, hml⟩
  | error cerr =>
    cases cerr
    case throw =>
      obtain ⟨hfr, mem', hT, hml⟩ := h
      exact ⟨inScope_frame st st1 hfr, mem', hT, hml⟩
    all_goals exact h

/-- The block is not a part of the caller's chain: `inScope` evaluates in a state with a scope pushed, which the level's
frame relation does not allow and of which the caller's invariant says nothing. So the body is simulated at the
expression level, under `Stable.strel` of the pushed scopes, from its own first configuration (`SimGE`), and comes back
through `SimGE.inScope` and `of_simGE`. -/
theorem pgb_step (G : GCtx) (n : Nat) (hPE : ∀ m, m < n → PE G m) : PGB G n := by
  intro A hA L I scopes vm hI b lm hb hres hcalls hT ip pre stk mem st
  refine .of_simGE fun hpl hi => SimGE.inScope ?_
  obtain ⟨hrel, hsp⟩ := hI hi
  obtain ⟨bsp, bty, stmts, oe⟩ := b
  match stmts, oe, hb with
  | [], some te, hb =>
    simp only [Frag.okEB] at hb
    simp only [Frag.varsGB, Frag.callsGB] at hres hcalls hT
    rw [cgB] at hpl ⊢
    match n, hPE with
    | 0, _ => rw [evalBlock]; exact True.intro
    | 1, _ => rw [evalBlock_one]; exact True.intro
    | n' + 2, hPE =>
      rw [evalBlock_pure]
      have hws : Frag.wsGE ([] :: scopes) A.φ te = true := by
        simp only [Frag.wsGE, Bool.and_eq_true, resolved_push, callsOK_push]
        exact ⟨hres, hcalls⟩
      have h1 := (hPE (n' + 1) (by omega) A hA (.strel G A ([] :: scopes) vm) Stable.strel_rel te lm hb hws hT ip []
        (pre ++ stk) mem { st with scopes := [] :: st.scopes }).simGE (by rw [ρS_push]; exact hpl)
        ⟨hrel.push, hsp.heap, hsp.module, hsp.globals, hsp.depth⟩
      rw [ρS_push] at h1
      exact h1

section Cases
variable {G : GCtx} {A : Act} (hA : A.OK G) {n : Nat} {st : St} {ip : Nat} {stk : List SVal} {mem : Mem} {lm : LM}
  {scopes : CScopes} {vm : List (String × Nat)}
  (hrel : StRel G.mod A.T A.N A.σ G.lim A.mp scopes vm st.scopes mem)
include hA hrel

/-- List and object literals of atoms are stated as `SimGE`, not as chains: the VM allocates first and fills the cell
element by element, the specification allocates once at the end, so between the two ends the VM's heap runs ahead of
the specification's and no intermediate configuration is `Reached`; and atoms cannot fail, so no error is handed to a
level. -/
theorem pe_list (sp : Span) (ty : Ty) (xs : List Expr) (hok : Frag.okE G.fr (.list sp ty xs) = true)
    (hws : Frag.wsGE scopes A.φ (.list sp ty xs) = true) (hT : ∀ x ∈ Frag.namesGE (.list sp ty xs), x ∈ A.T)
    (hpl : Placed A.lab A.σ A.c ip (cgE G.mod (ρS scopes) A.φ (.list sp ty xs) lm).1) :
    SimGE G A ip (nI (cgE G.mod (ρS scopes) A.φ (.list sp ty xs) lm).1) stk mem st
      (evalExpr G.cfg (n + 1) (.list sp ty xs) st) := by
  simp only [Frag.okE] at hok
  simp only [Frag.wsGE, Frag.varsGE, Bool.and_eq_true] at hws
  simp only [Frag.namesGE, Frag.varsGE, Frag.callsGE, List.append_nil] at hT
  simp only [cgE] at hpl ⊢
  unplace at hpl
  obtain ⟨ipush, hplE⟩ := hpl
  obtain ⟨hlm, vals, hev, hrun⟩ := listElems_run G A hA st mem scopes vm sp hrel xs (ip + 1) stk lm hok hws.1 hT hplE
  rw [evalExpr_list]
  rcases hev st rfl n with h | h
  · rw [h]; exact True.intro
  · rw [h]
    have hpush := hA.step mem (fun hi => hi.push _ (fun fs h => by cases h)) fun _ _ =>
      mkS_cloningPush_emptyList (stk := stk) (out := st.world) hA.code sp ipush
    have hels := hrun st.heap st.out []
    rw [List.nil_append] at hels
    exact ⟨rfl, mem, none, OrgOK.none _, (hpush.trans hels).cast (by omega), MemLe.refl _ _ _⟩

theorem pe_obj (sp : Span) (ty : Ty) (fs : List (String × Expr)) (hok : Frag.okE G.fr (.obj sp ty fs) = true)
    (hws : Frag.wsGE scopes A.φ (.obj sp ty fs) = true) (hT : ∀ x ∈ Frag.namesGE (.obj sp ty fs), x ∈ A.T)
    (hpl : Placed A.lab A.σ A.c ip (cgE G.mod (ρS scopes) A.φ (.obj sp ty fs) lm).1) :
    SimGE G A ip (nI (cgE G.mod (ρS scopes) A.φ (.obj sp ty fs) lm).1) stk mem st
      (evalExpr G.cfg (n + 1) (.obj sp ty fs) st) := by
  simp only [Frag.okE, Bool.and_eq_true, decide_eq_true_eq] at hok
  obtain ⟨⟨hat, hnd⟩, hnames⟩ := hok
  simp only [Frag.wsGE, Frag.varsGE, Bool.and_eq_true] at hws
  simp only [Frag.namesGE, Frag.varsGE, Frag.callsGE, List.append_nil] at hT
  simp only [cgE] at hpl ⊢
  unplace at hpl
  obtain ⟨ipush, hplE⟩ := hpl
  obtain ⟨hlm, vals, hkeys, hev, hrun⟩ := objFields_run G A hA st mem scopes vm sp hrel fs (ip + 1) stk lm hat hws.1 hT hplE
  rw [evalExpr_obj]
  rcases hev st rfl n with h | h
  · rw [h]; exact True.intro
  · rw [h]
    have hmm : (fs.map fun f => (f.1, PVal.null)) = (fs.map (·.1)).map fun k => (k, PVal.null) := by
      rw [List.map_map]; rfl
    have hmv : ((fs.map (·.1)).map fun k => (k, Val.null)) = fs.map fun f => (f.1, Val.null) := by
      rw [List.map_map]; rfl
    have hpush := hA.step mem (fun hi => hi.push _ (fun fs' h => by
        cases h
        rw [hmv]
        simp only [List.all_eq_true, Bool.not_eq_true', List.contains_eq_mem, decide_eq_false_iff_not] at hnames
        exact fun k hk => lookup_nulls fs k (fun f hf e => hnames f hf (e ▸ hk)))) fun _ _ => mkS_cloningPush_obj (stk := stk) (out := st.world) hA.code sp (fs.map (·.1)) (hmm ▸ ipush)
    rw [hmv] at hpush
    have hels := hrun st.heap st.out [] hnd (fun _ _ h => by simp at h)
    rw [List.nil_append, List.nil_append] at hels
    exact ⟨rfl, mem, none, OrgOK.none _, (hpush.trans hels).cast (by omega), MemLe.refl _ _ _⟩

end Cases

theorem names_split {T v1 v2 c1 c2 : List String} (h : ∀ x ∈ (v1 ++ v2) ++ (c1 ++ c2), x ∈ T) :
    (∀ x ∈ v1 ++ c1, x ∈ T) ∧ (∀ x ∈ v2 ++ c2, x ∈ T) := by
  simp only [List.mem_append] at h ⊢
  exact ⟨fun x hx => h x (hx.imp Or.inl Or.inl), fun x hx => h x (hx.imp Or.inr Or.inr)⟩

theorem namesGArms_mem : ∀ (arms : List (List Expr × Expr)) (a : List Expr × Expr), a ∈ arms →
    ∀ x ∈ Frag.namesGE a.2, x ∈ Frag.varsGArms arms ∨ x ∈ Frag.callsGArms arms := by
  intro arms
  induction arms with
  | nil => intro a ha; simp at ha
  | cons y ys ih =>
    intro a ha x hx
    simp only [Frag.varsGArms, Frag.callsGArms, List.mem_append]
    rcases List.mem_cons.mp ha with rfl | ha
    · simp only [Frag.namesGE, List.mem_append] at hx
      rcases hx with hx | hx
      · exact Or.inl (Or.inl hx)
      · exact Or.inr (Or.inl hx)
    · rcases ih a ha x hx with h | h
      · exact Or.inl (Or.inr h)
      · exact Or.inr (Or.inr h)

/-- A pure expression is `exec_pure` (`simGE_pure`); otherwise by the head construct, each case its `*_step` lemma fed with
the induction hypothesis for the direct parts (`sub`). The clause of `Frag.okE` that allows no call in the operand after a
cell read (`!isRead l || (callsGE r).isEmpty`, finding V38) is dropped unused in the cases `infix` and `index` (likewise
in `px_all` for `Frag.okXE`): it is no hypothesis of the simulation but keeps the fragment where the VM model, whose stack
entry is a copy of the value read, is the Go VM, whose stack entry is a pointer to the cell. -/
theorem pe_step (G : GCtx) (hG : G.OK') (n : Nat) (hPE : ∀ m, m ≤ n → PE G m)
    (hPArgs : ∀ m, m ≤ n → PArgs G m) (hPCall : ∀ m, m ≤ n → PCall G m) : PE G (n + 1) := by
  intro A hA L I scopes vm hI e lm hok hws hT ip pre stk mem st
  by_cases hp : Frag.pureE e = true
  · rw [cgE_of_pure _ _ _ _ _ hp]
    have hv := varsGE_pure e hp
    simp only [Frag.wsGE, Bool.and_eq_true, hv] at hws
    exact .of_simGE fun hpl hi => simGE_pure G A hA (n + 1) e st ip (pre ++ stk) mem lm scopes vm hp hws.1
      (fun x hx => hT x (by simp [Frag.namesGE, hv, hx])) hpl (hI hi).1 (hI hi).2
  have ihn := hPE n (Nat.le_refl n)
  have sub := fun {e' : Expr} (lm' : LM) hok' hws' hT' (ip' : Nat) (pre' : List SVal) (mem' : Mem) (st' : St) =>
    (ihn A hA I hI e' lm' hok' hws' hT' ip' pre' stk mem' st').mono fun _ _ _ _ _ => QGE.oe
  cases e
  case int | bool | str | null | none => exact absurd rfl hp
  case ident sp ty name g f si => exact absurd (by simpa [Frag.okE, Frag.pureE] using hok) hp
  case grouped sp e =>
    rw [evalExpr, cgE]
    exact ihn A hA I hI e lm hok hws hT ip pre stk mem st
  case pre sp ty op e => exact pre_step hA n sp ty op e lm (sub lm hok hws hT)
  case cast sp ty e =>
    simp only [Frag.okE, Bool.and_eq_true] at hok
    exact cast_step hA n sp ty e hok.1.2 lm (sub lm hok.2 hws hT)
  case «infix» sp ty op l r =>
    have hnp : Frag.pureE (.infix sp ty op l r) = false := by simpa using hp
    simp only [Frag.okE, hnp, Bool.false_or, Bool.and_eq_true, Bool.not_eq_eq_eq_not, Bool.not_true] at hok
    obtain ⟨⟨⟨hlog, hl⟩, hr⟩, _⟩ := hok
    obtain ⟨hwl, hwr⟩ := ws_append.mp hws
    obtain ⟨hTl, hTr⟩ := names_split hT
    exact infix_step hA n sp ty op l r lm hlog (sub lm hl hwl hTl) (sub _ hr hwr hTr)
  case ifE sp ty cnd t el =>
    cases el with
    | none => exact absurd hok Bool.false_ne_true
    | some eb =>
      simp only [Frag.okE, Bool.and_eq_true] at hok
      obtain ⟨⟨hcnd, ht⟩, he⟩ := hok
      obtain ⟨hwc, hwte⟩ := ws_append.mp hws
      obtain ⟨hwt, hwe⟩ := ws_append.mp hwte
      obtain ⟨hTc, hTte⟩ := names_split hT
      obtain ⟨hTt, hTe⟩ := names_split hTte
      simp only [Bool.and_eq_true] at hwt hwe
      have hPGB := pgb_step G n (fun m hm => hPE m (by omega))
      exact ifE_step hA n sp ty cnd t eb lm (fun lm' => sub lm' hcnd hwc hTc)
        (fun lm' ip' pre' mem' st' => hPGB A hA I hI t lm' ht hwt.1 hwt.2 hTt ip' pre' stk mem' st')
        (fun lm' ip' pre' mem' st' => hPGB A hA I hI eb lm' he hwe.1 hwe.2 hTe ip' pre' stk mem' st')
  case call sp ty base args isSpawn =>
    rcases okE_call_inv G.fr sp ty base args isSpawn hok with
      ⟨isp, ity, name, g, f, si, rfl, rfl, hnt, hnp, hoa, hone⟩ | ⟨msp, mty, b, nm, rfl, rfl, rfl, hfr, hnm, hb⟩
    · simp only [Frag.wsGE, Frag.varsGE, Frag.callsGE, Frag.callsOK, List.all_cons, Bool.and_eq_true] at hws
      obtain ⟨hres, ⟨hρn, hφn⟩, hcargs⟩ := hws
      simp only [Frag.namesGE, Frag.varsGE, Frag.callsGE, List.mem_append, List.mem_cons] at hT
      have hwa : Frag.wsGArgs scopes A.φ args = true := by
        simp only [Frag.wsGArgs, Bool.and_eq_true]
        exact ⟨hres, by simpa [Frag.callsOK] using hcargs⟩
      have hTa : ∀ x ∈ Frag.namesGArgs args, x ∈ A.T := by
        intro x hx; simp only [Frag.namesGArgs, List.mem_append] at hx
        exact hT x (hx.imp id fun h => Or.inr h)
      match n, hPArgs, hPCall with
      | 0, _, _ => exact .timeout (st' := st) (by rw [evalExpr_call, evalCall]; rfl)
      | 1, _, _ => exact .timeout (st' := st) (by rw [evalExpr_call, evalCall_bind, M_bind, evalExpr]; rfl)
      | a + 2, hPArgs, hPCall =>
        exact call_step hA hG hI a sp ty isp ity name g f si args lm (by simpa using hρn) hφn (hT name (Or.inr (Or.inl rfl)))
          (fun ip' pre' mem' st' => hPArgs (a + 1) (by omega) A hA I hI args lm hoa hone hwa hTa ip' pre' stk mem' st')
          (hPCall a (by omega))
    · -- `l.len()`, `o.is_some()`, `o.is_none()`
      simp only [Frag.wsGE, Frag.varsGE, Frag.callsGE, Frag.varsGArgs, Frag.callsGArgs, List.append_nil] at hws
      have hTb : ∀ x ∈ Frag.namesGE b, x ∈ A.T := by
        intro x hx; exact hT x (by simpa [Frag.namesGE, Frag.varsGE, Frag.callsGE, Frag.varsGArgs, Frag.callsGArgs] using hx)
      match n, hPE with
      | 0, _ => exact .timeout (st' := st) (by rw [evalExpr_call, evalCall]; rfl)
      | 1, _ => exact .timeout (st' := st) (by rw [evalExpr_call, evalCall_bind, M_bind, evalExpr]; rfl)
      | g + 2, hPE =>
        exact (meth0_step hA hfr (fun hi => (hI hi).2) g nm hnm sp ty msp mty b lm fun ip' pre' mem' st' =>
          (hPE g (by omega) A hA I hI b lm hb hws hTb ip' pre' stk mem' st').mono fun _ _ _ _ _ => QGE.oe).mono
            fun _ _ _ _ _ => QOE.ge hfr
  case index sp ty b i =>
    simp only [Frag.okE, Bool.and_eq_true] at hok
    obtain ⟨⟨⟨hfr, hb⟩, hi⟩, _⟩ := hok
    obtain ⟨hwb, hwi⟩ := ws_append.mp hws
    obtain ⟨hTb, hTi⟩ := names_split hT
    exact (index_step hA n sp ty b i lm (sub lm hb hwb hTb) (sub _ hi hwi hTi)).mono fun _ _ _ _ _ => QOE.ge hfr
  case member sp ty b name mop =>
    cases mop
    case dot =>
      simp only [Frag.okE, Bool.and_eq_true] at hok
      exact (member_step hA n sp ty b name lm (sub lm hok.2 hws hT)).mono fun _ _ _ _ _ => QOE.ge hok.1
    all_goals exact absurd hok Bool.false_ne_true
  case list sp ty xs => exact .of_simGE fun hpl hi => pe_list hA (hI hi).1 sp ty xs hok hws hT hpl
  case obj sp ty fs => exact .of_simGE fun hpl hi => pe_obj hA (hI hi).1 sp ty fs hok hws hT hpl
  case matchE sp ty c arms dflt =>
    cases dflt with
    | none => exact absurd hok Bool.false_ne_true
    | some d =>
      simp only [Frag.okE, Bool.and_eq_true] at hok
      obtain ⟨⟨hc, harms⟩, hd⟩ := hok
      obtain ⟨hwc, hwad⟩ := ws_append.mp hws
      obtain ⟨hwa, hwd⟩ := ws_append.mp hwad
      obtain ⟨hTc, hTad⟩ := names_split hT
      obtain ⟨hTarms, hTd⟩ := names_split hTad
      simp only [Bool.and_eq_true] at hwa
      refine matchE_step hA n sp ty c arms d lm (fun a ha => (okEArms_mem G.fr arms harms a ha).1)
        (fun lm' => sub lm' hc hwc hTc) fun f' e hf he lm' ip' pre' mem' st' => ?_
      rcases he with rfl | ⟨a, ha, rfl⟩
      · exact hPE f' hf A hA I hI _ lm' hd hwd hTd ip' pre' stk mem' st'
      · exact hPE f' hf A hA I hI _ lm' (okEArms_mem G.fr arms harms a ha).2 (wsGArms_mem scopes A.φ arms hwa.1 hwa.2 a ha)
          (fun x hx => hTarms x (List.mem_append.mpr (namesGArms_mem arms a ha x hx))) ip' pre' stk mem' st'
  all_goals exact absurd hok Bool.false_ne_true

theorem pe_zero (G : GCtx) : PE G 0 := by
  intro A _ L I sc vm _ e lm _ _ _ ip pre stk mem st
  exact .timeout (st' := st) (by rw [evalExpr]; rfl)

/-- Value positions, by a second induction on the fuel: the parts of an `okXE` expression are `okXE`, not `okE fr` (cell
reads may stand there even at `fr = false`), so its operator, index and member cases are redone on `PX`; the rest is `PE`. -/
theorem px_all (G : GCtx) : ∀ (n : Nat), (∀ m, m ≤ n → PE G m) → PX G n := by
  intro n
  induction n with
  | zero =>
    intro _ A _ L I sc vm _ e lm _ _ _ ip pre stk mem st
    exact .timeout (st' := st) (by rw [evalExpr]; rfl)
  | succ n ih =>
    intro hPE A hA L I scopes vm hI e lm hok hws hT ip pre stk mem st
    have ihn := ih (fun m hm => hPE m (by omega))
    have viaPE := fun (hok' : Frag.okE G.fr e = true) =>
      (hPE (n + 1) (Nat.le_refl _) A hA I hI e lm hok' hws hT ip pre stk mem st).mono fun _ _ _ _ _ => QGE.oe
    have sub := fun {e' : Expr} (lm' : LM) hok' hws' hT' (ip' : Nat) (pre' : List SVal) (mem' : Mem) (st' : St) =>
      ihn A hA I hI e' lm' hok' hws' hT' ip' pre' stk mem' st'
    cases e
    case index sp ty b i =>
      simp only [Frag.okXE, Bool.and_eq_true] at hok
      obtain ⟨hwb, hwi⟩ := ws_append.mp hws
      obtain ⟨hTb, hTi⟩ := names_split hT
      exact index_step hA n sp ty b i lm (sub lm hok.1.1 hwb hTb) (sub _ hok.1.2 hwi hTi)
    case member sp ty b name mop =>
      cases mop
      case dot =>
        simp only [Frag.okXE] at hok
        exact member_step hA n sp ty b name lm (sub lm hok hws hT)
      all_goals exact absurd hok Bool.false_ne_true
    case grouped sp e =>
      simp only [Frag.okXE] at hok
      rw [evalExpr, cgE]
      exact ihn A hA I hI e lm hok hws hT ip pre stk mem st
    case pre sp ty op e =>
      simp only [Frag.okXE] at hok
      exact (pre_step hA n sp ty op e lm (sub lm hok hws hT)).mono fun _ _ _ _ _ => QGE.oe
    case «infix» sp ty op l r =>
      by_cases hp : Frag.pureE (.infix sp ty op l r) = true
      · exact viaPE (okE_okGE _ _ (by simp only [Frag.okGE, hp, Bool.true_or]))
      have hnp : Frag.pureE (.infix sp ty op l r) = false := by simpa using hp
      simp only [Frag.okXE, hnp, Bool.false_or, Bool.and_eq_true, Bool.not_eq_eq_eq_not, Bool.not_true] at hok
      obtain ⟨⟨⟨hlog, hl⟩, hr⟩, _⟩ := hok
      obtain ⟨hwl, hwr⟩ := ws_append.mp hws
      obtain ⟨hTl, hTr⟩ := names_split hT
      exact (infix_step hA n sp ty op l r lm hlog (sub lm hl hwl hTl) (sub _ hr hwr hTr)).mono fun _ _ _ _ _ => QGE.oe
    all_goals exact viaPE (okE_okGE _ _ (by simpa [Frag.okXE] using hok))

theorem pv_all (G : GCtx) (n : Nat) (hPE : ∀ m, m ≤ n → PE G m) : PV G n := by
  intro A hA L I sc vm hI e lm hok hws hT ip pre stk mem st
  simp only [Frag.okV, Bool.or_eq_true] at hok
  rcases hok with hok | hok
  · exact px_all G n hPE A hA I hI e lm hok hws hT ip pre stk mem st
  · exact (hPE n (Nat.le_refl _) A hA I hI e lm hok hws hT ip pre stk mem st).mono fun _ _ _ _ _ => QGE.oe

end HmsProofs.Sim
