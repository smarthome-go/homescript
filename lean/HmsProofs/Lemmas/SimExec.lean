import Hms.Core.VM
import HmsProofs.Lemmas.SimCompile
import HmsProofs.Lemmas.SemStep
/-! Specification side: `binOp` reads nothing but the heap, writes nothing, and ends in a value, a fatal error or
`unsupported`. VM side: `execN code lim n s` runs `n` instructions with `VM.step`, fetching them the way `runQuantum`
does. `Sim1` is what `exec_straight` (in `SimStraight`) proves of the straight-line fragment. -/
namespace HmsProofs.Sim
open Hms.Core Hms.Core.Comp Hms.Core.VM

def HeapOnly {α} (m : M α) : Prop := ∀ st st' : St, st'.heap = st.heap → m st' = ((m st).1, st')

theorem HeapOnly.state {α} {m : M α} (h : HeapOnly m) (st : St) : (m st).2 = st := by
  have := h st st rfl
  rw [this]

theorem HeapOnly.fst_eq {α} {m : M α} (h : HeapOnly m) {st st' : St} (hh : st'.heap = st.heap) :
    (m st').1 = (m st).1 := by
  rw [h st st' hh]

theorem HeapOnly.eq_of_heap {α} {m : M α} (h : HeapOnly m) {st st' : St} {r : Except Ctl α} (hr : m st = (r, st))
    (hh : st'.heap = st.heap) : m st' = (r, st') := by
  rw [h st st' hh, hr]

def StateIndep {α} (m : M α) : Prop := ∀ st, m st = ((m default).1, st)

theorem HeapOnly.of_pure {α} (m : M α) (h : StateIndep m) : HeapOnly m := by
  intro st st' _
  rw [h st', h st]

theorem ite_pure {α} (c : Prop) [Decidable c] (a b : M α) (st : St)
    (ha : a st = ((a default).1, st)) (hb : b st = ((b default).1, st)) :
    (if c then a else b) st = (((if c then a else b) default).1, st) := by
  split <;> assumption

/-- Every branch of `intOp` is a tree of `if`s over `pure` and `throwCtl`. -/
theorem intOp_pure (op x y sp) : StateIndep (intOp op x y sp) := by
  intro st
  unfold intOp
  split <;> repeat (first | rfl | apply ite_pure)

theorem floatOp_pure (op x y sp) : StateIndep (floatOp op x y sp) := by
  intro st
  unfold floatOp
  split <;> repeat (first | rfl | apply ite_pure)
  cases goPow x y <;> rfl

theorem boolOp_pure (op x y) : StateIndep (boolOp op x y) := by
  intro st
  cases op <;> rfl

theorem eqM_heapOnly (a b : Val) : HeapOnly (eqM a b) := by
  intro st st' h
  rw [eqM_run, eqM_run, h]
  cases valEq st.heap 64 a b <;> rfl

theorem binOp_heapOnly (op : InfixOp) (a b : Val) (sp : Span) : HeapOnly (binOp op a b sp) := by
  by_cases h1 : op = .eq
  · subst h1
    intro st st' h
    rw [binOp_eq_run, binOp_eq_run, h]; cases valEq st.heap 64 a b <;> rfl
  by_cases h2 : op = .ne
  · subst h2
    intro st st' h
    rw [binOp_ne_run, binOp_ne_run, h]; cases valEq st.heap 64 a b <;> rfl
  apply HeapOnly.of_pure
  intro st
  unfold binOp
  split
  · exact absurd rfl h1
  · exact absurd rfl h2
  · exact intOp_pure _ _ _ _ st
  · exact floatOp_pure _ _ _ _ st
  · exact boolOp_pure _ _ _ st
  · rfl
  · rfl

theorem binOp_state {op a b sp st r st'} (h : binOp op a b sp st = (r, st')) : st' = st := by
  have := (binOp_heapOnly op a b sp).state st
  rwa [h] at this

theorem preOp_error {op : PrefixOp} {a : Val} {c : Ctl} (h : preOp op a = .error c) :
    ∃ w, c = .unsupported w := by
  unfold preOp at h
  split at h <;> cases h
  exact ⟨_, rfl⟩

/-- Outcomes that are not control transfers of the language. -/
def Benign : Ctl → Prop
  | .fatal .. | .unsupported _ | .timeout => True
  | _ => False

def ErrBenign (m : M Val) : Prop := ∀ st c st', m st = (.error c, st') → Benign c

theorem ErrBenign.ite {p : Prop} [Decidable p] {a b : M Val} (ha : ErrBenign a) (hb : ErrBenign b) :
    ErrBenign (if p then a else b) := by
  split <;> assumption

theorem ErrBenign.pure (v : Val) : ErrBenign (pure v) := fun _ _ _ h => nomatch h

theorem ErrBenign.throw {c : Ctl} (hc : Benign c) : ErrBenign (throwCtl c) := by
  intro _ _ _ h
  cases h
  exact hc

theorem intOp_benign (op x y sp) : ErrBenign (intOp op x y sp) := by
  unfold intOp
  split <;> repeat (first | apply ErrBenign.ite | exact .throw trivial | exact .pure _)

theorem floatOp_benign (op x y sp) : ErrBenign (floatOp op x y sp) := by
  unfold floatOp
  split <;> repeat (first | apply ErrBenign.ite | exact .throw trivial | exact .pure _)
  cases goPow x y
  · exact .throw trivial
  · exact .pure _

theorem boolOp_benign (op x y) : ErrBenign (boolOp op x y) := by
  unfold boolOp
  split <;> first | exact .throw trivial | exact .pure _

theorem binOp_benign {op a b sp st c st'} (h : binOp op a b sp st = (.error c, st')) : Benign c := by
  by_cases h1 : op = .eq
  · subst h1
    rw [binOp_eq_run] at h
    cases hv : valEq st.heap 64 a b <;> rw [hv] at h <;> cases h
    trivial
  by_cases h2 : op = .ne
  · subst h2
    rw [binOp_ne_run] at h
    cases hv : valEq st.heap 64 a b <;> rw [hv] at h <;> cases h
    trivial
  unfold binOp at h
  split at h
  · exact absurd rfl h1
  · exact absurd rfl h2
  · exact intOp_benign _ _ _ _ _ _ _ h
  · exact floatOp_benign _ _ _ _ _ _ _ h
  · exact boolOp_benign _ _ _ _ _ _ h
  · cases h
  · cases h; trivial

/-- The kinds for which the Go VM's type assertions succeed (copied from `binArith`). -/
def okKinds (op : InfixOp) (l r : Val) : Bool :=
  match op, l, r with
  | .eq, _, _ => true
  | _, .int _, .int _ => true
  | .pow, .float _, .float _ => true
  | .pow, _, _ => false
  | .add, .float _, .float _ | .sub, .float _, .float _ | .mul, .float _, .float _
  | .div, .float _, .float _ | .lt, .float _, .float _ | .gt, .float _, .float _
  | .le, .float _, .float _ | .ge, .float _, .float _ => true
  | .add, .str _, .str _ => true
  | .bitOr, .bool _, .bool _ | .bitAnd, .bool _, .bool _ | .bitXor, .bool _, .bool _ => true
  | _, _, _ => false

theorem binArith_eq (op : InfixOp) (s : VMState) (sp : Span) (r l : SVal) (rest : List SVal)
    (h : s.stack = r :: l :: rest) :
    binArith op s sp =
      if !okKinds op l.v r.v then .panic "operand kinds" s
      else match runM { s with stack := rest } (binOp op l.v r.v sp) with
        | (.ok v, s'') => .next (advance (push1 s'' v))
        | (.error c, s'') => ctlToRes c s'' := by
  unfold binArith
  rw [h]
  rfl

/-- Operand kinds the VM would panic on are among those the specification calls unsupported
(for `!=` the compiler emits `eq; not`, so `ne` never reaches `binArith`). Not conversely: `okKinds` accepts any
operator on two integers, and `intOp` answers `unsupported` for `&&`, `||`, `0 ** -1` and exponents above 4096. -/
theorem binOp_unsup (op : InfixOp) (a b : Val) (sp : Span) (st : St) (h : okKinds op a b = false)
    (hne : op ≠ .ne) : ∃ w, binOp op a b sp st = (.error (.unsupported w), st) := by
  unfold binOp
  split
  · cases h
  · exact absurd rfl hne
  · cases op <;> cases h
  -- same kinds: an operator missing from the kind's table is `unsupported` there too
  · cases op <;> first | exact ⟨_, rfl⟩ | cases h
  · cases op <;> first | exact ⟨_, rfl⟩ | cases h
  · cases h
  · exact ⟨_, rfl⟩

/-- The instruction the top frame points at (as `runQuantum` fetches it). -/
def fetch (code : Code) (s : VMState) : Option (RInstr × Span) :=
  match s.calls with
  | [] => none
  | f :: _ => (findCode code f.fn).bind (·[f.ip]?)

theorem fetch_of (code : Code) (s : VMState) (f : Frame) (rest : List Frame) (c : List (RInstr × Span))
    (x : RInstr × Span) (hc : s.calls = f :: rest) (hf : findCode code f.fn = some c)
    (hx : c[f.ip]? = some x) : fetch code s = some x := by
  unfold fetch
  rw [hc]
  simp [hf, hx]

/-- One instruction, as in `runQuantum`: count the step, then `VM.step`. Where there is nothing to fetch (no frame,
no such routine, `ip` past the end of the code) `runQuantum` ends the run or pops the frame; `exec1` answers with a
panic, which no simulation statement concludes. -/
def exec1 (code : Code) (lim : Limits) (s : VMState) : StepRes :=
  match fetch code s with
  | some (i, sp) => step code lim { s with steps := s.steps + 1 } i sp
  | none => .panic "no instruction" s

def execN (code : Code) (lim : Limits) : Nat → VMState → StepRes
  | 0, s => .next s
  | n + 1, s =>
    match exec1 code lim s with
    | .next s' => execN code lim n s'
    | r => r

theorem execN_add (code : Code) (lim : Limits) (a b : Nat) : ∀ s,
    execN code lim (a + b) s = match execN code lim a s with
      | .next s' => execN code lim b s'
      | r => r := by
  induction a with
  | zero => intro s; simp [execN]
  | succ a ih =>
    intro s
    rw [Nat.add_right_comm]
    simp only [execN]
    cases h : exec1 code lim s with
    | next s' => simp only [ih]
    | intr i s' => rfl
    | panic w s' => rfl

theorem execN_one (code : Code) (lim : Limits) (s : VMState) : execN code lim 1 s = exec1 code lim s := by
  simp only [execN]
  cases exec1 code lim s <;> rfl

def CodeAt (c : List (RInstr × Span)) (ip : Nat) (xs : List (RInstr × Span)) : Prop :=
  ∀ k, k < xs.length → c[ip + k]? = xs[k]?

theorem CodeAt.append {c ip xs ys} (h : CodeAt c ip (xs ++ ys)) :
    CodeAt c ip xs ∧ CodeAt c (ip + xs.length) ys := by
  constructor
  · intro k hk
    have := h k (by simp; omega)
    rw [this, List.getElem?_append_left hk]
  · intro k hk
    have := h (xs.length + k) (by simp; omega)
    rw [Nat.add_assoc, this, List.getElem?_append_right (by omega)]
    simp

theorem CodeAt.of_append {c ip xs ys} (h1 : CodeAt c ip xs) (h2 : CodeAt c (ip + xs.length) ys) :
    CodeAt c ip (xs ++ ys) := by
  intro k hk
  by_cases hx : k < xs.length
  · rw [h1 k hx, List.getElem?_append_left hx]
  · have := h2 (k - xs.length) (by simp at hk; omega)
    rw [List.getElem?_append_right (by omega), ← this]
    congr 1; omega

theorem CodeAt.head {c ip x xs} (h : CodeAt c ip (x :: xs)) : c[ip]? = some x := by
  simpa using h 0 (by simp)

def bumpIp (n : Nat) : List Frame → List Frame
  | f :: rest => { f with ip := f.ip + n } :: rest
  | [] => []

def done (s : VMState) (n : Nat) (v : Val) : VMState :=
  { s with stack := ⟨v, none⟩ :: s.stack, calls := bumpIp n s.calls, steps := s.steps + n }

def lower (lab : String → Nat) (σ : String → Nat) (p : SInstr × Span) : RInstr × Span :=
  (mapLV lab σ p.1, p.2)

def EnvRel (ρ : String → Option String) (σ : String → Nat) (lim : Limits) (xs : List String)
    (scopes : List (List (String × Val))) (mp : Int) (mem : List (Int × Val)) : Prop :=
  ∀ x ∈ xs, ∃ m v, ρ x = some m ∧ lookupScopes x scopes = some v ∧
    0 ≤ mp - (σ m : Int) ∧ mp - (σ m : Int) < (lim.memory : Int) ∧ mem.lookup (mp - (σ m : Int)) = some v

theorem EnvRel.mono {ρ σ lim xs ys scopes mp mem} (h : EnvRel ρ σ lim xs scopes mp mem)
    (hsub : ∀ x ∈ ys, x ∈ xs) : EnvRel ρ σ lim ys scopes mp mem :=
  fun x hx => h x (hsub x hx)

/-- Store components an expression must not touch. -/
def SameStore (s s' : VMState) : Prop :=
  s'.st = s.st ∧ s'.mem = s.mem ∧ s'.mp = s.mp ∧ s'.globals = s.globals ∧ s'.handlers = s.handlers

/-- The simulation claim for one evaluation result `r` of the specification; for anything but a value or a fatal error
(`unsupported`, `timeout`, …) nothing is claimed. -/
def Sim1 (code : Code) (lim : Limits) (s : VMState) (n : Nat) (st : St) (r : Except Ctl Val × St) : Prop :=
  match r with
  | (.ok v, st') => st' = st ∧ execN code lim n s = .next (done s n v)
  | (.error (.fatal k m sp), st') =>
    st' = st ∧ ∃ s', execN code lim n s = .intr (.fatal k m sp) s' ∧ SameStore s s'
  | _ => True

end HmsProofs.Sim
