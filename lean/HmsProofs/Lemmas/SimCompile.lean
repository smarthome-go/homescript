import HmsProofs.Lemmas.SimReloc
/-! `Frag.straight e`: literals, `grouped`, local variables, prefix operators and the non-logical infix operators. For
such `e` the instruction stream is a pure function `cstraightSp ρ e` of the scope map `ρ`, and `compileExpr` appends
exactly that to the code of the current function, changing nothing else (`compileExpr_straight`, in `SimBridge`).
`bind_run` is the step with which every compile proof walks through a `do` block of the compiler monad. -/
namespace HmsProofs.Sim
open Hms.Core Hms.Core.Comp

namespace Frag

def isLogical : InfixOp → Bool
  | .or | .and => true
  | _ => false

def straight : Expr → Bool
  | .int .. | .bool .. | .str .. | .null .. | .none .. => true
  | .grouped _ e => straight e
  | .ident _ _ _ isGlobal isFn isSingleton => !isGlobal && !isFn && !isSingleton
  | .pre _ _ _ e => straight e
  | .infix _ _ op l r => !isLogical op && straight l && straight r
  | _ => false

/-- Fuel that `compileExpr` (and `evalExpr`) needs for an expression of the fragment. -/
def depth : Expr → Nat
  | .grouped _ e => depth e + 1
  | .pre _ _ _ e => depth e + 1
  | .infix _ _ _ l r => max (depth l) (depth r) + 1
  | _ => 1

def vars : Expr → List String
  | .grouped _ e => vars e
  | .ident _ _ name _ _ _ => [name]
  | .pre _ _ _ e => vars e
  | .infix _ _ _ l r => vars l ++ vars r
  | _ => []

end Frag

theorem Frag.not_logical {op : InfixOp} (h : Frag.isLogical op = false) : op ≠ .or ∧ op ≠ .and := by
  cases op <;> simp [Frag.isLogical] at h ⊢

/-- What the compiler's `arith` emits for a non-logical infix operator. -/
def arithI : InfixOp → List SInstr
  | .add => [.add] | .sub => [.sub] | .mul => [.mul] | .div => [.div]
  | .rem => [.rem] | .pow => [.pow] | .shl => [.shl] | .shr => [.shr]
  | .bitOr => [.bitOr] | .bitAnd => [.bitAnd] | .bitXor => [.bitXor]
  | .eq => [.eq]
  | .ne => [.eq, .not]
  | .lt => [.lt] | .le => [.le] | .gt => [.gt] | .ge => [.ge]
  | .or | .and => []

theorem arithI_cases (op : InfixOp) (h : Frag.isLogical op = false) :
    op = .ne ∨ (op ≠ .ne ∧ ∃ i, arithI op = [i]) := by
  cases op <;> simp [Frag.isLogical] at h <;> simp [arithI]

def preI : PrefixOp → SInstr
  | .neg => .neg
  | .not => .not
  | .some => .some

/-- `ρ` maps a source identifier to its mangled name. -/
def cstraightSp (ρ : String → Option String) : Expr → SCode
  | .int sp v => [(.copyPush (.int v), sp)]
  | .bool sp b => [(.copyPush (.bool b), sp)]
  | .str sp s => [(.copyPush (.str s), sp)]
  | .null sp => [(.copyPush .null, sp)]
  | .none sp => [(.copyPush .noneOpt, sp)]
  | .grouped _ e => cstraightSp ρ e
  | .ident sp _ name _ _ _ =>
    match ρ name with
    | some m => [(.getVar m, sp)]
    | none => []
  | .pre sp _ op e => cstraightSp ρ e ++ [(preI op, sp)]
  | .infix sp _ op l r => cstraightSp ρ l ++ cstraightSp ρ r ++ (arithI op).map (·, sp)
  | _ => []

def cstraight (ρ : String → Option String) (e : Expr) : List SInstr := (cstraightSp ρ e).map (·.1)

theorem cstraightSp_plain (ρ : String → Option String) (e : Expr) :
    ∀ p ∈ cstraightSp ρ e, isLabel p.1 = false ∧ target? p.1 = none := by
  induction e using cstraightSp.induct ρ <;> intro p hp <;>
    simp only [cstraightSp, List.mem_singleton, List.mem_append, List.not_mem_nil] at hp
  case case1 | case2 | case3 | case4 | case5 => subst hp; exact ⟨rfl, rfl⟩
  case case6 ih => exact ih p hp
  case case7 h => rw [h] at hp; simp only [List.mem_singleton] at hp; subst hp; exact ⟨rfl, rfl⟩
  case case8 h => rw [h] at hp; cases hp
  case case9 sp ty op e ih =>
    rcases hp with hp | hp
    · exact ih p hp
    · subst hp; cases op <;> exact ⟨rfl, rfl⟩
  case case10 sp ty op l r ihl ihr =>
    rcases hp with (hp | hp) | hp
    · exact ihl p hp
    · exact ihr p hp
    · cases op <;> simp [arithI] at hp <;> (try subst hp) <;> (try exact ⟨rfl, rfl⟩)
      rcases hp with rfl | rfl <;> exact ⟨rfl, rfl⟩

/-- The scope map of a compiler state (`getMangled`); in the terms of `SimStmt` it is `ρS cs.scopes`. -/
def ρOf (cs : CState) (x : String) : Option String := cs.scopes.findSome? fun sc => sc.lookup x

def appendCode (cs : CState) (xs : SCode) : CState :=
  { cs with fns := cs.fns.map fun p =>
      if p.1 == (cs.currModule, cs.currFn) then (p.1, { p.2 with code := p.2.code ++ xs }) else p }

theorem emit_run (i : SInstr) (sp : Span) (cs : CState) :
    (Comp.emit i sp).run cs = ((), appendCode cs [(i, sp)]) := rfl

theorem getMangled_run (x : String) (cs : CState) : (getMangled x).run cs = (ρOf cs x, cs) := rfl

theorem appendCode_nil (cs : CState) : appendCode cs [] = cs := by
  unfold appendCode
  have : (cs.fns.map fun p =>
      if p.1 == (cs.currModule, cs.currFn) then (p.1, { p.2 with code := p.2.code ++ [] }) else p) = cs.fns := by
    conv => rhs; rw [← List.map_id cs.fns]
    apply List.map_congr_left
    intro ⟨k, fn⟩ _
    simp
  rw [this]

theorem appendCode_append (cs : CState) (xs ys : SCode) :
    appendCode (appendCode cs xs) ys = appendCode cs (xs ++ ys) := by
  unfold appendCode
  simp only [List.map_map]
  congr 1
  apply List.map_congr_left
  intro ⟨k, fn⟩ _
  simp only [Function.comp]
  split <;> simp_all

theorem appendCode_frame (cs : CState) (xs : SCode) :
    (appendCode cs xs).currFn = cs.currFn ∧ (appendCode cs xs).currModule = cs.currModule ∧
    (appendCode cs xs).loops = cs.loops ∧ (appendCode cs xs).varMangle = cs.varMangle ∧
    (appendCode cs xs).labelMangle = cs.labelMangle ∧ (appendCode cs xs).scopes = cs.scopes ∧
    (appendCode cs xs).lambdaCount = cs.lambdaCount ∧ (appendCode cs xs).unsupported = cs.unsupported ∧
    (appendCode cs xs).tryDepth = cs.tryDepth :=
  ⟨rfl, rfl, rfl, rfl, rfl, rfl, rfl, rfl, rfl⟩

theorem lookup_map_val {α β γ} [BEq α] [LawfulBEq α] (g : α → β → γ) (l : List (α × β)) (k : α) :
    (l.map fun p => (p.1, g p.1 p.2)).lookup k = (l.lookup k).map (g k) := by
  induction l with
  | nil => rfl
  | cons p l ih =>
    obtain ⟨a, b⟩ := p
    by_cases h : k = a
    · subst h; simp
    · have hb : (k == a) = false := beq_false_of_ne h
      simp only [List.map_cons, List.lookup_cons, hb, ih]

theorem lookup_map_upd (fns : List ((String × String) × SFn)) (cur key : String × String) (g : SFn → SFn) :
    (fns.map fun p => if p.1 == cur then (p.1, g p.2) else p).lookup key =
      if key = cur then (fns.lookup key).map g else fns.lookup key := by
  have e : (fun p : (String × String) × SFn => if p.1 == cur then (p.1, g p.2) else p) =
      fun p => (p.1, if p.1 == cur then g p.2 else p.2) := by
    funext p; split <;> rfl
  rw [e, lookup_map_val (fun k f => if k == cur then g f else f)]
  by_cases h : key = cur <;> simp [h]

theorem appendCode_lookup (cs : CState) (xs : SCode) (f : SFn)
    (h : cs.fns.lookup (cs.currModule, cs.currFn) = some f) :
    (appendCode cs xs).fns.lookup (cs.currModule, cs.currFn) = some { f with code := f.code ++ xs } := by
  unfold appendCode
  simp only
  rw [lookup_map_upd cs.fns _ _ (fun fn => { fn with code := fn.code ++ xs })]
  simp [h]

theorem appendCode_lookup_other (cs : CState) (xs : SCode) (key : String × String)
    (hk : key ≠ (cs.currModule, cs.currFn)) :
    (appendCode cs xs).fns.lookup key = cs.fns.lookup key := by
  unfold appendCode
  simp only
  rw [lookup_map_upd cs.fns _ _ (fun fn => { fn with code := fn.code ++ xs })]
  simp [hk]

theorem bind_run {α β} {a : C α} {b : α → C β} {cs cs1 : CState} {x : α} {r : β × CState}
    (ha : a.run cs = (x, cs1)) (hb : (b x).run cs1 = r) : (a >>= b).run cs = r := by
  simp only [StateT.run_bind, ha]
  exact hb

theorem arith_run (op : InfixOp) (sp : Span) (cs : CState) (h : Frag.isLogical op = false) :
    (arith op sp).run cs = ((), appendCode cs ((arithI op).map (·, sp))) := by
  cases op <;> simp only [Frag.isLogical] at h <;> try rfl
  all_goals first | cases h | skip
  show (do Comp.emit .eq sp; Comp.emit .not sp).run cs = _
  rw [bind_run (b := fun _ => Comp.emit .not sp) (emit_run _ _ _) (emit_run _ _ _), appendCode_append]
  rfl

def labelOf? {L V : Type} : Instr L V → Option L
  | .label l => some l
  | _ => none

def definedLabels (frag : SCode) : List String := frag.filterMap fun p => labelOf? p.1

@[simp] theorem definedLabels_append (a b : SCode) :
    definedLabels (a ++ b) = definedLabels a ++ definedLabels b := by
  simp [definedLabels]

@[simp] theorem definedLabels_nil : definedLabels [] = [] := rfl

@[simp] theorem definedLabels_label (l : String) (sp : Span) (r : SCode) :
    definedLabels ((Instr.label l, sp) :: r) = l :: definedLabels r := rfl

theorem definedLabels_cons (i : SInstr) (sp : Span) (r : SCode) :
    definedLabels ((i, sp) :: r) = (labelOf? i).toList ++ definedLabels r := by
  unfold definedLabels
  rw [List.filterMap_cons]
  cases labelOf? i <;> rfl

theorem definedLabels_instr (i : SInstr) (sp : Span) (r : SCode) (h : isLabel i = false) :
    definedLabels ((i, sp) :: r) = definedLabels r := by
  cases i <;> first | rfl | cases h

theorem definedLabels_arithI (op : InfixOp) (sp : Span) : definedLabels ((arithI op).map (·, sp)) = [] := by
  cases op <;> rfl

theorem mem_definedLabels (frag : SCode) (l : String) :
    l ∈ definedLabels frag ↔ ∃ sp, (Instr.label l, sp) ∈ frag := by
  simp only [definedLabels, List.mem_filterMap]
  constructor
  · rintro ⟨⟨i, sp⟩, hp, hl⟩
    cases i <;> simp [labelOf?] at hl
    subst hl
    exact ⟨sp, hp⟩
  · rintro ⟨sp, hp⟩
    exact ⟨_, hp, rfl⟩

end HmsProofs.Sim
