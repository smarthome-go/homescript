import HmsProofs.Lemmas.SimFn
import HmsProofs.Lemmas.SimHComp2
/-!
# `compileFn` on functions of the general fragment: parameters, statements, trailing expression
-/
namespace HmsProofs.Sim
open Hms.Core Hms.Core.Comp

theorem compileParams_run_S (sp : Span) (cs : CState) (L) : ∀ (ps : List Param) (c0 : SCode) (env : CEnv),
    (compileParams sp ps).run (updS cs L c0 env) =
      ((), updS cs L (c0 ++ (cgParams cs.currModule sp ps env).1) (cgParams cs.currModule sp ps env).2) := by
  intro ps
  induction ps with
  | nil => intro c0 env; rw [compileParams, cgParams, List.append_nil]; rfl
  | cons p ps ih =>
    intro c0 env
    rw [compileParams, cgParams]
    cases hp : p.isSingleton
    · simp only [Bool.not_false, if_true, Bool.false_eq_true, if_false]
      refine bind_run (mangleVar_run_S ..) ?_
      refine bind_run (emit_run_S ..) ?_
      rw [ih]
      simp only [List.append_assoc, List.cons_append, List.nil_append]
    · simp only [Bool.not_true, Bool.false_eq_true, if_false, if_true]
      exact ih c0 env

theorem compileSingletonParams_none (sp : Span) : ∀ (ps : List Param) (cs : CState),
    (∀ p ∈ ps, p.isSingleton = false) → (compileSingletonParams sp ps).run cs = ((), cs) := by
  intro ps
  induction ps with
  | nil => intro cs _; rw [compileSingletonParams]; rfl
  | cons p ps ih =>
    intro cs h
    rw [compileSingletonParams]
    have hp := h p (by simp)
    simp only [hp, Bool.false_eq_true, if_false]
    exact ih cs (fun q hq => h q (by simp [hq]))

/-- `fnX6`, `fnCnt`, `fnX7`, `fnFinal` of `SimFn.lean` for any body: `code` and `env` are what compiling it gave. -/
def gX6 (cs : CState) (fd : FnDef) (code : SCode) (env : CEnv) : CState :=
  updS (fnBase cs fd) cs.loops ([(.addMp 0, fd.sp)] ++ code) env

def gCnt (cs : CState) (fd : FnDef) (code : SCode) (env : CEnv) : Int :=
  (((gX6 cs fd code env).fns.lookup ((gX6 cs fd code env).currModule, fd.name)).map
    (fun x => (x.cntVars : Int))).getD 0

def gX7 (cs : CState) (fd : FnDef) (code : SCode) (env : CEnv) : CState :=
  { gX6 cs fd code env with
    fns := (gX6 cs fd code env).fns.map fun (k, fn) =>
      if k == ((gX6 cs fd code env).currModule, (gX6 cs fd code env).currFn) then
        (k, { fn with code := fn.code.set 0 (.addMp (gCnt cs fd code env), fd.sp) })
      else (k, fn) }

def gFinal (cs : CState) (fd : FnDef) (code : SCode) (env : CEnv) (cleanup : String) : CState :=
  let x8 := appendCode (appendCode (appendCode (gX7 cs fd code env)
    [(.label cleanup, fd.sp)]) [(.addMp (-(gCnt cs fd code env)), fd.sp)]) [(.ret, fd.sp)]
  { x8 with tryDepth := cs.tryDepth, scopes := x8.scopes.tail }

def partsOf (cs : CState) (fd : FnDef) (stmts : List Stmt) (oe : Option Expr) : FnParts :=
  fnParts cs.currModule (φOf (fnBase cs fd)) fd stmts oe cs.scopes cs.varMangle cs.labelMangle

theorem compileFn_gfrag_run {fr : Bool} (f2 : Nat) (fd : FnDef) (cs : CState) (bsp : Span) (bty : Ty) (stmts : List Stmt)
    (oe : Option Expr)
    (hbody : fd.body = .mk bsp bty stmts oe) (hparams : ∀ p ∈ fd.params, p.isSingleton = false)
    (hann : fd.hasAnnotation = false)
    (hs : Frag.okFSs fr false true stmts = true) (he : ∀ e, oe = some e → Frag.okE fr e = true)
    (hd : Frag.cdSs stmts ≤ f2) (hde : ∀ e, oe = some e → Frag.cdE e ≤ f2)
    (hws : Frag.wsGSs cs.currModule fd.name (φOf (fnBase cs fd)) [] stmts (partsOf cs fd stmts oe).envB = true)
    (hwe : ∀ e, oe = some e → Frag.wsGE (partsOf cs fd stmts oe).envS.scopes (φOf (fnBase cs fd)) e = true) :
    (compileFn (f2 + 2) fd).run cs =
      ((), gFinal cs fd ((partsOf cs fd stmts oe).pcode ++ (partsOf cs fd stmts oe).scode ++
        (partsOf cs fd stmts oe).ecode) (partsOf cs fd stmts oe).envE (partsOf cs fd stmts oe).cleanup) := by
  rw [compileFn]
  refine bind_run (cs1 := cs) (x := cs) rfl ?_
  refine bind_run (addFn_run _ _ _) ?_
  refine bind_run (x := ()) rfl ?_
  refine bind_run (x := ()) rfl ?_
  refine bind_run (cs1 := { fnBase cs fd with tryDepth := cs.tryDepth }) rfl ?_
  refine bind_run (cs1 := fnBase cs fd) (x := ()) rfl ?_
  rw [hann]
  simp only [Bool.false_eq_true, if_false]
  refine bind_run (currLen_fnBase cs fd) ?_
  rw [← updS_self (fnBase cs fd)]
  refine bind_run (emit_run_S ..) ?_
  refine bind_run (compileParams_run_S _ _ _ _ _ _) ?_
  refine bind_run (compileSingletonParams_none _ _ _ hparams) ?_
  refine bind_run (mangleLabel_run_S ..) ?_
  have hmod : (fnBase cs fd).currModule = cs.currModule := rfl
  have hlp : (fnBase cs fd).loops = cs.loops := rfl
  simp only [hmod, hlp]
  refine bind_run (cs1 := updS (fnBase cs fd) cs.loops ([] ++ [(.addMp 0, fd.sp)] ++ (partsOf cs fd stmts oe).pcode)
    (partsOf cs fd stmts oe).envB) (x := ()) ?_ ?_
  · have hpB : (partsOf cs fd stmts oe).envB = bodyEnv cs.currModule fd.name
        (cgParams cs.currModule fd.sp fd.params (envOf (fnBase cs fd))).2 := rfl
    rw [hpB]
    cases hsc : (cgParams cs.currModule fd.sp fd.params (envOf (fnBase cs fd))).2.scopes <;>
      (refine congrArg (Prod.mk ()) ?_
       unfold bodyEnv updS
       simp only [hsc]
       rfl)
  -- no `break`/`continue` reaches outside the body: the loop stack of the call site is irrelevant
  obtain ⟨hL, hLw⟩ := (cg_loops_irrel cs.currModule fd.name (φOf (fnBase cs fd))).2.1 fr false true stmts hs
    (loopsOf cs.loops) [] (partsOf cs fd stmts oe).envB nofun
  dsimp only at hL hLw
  have hSs := compile_fstmt.2.1 _ false true stmts hs f2 (fnBase cs fd) cs.loops (fun _ => rfl) nofun hd
    ([] ++ [(.addMp 0, fd.sp)] ++ (partsOf cs fd stmts oe).pcode) (partsOf cs fd stmts oe).envB
    (by rw [← hws]; exact hLw)
  have hm' : (fnBase cs fd).currModule = cs.currModule ∧ (fnBase cs fd).currFn = fd.name := ⟨rfl, rfl⟩
  rw [hm'.1, hm'.2, hL] at hSs
  have hsc : (cgSs cs.currModule fd.name (φOf (fnBase cs fd)) [] stmts
      (partsOf cs fd stmts oe).envB) = ((partsOf cs fd stmts oe).scode, (partsOf cs fd stmts oe).envS) := rfl
  rw [hsc] at hSs
  rw [hbody, compileBlock]
  simp only [Bool.false_eq_true, if_false]
  refine bind_run (cs1 := gX6 cs fd ((partsOf cs fd stmts oe).pcode ++ (partsOf cs fd stmts oe).scode ++
      (partsOf cs fd stmts oe).ecode) (partsOf cs fd stmts oe).envE) (x := ()) ?_ ?_
  · refine bind_run hSs ?_
    cases oe with
    | none =>
      show ((), _) = ((), _)
      congr 1
      unfold gX6
      have h1 : (partsOf cs fd stmts none).ecode = [] := rfl
      have h2 : (partsOf cs fd stmts none).envE = (partsOf cs fd stmts none).envS := rfl
      rw [h1, h2]
      simp only [List.append_assoc, List.nil_append, List.append_nil]
    | some e =>
      have hE := (compile_gexpr fr f2).1 e (fnBase cs fd) (he e rfl) (hde e rfl) cs.loops
        ([] ++ [(.addMp 0, fd.sp)] ++ (partsOf cs fd stmts (some e)).pcode ++ (partsOf cs fd stmts (some e)).scode)
        (partsOf cs fd stmts (some e)).envS (hwe e rfl)
      simp only []
      refine bind_run hE ?_
      show ((), _) = ((), _)
      congr 1
  refine bind_run (cs1 := gX6 cs fd _ _) (x := gX6 cs fd _ _) rfl ?_
  refine bind_run (cs1 := gX7 cs fd _ _) (x := ()) rfl ?_
  refine bind_run (emit_run _ _ _) ?_
  refine bind_run (emit_run _ _ _) ?_
  refine bind_run (emit_run _ _ _) ?_
  rfl

theorem gX6_lookup (cs : CState) (fd : FnDef) (code : SCode) (env : CEnv) :
    (gX6 cs fd code env).fns.lookup (cs.currModule, fd.name) =
      some { name := mangleFnName cs.currModule fd.name, code := (.addMp 0, fd.sp) :: code, cntVars := env.nv } := by
  unfold gX6 updS
  simp only
  have hm := lookup_map_upd (fnBase cs fd).fns ((fnBase cs fd).currModule, (fnBase cs fd).currFn)
    (cs.currModule, fd.name) (fun fn => { fn with
      code := fn.code ++ ([(.addMp 0, fd.sp)] ++ code), cntVars := fn.cntVars + env.nv })
  rw [hm]
  have hb := fnBase_lookup cs fd
  have hk : (cs.currModule, fd.name) = ((fnBase cs fd).currModule, (fnBase cs fd).currFn) := rfl
  rw [if_pos hk, hk, hb]
  simp

theorem gCnt_eq (cs : CState) (fd : FnDef) (code : SCode) (env : CEnv) : gCnt cs fd code env = (env.nv : Int) := by
  unfold gCnt
  have : (gX6 cs fd code env).currModule = cs.currModule := rfl
  rw [this, gX6_lookup]
  rfl

theorem gX7_lookup (cs : CState) (fd : FnDef) (code : SCode) (env : CEnv) :
    (gX7 cs fd code env).fns.lookup (cs.currModule, fd.name) =
      some { name := mangleFnName cs.currModule fd.name, code := (.addMp (env.nv : Int), fd.sp) :: code,
             cntVars := env.nv } := by
  unfold gX7
  simp only
  have hm := lookup_map_upd (gX6 cs fd code env).fns ((gX6 cs fd code env).currModule, (gX6 cs fd code env).currFn)
    (cs.currModule, fd.name) (fun fn => { fn with code := fn.code.set 0 (.addMp (gCnt cs fd code env), fd.sp) })
  have hk : (cs.currModule, fd.name) = ((gX6 cs fd code env).currModule, (gX6 cs fd code env).currFn) := rfl
  rw [if_pos hk] at hm
  show List.lookup _ ((gX6 cs fd code env).fns.map fun p =>
    if p.1 == ((gX6 cs fd code env).currModule, (gX6 cs fd code env).currFn) then
      (p.1, (fun fn : SFn => { fn with code := fn.code.set 0 (.addMp (gCnt cs fd code env), fd.sp) }) p.2) else p) = _
  rw [hm, gX6_lookup, gCnt_eq]
  simp

theorem gFinal_lookup (cs : CState) (fd : FnDef) (code : SCode) (env : CEnv) (cleanup : String) :
    (gFinal cs fd code env cleanup).fns.lookup (cs.currModule, fd.name) =
      some { name := mangleFnName cs.currModule fd.name,
             code := [(.addMp (env.nv : Int), fd.sp)] ++ code ++
               [(.label cleanup, fd.sp), (.addMp (-(env.nv : Int)), fd.sp), (.ret, fd.sp)],
             cntVars := env.nv } := by
  unfold gFinal
  simp only
  have h7 := gX7_lookup cs fd code env
  have k7 : (cs.currModule, fd.name) = ((gX7 cs fd code env).currModule, (gX7 cs fd code env).currFn) := rfl
  rw [k7] at h7 ⊢
  have h8 := appendCode_lookup (gX7 cs fd code env) [(.label cleanup, fd.sp)] _ h7
  have h9 := appendCode_lookup (appendCode (gX7 cs fd code env) [(.label cleanup, fd.sp)])
    [(.addMp (-(gCnt cs fd code env)), fd.sp)] _ h8
  have h10 := appendCode_lookup (appendCode (appendCode (gX7 cs fd code env) [(.label cleanup, fd.sp)])
    [(.addMp (-(gCnt cs fd code env)), fd.sp)]) [(Instr.ret, fd.sp)] _ h9
  refine h10.trans ?_
  rw [gCnt_eq]
  simp

theorem gFinal_lookup_other (cs : CState) (fd : FnDef) (code : SCode) (env : CEnv) (cleanup : String)
    (k : String × String) (hk : k ≠ (cs.currModule, fd.name)) :
    (gFinal cs fd code env cleanup).fns.lookup k = cs.fns.lookup k := by
  unfold gFinal
  simp only
  rw [appendCode_lookup_other _ _ _ (by exact hk), appendCode_lookup_other _ _ _ (by exact hk),
    appendCode_lookup_other _ _ _ (by exact hk)]
  unfold gX7
  simp only
  have hm := lookup_map_upd (gX6 cs fd code env).fns ((gX6 cs fd code env).currModule, (gX6 cs fd code env).currFn)
    k (fun fn => { fn with code := fn.code.set 0 (.addMp (gCnt cs fd code env), fd.sp) })
  show List.lookup _ ((gX6 cs fd code env).fns.map fun p =>
    if p.1 == ((gX6 cs fd code env).currModule, (gX6 cs fd code env).currFn) then
      (p.1, (fun fn : SFn => { fn with code := fn.code.set 0 (.addMp (gCnt cs fd code env), fd.sp) }) p.2) else p) = _
  rw [hm, if_neg (by exact hk)]
  unfold gX6 updS
  simp only
  have hm6 := lookup_map_upd (fnBase cs fd).fns ((fnBase cs fd).currModule, (fnBase cs fd).currFn)
    k (fun fn => { fn with code := fn.code ++ ([(.addMp 0, fd.sp)] ++ code), cntVars := fn.cntVars + env.nv })
  rw [hm6, if_neg (by exact hk)]
  exact lookup_addFnL_other _ _ _ _ hk

/-- `compileFn` on a function with ordinary parameters, statements of the fragment and an optional trailing
expression: afterwards the function's entry holds `cgFn …`, the layout of compiler/function.go (`AddMempointer(n)`,
one `SetVarImm` per parameter, body, `cleanup:`, `AddMempointer(-n)`, `Return`), and other functions are untouched.
The `+ 2` of the fuel: one level for `compileFn`, one for `compileBlock`. `hloops` says that the function is compiled
at top level; the proof does not use it, since `cg_loops_irrel` makes the loop stack irrelevant. -/
theorem compileFn_gfrag (f2 : Nat) (fd : FnDef) (cs : CState) (bsp : Span) (bty : Ty) (stmts : List Stmt)
    (oe : Option Expr)
    (hbody : fd.body = .mk bsp bty stmts oe) (hparams : ∀ p ∈ fd.params, p.isSingleton = false)
    (hann : fd.hasAnnotation = false) (hloops : cs.loops = [])
    (hs : Frag.okFSs fr false true stmts = true) (he : ∀ e, oe = some e → Frag.okE fr e = true)
    (hd : Frag.cdSs stmts ≤ f2) (hde : ∀ e, oe = some e → Frag.cdE e ≤ f2)
    (hws : Frag.wsGSs cs.currModule fd.name (φOf (fnBase cs fd)) [] stmts (partsOf cs fd stmts oe).envB = true)
    (hwe : ∀ e, oe = some e → Frag.wsGE (partsOf cs fd stmts oe).envS.scopes (φOf (fnBase cs fd)) e = true) :
    ∃ cs', (compileFn (f2 + 2) fd).run cs = ((), cs') ∧
      cs'.fns.lookup (cs.currModule, fd.name) =
        some { name := mangleFnName cs.currModule fd.name,
               code := cgFn cs.currModule (φOf (fnBase cs fd)) fd stmts oe cs.scopes cs.varMangle cs.labelMangle,
               cntVars := (partsOf cs fd stmts oe).envE.nv } ∧
      (∀ k, k ≠ (cs.currModule, fd.name) → cs'.fns.lookup k = cs.fns.lookup k) ∧
      cs'.loops = cs.loops ∧ cs'.tryDepth = cs.tryDepth ∧ cs'.currModule = cs.currModule ∧
      cs'.unsupported = cs.unsupported := by
  refine ⟨_, compileFn_gfrag_run f2 fd cs bsp bty stmts oe hbody hparams hann hs he hd hde hws hwe, ?_,
    fun k hk => gFinal_lookup_other cs fd _ _ _ k hk, rfl, rfl, rfl, rfl⟩
  rw [gFinal_lookup]
  simp only [cgFn, partsOf, List.append_assoc]

end HmsProofs.Sim
