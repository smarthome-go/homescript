import HmsProofs.Lemmas.SimHSem
/-! What every construct's proof starts from: the hypotheses on a compiled function and on the program (`FnOK`, `ProgOK`,
`GCtx.OK'`) and the statement about calls the induction on the fuel carries (`PCall`); atoms, which both sides evaluate
without touching anything; the single instructions of an activation, and a whole call seen from the caller, as `Runs`. -/
namespace HmsProofs.Sim
open Hms.Core Hms.Core.Comp Hms.Core.VM

/-- What the simulation knows of one compiled function; `scopes0`, `vm0`, `lm0`: the compiler state in which its body was
compiled. -/
structure FnInfo where
  c : List (RInstr × Span)
  σ : String → Nat
  lab : String → Nat
  N : String → Prop
  T : List String
  φ : String → Option String
  scopes0 : CScopes
  vm0 : List (String × Nat)
  lm0 : LM

structure FnOK (G : GCtx) (g : String) (fd : FnDef) (I : FnInfo) (stmts : List Stmt) (e : Expr) : Prop where
  name : fd.name = g
  body : ∃ bsp bty, fd.body = .mk bsp bty stmts (some e)
  params : ∀ p ∈ fd.params, p.isSingleton = false
  code : findCode G.code (mangleFnName G.mod g) = some I.c
  placed : Placed I.lab I.σ I.c 0 (cgFn G.mod I.φ fd stmts (some e) I.scopes0 I.vm0 I.lm0)
  inj : ∀ a b, I.N a → I.N b → I.σ a = I.σ b → a = b
  vars : ∀ m ∈ codeVars (cgFn G.mod I.φ fd stmts (some e) I.scopes0 I.vm0 I.lm0), I.N m
  slot : ∀ m, I.N m → I.σ m < (fnParts G.mod I.φ fd stmts (some e) I.scopes0 I.vm0 I.lm0).envE.nv
  frame : (fnParts G.mod I.φ fd stmts (some e) I.scopes0 I.vm0 I.lm0).envE.nv ≤ G.F
  okS : Frag.okFSs G.fr false true stmts = true
  okE : Frag.okE G.fr e = true
  wsS : Frag.wsGSs G.mod g I.φ [] stmts (fnParts G.mod I.φ fd stmts (some e) I.scopes0 I.vm0 I.lm0).envB = true
  wsE : Frag.wsGE (fnParts G.mod I.φ fd stmts (some e) I.scopes0 I.vm0 I.lm0).envS.scopes I.φ e = true
  tParams : ∀ p ∈ fd.params, p.name ∈ I.T
  tIdents : ∀ x ∈ Frag.identsGSs stmts, x ∈ I.T
  tVars : ∀ x ∈ Frag.namesGE e, x ∈ I.T
  key : cleanupKey G.mod g ∉ I.T
  outer : ∀ sc ∈ I.scopes0, ∀ x ∈ I.T, sc.lookup x = none
  phi : PhiOK G I.φ

/-- `FnOK` for a function without trailing expression. -/
structure FnVoidOK (G : GCtx) (g : String) (fd : FnDef) (I : FnInfo) (stmts : List Stmt) : Prop where
  name : fd.name = g
  body : ∃ bsp bty, fd.body = .mk bsp bty stmts none
  params : ∀ p ∈ fd.params, p.isSingleton = false
  code : findCode G.code (mangleFnName G.mod g) = some I.c
  placed : Placed I.lab I.σ I.c 0 (cgFn G.mod I.φ fd stmts none I.scopes0 I.vm0 I.lm0)
  inj : ∀ a b, I.N a → I.N b → I.σ a = I.σ b → a = b
  vars : ∀ m ∈ codeVars (cgFn G.mod I.φ fd stmts none I.scopes0 I.vm0 I.lm0), I.N m
  slot : ∀ m, I.N m → I.σ m < (fnParts G.mod I.φ fd stmts none I.scopes0 I.vm0 I.lm0).envE.nv
  frame : (fnParts G.mod I.φ fd stmts none I.scopes0 I.vm0 I.lm0).envE.nv ≤ G.F
  okS : Frag.okFSs G.fr false true stmts = true
  wsS : Frag.wsGSs G.mod g I.φ [] stmts (fnParts G.mod I.φ fd stmts none I.scopes0 I.vm0 I.lm0).envB = true
  tParams : ∀ p ∈ fd.params, p.name ∈ I.T
  tIdents : ∀ x ∈ Frag.identsGSs stmts, x ∈ I.T
  key : cleanupKey G.mod g ∉ I.T
  outer : ∀ sc ∈ I.scopes0, ∀ x ∈ I.T, sc.lookup x = none
  phi : PhiOK G I.φ

def ProgOK (G : GCtx) : Prop :=
  ∀ g fd, G.K g → findFn G.cfg.prog G.mod g = some fd →
    ∃ I stmts e, FnOK G g fd I stmts e ∧ (G.fr = true → ∀ y ∈ I.T, ("$iter_" ++ y) ∉ I.T)

/-- The context in either fragment: what the simulation takes. `room`: the memory holds `callLimit + 2` frames above `B`.
It is used once, for the callee's frame in `fn_call`: the specification has let the call pass, so `depth ≤ callLimit` and,
by `SpecOK.depth`, `mp ≤ B + callLimit · F`; the new frame is at most `F`. That takes `callLimit + 1` frames; one is to
spare. -/
structure GCtx.OK' (G : GCtx) : Prop where
  prog : ProgOK G
  room : G.B + ((G.cfg.callLimit : Int) + 2) * (G.F : Int) < (G.lim.memory : Int)
  base : 0 ≤ G.B
  println : G.s.globals.lookup "println" = none
  noPrintFn : resolveFn G.cfg.prog G.mod "println" = none
  noThrowFn : resolveFn G.cfg.prog G.mod "throw" = none

/-- The special case outside the extended fragment (`fr = false`: no `for`, no iterator, no origin on a value). -/
structure GCtx.OK (G : GCtx) : Prop extends GCtx.OK' G where
  nofor : G.fr = false

/-- The pure theorem `exec_pure`, read in the general setting. -/
theorem simGE_pure (G : GCtx) (A : Act) (hA : A.OK G) (fuel : Nat) (e : Expr) (st : St) (ip : Nat)
    (stk : List SVal) (mem : Mem) (lm : LM) (scopes : CScopes) (vm : List (String × Nat))
    (hp : Frag.pureE e = true) (hres : Frag.resolved scopes (Frag.varsE e) = true)
    (hT : ∀ x ∈ Frag.varsE e, x ∈ A.T)
    (hpl : Placed A.lab A.σ A.c ip (cpE G.mod (ρS scopes) e lm).1)
    (hrel : StRel G.mod A.T A.N A.σ G.lim A.mp scopes vm st.scopes mem) (hsp : SpecOK G A.mp st) :
    SimGE G A ip (nI (cpE G.mod (ρS scopes) e lm).1) stk mem st (evalExpr G.cfg fuel e st) := by
  have henv := hrel.scopes.envRel A.T A.σ G.lim A.mp (Frag.varsE e) hT hres
  have h := fun it => exec_pure G.cfg G.code G.lim G.mod (ρS scopes) A.σ A.lab
    (baseOf (withIt G.s it) A.fn A.rest A.mp st.world)
    ⟨A.fn, 0⟩ A.rest A.c rfl hA.code fuel e st ip stk mem lm hp hpl henv rfl
  rcases hev : evalExpr G.cfg fuel e st with ⟨r, st'⟩
  simp only [hev] at h
  cases r with
  | ok v =>
    obtain ⟨rfl, _⟩ := h ⟨[], 0⟩
    exact ⟨rfl, mem, none, OrgOK.none _, Runs.of_runsTo (fun it => (h it).2), MemLe.refl _ _ _⟩
  | error c =>
    cases c <;> first | trivial | exact (h ⟨[], 0⟩).elim | skip
    obtain ⟨rfl, _⟩ := h ⟨[], 0⟩
    intro _
    exact RunsF.of_runsFatal (fun it => (h it).2)

/-- The value of an atom: a function of the scopes only. -/
def atomVal (scopes : SScopes) : Expr → Option Val
  | .int _ v => some (.int (I64.ofInt v))
  | .bool _ b => some (.bool b)
  | .str _ s => some (.str s)
  | .null _ => some .null
  | .none _ => some (.opt none)
  | .ident _ _ name _ _ _ => lookupScopes name scopes
  | .grouped _ e => atomVal scopes e
  | _ => none

theorem atom_eval (cfg : Cfg) : ∀ (n : Nat) (e : Expr) (st : St), Frag.depthE e ≤ n → Frag.atomE e = true →
    (∀ x ∈ Frag.varsE e, (lookupScopes x st.scopes).isSome = true) →
    ∃ v, atomVal st.scopes e = some v ∧
      (∀ fuel, evalExpr cfg fuel e st = (.error .timeout, st) ∨ evalExpr cfg fuel e st = (.ok v, st)) ∧
      (∀ fuel, Frag.depthE e ≤ fuel → evalExpr cfg fuel e st = (.ok v, st)) := by
  intro n
  induction n with
  | zero => intro e st hd; have := depthE_pos e; omega
  | succ n ih =>
    intro e st hd ha hb
    have lit : ∀ (e : Expr) (v : Val), atomVal st.scopes e = some v → Frag.depthE e = 1 →
        (∀ f, evalExpr cfg (f + 1) e st = (.ok v, st)) →
        ∃ v, atomVal st.scopes e = some v ∧
          (∀ fuel, evalExpr cfg fuel e st = (.error .timeout, st) ∨ evalExpr cfg fuel e st = (.ok v, st)) ∧
          (∀ fuel, Frag.depthE e ≤ fuel → evalExpr cfg fuel e st = (.ok v, st)) := by
      intro e v hv hd h
      refine ⟨v, hv, fun fuel => ?_, fun fuel hf => ?_⟩
      · cases fuel with
        | zero => left; rw [evalExpr]; rfl
        | succ f => right; exact h f
      · obtain ⟨f, rfl⟩ : ∃ f, fuel = f + 1 := ⟨fuel - 1, by omega⟩
        exact h f
    cases e <;> try (simp [Frag.atomE] at ha; done)
    case int | bool | str | null | none => exact lit _ _ rfl rfl (fun f => by rw [evalExpr]; rfl)
    case ident sp ty name g f s =>
      have := hb name (by simp [Frag.varsE])
      cases hl : lookupScopes name st.scopes with
      | none => simp [hl] at this
      | some v => exact lit _ v hl rfl (fun f' => evalExpr_ident _ _ _ _ _ _ _ _ _ v hl)
    case grouped sp e =>
      simp only [Frag.atomE] at ha
      simp only [Frag.depthE] at hd
      obtain ⟨v, hv, h1, h2⟩ := ih e st (by omega) ha (by simpa [Frag.varsE] using hb)
      refine ⟨v, hv, ?_, ?_⟩
      · intro fuel
        cases fuel with
        | zero => left; rw [evalExpr]; rfl
        | succ f => rw [evalExpr_grouped]; exact h1 f
      · intro fuel hf
        simp only [Frag.depthE] at hf
        obtain ⟨f, rfl⟩ : ∃ f, fuel = f + 1 := ⟨fuel - 1, by omega⟩
        rw [evalExpr_grouped]; exact h2 f (by omega)

theorem bound_of_resolved {T σ lim mp mem} {scopes : CScopes} {ss : SScopes}
    (h : ScopesRel T σ lim mp mem scopes ss) (xs : List String) (hT : ∀ x ∈ xs, x ∈ T)
    (hres : Frag.resolved scopes xs = true) : ∀ x ∈ xs, (lookupScopes x ss).isSome = true := by
  intro x hx
  simp only [Frag.resolved, List.all_eq_true] at hres
  obtain ⟨m, hρ⟩ := Option.isSome_iff_exists.mp (hres x hx)
  obtain ⟨v, hv, _⟩ := h.read T σ lim mp (hT x hx) hρ
  rw [hv]; rfl

/-- An atom on both sides: the specification touches nothing, the VM pushes the value whatever the operand stack and the
world. -/
theorem atom_sim (G : GCtx) (A : Act) (hA : A.OK G) (e : Expr) (st : St) (ip : Nat) (mem : Mem) (lm : LM)
    (scopes : CScopes) (vm : List (String × Nat))
    (ha : Frag.atomE e = true) (hres : Frag.resolved scopes (Frag.varsE e) = true)
    (hT : ∀ x ∈ Frag.varsE e, x ∈ A.T)
    (hpl : Placed A.lab A.σ A.c ip (cpE G.mod (ρS scopes) e lm).1)
    (hrel : StRel G.mod A.T A.N A.σ G.lim A.mp scopes vm st.scopes mem) :
    ∃ v, atomVal st.scopes e = some v ∧
      (∀ st2 : St, st2.scopes = st.scopes → ∀ fuel,
        evalExpr G.cfg fuel e st2 = (.error .timeout, st2) ∨ evalExpr G.cfg fuel e st2 = (.ok v, st2)) ∧
      ∀ stk out, Runs G.fr G.code G.lim G.s A.fn A.rest A.mp ip stk mem out
        (ip + nI (cpE G.mod (ρS scopes) e lm).1) (⟨v, none⟩ :: stk) mem out := by
  have hb := bound_of_resolved hrel.scopes (Frag.varsE e) hT hres
  obtain ⟨v, hv, _, _⟩ := atom_eval G.cfg _ e st (Nat.le_refl _) ha hb
  have hval : ∀ st2 : St, st2.scopes = st.scopes →
      (∀ fuel, evalExpr G.cfg fuel e st2 = (.error .timeout, st2) ∨ evalExpr G.cfg fuel e st2 = (.ok v, st2)) ∧
      (∀ fuel, Frag.depthE e ≤ fuel → evalExpr G.cfg fuel e st2 = (.ok v, st2)) := fun st2 hsc => by
    obtain ⟨v', hv', h⟩ := atom_eval G.cfg _ e st2 (Nat.le_refl _) ha (by rw [hsc]; exact hb)
    rw [hsc, hv] at hv'
    cases hv'
    exact h
  refine ⟨v, hv, fun st2 hsc => (hval st2 hsc).1, fun stk out => ?_⟩
  have henv := hrel.scopes.envRel A.T A.σ G.lim A.mp (Frag.varsE e) hT hres
  have h := fun it => exec_pure G.cfg G.code G.lim G.mod (ρS scopes) A.σ A.lab
    (baseOf (withIt G.s it) A.fn A.rest A.mp out)
    ⟨A.fn, 0⟩ A.rest A.c rfl hA.code (Frag.depthE e) e { st with heap := out.heap } ip stk mem lm (atom_pure e ha)
    hpl henv rfl
  simp only [(hval { st with heap := out.heap } rfl).2 _ (Nat.le_refl _)] at h
  exact Runs.of_runsTo (fun it => (h it).2)

theorem StRel.memLe {mod T N σ lim mp cs vm ss mem mem'} (h : StRel mod T N σ lim mp cs vm ss mem)
    (hm : CellsLe mp mem mem') : StRel mod T N σ lim mp cs vm ss mem' :=
  ⟨ScopesRel.mem_congr T σ lim mp (fun m _ => hm _ (by omega)) h.scopes, h.nodup, h.inN, h.named⟩

/-- The induction hypothesis on fuel: the body of every callable function is simulated from any caller's frames. -/
def PCall (G : GCtx) (fuel : Nat) : Prop :=
  ∀ (g : String) (fd : FnDef) (I : FnInfo) (stmts : List Stmt) (e : Expr), G.K g →
    findFn G.cfg.prog G.mod g = some fd → FnOK G g fd I stmts e →
    (G.fr = true → ∀ y ∈ I.T, ("$iter_" ++ y) ∉ I.T) →
    ∀ (sp : Span) (svals : List SVal) (st : St) (frames : List Frame) (mp : Int) (stk : List SVal)
      (mem : Mem), SpecOK G mp st → 0 ≤ mp →
    SimCall G (mangleFnName G.mod g) frames mp svals stk mem st
      (callBody G.cfg fuel sp G.mod fd.params fd.body (svals.map (·.v)) st)

theorem SimGE.error_n {G A ip n stk mem st c st1} (n' : Nat) (h : SimGE G A ip n stk mem st (.error c, st1)) :
    SimGE G A ip n' stk mem st (.error c, st1) := by
  cases c <;> first | trivial | exact h

theorem frame_trans {st0 st st1 : St} (h0 : st = { st0 with out := st.out, heap := st.heap })
    (h1 : st1 = { st with out := st1.out, heap := st1.heap }) : st1 = { st0 with out := st1.out, heap := st1.heap } := by
  rw [h1, h0]

theorem SimGE.error_after {G : GCtx} {A : Act} {ip n stk mem st c st1 ip1 mem1} {st0 : St} (n' : Nat)
    (ys : List SVal)
    (h0 : Runs G.fr G.code G.lim G.s A.fn A.rest A.mp ip stk mem st0.world ip1 (ys ++ stk) mem1 st.world)
    (hfr : st = { st0 with out := st.out, heap := st.heap }) (hml : MemLe G.fr A.mp mem mem1)
    (h : SimGE G A ip1 n (ys ++ stk) mem1 st (.error c, st1)) : SimGE G A ip n' stk mem st0 (.error c, st1) := by
  cases c <;> first | trivial | exact h.elim | exact fun hk => h0.fatal (h hk) | skip
  obtain ⟨hfr1, mem2, hT, hml2⟩ := h
  exact ⟨frame_trans hfr hfr1, mem2, Runs.throw ys h0 hT, hml.trans hml2⟩

theorem Act.OK.cell {G : GCtx} {A : Act} (hA : A.OK G) (m : String) (hm : A.N m) :
    0 ≤ A.mp - (A.σ m : Int) ∧ A.mp - (A.σ m : Int) < (G.lim.memory : Int) ∧
      A.mp - (A.nv : Int) < A.mp - (A.σ m : Int) := by
  have := hA.slot m hm; have := hA.lo; have := hA.hi
  omega

/-- One instruction, given by its `exec1` equation. `_hA` only names `G` and `A`: the equation alone does not determine
`G.s`, `G.lim`, `A.rest`, `A.mp`. -/
theorem Act.OK.step {G : GCtx} {A : Act} (_hA : A.OK G) {ip ip' : Nat} {stk stk' : List SVal} (mem : Mem)
    {cells' : List (Int × Val)} {w w' : World} (hinv : HeapInv w.heap → HeapInv w'.heap)
    (h : ∀ it k, exec1 G.code G.lim (mkS (withIt G.s it) (⟨A.fn, ip⟩ :: A.rest) A.mp k stk mem.cells w) =
      .next (mkS (withIt G.s it) (⟨A.fn, ip'⟩ :: A.rest) A.mp (k + 1) stk' cells' w')) :
    Runs G.fr G.code G.lim G.s A.fn A.rest A.mp ip stk mem w ip' stk' ⟨cells', mem.it⟩ w' :=
  ⟨fun k => ⟨1, by rw [execHN_one]; exact exec1H_of_next (h mem.it k)⟩, hinv⟩

section Instr
variable {G : GCtx} {A : Act} (hA : A.OK G) {ip : Nat} {sp : Span} {stk : List SVal} {mem : Mem} {out : World}
include hA

theorem Act.OK.jump {l : Nat} (hx : A.c[ip]? = some (.jump l, sp)) :
    Runs G.fr G.code G.lim G.s A.fn A.rest A.mp ip stk mem out l stk mem out :=
  Runs.of_runsTo fun it => RunsTo.of_exec1 fun k =>
    reach_jump G.code G.lim (baseOf (withIt G.s it) A.fn A.rest A.mp out) ip k stk mem ⟨A.fn, 0⟩ A.rest A.c rfl
      hA.code l sp hx

theorem Act.OK.jumpIfFalse {l : Nat} {b : Bool} {ob : Option Org} (hx : A.c[ip]? = some (.jumpIfFalse l, sp)) :
    Runs G.fr G.code G.lim G.s A.fn A.rest A.mp ip (⟨.bool b, ob⟩ :: stk) mem out (if b then ip + 1 else l) stk mem out :=
  Runs.of_runsTo fun it => RunsTo.of_exec1 fun k =>
    reach_jumpIfFalse G.code G.lim (baseOf (withIt G.s it) A.fn A.rest A.mp out) ip k stk mem ⟨A.fn, 0⟩ A.rest A.c rfl
      hA.code l sp b ob hx

theorem Act.OK.drop {v : SVal} (hx : A.c[ip]? = some (.drop, sp)) :
    Runs G.fr G.code G.lim G.s A.fn A.rest A.mp ip (v :: stk) mem out (ip + 1) stk mem out :=
  Runs.of_runsTo fun it => RunsTo.of_exec1 fun k =>
    reach_drop G.code G.lim (baseOf (withIt G.s it) A.fn A.rest A.mp out) ip k stk mem ⟨A.fn, 0⟩ A.rest A.c rfl
      hA.code sp v hx

theorem Act.OK.getVar {m : String} {v : Val} (hm : A.N m) (hx : A.c[ip]? = some (.getVar (A.σ m), sp))
    (hv : mem.cells.lookup (A.mp - (A.σ m : Int)) = some v) :
    Runs G.fr G.code G.lim G.s A.fn A.rest A.mp ip stk mem out (ip + 1) (⟨v, none⟩ :: stk) mem out :=
  Runs.of_runsTo fun it => RunsTo.of_exec1 fun k =>
    reach_getVar G.code G.lim (baseOf (withIt G.s it) A.fn A.rest A.mp out) ip k stk mem ⟨A.fn, 0⟩ A.rest A.c rfl
      hA.code (A.σ m) sp v hx (hA.cell m hm).1 (hA.cell m hm).2.1 hv

theorem Act.OK.setVar {m : String} {v : Val} {ov : Option Org} (hm : A.N m)
    (hx : A.c[ip]? = some (.setVar (A.σ m), sp)) :
    Runs G.fr G.code G.lim G.s A.fn A.rest A.mp ip (⟨v, ov⟩ :: stk) mem out (ip + 1) stk
      (mem.set (A.mp - (A.σ m : Int)) v) out :=
  Runs.of_runsTo fun it => RunsTo.of_exec1 fun k =>
    reach_setVar G.code G.lim (baseOf (withIt G.s it) A.fn A.rest A.mp out) ip k stk mem ⟨A.fn, 0⟩ A.rest A.c rfl
      hA.code (A.σ m) sp v ov hx (hA.cell m hm).1 (hA.cell m hm).2.1

theorem Act.OK.push {pv : PVal} (v : Val) (hx : A.c[ip]? = some (.copyPush pv, sp)) (hp : ∀ st, pvalToVal st pv = (v, st))
    (stk : List SVal) (mem : Mem) (w : World) :
    Runs G.fr G.code G.lim G.s A.fn A.rest A.mp ip stk mem w (ip + 1) (⟨v, none⟩ :: stk) mem w :=
  Runs.of_runsTo fun it => RunsTo.of_exec1 fun k =>
    reach_push G.code G.lim (baseOf (withIt G.s it) A.fn A.rest A.mp w) ip k stk mem ⟨A.fn, 0⟩ A.rest A.c rfl hA.code
      pv sp v hx hp

theorem Act.OK.pre {op : PrefixOp} {a v : Val} {oa : Option Org} (hx : A.c[ip]? = some (mapLV A.lab A.σ (preI op), sp))
    (hv : preOp op a = .ok v) :
    Runs G.fr G.code G.lim G.s A.fn A.rest A.mp ip (⟨a, oa⟩ :: stk) mem out (ip + 1) (⟨v, none⟩ :: stk) mem out :=
  Runs.of_runsTo fun it => RunsTo.of_exec1 fun k =>
    reach_pre G.code G.lim (baseOf (withIt G.s it) A.fn A.rest A.mp out) ip k stk mem ⟨A.fn, 0⟩ A.rest A.c rfl
      hA.code op sp A.lab A.σ a v oa hx hv

end Instr

theorem execHN_callImm {G : GCtx} {A : Act} (hA : A.OK G) {ipc : Nat} {g : String} {sp : Span}
    (hx : A.c[ipc]? = some (.callImm g, sp)) (k : Nat) (stk : List SVal) (mem : Mem) (out : World) (n : Nat) :
    execHN G.code G.lim (1 + n) (mkSI G.s (⟨A.fn, ipc⟩ :: A.rest) A.mp k stk mem out) =
      execHN G.code G.lim n (mkSI G.s (⟨g, 0⟩ :: ⟨A.fn, ipc + 1⟩ :: A.rest) A.mp (k + 1) stk mem out) := by
  rw [execHN_add, execHN_one,
    exec1H_of_next (mkSI_callImm G.code G.lim G.s A.fn ipc A.rest A.mp k stk mem out A.c hA.code g sp hx)]

theorem Runs.call {G : GCtx} {A : Act} (hA : A.OK G) {ipc : Nat} {g : String} {sp : Span}
    {stk stk' : List SVal} {mem mem' : Mem} {out out' : World}
    (hx : A.c[ipc]? = some (.callImm g, sp))
    (h : RunsCall G g (⟨A.fn, ipc + 1⟩ :: A.rest) A.mp stk mem out stk' mem' out') :
    Runs G.fr G.code G.lim G.s A.fn A.rest A.mp ipc stk mem out (ipc + 1) stk' mem' out' := by
  refine ⟨fun k => ?_, h.inv⟩
  obtain ⟨k', e⟩ := h (k + 1)
  exact ⟨1 + k', by rw [execHN_callImm hA hx, e, Nat.add_assoc]⟩

theorem RunsF.call {G : GCtx} {A : Act} (hA : A.OK G) {ipc : Nat} {g : String} {sp : Span}
    {stk : List SVal} {mem : Mem} {out out' : World} {kd msg : String} {fsp : Span}
    (hx : A.c[ipc]? = some (.callImm g, sp))
    (h : RunsCallF G g (⟨A.fn, ipc + 1⟩ :: A.rest) A.mp stk mem out kd msg fsp out') :
    RunsF G.code G.lim G.s A.fn A.rest A.mp ipc stk mem out kd msg fsp out' := by
  intro k
  obtain ⟨k', s', e, hs⟩ := h (k + 1)
  exact ⟨1 + k', s', by rw [execHN_callImm hA hx, e], hs⟩

theorem RunsT0.call {G : GCtx} {A : Act} (hA : A.OK G) {ipc : Nat} {g : String} {sp : Span} {cur stk0 : List SVal}
    {mem mem' : Mem} {out out' : World} {msg : String} {tsp : Span} (hx : A.c[ipc]? = some (.callImm g, sp))
    (h : RunsCallT G g (⟨A.fn, ipc + 1⟩ :: A.rest) A.mp cur stk0 mem out msg tsp mem' out') :
    RunsT0 G A.fn A.rest A.mp stk0 ipc cur mem out msg tsp mem' out' := by
  refine ⟨fun k => ?_, h.inv⟩
  obtain ⟨k2, s1, frames', mp', xs, e2, e3⟩ := h (k + 1)
  exact ⟨1 + k2, s1, frames', ipc + 1, mp', xs, by rw [execHN_callImm hA hx, e2], by rw [e3]; simp only [Nat.add_assoc]⟩

def GCtx.withH (G : GCtx) (hs : List Handler) : GCtx := { G with s := HmsProofs.Sim.withH G.s hs }

theorem GCtx.OK'.withH {G : GCtx} (h : G.OK') (hs : List Handler) : (G.withH hs).OK' :=
  { h with
    prog := fun g fd hK hf => by
      obtain ⟨I, stmts, e, hFn, hgh⟩ := h.prog g fd hK hf
      exact ⟨I, stmts, e, { hFn with }, hgh⟩ }

theorem Act.OK.withH {G : GCtx} {A : Act} (h : A.OK G) (hs : List Handler) (rt : Bool) :
    ({ A with rt := rt } : Act).OK (G.withH hs) :=
  { h with }

end HmsProofs.Sim
