import Hms.Fuzz.Rules
import HmsProofs.Lemmas.FuzzArith
import HmsProofs.Lemmas.SemStep
/-! The rewrite rules against the evaluator of the specification semantics. A variant nests its operands deeper than
the original, so the two sides are compared at the fuels at which the same sub-evaluations happen (the offsets are
explicit in every statement). -/
namespace HmsProofs.Lemmas.Fuzz
open Hms.Core Hms.Fuzz

/-- Evaluating `e` never changes the state, and the only way it fails is by
running out of fuel — the class hypothesis "side-effect free" of the property statement for the
sub-expressions a rule reorders or duplicates. -/
def PureAt (cfg : Cfg) (e : Expr) : Prop :=
  ∀ (fuel : Nat) (st : St), (∃ v, evalExpr cfg fuel e st = (.ok v, st)) ∨ evalExpr cfg fuel e st = (.error .timeout, st)

/-- A hypothesis of the commutation rule, standing for the recorded type `int` of the operand (no theorem here derives
it from that type). -/
def IntValued (cfg : Cfg) (e : Expr) : Prop :=
  ∀ fuel st v st', evalExpr cfg fuel e st = (.ok v, st') → ∃ x, v = .int x

theorem pureAt_const {cfg : Cfg} {e : Expr} {v : Val} (h : ∀ fuel, evalExpr cfg (fuel + 1) e = pure v) :
    PureAt cfg e := by
  intro fuel st
  cases fuel with
  | zero => right; rfl
  | succ f => left; exact ⟨v, by rw [h]; rfl⟩

theorem eval_grouped (cfg : Cfg) (fuel : Nat) (sp : Span) (e : Expr) :
    evalExpr cfg (fuel + 1) (.grouped sp e) = evalExpr cfg fuel e :=
  Sim.evalExpr_grouped cfg fuel sp e

theorem pure_grouped (cfg : Cfg) (sp : Span) (e : Expr) (h : PureAt cfg e) : PureAt cfg (.grouped sp e) := by
  intro fuel st
  cases fuel with
  | zero => right; rfl
  | succ f => rw [eval_grouped]; exact h f st

/-- Two pure evaluations commute, whatever is done with the two results: `k` and `k'` have to
agree only on the values the two operands yield in the state at hand. -/
theorem swap_pure {cfg : Cfg} {l r : Expr} (hl : PureAt cfg l) (hr : PureAt cfg r) (fuel : Nat)
    (k k' : Val → Val → M Val) (st : St)
    (hk : ∀ a b, evalExpr cfg fuel l st = (.ok a, st) → evalExpr cfg fuel r st = (.ok b, st) → k a b = k' b a) :
    (do let a ← evalExpr cfg fuel l; let b ← evalExpr cfg fuel r; k a b : M Val) st
      = (do let b ← evalExpr cfg fuel r; let a ← evalExpr cfg fuel l; k' b a : M Val) st := by
  rcases hl fuel st with ⟨a, ha⟩ | ha <;> rcases hr fuel st with ⟨b, hb⟩ | hb <;>
    simp only [Sim.M_bind, ha, hb]
  rw [hk a b ha hb]

theorem eval_swap_local {cfg : Cfg} {l r : Expr} (hl : PureAt cfg l) (hr : PureAt cfg r) (fuel : Nat)
    (sp : Span) (ty : Ty) {op op' : InfixOp} (hop : op ≠ .or ∧ op ≠ .and) (hop' : op' ≠ .or ∧ op' ≠ .and)
    (st : St)
    (hk : ∀ a b, evalExpr cfg fuel l st = (.ok a, st) → evalExpr cfg fuel r st = (.ok b, st) →
      binOp op a b sp = binOp op' b a sp) :
    evalExpr cfg (fuel + 2) (.infix sp ty op' (grp r) (grp l)) st
      = evalExpr cfg (fuel + 1) (.infix sp ty op l r) st := by
  rw [Sim.evalExpr_infix_bind cfg fuel sp ty op l r hop,
    Sim.evalExpr_infix_bind cfg (fuel + 1) sp ty op' (grp r) (grp l) hop', grp, grp, eval_grouped, eval_grouped]
  exact (swap_pure hl hr fuel _ _ st hk).symm

theorem eval_swap (cfg : Cfg) (l r : Expr) (hl : PureAt cfg l) (hr : PureAt cfg r) (fuel : Nat)
    (sp : Span) (ty : Ty) (op op' : InfixOp) (hop : op ≠ .or ∧ op ≠ .and) (hop' : op' ≠ .or ∧ op' ≠ .and)
    (hk : ∀ a b, binOp op a b sp = binOp op' b a sp) (st : St) :
    evalExpr cfg (fuel + 2) (.infix sp ty op' (grp r) (grp l)) st
      = evalExpr cfg (fuel + 1) (.infix sp ty op l r) st :=
  eval_swap_local hl hr fuel sp ty hop hop' st fun a b _ _ => hk a b

theorem eval_cmp_swap (cfg : Cfg) (l r : Expr) (hl : PureAt cfg l) (hr : PureAt cfg r) (fuel : Nat)
    (sp : Span) (ty : Ty) (op : InfixOp) (hop : op = .lt ∨ op = .gt ∨ op = .le ∨ op = .ge) (st : St) :
    evalExpr cfg (fuel + 1) (cmpSwap l r (.infix sp ty op l r)) st
      = evalExpr cfg (fuel + 1) (.infix sp ty op l r) st := by
  have h1 : op ≠ .or ∧ op ≠ .and := by rcases hop with rfl | rfl | rfl | rfl <;> simp
  have h2 : revOp op ≠ .or ∧ revOp op ≠ .and := by rcases hop with rfl | rfl | rfl | rfl <;> simp [revOp]
  simp only [cmpSwap]
  rw [Sim.evalExpr_infix_bind cfg fuel sp ty op l r h1, Sim.evalExpr_infix_bind cfg fuel sp ty (revOp op) r l h2]
  exact (swap_pure hl hr fuel _ _ st fun a b _ _ => cmp_swap_revOp hop a b sp).symm

/-! The witness of `C20.commute_needs_purity_counterexample`. -/

def spZ : Span := ⟨0, 0, 0, 0⟩

/-- `{ x = 5; x }`: an operand with an effect on the variable `x`. -/
def effectfulOperand : Expr :=
  .blockE (.mk spZ .int [.exprS spZ (.assign spZ none (identE spZ .int "x") (.int spZ 5))]
    (some (identE spZ .int "x")))

def readX : Expr := identE spZ .int "x"

def stateX1 : St := { scopes := [[("x", .int 1)]] }

def intResult (r : Except Ctl Val × St) : Option Int :=
  match r.1 with
  | .ok (.int v) => some v.toInt
  | _ => none

end HmsProofs.Lemmas.Fuzz
