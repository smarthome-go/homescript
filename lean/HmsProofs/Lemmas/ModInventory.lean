import HmsGen.MapRanges
import Hms.Mod.Order
import HmsProofs.Lemmas.ModPerm
import HmsProofs.Lemmas.ModLink
import HmsProofs.Lemmas.ModInit
/-!
# Classification of every `range` over a map and of every package-level variable

`HmsGen.mapRanges` / `HmsGen.packageVars` are regenerated from the Go code on every run
(`harness/inventory.go`, go/packages + go/types). Every entry must appear in the hand-written
tables below with a verdict; a new map iteration or a new package-level variable makes
`HmsProofs.C14.map_ranges_covered` / `fresh_state` fail (an undischarged obligation).

Lemma names are double-backtick names: they are resolved when this file is compiled, so a table
entry cannot point at a lemma that does not exist.
-/
namespace Hms.Mod

inductive Verdict where
  /-- the order cannot reach an observable, because … -/
  | unobservable (why : String)
  /-- order-independence of the modelled computation is a theorem -/
  | covered (lemma : Lean.Name) (why : String)
  /-- order-independence holds only under the hypothesis of the named partial theorem: open finding -/
  | openFinding (id : String) (lemma : Lean.Name) (why : String)
  /-- outside the model (said so in the evidence) -/
  | unmodelled (why : String)

abbrev Site := String × String × Nat

def insertOnly := "the body only stores one entry per key into another map (keys are distinct): the resulting map is the same"
def sortedFirst := "the keys are collected, sorted, and only then used"
def forall_ := "the loop returns a constant on the first failing entry: its result is a conjunction over the entries"
def warnings := "one diagnostic per entry is appended: the multiset of diagnostics is the same"

def classification : List (Site × Verdict) := [
  (("analyzer/analyzer.go", "Analyzer.analyzeModule", 0), .covered ``perm_invariant_rebuild ("scope additions → root scope; " ++ insertOnly)),
  (("analyzer/analyzer.go", "Analyzer.analyzeModule", 1), .covered ``perm_invariant_rebuild ("each singleton updates the one output entry of its own name; " ++ insertOnly)),
  (("analyzer/analyzer.go", "Analyzer.analyzeModule", 2), .covered ``perm_invariant_dropScope ("unused singletons; " ++ warnings)),
  (("analyzer/analyzer.go", "Analyzer.dropScope", 0), .covered ``perm_invariant_dropScope ("unused types; " ++ warnings)),
  (("analyzer/analyzer.go", "Analyzer.dropScope", 1), .covered ``perm_invariant_dropScope ("unused variables / parameters / imports; " ++ warnings)),
  (("analyzer/ast/expression.go", "escapeHmsString", 0), .unobservable "three replacements of distinct single characters (newline, quote, tab); no replacement text contains a character another rule replaces: they commute (argued, exercised by C19)"),
  (("analyzer/singleton.go", "Analyzer.WithCapabilities", 0), .covered ``perm_invariant_sortByKey ("capability names of an implementation (repaired: finding A13); " ++ sortedFirst)),
  (("analyzer/topLevel.go", "Analyzer.validateTemplateConstraints", 0), .covered ``perm_invariant_emit ("required template methods; " ++ warnings ++ " (host templates: not generated)")),
  (("analyzer/topLevel.go", "Analyzer.validateTemplateConstraints", 1), .covered ``perm_invariant_any "is the method one of the required ones: an existence test"),
  (("compiler/compiler.go", "Compiler.Compile", 0), .covered ``perm_invariant_rebuild ("modules → output functions, keyed by mangled name (injective: mangleFn_injective_partial); " ++ insertOnly)),
  (("compiler/compiler.go", "Compiler.Compile", 1), .covered ``perm_invariant_rebuild ("functions of a module → output functions; " ++ insertOnly)),
  (("compiler/compiler.go", "Compiler.compileProgram", 0), .openFinding "V22" ``perm_invariant_compileProgram_partial "pass 1 over the modules: all globals share scope 0 keyed by the source name — order-independent only without cross-module clashes"),
  (("compiler/compiler.go", "Compiler.compileProgram", 1), .covered ``perm_invariant_rebuild ("entry module functions → mappings; " ++ insertOnly)),
  (("compiler/compiler.go", "Compiler.compileProgram", 2), .openFinding "V22" ``perm_invariant_compileProgram_partial "pass 2 over the modules: function bodies; names are linked through getMangledFn / scope 0"),
  (("compiler/compiler.go", "Compiler.compileProgram", 3), .covered ``init_once_vm "order of the calls to the other modules' @init: each is called exactly once and initialisers are constants writing only their own module's globals"),
  (("compiler/instruction.go", "CompileOutput.AsmStringHighlight", 0), .covered ``perm_invariant_sortByKey sortedFirst),
  (("compiler/ir.go", "Compiler.relocateLabels", 0), .covered ``perm_invariant_rebuild ("modules; every function is relocated on its own; " ++ insertOnly)),
  (("compiler/ir.go", "Compiler.relocateLabels", 1), .covered ``perm_invariant_rebuild ("functions of a module; labels are local to a function; " ++ insertOnly)),
  (("compiler/ir.go", "Compiler.renameVariables", 0), .openFinding "V12" ``perm_invariant_renameVariables_partial "modules: the slot map is shared by all functions — order-independent only when no variable name occurs in two functions (no captures; mangling injective)"),
  (("compiler/ir.go", "Compiler.renameVariables", 1), .openFinding "V12" ``perm_invariant_renameVariables_partial "functions of a module: as above"),
  (("compiler/util.go", "Compiler.getMangledFn", 0), .covered ``lookup_perm_of_nodup_keys "search of the current module's functions for a key: at most one entry matches"),
  (("compiler/util.go", "Compiler.getMangledFn", 1), .openFinding "V22" ``link_correct_partial "fallback to any module: the first module in map order that has a function of that name"),
  (("compiler/util.go", "Compiler.getMangledFn", 2), .openFinding "V22" ``link_correct_partial "fallback to any module (inner loop over its functions): at most one entry matches per module"),
  (("compiler/util.go", "upgradeValue", 0), .covered ``perm_invariant_rebuild ("any-object fields; " ++ insertOnly)),
  (("compiler/util.go", "upgradeValue", 1), .covered ``perm_invariant_rebuild ("object fields; " ++ insertOnly)),
  (("interpreter/module.go", "Interpreter.execModule", 0), .covered ``perm_invariant_rebuild ("scope additions → root scope; " ++ insertOnly)),
  (("interpreter/util.go", "Interpreter.callFunc", 0), .covered ``perm_invariant_rebuild ("evaluated arguments (a map built from the ordered argument list) → new scope; " ++ insertOnly)),
  (("interpreter/value/cast.go", "deepCastRecursive", 0), .covered ``perm_invariant_sortByKey ("after the fix for V35: " ++ sortedFirst ++ " (before: the first failing field in map order was reported)")),
  (("interpreter/value/cast.go", "DeepCast", 0), .covered ``perm_invariant_sortByKey ("after the fix for V35: " ++ sortedFirst ++ " (before: the first failing field in map order was reported)")),
  (("interpreter/value/json.go", "sortedFieldKeys", 0), .covered ``perm_invariant_sortByKey ("field names of an object / any-object for to_json (repaired: finding M4 — the loops of marshalValue ranged over the map and returned at the first field that cannot be encoded, so the error named a field in map order); " ++ sortedFirst)),
  (("interpreter/value/json.go", "unmarshalValue", 0), .covered ``perm_invariant_rebuild ("decoded JSON object → fields; the error return is unreachable for values produced by encoding/json; " ++ insertOnly)),
  (("interpreter/value/valueAnyObject.go", "containsAnyObject", 0), .covered ``perm_invariant_any "is the any-object contained in some field (repair X29): an existence test"),
  (("interpreter/value/valueAnyObject.go", "containsAnyObject", 1), .covered ``perm_invariant_any "is the any-object contained in some field (repair X29): an existence test"),
  (("interpreter/value/valueAnyObject.go", "ValueAnyObject.Display", 0), .covered ``perm_invariant_displayFields sortedFirst),
  (("interpreter/value/valueAnyObject.go", "ValueAnyObject.Fields", 0), .covered ``perm_invariant_sortByKey ("`keys`: " ++ sortedFirst)),
  (("interpreter/value/valueAnyObject.go", "ValueAnyObject.IsEqual", 0), .covered ``perm_invariant_fieldsEqual forall_),
  (("interpreter/value/valueObject.go", "ValueObject.IntoAnyObject", 0), .covered ``perm_invariant_rebuild ("copy of the fields into the new any-object (repair X27); " ++ insertOnly)),
  (("interpreter/value/valueObject.go", "ValueObject.Display", 0), .covered ``perm_invariant_displayFields sortedFirst),
  (("interpreter/value/valueObject.go", "ValueObject.Fields", 0), .covered ``perm_invariant_sortByKey ("`keys`: " ++ sortedFirst)),
  (("interpreter/value/valueObject.go", "ValueObject.Fields", 1), .covered ``perm_invariant_rebuild ("fields → member table; " ++ insertOnly)),
  (("interpreter/value/valueObject.go", "ValueObject.IsEqual", 0), .covered ``perm_invariant_fieldsEqual forall_),
  (("optimizer/optimizer.go", "Optimizer.Optimize", 0), .covered ``perm_invariant_rebuild ("modules are optimised one by one; " ++ insertOnly ++ "; " ++ warnings)),
  (("runtime/core.go", "Core.Run", 0), .unobservable "inside `if vmVerbose != VMNotVerbose` with `const vmVerbose = VMNotVerbose`: dead code in every build"),
  (("runtime/execute.go", "Core.runInstruction", 0), .unobservable "dump of all globals appended (after the first line) to the message of an internal abort — a host panic of the VM, judged by C02; nothing else reads it"),
  (("runtime/value/cast.go", "deepCastRecursive", 0), .covered ``perm_invariant_sortByKey ("after the fix for V35: " ++ sortedFirst ++ " (before: the first failing field in map order was reported)")),
  (("runtime/value/json.go", "MarshalValue", 0), .covered ``perm_invariant_rebuild ("any-object fields → map for encoding/json (which sorts keys); " ++ insertOnly)),
  (("runtime/value/json.go", "MarshalValue", 1), .covered ``perm_invariant_rebuild ("object fields → map for encoding/json; " ++ insertOnly)),
  (("runtime/value/json.go", "UnmarshalValue", 0), .covered ``perm_invariant_rebuild ("decoded JSON object → fields; the error return is unreachable for values produced by encoding/json; " ++ insertOnly)),
  (("runtime/value/valueAnyObject.go", "containsAnyObject", 0), .covered ``perm_invariant_any "is the any-object contained in some field (repair X29): an existence test"),
  (("runtime/value/valueAnyObject.go", "containsAnyObject", 1), .covered ``perm_invariant_any "is the any-object contained in some field (repair X29): an existence test"),
  (("runtime/value/valueAnyObject.go", "ValueAnyObject.Clone", 0), .covered ``perm_invariant_rebuild ("field-wise clone; " ++ insertOnly)),
  (("runtime/value/valueAnyObject.go", "ValueAnyObject.Display", 0), .covered ``perm_invariant_displayFields sortedFirst),
  (("runtime/value/valueAnyObject.go", "ValueAnyObject.Fields", 0), .covered ``perm_invariant_sortByKey ("`keys`: " ++ sortedFirst)),
  (("runtime/value/valueAnyObject.go", "ValueAnyObject.IsEqual", 0), .covered ``perm_invariant_fieldsEqual forall_),
  (("runtime/value/valueObject.go", "ValueObject.Clone", 0), .covered ``perm_invariant_rebuild ("field-wise clone; " ++ insertOnly)),
  (("runtime/value/valueObject.go", "ValueObject.Display", 0), .covered ``perm_invariant_displayFields sortedFirst),
  (("runtime/value/valueObject.go", "ValueObject.DisplayFlat", 0), .unobservable "no caller anywhere in the tree (dead exported method; it does follow map order, like Display before the fix for V21)"),
  (("runtime/value/valueObject.go", "ValueObject.Fields", 0), .covered ``perm_invariant_sortByKey ("`keys`: " ++ sortedFirst)),
  (("runtime/value/valueObject.go", "ValueObject.Fields", 1), .covered ``perm_invariant_rebuild ("fields → member table; " ++ insertOnly)),
  (("runtime/value/valueObject.go", "ValueObject.IsEqual", 0), .covered ``perm_invariant_fieldsEqual forall_)
]

def classify (s : Site) : Option Verdict := classification.lookup s

inductive VarVerdict where
  /-- never written after initialisation: a constant table -/
  | constantTable (why : String)
  /-- mutable state shared between runs -/
  | mutableState (why : String)

def varClassification : List ((String × String) × VarVerdict) := [
  (("parser/ast/types.go", "HMS_BUILTIN_TYPES"), .constantTable "list of builtin type names, only read (a `for … range` over the slice in parser/statement.go)"),
  (("testing_run.go", "testingLimits"), .constantTable "limits used by the repository's own test runner, only read")
]

def VarVerdict.isConstant : VarVerdict → Bool
  | .constantTable _ => true
  | .mutableState _ => false

end Hms.Mod
