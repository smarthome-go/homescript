import HmsProofs.Lemmas.PrattComplete
/-! Trailing commas erased by a function: what a run consumed is then the flattening of its tree (`flat_drop`). -/
namespace HmsProofs.Lemmas.Pratt
open Hms Hms.Pratt

/-- Erase every comma that is immediately followed by `)` or `]`. -/
def dropTrailingCommas : List TokKind → List TokKind
  | [] => []
  | k :: tl =>
    if k == .comma && startsWithCloser tl then dropTrailingCommas tl
    else k :: dropTrailingCommas tl

theorem dropTrailingCommas_cons {k : TokKind} (h : (k == .comma) = false) (tl : List TokKind) :
    dropTrailingCommas (k :: tl) = k :: dropTrailingCommas tl := by
  simp [dropTrailingCommas, h]

theorem dropTC_of_not_has : ∀ ts : List TokKind, hasTrailingComma ts = false →
    dropTrailingCommas ts = ts
  | [], _ => rfl
  | k :: tl, h => by
    simp only [hasTrailingComma, Bool.or_eq_false_iff] at h
    simp [dropTrailingCommas, h.1, dropTC_of_not_has tl h.2]

theorem start_not_closer {k : TokKind} (h : isStart k = true) : isCloser k = false := by
  unfold isCloser
  split <;> first | rfl | cases h

mutual
theorem flat_drop (prec : Prec) : ∀ {t : Tree} {c : List TokKind}, Flat t c →
    ∀ p, normal prec p t = true → ∀ rest,
      dropTrailingCommas (c ++ rest) = flatten t ++ dropTrailingCommas rest
  | _, _, .atom k, _, hn, rest => by
    simp only [normal] at hn
    simp [flatten, dropTrailingCommas_cons (beq_false_of_class hn rfl)]
  | _, _, .grp h, _, hn, rest => by
    simp only [normal] at hn
    have := flat_drop prec h 0 hn (.rParen :: rest)
    simp [flatten, dropTrailingCommas_cons, this]
  | _, _, .pre h, _, hn, rest => by
    simp only [normal, Bool.and_eq_true] at hn
    have := flat_drop prec h _ hn.2 rest
    simp [flatten, dropTrailingCommas_cons (beq_false_of_class hn.1 rfl), this]
  | _, _, .bin hl hr, p, hn, rest => by
    simp only [normal, Bool.and_eq_true] at hn
    have h1 := flat_drop prec hl p hn.1.1.2
    have h2 := flat_drop prec hr _ hn.2 rest
    simp [flatten, dropTrailingCommas_cons (beq_false_of_class hn.1.1.1.1 rfl), h1, h2]
  | _, _, .asg hl hr, p, hn, rest => by
    simp only [normal, Bool.and_eq_true] at hn
    have h1 := flat_drop prec hl p hn.1.1.1.2
    have h2 := flat_drop prec hr _ hn.2 rest
    simp [flatten, dropTrailingCommas_cons (beq_false_of_class hn.1.1.1.1.1 rfl), h1, h2]
  | _, _, .call hf ha, p, hn, rest => by
    simp only [normal, Bool.and_eq_true] at hn
    have h1 := flat_drop prec hf p hn.1.1.2
    have h2 := flatArgs_drop prec ha hn.2 .rParen rest rfl
    simp [flatten, dropTrailingCommas_cons, h1, h2]
  | _, _, .index hb hi, p, hn, rest => by
    simp only [normal, Bool.and_eq_true] at hn
    have h1 := flat_drop prec hb p hn.1.1.2
    have h2 := flat_drop prec hi 0 hn.2 (.rBracket :: rest)
    simp [flatten, dropTrailingCommas_cons, h1, h2]
  | _, _, .member hb, p, hn, rest => by
    simp only [normal, Bool.and_eq_true, Bool.or_eq_true, beq_iff_eq] at hn
    have h1 := flat_drop prec hb p hn.1.2
    rcases hn.1.1.1.2 with rfl | rfl <;>
      simp [flatten, dropTrailingCommas_cons (beq_false_of_class hn.1.1.1.1 rfl), dropTrailingCommas_cons, h1]
  | _, _, .cast hb, p, hn, rest => by
    simp only [normal, Bool.and_eq_true, beq_iff_eq] at hn
    have h1 := flat_drop prec hb p hn.1.2
    obtain ⟨⟨⟨rfl, _⟩, _⟩, _⟩ := hn
    simp [flatten, dropTrailingCommas_cons, h1]
  | _, _, .range (incl := incl) ha hb, p, hn, rest => by
    simp only [normal, Bool.and_eq_true] at hn
    have h1 := flat_drop prec ha p hn.1.1.2
    have h2 := flat_drop prec hb 0 hn.2 rest
    cases incl <;> simp [flatten, dropTrailingCommas_cons, h1, h2]
  | _, _, .list ha, _, hn, rest => by
    simp only [normal] at hn
    have h2 := flatArgs_drop prec ha hn .rBracket rest rfl
    simp [flatten, dropTrailingCommas_cons, h2]
theorem flatArgs_drop (prec : Prec) : ∀ {xs : Args} {c : List TokKind}, FlatArgs xs c →
    normalArgs prec xs = true → ∀ close rest, isCloser close = true →
      dropTrailingCommas (c ++ close :: rest) = flattenArgs xs ++ close :: dropTrailingCommas rest
  | _, _, .nil, _, close, rest, hc => by
    simp [flattenArgs, dropTrailingCommas_cons (beq_false_of_class hc rfl)]
  | _, _, .last h, hn, close, rest, hc => by
    simp only [normalArgs, Bool.and_eq_true] at hn
    have := flat_drop prec h 0 hn.1 (close :: rest)
    simp [flattenArgs, this, dropTrailingCommas_cons (beq_false_of_class hc rfl)]
  | _, _, .cons (xs := xs) (cs := cs) h hs, hn, close, rest, hc => by
    simp only [normalArgs, Bool.and_eq_true] at hn
    have h1 := flat_drop prec h 0 hn.1
    have h2 := flatArgs_drop prec hs hn.2 close rest hc
    cases xs with
    | nil =>
      cases hs
      simp [flattenArgs, h1, dropTrailingCommas, startsWithCloser, hc, beq_false_of_class (c := .comma) hc rfl]
    | cons y ys =>
      simp only [normalArgs, Bool.and_eq_true] at hn
      have hst : ∃ k tl, cs = k :: tl ∧ isStart k = true := by
        cases hs with
        | last hy => exact flat_start prec hy 0 hn.2.1
        | cons hy _ =>
          obtain ⟨k, tl, rfl, hk⟩ := flat_start prec hy 0 hn.2.1
          exact ⟨k, _, rfl, hk⟩
      obtain ⟨k, tl, hk, hks⟩ := hst
      -- the comma after `x` is followed by the first token of `y`, which starts an expression: it is kept
      have hnc : startsWithCloser (k :: (tl ++ close :: rest)) = false := by
        simp [startsWithCloser, start_not_closer hks]
      rw [hk] at h2
      simp only [List.cons_append] at h2
      simp only [hk, List.append_assoc, List.cons_append, h1, flattenArgs]
      simp [dropTrailingCommas, hnc]
      simpa [dropTrailingCommas] using h2
end

end HmsProofs.Lemmas.Pratt
