import HmsProofs.Lemmas.CheckBasic
/-! Soundness of the checker (C03): a result without error-level diagnostics is a derivation
of the declarative typing relation with the recorded attributes. -/

namespace HmsProofs.Lemmas.Check
open Hms.Check

/-- The tail of `Analyzer.expression` adds no diagnostic: the construct's own rule gives the typing. -/
theorem sound_wrap {Γ : Ctx} {s : Bool} {e : PExpr} {r : Res} (h : (wrap s r).errs = [])
    (hraw : r.errs = [] → Raw Γ e r.ty r.ex r.cst r.tys) :
    HasType Γ s e (wrap s r).ty (wrap s r).ex (wrap s r).cst (wrap s r).tys := by
  obtain ⟨h1, hany⟩ := wrap_errs_nil h
  rw [wrap_of_ok hany]; exact HasType.mk (hraw h1) hany

theorem sound_ident (Γ : Ctx) (s : Bool) (name : String) (h : (wrap s (identRes Γ name)).errs = []) :
    HasType Γ s (.ident name) (wrap s (identRes Γ name)).ty (wrap s (identRes Γ name)).ex (wrap s (identRes Γ name)).cst
      (wrap s (identRes Γ name)).tys := by
  refine sound_wrap h fun h1 => ?_
  unfold identRes at h1 ⊢
  cases hl : Γ.lookup name <;> simp only [hl] at h1 ⊢
  · cases h1
  · exact Raw.ident hl

/-! What soundness says of a result of the checker, for each of its mutually defined functions. -/
abbrev SExpr (Γ : Ctx) (s : Bool) (e : PExpr) (r : Res) : Prop := r.errs = [] → HasType Γ s e r.ty r.ex r.cst r.tys
abbrev SElems (Γ : Ctx) (lt : Ty) (xs : PExprs) (r : ElemsRes) : Prop := r.errs = [] → ElemsOK Γ lt xs r.lt r.ex r.cst r.tys
abbrev SFields (Γ : Ctx) (seen : List String) (fs : PFields) (r : FieldsRes) : Prop := r.errs = [] → FieldsOK Γ seen fs r.fields r.ex r.cst r.tys
abbrev SArgs (Γ : Ctx) (ps : List Ty) (rest : Option Ty) (as : PExprs) (r : ArgsRes) : Prop := r.errs = [] → ArgsOK Γ ps rest as r.ex r.tys
abbrev SSArgs (Γ : Ctx) (ps : List Ty) (rest : Option Ty) (as : PExprs) (r : ArgsRes) : Prop := r.errs = [] → SpawnArgsOK Γ ps rest as r.ex r.tys
/-- The arms of a `match` are run from a state with `hadErr = false` and keep it: the flag is set only together with a
diagnostic (`armJoin_none`), so in a run without one the result type of the `match` is never frozen, and `ArmsOK` has no
counterpart of the flag. -/
abbrev SArms (Γ : Ctx) (ctl : Ty) (st : MSt) (arms : PArms) (r : ArmsRes) : Prop := st.hadErr = false → r.errs = [] →
  r.st.hadErr = false ∧ ArmsOK Γ ctl st.rt st.dflt arms r.st.rt r.st.dflt r.ex r.tys
abbrev SLits (Γ : Ctx) (ctl : Ty) (lits : PLits) (r : LitsRes) : Prop := r.errs = [] → LitsOK Γ ctl lits r.ex r.tys
abbrev SStmt (Γ : Ctx) (st : PStmt) (r : StmtRes) : Prop := r.errs = [] → StmtOK Γ st r.ty r.ex r.tys r.vars
abbrev SStmts (Γ : Ctx) (ss : PStmts) (r : StmtsRes) : Prop := r.errs = [] → StmtsOK Γ ss r.never r.ex r.tys r.vars
abbrev SBlock (Γ : Ctx) (b : PBlock) (r : Res) : Prop := r.errs = [] → BlockOK Γ b r.ty r.ex r.cst r.tys

/-- Induction along the checker's own case analysis: one case per branch of the checker, with the tests that select
the branch as hypotheses. The branches that report a diagnostic of their own are vacuous; every other branch is the
rule of `Hms/Check/Typing.lean` for the construct, applied to the induction hypotheses and the side conditions read
off the empty error lists. -/
theorem sound_derivation :
    (∀ Γ s e, SExpr Γ s e (checkExpr Γ s e)) ∧ (∀ Γ ctl st arms, SArms Γ ctl st arms (checkArms Γ ctl st arms)) ∧
    (∀ Γ ctl lits, SLits Γ ctl lits (checkLits Γ ctl lits)) ∧ (∀ Γ ps rest as, SSArgs Γ ps rest as (checkSpawnArgs Γ ps rest as)) ∧
    (∀ Γ ps rest as, SArgs Γ ps rest as (checkArgs Γ ps rest as)) ∧ (∀ Γ b, SBlock Γ b (checkBlock Γ b)) ∧
    (∀ Γ ss, SStmts Γ ss (checkStmts Γ ss)) ∧ (∀ Γ st, SStmt Γ st (checkStmt Γ st)) ∧
    (∀ Γ seen fs, SFields Γ seen fs (checkFields Γ seen fs)) ∧ (∀ Γ lt xs, SElems Γ lt xs (checkElems Γ lt xs)) := by
  refine checkExpr.mutual_induct_unfolding SExpr SArms SLits SSArgs SArgs SBlock SStmts SStmt SFields SElems
    ?int ?float ?bool ?str ?null ?none ?anyobj ?ident ?range ?list ?obj ?lambda ?grp ?pre ?preErr ?infx ?infxErr ?assign
    ?callFnArity ?callFn ?callVarArity ?callVar ?callDiv ?callBad ?spawnFnArity ?spawnFn ?spawnVarArity ?spawnVar ?spawnDiv
    ?spawnBad ?index ?indexErr ?member ?memberAny ?memberDot ?memberArrow ?memberTilde ?cast ?blk ?ifElse ?ifThen ?matchE
    ?tryE ?snil ?scons ?anil ?acons ?enil ?econs ?fnil ?fbuiltin ?fseen ?fcons ?mnil ?mdflt ?mlits ?lnil ?ldflt ?llit ?letS
    ?ret ?retNone ?brk ?cont ?loopS ?whileS ?forS ?exprS ?ssnil ?sscons ?bmk ?bmkNoTail
  all_goals intros
  /- Motives and branches in the order Lean gives them; the names after a case are the last hypotheses of the branch:
  the tests that select it, then the induction hypotheses (`ih…`) for the calls it makes. -/
  case int | float | bool | str | null | none | anyobj => exact fun h => sound_wrap h fun _ => by constructor
  case preErr | infxErr | callFnArity | callVarArity | callBad | spawnFnArity | spawnVarArity | spawnBad | indexErr | memberAny
      | memberDot | memberArrow | memberTilde =>
    exact fun h => absurd h (wrap_errs_ne (by simp))
  case ident => exact sound_ident _ _ _
  case range ea eb iha ihb =>
    refine fun h => sound_wrap h fun h1 => ?_
    simp only [List.append_eq_nil_iff] at h1
    obtain ⟨⟨⟨ha, hb⟩, hta⟩, htb⟩ := h1
    exact Raw.range (iha ha) (ihb hb) (compat_iff.mpr (by simpa [ea] using hta)) (compat_iff.mpr (by simpa [eb] using htb))
  case list ih => exact fun h => sound_wrap h fun h1 => Raw.list (ih h1)
  case obj ih => exact fun h => sound_wrap h fun h1 => Raw.obj (ih h1)
  case lambda ih =>
    refine fun h => sound_wrap h fun h1 => ?_
    simp only [List.append_eq_nil_iff] at h1
    obtain ⟨⟨⟨⟨hdup, hps⟩, hrt⟩, hb⟩, htc⟩ := h1
    exact Raw.lambda (Prod.ext hps rfl) ((List.replicate_eq_nil_iff _).mp hdup) (Prod.ext hrt rfl) (ih hb) (tcErr_nil_iff.mp htc)
  case grp ih => exact fun h => sound_wrap h fun h1 => Raw.grp (ih h1)
  case pre hres ih => exact fun h => sound_wrap h fun h1 => Raw.pre (ih h1) hres
  case infx hres ihl ihr =>
    refine fun h => sound_wrap h fun h1 => ?_
    simp only [List.append_eq_nil_iff] at h1
    exact Raw.infix (ihl h1.1.1) (ihr h1.1.2) (tcErr_nil_iff.mp h1.2) hres
  case assign e2 ihl ihr =>
    refine fun h => sound_wrap h fun h1 => ?_
    simp only [List.append_eq_nil_iff] at h1
    obtain ⟨⟨⟨ha, hb⟩, htc⟩, hop⟩ := h1
    exact Raw.assign (ihl ha) (ihr hb) (tcErr_nil_iff.mp htc) (by simpa [e2, htc] using hop)
  case callFn hcallee harity _ ihb iha =>
    refine fun h => sound_wrap h fun h1 => ?_
    simp only [List.append_eq_nil_iff] at h1
    exact Raw.callFn (ihb h1.1) hcallee (by simpa using harity) (iha h1.2)
  case callVar hcallee harity _ ihb iha =>
    refine fun h => sound_wrap h fun h1 => ?_
    simp only [List.append_eq_nil_iff] at h1
    exact Raw.callVar (ihb h1.1) hcallee (var_arity_iff.mp (Bool.eq_false_iff.mpr harity)) (iha h1.2)
  case callDiv hcallee ihb => exact fun h => sound_wrap h fun h1 => Raw.callDiv (ihb h1) hcallee
  case spawnFn hcallee harity _ iha =>
    refine fun h => sound_wrap h fun h1 => ?_
    simp only [List.append_eq_nil_iff] at h1
    exact Raw.spawnFn (sound_ident _ true _ h1.1.1) hcallee (spawnTargetErr_nil_iff.mp h1.2) (by simpa using harity) (iha h1.1.2)
  case spawnVar hcallee harity _ iha =>
    refine fun h => sound_wrap h fun h1 => ?_
    simp only [List.append_eq_nil_iff] at h1
    exact Raw.spawnVar (sound_ident _ true _ h1.1.1) hcallee (spawnTargetErr_nil_iff.mp h1.2)
      (var_arity_iff.mp (Bool.eq_false_iff.mpr harity)) (iha h1.1.2)
  case spawnDiv hcallee => exact fun h => sound_wrap h fun h1 => Raw.spawnDiv (sound_ident _ true _ h1) hcallee
  case index hrule ihb ihi =>
    refine fun h => sound_wrap h fun h1 => ?_
    simp only [List.append_eq_nil_iff] at h1
    exact Raw.index (ihb h1.1) (ihi h1.2) hrule
  case member hrule ihb => exact fun h => sound_wrap h fun h1 => Raw.member (ihb h1) hrule
  case cast own ihb =>
    refine fun h => sound_wrap h fun h1 => ?_
    simp only [List.append_eq_nil_iff] at h1
    obtain ⟨⟨hb, hc⟩, hown⟩ := h1
    refine Raw.cast (ihb hb) (Prod.ext hc rfl) ?_
    simp only [own] at hown
    split at hown
    · assumption
    · split at hown <;> cases hown
  case blk ih => exact fun h => sound_wrap h fun h1 => Raw.blk (ih h1)
  case ifElse ty ihc iht ihe =>
    refine fun h => sound_wrap h fun h1 => ?_
    simp only [List.append_eq_nil_iff] at h1
    obtain ⟨⟨⟨⟨hc, hcb⟩, ht⟩, he⟩, hbr⟩ := h1
    simp only [ty, hbr, List.isEmpty_nil, Bool.not_true, Bool.false_eq_true, ↓reduceIte]
    exact Raw.ifElse (ihc hc) (tcErr_nil_iff.mp hcb) (iht ht) (ihe he) (tcErr_nil_iff.mp hbr)
  case ifThen hif ihc iht =>
    refine fun h => sound_wrap h fun h1 => ?_
    simp only [List.append_eq_nil_iff] at h1
    obtain ⟨⟨⟨hc, hcb⟩, ht⟩, hbr⟩ := h1
    split at hif <;> cases hif
    · cases hbr
    · exact Raw.ifThen (ihc hc) (tcErr_nil_iff.mp hcb) (iht ht) (compat_iff.mpr (Option.not_isSome_iff_eq_none.mp ‹_›))
  case matchE r rt em ihc iha =>
    refine fun h => sound_wrap h fun h1 => ?_
    simp only [List.append_eq_nil_iff] at h1
    obtain ⟨⟨hc, ha⟩, hm⟩ := h1
    obtain ⟨hhad, hok⟩ := iha rfl ha
    simp only [em, rt, r, hhad, Bool.false_eq_true, ↓reduceIte] at hm ⊢
    split at hm
    · cases hm
    · exact Raw.matchE (ihc hc) hok (match_default_iff.mp (Bool.eq_false_iff.mpr ‹_›))
  case tryE ty iht ihc =>
    refine fun h => sound_wrap h fun h1 => ?_
    simp only [List.append_eq_nil_iff] at h1
    obtain ⟨⟨ht, hc⟩, hbr⟩ := h1
    simp only [ty, hbr, List.isEmpty_nil, Bool.not_true, Bool.false_eq_true, ↓reduceIte]
    exact Raw.tryE (iht ht) (ihc hc) (tcErr_nil_iff.mp hbr)
  case snil | anil | enil | fnil | lnil | ssnil => exact fun _ => by constructor
  case mnil => exact fun hst _ => ⟨hst, .nil⟩
  case fbuiltin | fseen => exact nofun
  -- the principle leaves the `.cons` branches of `checkSpawnArgs`, `checkArgs`, `checkElems` folded
  case scons iha ihr =>
    intro h
    simp only [checkSpawnArgs] at h ⊢
    simp only [List.append_eq_nil_iff] at h
    obtain ⟨⟨ha, hown⟩, hr⟩ := h
    simp only [hown, List.isEmpty_nil, ↓reduceIte]
    split at hown
    · cases hown
    · split at hown
      · cases hown
      · exact SpawnArgsOK.cons (iha ha) (by simpa using ‹¬ (_ == Kind.null) = true›) (by simpa using ‹¬ (_ == Kind.fn) = true›)
          (tcErr_nil_iff.mp hown) (ihr hr)
  case acons iha ihr =>
    intro h
    simp only [checkArgs] at h ⊢
    simp only [List.append_eq_nil_iff] at h
    obtain ⟨⟨ha, hown⟩, hr⟩ := h
    simp only [hown, List.isEmpty_nil, ↓reduceIte]
    split at hown
    · cases hown
    · exact ArgsOK.cons (iha ha) (by simpa using ‹¬ (_ == Kind.null) = true›) (tcErr_nil_iff.mp hown) (ihr hr)
  case econs Γ lt x xs r lt' ihx ihr =>
    intro h
    simp only [checkElems] at h ⊢
    simp only [List.append_eq_nil_iff] at h
    obtain ⟨⟨hx, hown⟩, hr⟩ := h
    cases hok : elemOK (checkExpr Γ true x).ty lt with
    | false =>
      simp only [hok, Bool.false_eq_true, ↓reduceIte] at hown
      have htc := compat_iff.mp (tcErr_nil_iff.mp hown)
      simp [elemOK, htc] at hok
    | true =>
      simp only [lt', r, hok, ↓reduceIte] at ihr
      simp only [hok, ↓reduceIte] at hr ⊢
      exact ElemsOK.cons (ihx hx) hok (ihr hr)
  case fcons hnotbuiltin hfresh _ _ ihe ihr =>
    intro h
    simp only [List.append_eq_nil_iff] at h
    exact FieldsOK.cons (Bool.eq_false_iff.mpr hnotbuiltin) (Bool.eq_false_iff.mpr hfresh) (ihe h.1) (ihr h.2)
  case mdflt hstep hdefault _ iha ihr =>
    intro hst h
    simp only [List.append_eq_nil_iff] at h
    obtain ⟨⟨ha, he1⟩, hr⟩ := h
    simp only [hst, Bool.false_eq_true, ↓reduceIte] at hstep
    split at hstep <;> cases hstep
    · exact ⟨(ihr rfl hr).1, ArmsOK.dflt (iha ha) ‹_› hdefault (ihr rfl hr).2⟩
    -- an arm that cannot be joined is reported whether or not it is a default arm
    · exact absurd (compat_iff.mp (tcErr_nil_iff.mp he1)) (armJoin_none ‹_›)
  case mlits hstep hnodefault _ _ iha ihl ihr =>
    intro hst h
    simp only [List.append_eq_nil_iff] at h
    obtain ⟨⟨⟨ha, he1⟩, hl⟩, hr⟩ := h
    simp only [hst, Bool.false_eq_true, ↓reduceIte] at hstep
    split at hstep <;> cases hstep
    · exact ⟨(ihr rfl hr).1, ArmsOK.lits (iha ha) ‹_› (Bool.eq_false_iff.mpr hnodefault) (ihl hl) (ihr rfl hr).2⟩
    · exact absurd (compat_iff.mp (tcErr_nil_iff.mp he1)) (armJoin_none ‹_›)
  case ldflt ih => exact fun h => LitsOK.dflt (ih h)
  case llit ihe ihr =>
    intro h
    simp only [List.append_eq_nil_iff] at h
    exact LitsOK.lit (ihe h.1.1) (tcErr_nil_iff.mp h.1.2) (ihr h.2)
  case letS ih =>
    intro h
    simp only [letRule, Bool.false_and, Bool.false_eq_true, ↓reduceIte, List.append_nil, List.append_eq_nil_iff] at h ⊢
    exact StmtOK.letS (ih h.1) (letVarTy_sound h.2)
  case ret Γ _ _ own ih =>
    intro h
    simp only [List.append_eq_nil_iff, own] at h
    cases hr : Γ.ret <;> simp only [hr] at h
    · cases h.2
    · exact StmtOK.ret (ih h.1) hr (tcErr_nil_iff.mp h.2)
  case retNone Γ own =>
    intro h
    simp only [own] at h
    cases hr : Γ.ret <;> simp only [hr] at h
    · cases h
    · exact StmtOK.retNone hr (tcErr_nil_iff.mp h)
  case brk Γ | cont Γ =>
    intro h
    cases hl : Γ.inLoop <;> simp only [hl, Bool.false_eq_true, ↓reduceIte] at h
    · cases h
    · constructor; exact hl
  case loopS ih =>
    intro h
    simp only [List.append_eq_nil_iff] at h
    exact StmtOK.loopS (ih h.1) (loopBodyErr_nil_iff.mp h.2)
  case whileS ihc ihb =>
    intro h
    simp only [List.append_eq_nil_iff] at h
    obtain ⟨⟨⟨hc, hcb⟩, hb⟩, hl⟩ := h
    exact StmtOK.whileS (ihc hc) (tcErr_nil_iff.mp hcb) (ihb hb) (loopBodyErr_nil_iff.mp hl)
  case forS hiter _ ihi ihb =>
    intro h
    simp only [List.append_eq_nil_iff] at h
    obtain ⟨⟨⟨hit, hei⟩, hb⟩, hl⟩ := h
    split at hiter <;> cases hiter
    · exact StmtOK.forS (ihi hit) ‹_› (ihb hb) (loopBodyErr_nil_iff.mp hl)
    · cases hei
  case exprS ih => exact fun h => StmtOK.exprS (ih h)
  case sscons ihs ihr =>
    intro h
    simp only [List.append_eq_nil_iff] at h
    exact StmtsOK.cons (ihs h.1) (ihr h.2)
  case bmk ihs ihe =>
    intro h
    simp only [List.append_eq_nil_iff] at h
    exact BlockOK.mk (ihs h.1) (ihe h.2)
  case bmkNoTail ih => exact fun h => BlockOK.mkNoTail (ih h)

theorem sound_expr (e : PExpr) (Γ : Ctx) (s : Bool) : SExpr Γ s e (checkExpr Γ s e) :=
  sound_derivation.1 Γ s e
theorem sound_elems : (xs : PExprs) → ∀ (Γ : Ctx) (lt : Ty), (checkElems Γ lt xs).errs = [] →
    ElemsOK Γ lt xs (checkElems Γ lt xs).lt (checkElems Γ lt xs).ex (checkElems Γ lt xs).cst (checkElems Γ lt xs).tys :=
  fun xs Γ lt => sound_derivation.2.2.2.2.2.2.2.2.2 Γ lt xs
theorem sound_fields : (fs : PFields) → ∀ (Γ : Ctx) (seen : List String), (checkFields Γ seen fs).errs = [] →
    FieldsOK Γ seen fs (checkFields Γ seen fs).fields (checkFields Γ seen fs).ex (checkFields Γ seen fs).cst
      (checkFields Γ seen fs).tys :=
  fun fs Γ seen => sound_derivation.2.2.2.2.2.2.2.2.1 Γ seen fs
theorem sound_args : (as : PExprs) → ∀ (Γ : Ctx) (ps : List Ty) (rest : Option Ty), (checkArgs Γ ps rest as).errs = [] →
    ArgsOK Γ ps rest as (checkArgs Γ ps rest as).ex (checkArgs Γ ps rest as).tys :=
  fun as Γ ps rest => sound_derivation.2.2.2.2.1 Γ ps rest as
theorem sound_sargs : (as : PExprs) → ∀ (Γ : Ctx) (ps : List Ty) (rest : Option Ty), (checkSpawnArgs Γ ps rest as).errs = [] →
    SpawnArgsOK Γ ps rest as (checkSpawnArgs Γ ps rest as).ex (checkSpawnArgs Γ ps rest as).tys :=
  fun as Γ ps rest => sound_derivation.2.2.2.1 Γ ps rest as
theorem sound_arms : (arms : PArms) → ∀ (Γ : Ctx) (ctl : Ty) (st : MSt), st.hadErr = false →
    (checkArms Γ ctl st arms).errs = [] →
    (checkArms Γ ctl st arms).st.hadErr = false ∧
    ArmsOK Γ ctl st.rt st.dflt arms (checkArms Γ ctl st arms).st.rt (checkArms Γ ctl st arms).st.dflt
      (checkArms Γ ctl st arms).ex (checkArms Γ ctl st arms).tys :=
  fun arms Γ ctl st => sound_derivation.2.1 Γ ctl st arms
theorem sound_lits : (lits : PLits) → ∀ (Γ : Ctx) (ctl : Ty), (checkLits Γ ctl lits).errs = [] →
    LitsOK Γ ctl lits (checkLits Γ ctl lits).ex (checkLits Γ ctl lits).tys :=
  fun lits Γ ctl => sound_derivation.2.2.1 Γ ctl lits
theorem sound_stmt : (st : PStmt) → ∀ (Γ : Ctx), (checkStmt Γ st).errs = [] →
    StmtOK Γ st (checkStmt Γ st).ty (checkStmt Γ st).ex (checkStmt Γ st).tys (checkStmt Γ st).vars :=
  fun st Γ => sound_derivation.2.2.2.2.2.2.2.1 Γ st
theorem sound_stmts : (ss : PStmts) → ∀ (Γ : Ctx), (checkStmts Γ ss).errs = [] →
    StmtsOK Γ ss (checkStmts Γ ss).never (checkStmts Γ ss).ex (checkStmts Γ ss).tys (checkStmts Γ ss).vars :=
  fun ss Γ => sound_derivation.2.2.2.2.2.2.1 Γ ss
theorem sound_block (b : PBlock) (Γ : Ctx) : SBlock Γ b (checkBlock Γ b) :=
  sound_derivation.2.2.2.2.2.1 Γ b
end HmsProofs.Lemmas.Check
