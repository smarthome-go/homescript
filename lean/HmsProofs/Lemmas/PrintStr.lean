import Hms.Print.Str
/-! The string literal printer against the lexer model: `stringBody` reads `escape s` followed by the closing quote back
as `s`. -/
namespace HmsProofs.Lemmas.Print
open Hms Hms.Lex

-- The five escape sequences the printer writes, as the lexer reads them back.
theorem lexEscape_backslash (rest : List Char) :
    Lex.escape ('\\' :: rest) = .ok '\\' ['\\'] rest := by simp [Lex.escape]
theorem lexEscape_quote (rest : List Char) :
    Lex.escape ('"' :: rest) = .ok '"' ['"'] rest := by simp [Lex.escape]
theorem lexEscape_n (rest : List Char) :
    Lex.escape ('n' :: rest) = .ok '\n' ['n'] rest := by simp [Lex.escape]
theorem lexEscape_t (rest : List Char) :
    Lex.escape ('t' :: rest) = .ok '\t' ['t'] rest := by simp [Lex.escape]
theorem lexEscape_r (rest : List Char) :
    Lex.escape ('r' :: rest) = .ok '\r' ['r'] rest := by simp [Lex.escape]

/-- `makeString`'s loop reads the escaped text back: value `s`, body `escape s`. -/
theorem stringBody_escape : ∀ (s rest : List Char) (fuel : Nat), s.length + 1 ≤ fuel →
    stringBody '"' fuel (Print.escape s ++ '"' :: rest) = .ok s (Print.escape s) rest := by
  intro s
  induction s with
  | nil =>
    intro rest fuel hf
    cases fuel with
    | zero => omega
    | succ fuel => simp [Print.escape, stringBody]
  | cons c cs ih =>
    intro rest fuel hf
    cases fuel with
    | zero => omega
    | succ fuel =>
      simp only [List.length_cons] at hf
      have ih' := ih rest fuel (by omega)
      unfold Print.escape Print.escapeChar
      by_cases hm : c ∈ ['\\', '"', '\n', '\t', '\r']
      · simp only [List.mem_cons, List.not_mem_nil, or_false] at hm
        rcases hm with rfl | rfl | rfl | rfl | rfl <;>
          simp [stringBody, lexEscape_backslash, lexEscape_quote, lexEscape_n, lexEscape_t, lexEscape_r, ih']
      · simp only [List.mem_cons, List.not_mem_nil, or_false, not_or] at hm
        simp [hm, stringBody, ih']

theorem escape_length_ge (s : List Char) : s.length ≤ (Print.escape s).length := by
  induction s with
  | nil => exact Nat.le_refl _
  | cons c cs ih =>
    have : 1 ≤ (Print.escapeChar c).length := by
      fun_cases Print.escapeChar c <;> exact Nat.le_add_left 1 _
    rw [Print.escape, List.length_append, List.length_cons]
    omega

theorem nextPiece_quote (loc : Loc) (s : List Char) :
    nextPiece loc '"' (Print.escape s ++ ['"'])
      = .ok (.token (mkTok .string s loc (Print.quote s)) (Print.quote s), []) := by
  have hb := stringBody_escape s [] ((Print.escape s ++ ['"']).length + 1) (by
    have := escape_length_ge s
    simp only [List.length_append, List.length_cons, List.length_nil]
    omega)
  unfold nextPiece
  have e1 : isSpace '"' = false := by decide
  have e2 : ¬ ('"' = '/' ∧ (Print.escape s ++ ['"']).head? = some '/') := by
    intro h; exact absurd h.1 (by decide)
  have e3 : ¬ ('"' = '/' ∧ (Print.escape s ++ ['"']).head? = some '*') := by
    intro h; exact absurd h.1 (by decide)
  simp only [e1, e2, e3, Bool.false_eq_true, if_false, or_true, if_true]
  rw [hb]
  simp [Print.quote]

theorem lexAll_quote (s : List Char) :
    (lexAll (Print.quote s)).tokens = [mkTok .string s Loc.start (Print.quote s)]
      ∧ (lexAll (Print.quote s)).err = none ∧ (lexAll (Print.quote s)).eof.isSome = true := by
  have hlen : (Print.quote s).length + 1 = ((Print.escape s).length + 1) + 1 + 1 := by
    simp [Print.quote]
  unfold lexAll
  -- three steps of `lexPrefix`: the literal, the end of input, and one unit of fuel that is never zero
  rw [hlen]
  have hq : Print.quote s = '"' :: (Print.escape s ++ ['"']) := rfl
  rw [hq]
  simp only [lexPrefix, nextPiece_quote Loc.start s]
  simp
  rfl

end HmsProofs.Lemmas.Print
