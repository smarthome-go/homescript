import HmsProofs.Lemmas.Unvisited
/-! Lemmas for C05: the module recursion and the cycle check terminate (measure: unvisited names,
`Lemmas/Unvisited.lean`). -/
namespace HmsProofs.Lemmas.PosImports
open Hms.Pos.Imports

def keys (host : Host) : List String := host.map Prod.fst

theorem cycLoop_total (u : List String) (orig : String) (fuel : Nat)
    (step : String → List String → Option (Bool × List String))
    (hstep : ∀ n vis, white u vis < fuel → ∃ r, step n vis = some r ∧ ∀ x, x ∈ vis → x ∈ r.2)
    (ns : List String) (hns : ∀ n ∈ ns, n ∈ u) (vis : List String) (hw : white u vis < fuel + 1) :
    ∃ r, cycLoop step orig ns vis = some r ∧ ∀ x, x ∈ vis → x ∈ r.2 := by
  induction ns generalizing vis with
  | nil => exact ⟨_, rfl, fun _ h => h⟩
  | cons n rest ih =>
    have hrest : ∀ m ∈ rest, m ∈ u := fun m hm => hns m (List.mem_cons_of_mem _ hm)
    rw [cycLoop]
    by_cases hno : n = orig
    · rw [if_pos hno]; exact ⟨_, rfl, fun _ h => h⟩
    · rw [if_neg hno]
      by_cases hnv : vis.contains n = true
      · rw [if_pos hnv]; exact ih hrest vis hw
      · rw [if_neg hnv]
        have hnv' : n ∉ vis := by simpa using hnv
        have hlt := white_lt u (hns n List.mem_cons_self) hnv'
        obtain ⟨⟨b, v⟩, hr, hsub⟩ := hstep n (n :: vis) (Nat.lt_of_lt_of_le hlt (Nat.le_of_lt_succ hw))
        have hsub' : ∀ x, x ∈ vis → x ∈ v := fun x hx => hsub x (List.mem_cons_of_mem _ hx)
        rw [hr]
        cases b with
        | true => exact ⟨_, rfl, hsub'⟩
        | false =>
          obtain ⟨r', hr', hsub''⟩ := ih hrest v (Nat.lt_of_le_of_lt (white_mono u hsub') hw)
          exact ⟨r', hr', fun x hx => hsub'' x (hsub' x hx)⟩

theorem lookup_mem_univ {g : Graph} {k : String} {ns : List String} (h : g.lookup k = some ns) :
    ∀ n ∈ ns, n ∈ univ g := fun _ hn =>
  List.mem_flatMap.mpr ⟨(k, ns), List.mem_of_lookup_eq_some h, List.mem_cons_of_mem _ hn⟩

/-- `importGraphIsCyclicInner` with the visited set terminates: fuel above the number of names
not yet visited is enough. -/
theorem cyc_total (g : Graph) (orig : String) (fuel : Nat) (start : String) (vis : List String)
    (hw : white (univ g) vis < fuel) :
    ∃ r, cyc g orig fuel start vis = some r ∧ ∀ x, x ∈ vis → x ∈ r.2 := by
  induction fuel generalizing start vis with
  | zero => omega
  | succ fuel ih =>
    simp only [cyc]
    split
    · exact ⟨_, rfl, fun _ h => h⟩
    · rename_i ns hl
      exact cycLoop_total (univ g) orig fuel (cyc g orig fuel) (fun n v hv => ih n v hv) ns
        (lookup_mem_univ hl) vis hw

theorem isCyclic_total (g : Graph) (start : String) : ∃ b, isCyclic g start = some b := by
  unfold isCyclic
  obtain ⟨r, hr, _⟩ := cyc_total g start ((univ g).length + 1) start [start]
    (Nat.lt_succ_of_le (white_le (univ g) [start]))
  exact ⟨r.1, by rw [hr]; rfl⟩

/-- Without the visited set the check does not return from a node that imports itself. -/
theorem cycUnfixed_self_loop {g : Graph} {orig a : String} (ha : g.lookup a = some [a]) (hne : a ≠ orig) :
    ∀ fuel, cycUnfixed g orig fuel a = none
  | 0 => rfl
  | fuel + 1 => by
    simp only [cycUnfixed, ha, List.foldl_cons, List.foldl_nil, hne, if_false,
      cycUnfixed_self_loop ha hne fuel]

section
variable {host : Host} {fuel : Nat} {rec : String → AState → Option AState}
  (hrec : ∀ m st, white (keys host) (m :: st.visited) < fuel →
    ∃ st', rec m st = some st' ∧ ∀ x, x ∈ m :: st.visited → x ∈ st'.visited)
include hrec

theorem importItem_total (cur x : String) (st : AState) (hw : white (keys host) st.visited < fuel + 1) :
    ∃ st', importItem host rec cur x st = some st' ∧ ∀ y, y ∈ st.visited → y ∈ st'.visited := by
  unfold importItem
  cases hl : host.lookup x with
  | none => exact ⟨st, rfl, fun _ h => h⟩
  | some v =>
    simp only
    by_cases hv : st.visited.contains x = true
    · simp only [hv, if_true]
      exact ⟨_, rfl, fun _ h => h⟩
    · simp only [hv]
      have hnv' : x ∉ st.visited := by simpa using hv
      have hkey : x ∈ keys host := List.lookup_key_mem hl
      have hlt := white_lt (keys host) hkey hnv'
      obtain ⟨st1, h1, hsub1⟩ := hrec x { st with imports := addImport st.imports cur x } (Nat.lt_of_lt_of_le hlt (Nat.le_of_lt_succ hw))
      simp only [Bool.false_eq_true, if_false, h1]
      obtain ⟨b, hb⟩ := isCyclic_total st1.imports cur
      simp only [hb]
      have hsub : ∀ y, y ∈ st.visited → y ∈ st1.visited := fun y hy => hsub1 y (List.mem_cons_of_mem _ hy)
      cases b with
      | true => exact ⟨_, rfl, hsub⟩
      | false => exact ⟨_, rfl, hsub⟩

theorem importLoop_total (cur : String) (xs : List String) (st : AState)
    (hw : white (keys host) st.visited < fuel + 1) :
    ∃ st', importLoop host rec cur xs st = some st' ∧ ∀ x, x ∈ st.visited → x ∈ st'.visited := by
  induction xs generalizing st with
  | nil => exact ⟨st, rfl, fun _ h => h⟩
  | cons x rest ih =>
    obtain ⟨st1, h1, hsub1⟩ := importItem_total hrec cur x st hw
    have hw1 : white (keys host) st1.visited < fuel + 1 :=
      Nat.lt_of_le_of_lt (white_mono (keys host) hsub1) hw
    obtain ⟨st2, h2, hsub2⟩ := ih st1 hw1
    exact ⟨st2, by simp only [importLoop, h1, h2], fun y hy => hsub2 y (hsub1 y hy)⟩

end

/-- `analyzeModule` terminates: fuel above the number of host modules not yet visited is enough. -/
theorem analyzeModule_total (host : Host) (fuel : Nat) (m : String) (st : AState)
    (hw : white (keys host) (m :: st.visited) < fuel) :
    ∃ st', analyzeModule host fuel m st = some st' ∧ ∀ x, x ∈ m :: st.visited → x ∈ st'.visited := by
  induction fuel generalizing m st with
  | zero => omega
  | succ fuel ih =>
    simp only [analyzeModule]
    exact importLoop_total (fun m' st' h => ih m' st' h) m _
      { st with visited := m :: st.visited, imports := st.imports ++ [(m, [])] } (by simp only; omega)

end HmsProofs.Lemmas.PosImports
