import Hms.Check.Typing
import HmsProofs.Lemmas.CheckCompat
/-! The non-recursive pieces of the checker (`wrap`, `tcErr`, `letVarTy`, the arity and default-arm tests): when their
diagnostic lists are empty. Stated as equivalences where soundness needs one direction and completeness the other. -/
namespace HmsProofs.Lemmas.Check
open Hms.Check

theorem wrap_errs_nil {s : Bool} {r : Res} (h : (wrap s r).errs = []) : r.errs = [] ∧ anyOK s r.ty = true := by
  unfold wrap at h
  split at h
  · next hok => exact ⟨h, hok⟩
  · simp at h

theorem wrap_errs_ne {s : Bool} {r : Res} (h : r.errs ≠ []) : (wrap s r).errs ≠ [] :=
  fun hn => h (wrap_errs_nil hn).1

theorem wrap_of_ok {s : Bool} {r : Res} (h : anyOK s r.ty = true) :
    wrap s r = { r with ex := r.ex || r.ty.isNever } := by
  unfold wrap; simp [h]

theorem compat_iff {a : Bool} {g e : Ty} : Compat a g e ↔ typeCheck a g e = none := (typeCheck_iff e a g).symm

theorem tcErr_nil_iff {a : Bool} {g e : Ty} {rule : Rule} : tcErr a g e rule = [] ↔ Compat a g e := by
  unfold tcErr; cases h : typeCheck a g e <;> simp [compat_iff, h]

theorem loopBodyErr_nil_iff {t : Ty} : loopBodyErr t = [] ↔ loopBodyOK t = true := by
  unfold loopBodyErr; cases loopBodyOK t <;> simp

/-- a variadic callee accepts any call that supplies its fixed parameters -/
theorem var_arity_iff {n m : Nat} : (n != 0 && decide (m < n)) = false ↔ n = 0 ∨ n ≤ m := by
  by_cases h0 : n = 0 <;> simp [h0]

theorem armJoin_none {rt a : Ty} (h : armJoin rt a = none) : typeCheck true a rt ≠ none := by
  intro htc
  simp only [armJoin, htc, Option.isNone_none, ↓reduceIte] at h
  split at h <;> cases h

/-- a `match` needs no default arm iff falling through with `null` fits its type -/
theorem match_default_iff {d : Option (List Ty)} {rt : Ty} :
    (d.isNone && (typeCheck true Ty.null rt).isSome) = false ↔ d.isSome = true ∨ Compat true Ty.null rt := by
  cases d <;> cases h : typeCheck true Ty.null rt <;> simp [compat_iff, h]

theorem isSome_eq_false_iff {α} {o : Option α} : o.isSome = false ↔ o = none := by
  cases o <;> simp

theorem replicate_zero {α} (a : α) : List.replicate 0 a = [] := rfl

theorem checkExpr_ident (Γ : Ctx) (s : Bool) (name : String) :
    checkExpr Γ s (.ident name) = wrap s (identRes Γ name) := by
  simp only [checkExpr, identRes]

theorem spawnTargetErr_nil_iff {Γ : Ctx} {name : String} : spawnTargetErr Γ name = [] ↔ lookupTy name Γ.vars = none := by
  unfold spawnTargetErr; cases lookupTy name Γ.vars <;> simp

theorem letVarTy_sound {ann : Option PTy} {t : Ty} (h : (letVarTy ann t).1 = []) : LetTy ann t (letVarTy ann t).2 := by
  cases ann with
  | none =>
    simp only [letVarTy] at h ⊢
    cases ha : t.hasAny with
    | true => simp [ha] at h
    | false => simp only [Bool.false_eq_true, ↓reduceIte]; exact LetTy.plain ha
  | some a =>
    simp only [letVarTy] at h ⊢
    cases htc : typeCheck (!t.hasAny) t (convertType true a).2 with
    | some m => simp [htc] at h
    | none =>
      simp only [htc] at h ⊢
      exact LetTy.annotated (Prod.ext h rfl) (compat_iff.mpr htc)

theorem letVarTy_complete {ann : Option PTy} {t vt : Ty} (h : LetTy ann t vt) : letVarTy ann t = ([], vt) := by
  cases h with
  | plain ha => simp [letVarTy, ha]
  | annotated hc htc =>
    simp only [letVarTy, hc]
    simp [compat_iff.mp htc]

end HmsProofs.Lemmas.Check
