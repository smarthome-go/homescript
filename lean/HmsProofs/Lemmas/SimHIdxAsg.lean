import HmsProofs.Lemmas.SimHStmt
/-! Assignment to a heap slot, `l[i] = e`, `o.f = e` and their `op=` forms: `code(l); code(i); Index` resp.
`code(o); Member f`, then `[Dup]; code(e); [op]; Assign`. The value read by `Index`/`Member` carries the slot it came
from, `Assign` writes through it. The specification resolves the slot first (`evalPlace`, bounds checked before the
right-hand side), then evaluates the right-hand side, then writes. -/
namespace HmsProofs.Sim
open Hms.Core Hms.Core.Comp Hms.Core.VM

theorem okV_index {fr : Bool} {sp ty b i} (h : Frag.okV fr (.index sp ty b i) = true) :
    Frag.okV fr b = true ∧ Frag.okV fr i = true := by
  simp only [Frag.okV, Frag.okXE, Frag.okE, Bool.or_eq_true, Bool.and_eq_true] at h ⊢
  rcases h with ⟨⟨hb, hi⟩, _⟩ | ⟨⟨⟨_, hb⟩, hi⟩, _⟩
  · exact ⟨Or.inl hb, Or.inl hi⟩
  · exact ⟨Or.inr hb, Or.inr hi⟩

theorem okV_member {fr : Bool} {sp ty b name} (h : Frag.okV fr (.member sp ty b name .dot) = true) :
    Frag.okV fr b = true := by
  simp only [Frag.okV, Frag.okXE, Frag.okE, Bool.or_eq_true, Bool.and_eq_true] at h ⊢
  rcases h with hb | ⟨_, hb⟩
  · exact Or.inl hb
  · exact Or.inr hb

theorem evalPlace_index_bind (cfg : Cfg) (fuel : Nat) (sp : Span) (ty : Ty) (b i : Expr) :
    evalPlace cfg (fuel + 1) (.index sp ty b i) =
      (do let bv ← evalExpr cfg fuel b; let iv ← evalExpr cfg fuel i; placeOf bv iv sp) := by
  rw [evalPlace]; rfl

theorem evalPlace_member_bind (cfg : Cfg) (fuel : Nat) (sp : Span) (ty : Ty) (b : Expr) (name : String) :
    evalPlace cfg (fuel + 1) (.member sp ty b name .dot) = evalExpr cfg fuel b >>= fun bv => placeOfM bv name := by
  rw [evalPlace]; rfl

/-- After the left-hand side: `evalPlace` has resolved the slot `pl`; the VM has pushed the slot's current value with the
slot as its origin. -/
def QPl (pre : List SVal) (pl : Place) (st' : St) (_ : Mem) (ys : List SVal) : Prop :=
  pl.var = none ∧ ∃ cur, readPlace pl st' = (.ok cur, st') ∧ ys = ⟨cur, some (orgOf pl)⟩ :: pre

section
variable {G : GCtx} {A : Act} {L : Lvl G A} {I : Stable L} {ip : Nat} {pre stk : List SVal} {mem : Mem} {st : St}

/-- `m`: the read of the slot whose value is on the stack. -/
theorem SimM.dup {α : Type} (hA : A.OK G) (sp : Span) (x : SVal) {m : M α} {a : α} (hm : m st = (.ok a, st)) :
    SimM L I [((Instr.dup : SInstr), sp)] ip (x :: pre) stk mem st m (fun a' _ _ ys => a' = a ∧ ys = x :: x :: pre) := by
  refine .prim (by rw [hm]) fun hpl => ?_
  rw [hm]
  exact ⟨_, ⟨rfl, rfl⟩, hA.step mem id fun _ _ => mkS_dup (stk := pre ++ stk) hA.code sp x (hpl.instr rfl).1⟩

theorem SimM.assign (hA : A.OK G) (sp : Span) (pl : Place) (hvar : pl.var = none) (v cur : Val) (ov : Option Org) :
    SimM L I [((Instr.assign : SInstr), sp)] ip (⟨v, ov⟩ :: ⟨cur, some (orgOf pl)⟩ :: pre) stk mem st (writePlace pl v)
      (fun _ _ _ ys => ys = pre) := by
  refine .local fun hpl _ => ?_
  have hw := writePlace_heap pl v st hvar
  rcases hwp : writePlace pl v st with ⟨r, st4⟩
  rw [hwp] at hw
  cases r with
  | error c =>
    cases c
    case unsupported => exact True.intro
    all_goals exact hw.elim
  | ok u =>
    obtain ⟨heap', hah, rfl⟩ := hw
    exact ⟨rfl, _, mem, rfl, hA.step mem (fun hi => HeapInv.assign hah hi) fun _ _ =>
      mkS_assign_org (stk := pre ++ stk) (out := st.world) hA.code sp (orgOf pl) heap' cur v ov (hpl.instr rfl).1 hah,
      MemLe.refl _ _ _⟩
end

theorem placeAssign_step (G : GCtx) (n : Nat) (hPV1 : PV G (n + 1))
    (A : Act) (hA : A.OK G) (loops : List (String × String)) (lscopes : CScopes) (d : Nat)
    (asp : Span) (op : Option InfixOp) (l r : Expr) (cl : SCode × LM) (env : CEnv)
    (hop : opOK op = true) (hr : Frag.okV G.fr r = true) (hwr : Frag.wsGE env.scopes A.φ r = true)
    (hTr : ∀ x ∈ Frag.namesGE r, x ∈ A.T)
    (hplace : ∀ ip stk mem spec, SimM (.stmt G A loops lscopes d) (.grel G A loops lscopes d env) cl.1 ip [] stk mem spec
      (evalPlace G.cfg (n + 1) l) (QPl [])) :
    StmtM G A loops lscopes d env env
      (cl.1 ++ opPre op asp ++ (cgE G.mod (ρS env.scopes) A.φ r cl.2).1 ++ opPost op asp ++ [(.assign, asp)])
      (evalExpr G.cfg (n + 2) (.assign asp op l r)) := by
  intro ip stk mem spec
  have hI : (Stable.grel G A loops lscopes d env).Rel env.scopes env.vm := Stable.grel_rel
  have chain : SimM (.stmt G A loops lscopes d) (.grel G A loops lscopes d env)
      (cl.1 ++ opPre op asp ++ (cgE G.mod (ρS env.scopes) A.φ r cl.2).1 ++ opPost op asp ++ [(.assign, asp)]) ip [] stk mem
      spec (evalExpr G.cfg (n + 2) (.assign asp op l r)) (fun _ _ _ ys => ys = []) := by
    rw [evalExpr]
    simp only [List.append_assoc]
    refine (hplace ip stk mem spec).seq fun pl st2 mem2 _ ⟨hvar, cur, hread, e⟩ => e ▸ ?_
    cases op with
    | none =>
      exact (hPV1 A hA _ hI r _ hr hwr hTr _ _ _ _ _).seq fun v _ _ _ ⟨ov, e⟩ => e ▸
        (SimM.assign hA asp pl hvar v cur ov).seqPure fun _ _ _ _ e => e
    | some o =>
      exact (SimM.dup hA asp _ hread).seq fun _ _ _ _ ⟨e1, e⟩ => e1 ▸ e ▸
        (hPV1 A hA _ hI r _ hr hwr hTr _ _ _ _ _).seq fun b _ _ _ ⟨ob, e⟩ => e ▸
        (SimM.arith hA asp o cur b _ ob (by simpa [opOK] using hop)).seq fun v _ _ _ e => e ▸
        (SimM.assign hA asp pl hvar v cur none).seqPure fun _ _ _ _ e => e
  exact fun hpl => (chain hpl).post fun _ _ h => h.1

theorem index_place (G : GCtx) (n : Nat) (hPV0 : PV G n) (A : Act) (hA : A.OK G)
    (isp : Span) (ity : Ty) (b i : Expr) (lm : LM) (scopes : CScopes) (vm : List (String × Nat))
    (spec : St) (ip : Nat) (stk : List SVal) (mem : Mem)
    (hl : Frag.okV G.fr (.index isp ity b i) = true) (hwl : Frag.wsGE scopes A.φ (.index isp ity b i) = true)
    (hT : ∀ x ∈ Frag.namesGE (.index isp ity b i), x ∈ A.T) {L : Lvl G A} {I : Stable L}
    (hI : I.Rel scopes vm) :
    SimM L I (cgE G.mod (ρS scopes) A.φ (.index isp ity b i) lm).1 ip [] stk mem spec
      (evalPlace G.cfg (n + 1) (.index isp ity b i)) (QPl []) := by
  obtain ⟨hb, hi⟩ := okV_index hl
  obtain ⟨hwb, hwi⟩ := ws_append.mp hwl
  obtain ⟨hTb, hTi⟩ := names_split hT
  rw [cgE, evalPlace_index_bind]
  simp only [List.append_assoc]
  exact (hPV0 A hA I hI b _ hb hwb hTb _ _ _ _ _).seq fun bv _ _ _ ⟨ob, e⟩ => e ▸
    (hPV0 A hA I hI i _ hi hwi hTi _ _ _ _ _).seq fun iv st2 _ _ ⟨oi, e⟩ => e ▸
    (SimM.index hA isp bv iv ob oi).refine (placeOf_shape bv iv isp st2) fun _ _ _ _ _ ⟨hvar, horg, hread⟩ e =>
      ⟨hvar, _, hread, horg ▸ e⟩

theorem member_place (G : GCtx) (n : Nat) (hPV0 : PV G n) (A : Act) (hA : A.OK G)
    (msp : Span) (mty : Ty) (b : Expr) (name : String) (lm : LM) (scopes : CScopes) (vm : List (String × Nat))
    (spec : St) (ip : Nat) (stk : List SVal) (mem : Mem)
    (hl : Frag.okV G.fr (.member msp mty b name .dot) = true) (hwl : Frag.wsGE scopes A.φ (.member msp mty b name .dot) = true)
    (hT : ∀ x ∈ Frag.namesGE (.member msp mty b name .dot), x ∈ A.T) {L : Lvl G A} {I : Stable L}
    (hI : I.Rel scopes vm) :
    SimM L I (cgE G.mod (ρS scopes) A.φ (.member msp mty b name .dot) lm).1 ip [] stk mem spec
      (evalPlace G.cfg (n + 1) (.member msp mty b name .dot)) (QPl []) := by
  have hwb : Frag.wsGE scopes A.φ b = true := by
    simpa [Frag.wsGE, Frag.varsGE, Frag.callsGE] using hwl
  have hTb : ∀ x ∈ Frag.namesGE b, x ∈ A.T := by
    intro x hx; exact hT x (by simpa [Frag.namesGE, Frag.varsGE, Frag.callsGE] using hx)
  rw [cgE, evalPlace_member_bind]
  exact (hPV0 A hA I hI b _ (okV_member hl) hwb hTb _ _ _ _ _).seq fun bv st1 _ _ ⟨ob, e⟩ => e ▸
    (SimM.member hA msp bv name ob).refine (placeOfM_shape bv name msp st1) fun _ _ _ _ _ ⟨hvar, horg, hread⟩ e =>
      ⟨hvar, _, hread, horg ▸ e⟩

end HmsProofs.Sim
