import HmsProofs.Lemmas.SimHArgs
import HmsProofs.Lemmas.SimHStatic
/-! The statement level: how the invariant `GRel` (scopes against frame cells, the cleanup key, the iterator cells of the
enclosing `for` loops) survives declarations, assignments and scopes; `Lvl.stmt`, `Stable.grel`, `StmtM`, the form of `SimM`
in which statements are proved; the induction predicates `PGS` … `PGF`, with the steps for statement lists and blocks. -/
namespace HmsProofs.Sim
open Hms.Core Hms.Core.VM

theorem ScopesRel.drop {T σ lim mp mem} : ∀ (d : Nat) {cs : CScopes} {ss : SScopes},
    ScopesRel T σ lim mp mem cs ss → ScopesRel T σ lim mp mem (cs.drop d) (ss.drop d) := by
  intro d
  induction d with
  | zero => intro cs ss h; simpa using h
  | succ d ih =>
    intro cs ss h
    have := (ih h).tail T σ lim mp
    simpa [List.tail_drop] using this

theorem ρS_freshVar_ne (mod : String) (env : CEnv) (x key : String) (h : key ≠ x) :
    ρS (freshVar mod env x).2.scopes key = ρS env.scopes key := by
  unfold freshVar
  have hb : (key == x) = false := by simpa using h
  cases hsc : env.scopes with
  | nil => simp [ρS, List.lookup_cons, hb]
  | cons c rest =>
    simp only [ρS, List.findSome?_cons, List.lookup_cons, hb, lookup_filter_ne _ _ _ h]

theorem GhostOK.memLe {A : Act} {mem mem' : Mem} (h : GhostOK A mem) (hm : CellsLe A.mp mem.cells mem'.cells) :
    GhostOK A mem' :=
  fun p hp => by rw [hm _ (by omega)]; exact h p hp

theorem GhostOK.set {G : GCtx} {A : Act} (hA : A.OK G) {mem} (h : GhostOK A mem) (m : String) (hNm : A.N m)
    (x : String) (c : Nat) (hm : m = mangleName G.mod x c) (hx : x ∈ A.T) (v : Val) :
    GhostOK A (mem.set (A.mp - (A.σ m : Int)) v) := by
  intro p hp
  obtain ⟨hNp, y, c', hpe, hy⟩ := hA.ghostN p hp
  have hne : p.1 ≠ m := by
    intro e
    rw [hpe, hm] at e
    have := (mangleName_inj G.mod _ _ _ _ e).1
    exact hy (this ▸ hx)
  have hσ : A.σ p.1 ≠ A.σ m := fun e => hne (hA.inj _ _ hNp hNm e)
  rw [Mem.set_cells, lookup_memSet, if_neg (by omega)]
  exact h p hp

theorem GRel.ghost_set {G : GCtx} {A : Act} (hA : A.OK G) {scopes vm ss mem} (h : GRel G A scopes vm ss mem)
    {m : String} (hm : m ∈ liveNames A.T scopes) (v : Val) : GhostOK A (mem.set (A.mp - (A.σ m : Int)) v) := by
  obtain ⟨sc, hsc, p, hp, hpT, rfl⟩ := (mem_liveNames A.T scopes m).mp hm
  obtain ⟨c, hc, _⟩ := h.rel.named sc hsc p hp hpT
  exact h.ghost.set hA p.2 (h.rel.inN _ hm) p.1 c hc hpT v

theorem GRel.assign {G : GCtx} {A : Act} (hA : A.OK G) {scopes vm ss mem}
    (h : GRel G A scopes vm ss mem) (x : String) (hx : x ∈ A.T) (m : String) (hρ : ρS scopes x = some m) (v : Val) :
    ∃ ss', assignScopes x v ss = some ss' ∧
      GRel G A scopes vm ss' (mem.set (A.mp - (A.σ m : Int)) v) := by
  obtain ⟨ss', h1, h2⟩ := h.rel.assign hA.good x hx m hρ v
  exact ⟨ss', h1, ⟨h2, h.key, h.ghost_set hA (ρS_mem_liveNames A.T scopes x m hx hρ) v, h.ghostC⟩⟩

/-- Writing the cell of a name the compiler has not handed out yet touches neither a live nor a ghost cell. -/
theorem GRel.set_fresh {G : GCtx} {A : Act} (hA : A.OK G) {scopes vm ss mem} (h : GRel G A scopes vm ss mem)
    (x : String) (hN : A.N (mangleName G.mod x (cnt vm x))) (v : Val) :
    GRel G A scopes vm ss (mem.set (A.mp - (A.σ (mangleName G.mod x (cnt vm x)) : Int)) v) := by
  refine ⟨h.rel.set_fresh hA.good x hN v, h.key, fun p hp => ?_, h.ghostC⟩
  obtain ⟨y, c, hpe, hc⟩ := h.ghostC p hp
  rw [Mem.set_cells, hA.good.lookup_set_ne hN (hA.ghostN p hp).1 fun e => ?_]
  · exact h.ghost p hp
  · obtain ⟨e1, e2⟩ := mangleName_inj _ _ _ _ _ (hpe.symm.trans e)
    subst e1; omega

theorem GRel.memLe {G A scopes vm ss mem mem'} (h : GRel G A scopes vm ss mem) (hm : MemLe G.fr A.mp mem mem') :
    GRel G A scopes vm ss mem' := ⟨h.rel.memLe hm.cells, h.key, h.ghost.memLe hm.cells, h.ghostC⟩

theorem GRel.push {G A scopes vm ss mem} (h : GRel G A scopes vm ss mem) :
    GRel G A ([] :: scopes) vm ([] :: ss) mem := ⟨h.rel.push, by rw [ρS_push]; exact h.key, h.ghost, h.ghostC⟩

theorem GRel.vm_mono {G A scopes vm vm' ss mem} (h : GRel G A scopes vm ss mem)
    (hm : ∀ k, cnt vm k ≤ cnt vm' k) : GRel G A scopes vm' ss mem :=
  ⟨h.rel.vm_mono hm, h.key, h.ghost, fun p hp => by
    obtain ⟨y, c, h1, h2⟩ := h.ghostC p hp
    exact ⟨y, c, h1, Nat.lt_of_lt_of_le h2 (hm _)⟩⟩

theorem GRel.envLe {G A ss mem} {env env' : CEnv} (h : GRel G A env.scopes env.vm ss mem) (hle : EnvLe env env') :
    GRel G A env'.scopes env'.vm ss mem := by
  rw [hle.scopes]
  exact h.vm_mono hle.vm

/-- What a `break`, `continue` or `throw` outcome delivers gives the invariant back: its other parts are static. -/
theorem GRel.of_scopes {G : GCtx} {A : Act} {scopes vm ss mem ss'} {mem' : Mem} (h : GRel G A scopes vm ss mem)
    (hs : ScopesRel A.T A.σ G.lim A.mp mem'.cells scopes ss' ∧ GhostOK A mem') : GRel G A scopes vm ss' mem' :=
  ⟨⟨hs.1, h.rel.nodup, h.rel.inN, h.rel.named⟩, h.key, hs.2, h.ghostC⟩

theorem GRel.declare {G : GCtx} {A : Act} (hA : A.OK G) {ss mem} {env : CEnv}
    (h : GRel G A env.scopes env.vm ss mem) (x : String) (hx : x ∈ A.T) (v : Val)
    (hN : A.N (freshVar G.mod env x).1) :
    GRel G A (freshVar G.mod env x).2.scopes (freshVar G.mod env x).2.vm (declScopes x v ss)
      (mem.set (A.mp - (A.σ (freshVar G.mod env x).1 : Int)) v) := by
  refine ⟨h.rel.declare hA.good x v hN, ?_, h.ghost.set hA _ hN x _ rfl hx v,
    (h.vm_mono (freshVar_vm_mono G.mod env x)).ghostC⟩
  have hne : cleanupKey G.mod A.src ≠ x := fun e => hA.key (by rw [e]; exact hx)
  rw [ρS_freshVar_ne _ _ _ _ hne]
  exact h.key

theorem GRel.ghostDecl {G : GCtx} {A : Act} {ss mem} {env : CEnv}
    (h : GRel G A env.scopes env.vm ss mem) (x : String) (hx : x ∉ A.T) (hkey : cleanupKey G.mod A.src ≠ x) :
    GRel G A (freshVar G.mod env x).2.scopes (freshVar G.mod env x).2.vm ss mem := by
  refine ⟨h.rel.fresh_untracked x hx, ?_, h.ghost, (h.vm_mono (freshVar_vm_mono G.mod env x)).ghostC⟩
  rw [ρS_freshVar_ne _ _ _ _ hkey]
  exact h.key

theorem GRel.lookup_none {G : GCtx} {A : Act} {env : CEnv} {spec : St} {mem : Mem}
    (hrel : GRel G A env.scopes env.vm spec.scopes mem) {name : String}
    (hT : name ∈ A.T) (hρ : (ρS env.scopes name).isNone = true) : lookupScopes name spec.scopes = none :=
  hrel.rel.scopes.read_none A.T A.σ G.lim A.mp hT (by simpa using hρ)

theorem frame_pop (st st' : St) (h : st' = { st with scopes := st'.scopes, out := st'.out, heap := st'.heap }) :
    ({ st' with scopes := st'.scopes.tail } : St) =
      { st with scopes := st'.scopes.tail, out := st'.out, heap := st'.heap } := by
  rw [h]

theorem SimGS.monoQ {α : Type} {G : GCtx} {A : Act} {loops lscopes d ip n stk mem}
    {Q Q' : SScopes → Mem → Prop} {st : St} {r : Except Ctl α × St}
    (hQ : ∀ ss m, Q ss m → Q' ss m)
    (h : SimGS G A loops lscopes d ip n stk mem Q st r) :
    SimGS G A loops lscopes d ip n stk mem Q' st r := by
  obtain ⟨r1, st1⟩ := r
  cases r1 with
  | ok u =>
    obtain ⟨hfr, mem1, hrun1, hml1, hq⟩ := h
    exact ⟨hfr, mem1, hrun1, hml1, hQ _ _ hq⟩
  | error ce' => cases ce' <;> exact h

theorem GRel.cells_congr {G A scopes vm ss} {m m' : Mem} (h : GRel G A scopes vm ss m) (e : m'.cells = m.cells) :
    GRel G A scopes vm ss m' :=
  ⟨by rw [e]; exact h.rel, h.key, fun p hp => by rw [e]; exact h.ghost p hp, h.ghostC⟩

/-- Statements inside the loops `loops`: the cells of the frame may change, the scopes of the specification state too;
errors as `SimGS` says. -/
def Lvl.stmt (G : GCtx) (A : Act) (loops : List (String × String)) (lscopes : CScopes) (d : Nat) : Lvl G A where
  b := A.mp - (A.nv : Int)
  frame st st' := st' = { st with scopes := st'.scopes, out := st'.out, heap := st'.heap }
  err ip0 stk mem0 st0 c st' := SimGS (α := Unit) G A loops lscopes d ip0 0 stk mem0 (fun _ _ => True) st0 (.error c, st')
  hb := by omega
  frame_refl _ := rfl
  frame_trans h1 h2 := by rw [h2, h1]
  frame_expr h := by rw [h]
  after {ip0 stk mem0 st0 ip mem st c st'} hrun hfr hml h := by
    have hfr2 : ∀ {s2 : St}, s2 = { st with scopes := s2.scopes, out := s2.out, heap := s2.heap } →
        s2 = { st0 with scopes := s2.scopes, out := s2.out, heap := s2.heap } := by
      intro s2 e; rw [e, hfr]
    cases c
    case brk | cont =>
      cases loops with
      | nil => exact h
      | cons bc rest =>
        obtain ⟨h1, mem2, h2, h3, h4⟩ := h
        exact ⟨hfr2 h1, mem2, hrun.trans h2, hml.trans h3, h4⟩
    case ret v =>
      obtain ⟨hrt, h1, mem2, o2, ho2, h2, h3⟩ := h
      exact ⟨hrt, hfr2 h1, mem2, o2, ho2, hrun.trans h2, hml.trans h3⟩
    case fatal kd m sp => exact fun hk => hrun.fatal (h hk)
    case unsupported | timeout => exact True.intro
    case throw msg tsp =>
      obtain ⟨h1, mem2, h2, h3, h4⟩ := h
      exact ⟨hfr2 h1, mem2, Runs.throw [] hrun h2, hml.trans h3, h4⟩

/-- The invariant of a statement's expression parts; `hI : (Stable.grel …).P st mem` is the triple
`⟨GRel G A env.scopes env.vm st.scopes mem, SpecOK G A.mp st, lscopes = env.scopes.drop d⟩`. -/
def Stable.grel (G : GCtx) (A : Act) (loops : List (String × String)) (lscopes : CScopes) (d : Nat) (env : CEnv) :
    Stable (Lvl.stmt G A loops lscopes d) where
  P st mem := GRel G A env.scopes env.vm st.scopes mem ∧ SpecOK G A.mp st ∧ lscopes = env.scopes.drop d
  keep h hfr hml hinv := ⟨by rw [hfr]; exact h.1.memLe hml, h.2.1.world _ hfr hinv, h.2.2⟩
  takesE {ip0 stk mem0 st0 ip pre mem st c st'} hat hI he := by
    cases c
    case throw =>
      obtain ⟨hfr, mem', hT, hml⟩ := he
      refine ⟨(Lvl.stmt G A loops lscopes d).frame_trans hat.frame ((Lvl.stmt G A loops lscopes d).frame_expr hfr), mem',
        Runs.throw pre hat.run hT, hat.le.trans (hml.mono (Lvl.stmt G A loops lscopes d).hb), ?_⟩
      rw [hI.2.2, show st'.scopes = st.scopes by rw [hfr]]
      exact ⟨(hI.1.memLe hml).rel.scopes.drop d, (hI.1.memLe hml).ghost⟩
    case fatal => exact fun hk => hat.run.fatal (he hk)
    case unsupported | timeout => exact True.intro
    all_goals exact he.elim
  takesT {ip0 stk mem0 st0 ip cur mem st msg tsp mem' st'} hat hI h hfr hml := by
    refine ⟨(Lvl.stmt G A loops lscopes d).frame_trans hat.frame ((Lvl.stmt G A loops lscopes d).frame_expr hfr), mem',
      (Runs.throw0 hat.run h).toT, hat.le.trans (hml.mono (Lvl.stmt G A loops lscopes d).hb), ?_⟩
    rw [hI.2.2, show st'.scopes = st.scopes by rw [hfr]]
    exact ⟨(hI.1.memLe hml).rel.scopes.drop d, (hI.1.memLe hml).ghost⟩

theorem Stable.grel_rel {G : GCtx} {A : Act} {loops : List (String × String)} {lscopes : CScopes} {d : Nat} {env : CEnv} :
    (Stable.grel G A loops lscopes d env).Rel env.scopes env.vm :=
  fun h => ⟨h.1.rel, h.2.1⟩

/-- What has been reached does not depend on the loops around. -/
theorem Reached.relevel {G : GCtx} {A : Act} {loops loops' : List (String × String)} {lscopes lscopes' : CScopes} {d d' : Nat}
    {ip0 stk mem0 st0 ip cur mem st} (h : Reached (Lvl.stmt G A loops lscopes d) ip0 stk mem0 st0 ip cur mem st) :
    Reached (Lvl.stmt G A loops' lscopes' d') ip0 stk mem0 st0 ip cur mem st := ⟨h.run, h.frame, h.le⟩

theorem Lvl.stmt_err_pop {G : GCtx} {A : Act} {loops lscopes d ip0 stk mem0 st0 c st'}
    (h : (Lvl.stmt G A loops lscopes (d + 1)).err ip0 stk mem0 st0 c st') :
    (Lvl.stmt G A loops lscopes d).err ip0 stk mem0 st0 c { st' with scopes := st'.scopes.tail } := by
  cases c
  case brk | cont =>
    cases loops with
    | nil => exact h
    | cons bc rest =>
      obtain ⟨hfr, mem1, hrun1, hml1, hsr⟩ := h
      exact ⟨frame_pop st0 st' hfr, mem1, hrun1, hml1, by simpa [List.drop_tail] using hsr⟩
  case ret v =>
    obtain ⟨hrt, hfr, mem1, o1, ho1, hrun1, hml1⟩ := h
    exact ⟨hrt, frame_pop st0 st' hfr, mem1, o1, ho1, hrun1, hml1⟩
  case fatal kd m sp => exact h
  case unsupported | timeout => exact True.intro
  case throw msg tsp =>
    obtain ⟨hfr, mem1, hrun1, hml1, hsr⟩ := h
    exact ⟨frame_pop st0 st' hfr, mem1, hrun1, hml1, by simpa [List.drop_tail] using hsr⟩

theorem Lvl.stmt_frame_scopes {G : GCtx} {A : Act} {loops lscopes d} {st st' : St} (h : st' = { st with scopes := st'.scopes }) :
    (Lvl.stmt G A loops lscopes d).frame st st' := by
  show st' = _; rw [h]

theorem world_of_scopes {st st' : St} (h : st' = { st with scopes := st'.scopes }) : st'.world = st.world := by
  rw [h]; rfl

/-- The code `cd`, compiled from `env` to `env'`, simulates `m` as a statement inside the loops `loops`: from every point
where the invariant of `env` holds, with the operand stack restored at the end and `GRel` for `env'` there. A proof
starts with `intro ip stk mem spec`, which leaves a `SimM`; for code that does not simply fall through, `intro hpl` turns
that into a `SimJ` from `ip` to `ip + nI cd`. An error clause `(Lvl.stmt …).err ip0 stk mem0 st0 c st'` unfolds to the
clause of `SimGS` for `(.error c, st')` at the base, with code length `0` and `Q := fun _ _ => True`. -/
def StmtM {α : Type} (G : GCtx) (A : Act) (loops : List (String × String)) (lscopes : CScopes) (d : Nat) (env env' : CEnv)
    (cd : SCode) (m : M α) : Prop :=
  ∀ (ip : Nat) (stk : List SVal) (mem : Mem) (spec : St),
    SimM (.stmt G A loops lscopes d) (.grel G A loops lscopes d env) cd ip [] stk mem spec m (fun _ _ _ ys => ys = [])
      (fun st' mem' => GRel G A env'.scopes env'.vm st'.scopes mem')

section
variable {α : Type} {G : GCtx} {A : Act} {loops : List (String × String)} {lscopes : CScopes} {d : Nat} {env env' : CEnv}
  {cd : SCode} {m : M α}

/-- `StmtM` read as `SimGS`: the base is the point itself. -/
theorem StmtM.simGS (h : StmtM G A loops lscopes d env env' cd m) {ip stk mem spec} (hpl : Placed A.lab A.σ A.c ip cd)
    (hls : lscopes = env.scopes.drop d) (hrel : GRel G A env.scopes env.vm spec.scopes mem) (hsp : SpecOK G A.mp spec) :
    SimGS G A loops lscopes d ip (nI cd) stk mem (GRel G A env'.scopes env'.vm) spec (m spec) := by
  have h := h ip stk mem spec hpl ⟨hrel, hsp, hls⟩ ip mem spec .refl
  generalize m spec = r at h ⊢
  obtain ⟨r, st1⟩ := r
  cases r with
  | error c => cases c <;> exact h
  | ok a => obtain ⟨ys, mem1, rfl, hq, hat⟩ := h; exact ⟨hat.frame, mem1, hat.run, hat.le, hq⟩

/-- `StmtM` as a link in front of code compiled in `env'`. -/
theorem StmtM.link (h : StmtM G A loops lscopes d env env' cd m)
    (hls' : lscopes = env.scopes.drop d → lscopes = env'.scopes.drop d) (ip stk mem spec) :
    SimM (.stmt G A loops lscopes d) (.grel G A loops lscopes d env) cd ip [] stk mem spec m (fun _ _ _ ys => ys = [])
      (Stable.grel G A loops lscopes d env').P := by
  intro hpl hI ip0 mem0 st0 hat
  -- from the base for the result, from the point itself for `SpecOK` of the end
  have h0 := h ip stk mem spec hpl hI ip0 mem0 st0 hat
  have h1 := h ip stk mem spec hpl hI ip mem spec .refl
  generalize m spec = r at h0 h1 ⊢
  obtain ⟨r, st1⟩ := r
  cases r with
  | error c => exact h0
  | ok a =>
    obtain ⟨ys, mem1, hq, hp, hat1⟩ := h0
    obtain ⟨_, _, _, _, hat1'⟩ := h1
    exact ⟨ys, mem1, hq, ⟨hp, hI.2.1.scopes_out st1 hat1'.frame hat1'.run.inv, hls' hI.2.2⟩, hat1⟩

theorem StmtM.env_mono {env'' : CEnv} (h : StmtM G A loops lscopes d env env' cd m) (hle : EnvLe env' env'') :
    StmtM G A loops lscopes d env env'' cd m := by
  intro ip stk mem spec hpl hI ip0 mem0 st0 hat
  have h0 := h ip stk mem spec hpl hI ip0 mem0 st0 hat
  generalize m spec = r at h0 ⊢
  obtain ⟨r, st1⟩ := r
  cases r with
  | error c => exact h0
  | ok a => obtain ⟨ys, mem1, hq, hp, hat1⟩ := h0; exact ⟨ys, mem1, hq, hp.envLe hle, hat1⟩

theorem StmtM.timeout (h : ∀ st, m st = (.error .timeout, st)) : StmtM G A loops lscopes d env env' cd m :=
  fun _ _ _ spec => SimM.timeout (h spec)

/-- An expression evaluated for its effect (without fuel for it the specification times out). -/
theorem StmtM.exprS {cfg : Cfg} {n : Nat} {sp : Span} {e : Expr}
    (h : ∀ m, n = m + 1 → StmtM G A loops lscopes d env env' cd (evalExpr cfg (m + 1) e)) :
    StmtM G A loops lscopes d env env' cd (evalStmt cfg (n + 1) (.exprS sp e)) := by
  have h' : StmtM G A loops lscopes d env env' cd (evalExpr cfg n e) := by
    cases n with
    | zero => exact StmtM.timeout fun st => by rw [evalExpr]; rfl
    | succ m => exact h m rfl
  intro ip stk mem spec
  rw [evalStmt_exprS_bind]
  exact (h' ip stk mem spec).seqPure (g := fun _ => ()) fun _ _ _ _ h => h
end

/-- The induction hypotheses on fuel: the code of a statement (a statement list, a block, a loop) of the fragment, inside
the loops `loops`, simulates it as `StmtM` says; `lscopes` and `d` as in `SimGS`. -/
def PGS (G : GCtx) (fuel : Nat) : Prop :=
  ∀ (A : Act), A.OK G → ∀ (loops : List (String × String)) (lscopes : CScopes) (d : Nat) (st : Stmt) (env : CEnv),
    Frag.okFS G.fr (!loops.isEmpty) A.rt st = true → (∀ x ∈ Frag.identsGS st, x ∈ A.T) →
    Frag.wsGS G.mod A.src A.φ loops st env = true →
    (∀ m ∈ codeVars (cgS G.mod A.src A.φ loops st env).1, A.N m) →
    StmtM G A loops lscopes d env (cgS G.mod A.src A.φ loops st env).2 (cgS G.mod A.src A.φ loops st env).1
      (evalStmt G.cfg fuel st)

/-- A statement changes the compiler's scopes in the innermost level only, so with `1 ≤ d` the scopes at the loop are the
same before and after it (`pgss_step`); a list stands in a block, that is at least one level below its loop or function. -/
def PGSs (G : GCtx) (fuel : Nat) : Prop :=
  ∀ (A : Act), A.OK G → ∀ (loops : List (String × String)) (lscopes : CScopes) (d : Nat) (ss : List Stmt) (env : CEnv),
    Frag.okFSs G.fr (!loops.isEmpty) A.rt ss = true → (∀ x ∈ Frag.identsGSs ss, x ∈ A.T) →
    Frag.wsGSs G.mod A.src A.φ loops ss env = true →
    (∀ m ∈ codeVars (cgSs G.mod A.src A.φ loops ss env).1, A.N m) → 1 ≤ d →
    StmtM G A loops lscopes d env (cgSs G.mod A.src A.φ loops ss env).2 (cgSs G.mod A.src A.φ loops ss env).1
      (evalStmts G.cfg fuel ss)

/-- Blocks, in a scope of their own; `d` counts from outside the block (`0` for the body of a loop). -/
def PGBS (G : GCtx) (fuel : Nat) : Prop :=
  ∀ (A : Act), A.OK G → ∀ (loops : List (String × String)) (lscopes : CScopes) (d : Nat) (b : Block) (env : CEnv),
    Frag.okFBS G.fr (!loops.isEmpty) A.rt b = true → (∀ x ∈ Frag.identsGBS b, x ∈ A.T) →
    Frag.wsGBS G.mod A.src A.φ loops b env = true →
    (∀ m ∈ codeVars (cgBS G.mod A.src A.φ loops b env).1, A.N m) →
    StmtM G A loops lscopes d env (cgBS G.mod A.src A.φ loops b env).2 (cgBS G.mod A.src A.φ loops b env).1
      (inScope (evalBlock G.cfg fuel b))

/-- `while` / `loop` as a whole (`cnd = none`: `loop`). -/
def PGL (G : GCtx) (fuel : Nat) : Prop :=
  ∀ (A : Act), A.OK G → ∀ (loops : List (String × String)) (lscopes : CScopes) (d : Nat) (sp : Span)
    (cnd : Option Expr) (body : Block) (env : CEnv),
    let stmt : Stmt := match cnd with | some c => .whileS sp c body | none => .loopS sp body
    Frag.okFS G.fr (!loops.isEmpty) A.rt stmt = true → (∀ x ∈ Frag.identsGS stmt, x ∈ A.T) →
    Frag.wsGS G.mod A.src A.φ loops stmt env = true →
    (∀ m ∈ codeVars (cgS G.mod A.src A.φ loops stmt env).1, A.N m) →
    StmtM G A loops lscopes d env env (cgS G.mod A.src A.φ loops stmt env).1 (loopRun G.cfg fuel cnd body)

/-- `for x in a..b { … }` as a whole. -/
def PGF (G : GCtx) (fuel : Nat) : Prop :=
  ∀ (A : Act), A.OK G → ∀ (loops : List (String × String)) (lscopes : CScopes) (d : Nat) (sp : Span) (name : String)
    (vty : Ty) (rsp : Span) (a b : Expr) (incl : Bool) (bsp : Span) (bty : Ty) (stmts : List Stmt) (env : CEnv),
    let stmt : Stmt := .forS sp name vty (.range rsp a b incl) (.mk bsp bty stmts none)
    Frag.okFS G.fr (!loops.isEmpty) A.rt stmt = true → (∀ x ∈ Frag.identsGS stmt, x ∈ A.T) →
    Frag.wsGS G.mod A.src A.φ loops stmt env = true →
    (∀ m ∈ codeVars (cgS G.mod A.src A.φ loops stmt env).1, A.N m) →
    StmtM G A loops lscopes d env (cgS G.mod A.src A.φ loops stmt env).2 (cgS G.mod A.src A.φ loops stmt env).1
      (evalStmt G.cfg fuel stmt)

/-- A block inside a statement compiled in `env`: compiled in a later `envb`; at the end the invariant of any `env'`
later than what the block leaves. -/
theorem PGBS.link {G : GCtx} {m : Nat} (hPB : PGBS G m) {A : Act} (hA : A.OK G) {loops : List (String × String)}
    {lscopes : CScopes} {d : Nat} {env : CEnv} (b : Block) (envb env' : CEnv)
    (hok : Frag.okFBS G.fr (!loops.isEmpty) A.rt b = true) (hT : ∀ x ∈ Frag.identsGBS b, x ∈ A.T)
    (hws : Frag.wsGBS G.mod A.src A.φ loops b envb = true)
    (hN : ∀ m ∈ codeVars (cgBS G.mod A.src A.φ loops b envb).1, A.N m)
    (hin : EnvLe env envb) (hout : EnvLe (cgBS G.mod A.src A.φ loops b envb).2 env')
    (ip : Nat) (stk : List SVal) (mem : Mem) (spec : St) :
    SimM (.stmt G A loops lscopes d) (.grel G A loops lscopes d env) (cgBS G.mod A.src A.φ loops b envb).1 ip [] stk mem spec
      (inScope (evalBlock G.cfg m b)) (fun _ _ _ ys => ys = [])
      (fun st' mem' => GRel G A env'.scopes env'.vm st'.scopes mem') := fun hpl hI =>
  ((hPB A hA loops lscopes d b envb hok hT hws hN).env_mono hout) ip stk mem spec hpl
    ⟨hI.1.envLe hin, hI.2.1, by rw [hin.scopes]; exact hI.2.2⟩

/-- Not a chain: the level changes (`d + 1` inside the block, `d` outside) and the scope is left on every outcome, errors
included, which an `Ends` at one level cannot say; so the result of the statements is taken apart and moved a level up. -/
theorem pgbs_step (G : GCtx) (n : Nat) (hPSs : PGSs G n) : PGBS G (n + 1) := by
  intro A hA loops lscopes d b env hs hT hws hN ip stk mem spec hpl hI ip0 mem0 st0 hat
  obtain ⟨bsp, bty, stmts, oe⟩ := b
  cases oe with
  | some _ => simp [Frag.okFBS] at hs
  | none =>
    simp only [Frag.okFBS] at hs
    simp only [Frag.wsGBS] at hws
    simp only [Frag.identsGBS] at hT
    simp only [cgBS] at hN hpl ⊢
    rw [inScope_run, evalBlock_stmts]
    -- the statements one scope level down, from the same base; the level is left again at the end
    have h1 := hPSs A hA loops lscopes (d + 1) stmts { env with scopes := [] :: env.scopes } hs hT hws hN (by omega) ip stk mem
      { spec with scopes := [] :: spec.scopes } hpl
      ⟨hI.1.push, hI.2.1.scopes_out _ rfl id, by simpa using hI.2.2⟩ ip0 mem0 st0
      ⟨hat.run, by show _ = _; rw [hat.frame], hat.le⟩
    generalize evalStmts G.cfg n stmts { spec with scopes := [] :: spec.scopes } = r0 at h1 ⊢
    obtain ⟨r1, st1⟩ := r0
    cases r1 with
    | ok u =>
      obtain ⟨ys, mem1, rfl, hq, hat1⟩ := h1
      exact ⟨[], mem1, rfl, ⟨hq.rel.tail, by rw [(cgSs_envLeT ..).scopes]; exact hI.1.key, hq.ghost, hq.ghostC⟩,
        ⟨hat1.run, frame_pop st0 st1 hat1.frame, hat1.le⟩⟩
    | error c => exact Lvl.stmt_err_pop h1

theorem pgss_step (G : GCtx) (n : Nat) (hPS : PGS G n) (hPSs : PGSs G n) : PGSs G (n + 1) := by
  intro A hA loops lscopes d ss env hs hT hws hN hd ip stk mem spec
  cases ss with
  | nil =>
    rw [evalStmts]
    exact fun _ => SimJ.ret fun hI => ⟨rfl, hI.1⟩
  | cons st ss =>
    simp only [Frag.okFSs, Bool.and_eq_true] at hs
    simp only [Frag.wsGSs, Bool.and_eq_true] at hws
    simp only [Frag.identsGSs, List.mem_append] at hT
    simp only [cgSs, codeVars_append, List.mem_append] at hN ⊢
    rw [evalStmts_cons_bind]
    refine SimM.seq ((hPS A hA loops lscopes d st env hs.1 (fun x hx => hT x (Or.inl hx)) hws.1 (fun m hm => hN m (Or.inl hm))).link
      ?_ ip stk mem spec) fun _ st1 mem1 ys eys => ?_
    · intro hls
      rw [hls, (cgS_envLeT G.mod A.src A.φ loops st env).drop hd]
    · subst eys
      exact hPSs A hA loops lscopes d ss _ hs.2 (fun x hx => hT x (Or.inr hx)) hws.2 (fun m hm => hN m (Or.inr hm)) hd _ stk
        mem1 st1

end HmsProofs.Sim
