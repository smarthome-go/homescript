import Hms.Core.Compile
/-! Instruction vocabulary of the C01 simulation lemmas. `mapLV` changes the label and variable representation
(labels → instruction indices, mangled names → slots); `isLabel`, `target?`, `var?` are the three places where
`relocate` / `renameVars` look at an instruction. -/
namespace HmsProofs.Sim
open Hms.Core.Comp

def mapLV {L V L' V' : Type} (f : L → L') (g : V → V') : Instr L V → Instr L' V'
  | .nop => .nop | .copyPush v => .copyPush v | .cloningPush v => .cloningPush v
  | .clone => .clone | .drop => .drop | .dup => .dup
  | .spawn fn => .spawn fn | .callVal => .callVal | .callImm fn => .callImm fn
  | .ret => .ret | .loadSingleton a b => .loadSingleton a b | .hostCall n => .hostCall n
  | .jump l => .jump (f l) | .jumpIfFalse l => .jumpIfFalse (f l)
  | .getVar v => .getVar (g v) | .getGlob n => .getGlob n | .setVar v => .setVar (g v)
  | .setGlob n => .setGlob n | .assign => .assign | .cast t a => .cast t a
  | .neg => .neg | .some => .some | .not => .not
  | .add => .add | .sub => .sub | .mul => .mul | .pow => .pow | .div => .div | .rem => .rem
  | .eq => .eq | .eqPopOnce => .eqPopOnce | .lt => .lt | .gt => .gt | .le => .le | .ge => .ge
  | .shl => .shl | .shr => .shr | .bitOr => .bitOr | .bitAnd => .bitAnd | .bitXor => .bitXor
  | .index => .index | .setTry fn l => .setTry fn (f l) | .popTry => .popTry | .throw => .throw
  | .member n => .member n | .memberAnyobj n => .memberAnyobj n | .unwrap => .unwrap
  | .importI a b => .importI a b | .label l => .label (f l) | .intoRange b => .intoRange b
  | .addMp n => .addMp n | .iterAdvance => .iterAdvance | .intoIter => .intoIter

def isLabel {L V : Type} : Instr L V → Bool
  | .label _ => true
  | _ => false

/-- A `label` pseudo-instruction defines a label, it does not refer to one. -/
def target? {L V : Type} : Instr L V → Option L
  | .jump l | .jumpIfFalse l | .setTry _ l => some l
  | _ => none

def var? {L V : Type} : Instr L V → Option V
  | .getVar v | .setVar v => some v
  | _ => none

theorem isLabel_iff {L V : Type} (i : Instr L V) : isLabel i = true ↔ ∃ l, i = .label l := by
  constructor
  · intro h
    unfold isLabel at h
    split at h
    · exact ⟨_, rfl⟩
    · cases h
  · rintro ⟨l, rfl⟩; rfl

theorem mapLV_mapLV {L V L' V' L'' V'' : Type} (f : L → L') (g : V → V') (f' : L' → L'') (g' : V' → V'')
    (i : Instr L V) : mapLV f' g' (mapLV f g i) = mapLV (f' ∘ f) (g' ∘ g) i := by
  cases i <;> rfl

theorem mapLV_id {L V : Type} (i : Instr L V) : mapLV id id i = i := by
  cases i <;> rfl

theorem isLabel_mapLV {L V L' V' : Type} (f : L → L') (g : V → V') (i : Instr L V) :
    isLabel (mapLV f g i) = isLabel i := by
  cases i <;> rfl

theorem target?_mapLV {L V L' V' : Type} (f : L → L') (g : V → V') (i : Instr L V) :
    target? (mapLV f g i) = (target? i).map f := by
  cases i <;> rfl

theorem var?_mapLV {L V L' V' : Type} (f : L → L') (g : V → V') (i : Instr L V) :
    var? (mapLV f g i) = (var? i).map g := by
  cases i <;> rfl

theorem mapLV_congr {L V L' V' : Type} (f f' : L → L') (g g' : V → V') (i : Instr L V)
    (hl : ∀ l, target? i = some l → f l = f' l)
    (hlab : ∀ l, i = .label l → f l = f' l)
    (hv : ∀ v, var? i = some v → g v = g' v) : mapLV f g i = mapLV f' g' i := by
  cases i
  case jump l => exact congrArg Instr.jump (hl l rfl)
  case jumpIfFalse l => exact congrArg Instr.jumpIfFalse (hl l rfl)
  case setTry fn l => exact congrArg (Instr.setTry fn) (hl l rfl)
  case label l => exact congrArg Instr.label (hlab l rfl)
  case getVar v => exact congrArg Instr.getVar (hv v rfl)
  case setVar v => exact congrArg Instr.setVar (hv v rfl)
  all_goals rfl

end HmsProofs.Sim
