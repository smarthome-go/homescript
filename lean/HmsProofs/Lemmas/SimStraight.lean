import HmsProofs.Lemmas.SimReach
/-!
# Semantic correctness of straight-line code (`exec_straight`)

Unlike `exec_pure` this counts the VM's steps exactly: the state after `n` instructions is
`done s n v`. The single steps are those of `SimReach`, read on `done` states (`done_eq_reach`).
-/
namespace HmsProofs.Sim
open Hms.Core Hms.Core.Comp Hms.Core.VM

theorem done_calls (s : VMState) (n : Nat) (v : Val) (f : Frame) (rest : List Frame)
    (hc : s.calls = f :: rest) : (done s n v).calls = { f with ip := f.ip + n } :: rest := by
  simp [done, bumpIp, hc]

section Done
variable (code : Code) (lim : Limits) {s : VMState} {f : Frame} {rest : List Frame} {c : List (RInstr × Span)}
variable (hc : s.calls = f :: rest) (hf : findCode code f.fn = some c)
include hc

theorem done_eq_reach (n : Nat) (v : Val) :
    done s n v = reach s (f.ip + n) n (⟨v, none⟩ :: s.stack) s.mem := by
  obtain ⟨stack, calls, mem, mp, handlers, iters, nextIter, globals, st, polls, steps⟩ := s
  cases hc
  rfl

theorem done_done_eq_reach (n1 n2 : Nat) (a b : Val) :
    done (done s n1 a) n2 b =
      reach s (f.ip + (n1 + n2)) (n1 + n2) (⟨b, none⟩ :: ⟨a, none⟩ :: s.stack) s.mem := by
  obtain ⟨stack, calls, mem, mp, handlers, iters, nextIter, globals, st, polls, steps⟩ := s
  cases hc
  simp only [done, reach, bumpIp, setIp, Nat.add_assoc]

include hf

theorem exec1_push {pv sp v} (hx : c[f.ip]? = some (.copyPush pv, sp)) (hp : ∀ st, pvalToVal st pv = (v, st)) :
    exec1 code lim s = .next (done s 1 v) := by
  have h := reach_push code lim s f.ip 0 s.stack s.mem f rest c hc hf pv sp v hx hp
  rw [reach_self s f rest hc] at h
  rw [h, done_eq_reach hc]

theorem exec1_getVar {k sp v} (hx : c[f.ip]? = some (.getVar k, sp))
    (h0 : 0 ≤ s.mp - (k : Int)) (h1 : s.mp - (k : Int) < (lim.memory : Int))
    (hm : s.mem.lookup (s.mp - (k : Int)) = some v) :
    exec1 code lim s = .next (done s 1 v) := by
  have h := reach_getVar code lim s f.ip 0 s.stack s.mem f rest c hc hf k sp v hx h0 h1 hm
  rw [reach_self s f rest hc] at h
  rw [h, done_eq_reach hc]

theorem exec1_pre {op sp lab σ n v} (a : Val) (hx : c[f.ip + n]? = some (mapLV lab σ (preI op), sp))
    (hv : preOp op a = .ok v) :
    exec1 code lim (done s n a) = .next (done s (n + 1) v) := by
  rw [done_eq_reach hc, done_eq_reach hc]
  exact reach_pre code lim s (f.ip + n) n s.stack s.mem f rest c hc hf op sp lab σ a v none hx hv

theorem exec1_bin {i sp lab σ n1 n2} (op : InfixOp) (a b : Val) (st : St)
    (hi : arithI op = [i]) (hne : op ≠ .ne) (hx : c[f.ip + (n1 + n2)]? = some (mapLV lab σ i, sp))
    (hheap : s.st.heap = st.heap) :
    match binOp op a b sp st with
    | (.ok v, _) => exec1 code lim (done (done s n1 a) n2 b) = .next (done s (n1 + n2 + 1) v)
    | (.error (.fatal k m fsp), _) =>
      ∃ s', exec1 code lim (done (done s n1 a) n2 b) = .intr (.fatal k m fsp) s' ∧ SameStore s s'
    | _ => True := by
  rw [done_done_eq_reach hc]
  have h := reach_bin code lim s (f.ip + (n1 + n2)) (n1 + n2) s.stack s.mem f rest c hc hf op i sp lab σ a b
    none none st hi hne hx hheap
  rcases hb : binOp op a b sp st with ⟨r, st'⟩
  rw [hb] at h
  cases r with
  | ok v =>
    simp only [] at h ⊢
    rw [h, done_eq_reach hc]
    rfl
  | error e => cases e <;> first | trivial | exact h

end Done

theorem SameStore.trans {a b c : VMState} (h1 : SameStore a b) (h2 : SameStore b c) : SameStore a c := by
  obtain ⟨a1, a2, a3, a4, a5⟩ := h1
  obtain ⟨b1, b2, b3, b4, b5⟩ := h2
  exact ⟨b1.trans a1, b2.trans a2, b3.trans a3, b4.trans a4, b5.trans a5⟩

theorem Sim1.error_prefix {code lim s n st c st1} (m : Nat) (h : Sim1 code lim s n st (.error c, st1)) :
    Sim1 code lim s (n + m) st (.error c, st1) := by
  cases c <;> try trivial
  obtain ⟨h1, s', h2, h3⟩ := h
  refine ⟨h1, s', ?_, h3⟩
  rw [execN_add, h2]

theorem Sim1.error_after {code lim s n s1 st c st2} (m k : Nat) (h0 : execN code lim n s = .next s1)
    (hss : SameStore s s1) (h : Sim1 code lim s1 m st (.error c, st2)) :
    Sim1 code lim s (n + m + k) st (.error c, st2) := by
  cases c <;> try trivial
  obtain ⟨h1, s', h2, h3⟩ := h
  refine ⟨h1, s', ?_, hss.trans h3⟩
  rw [execN_add, execN_add, h0]
  simp only [h2]

theorem done_done_stack (s : VMState) (n1 n2 : Nat) (a b : Val) :
    (done (done s n1 a) n2 b).stack = ⟨b, none⟩ :: ⟨a, none⟩ :: s.stack := rfl

theorem exec_straight (cfg : Cfg) (code : Code) (lim : Limits) (ρ : String → Option String)
    (σ lab : String → Nat) :
    ∀ (fuel : Nat) (e : Expr) (st : St) (s : VMState) (f : Frame) (rest : List Frame)
      (c : List (RInstr × Span)),
      Frag.straight e = true →
      s.calls = f :: rest → findCode code f.fn = some c →
      CodeAt c f.ip ((cstraightSp ρ e).map (lower lab σ)) →
      EnvRel ρ σ lim (Frag.vars e) st.scopes s.mp s.mem →
      s.st.heap = st.heap →
      Sim1 code lim s (cstraightSp ρ e).length st (evalExpr cfg fuel e st) := by
  intro fuel
  induction fuel with
  | zero =>
    intro e st s f rest c _ _ _ _ _ _
    rw [evalExpr]
    trivial
  | succ fuel ih =>
    intro e st s f rest c hs hc hf hcode henv hheap
    have lit : ∀ (pv : PVal) (sp : Span) (v : Val), (∀ st, pvalToVal st pv = (v, st)) →
        CodeAt c f.ip [((Instr.copyPush pv : RInstr), sp)] →
        Sim1 code lim s 1 st (.ok v, st) := by
      intro pv sp v hp hcd
      refine ⟨rfl, ?_⟩
      rw [execN_one]
      exact exec1_push code lim hc hf hcd.head hp
    cases e <;> simp only [Frag.straight, Bool.false_eq_true] at hs
    case int sp v => rw [evalExpr]; exact lit (.int v) sp _ (fun _ => rfl) hcode
    case bool sp b => rw [evalExpr]; exact lit (.bool b) sp _ (fun _ => rfl) hcode
    case str sp b => rw [evalExpr]; exact lit (.str b) sp _ (fun _ => rfl) hcode
    case null sp => rw [evalExpr]; exact lit .null sp _ (fun _ => rfl) hcode
    case none sp => rw [evalExpr]; exact lit .noneOpt sp _ (fun _ => rfl) hcode
    case grouped sp e =>
      rw [evalExpr]
      exact ih e st s f rest c hs hc hf hcode henv hheap
    case ident sp ty name isGlobal isFn isSingleton =>
      obtain ⟨m, v, hρ, hl, h0, h1, hm⟩ := henv name (by simp [Frag.vars])
      rw [evalExpr_ident _ _ _ _ _ _ _ _ _ v hl]
      simp only [cstraightSp, hρ] at hcode ⊢
      refine ⟨rfl, ?_⟩
      rw [List.length_singleton, execN_one]
      exact exec1_getVar code lim hc hf hcode.head h0 h1 hm
    case pre sp ty op e =>
      simp only [cstraightSp, List.map_append, List.map_cons, List.map_nil] at hcode
      obtain ⟨hc1, hc2⟩ := hcode.append
      simp only [List.length_map] at hc2
      have h1 := ih e st s f rest c hs hc hf hc1 henv hheap
      rw [evalExpr_pre]
      simp only [cstraightSp, List.length_append, List.length_singleton]
      rcases he : evalExpr cfg fuel e st with ⟨r1, st1⟩
      rw [he] at h1
      cases r1 with
      | error c1 => exact h1.error_prefix 1
      | ok a =>
        obtain ⟨rfl, hx⟩ := h1
        simp only []
        cases hp : preOp op a with
        | error c' =>
          obtain ⟨w, rfl⟩ := preOp_error hp
          trivial
        | ok v =>
          refine ⟨rfl, ?_⟩
          rw [execN_add, hx]
          simp only []
          rw [execN_one]
          exact exec1_pre code lim hc hf a hc2.head hp
    case «infix» sp ty op l r =>
      simp only [Bool.and_eq_true, Bool.not_eq_eq_eq_not, Bool.not_true] at hs
      obtain ⟨⟨hop, hl⟩, hr⟩ := hs
      simp only [cstraightSp, List.map_append, List.map_map] at hcode
      obtain ⟨hc12, hc3⟩ := hcode.append
      obtain ⟨hc1, hc2⟩ := hc12.append
      simp only [List.length_map, List.length_append] at hc2 hc3
      have h1 := ih l st s f rest c hl hc hf hc1
        (henv.mono (by intro x hx; simp [Frag.vars, hx])) hheap
      rw [evalExpr_infix _ _ _ _ _ _ _ _ (Frag.not_logical hop)]
      simp only [cstraightSp, List.length_append, List.length_map]
      rcases hel : evalExpr cfg fuel l st with ⟨r1, st1⟩
      rw [hel] at h1
      cases r1 with
      | error c1 => rw [Nat.add_assoc]; exact h1.error_prefix _
      | ok a =>
        obtain ⟨rfl, hx1⟩ := h1
        simp only []
        have h2 := ih r st1 (done s (cstraightSp ρ l).length a) _ rest c hr
          (done_calls s _ a f rest hc) hf hc2
          (henv.mono (by intro x hx; simp [Frag.vars, hx])) hheap
        rcases her : evalExpr cfg fuel r st1 with ⟨r2, st2⟩
        rw [her] at h2
        cases r2 with
        | error c2 => exact h2.error_after _ _ hx1 ⟨rfl, rfl, rfl, rfl, rfl⟩
        | ok b =>
          obtain ⟨rfl, hx2⟩ := h2
          simp only []
          have hrun : ∀ k, execN code lim ((cstraightSp ρ l).length + (cstraightSp ρ r).length + k) s =
              execN code lim k (done (done s (cstraightSp ρ l).length a) (cstraightSp ρ r).length b) := by
            intro k
            rw [execN_add, execN_add, hx1]
            simp only [hx2]
          rcases arithI_cases op hop with rfl | ⟨hne, i, hi⟩
          · -- `!=` is `eq; not`
            simp only [arithI, List.map_cons, List.map_nil] at hc3
            have hfn : c[f.ip + ((cstraightSp ρ l).length + (cstraightSp ρ r).length + 1)]? =
                some (mapLV lab σ (preI .not), sp) := by
              have := hc3 1 (by simp)
              rw [Nat.add_assoc] at this
              exact this
            have hbin := exec1_bin code lim hc hf .eq a b st2 rfl (by decide) hc3.head hheap
            rw [binOp_ne_run]
            rw [binOp_eq_run] at hbin
            cases hv : valEq st2.heap 64 a b with
            | none => trivial
            | some q =>
              rw [hv] at hbin
              simp only [] at hbin
              refine ⟨rfl, ?_⟩
              simp only [arithI, List.length_cons, List.length_nil]
              rw [hrun]
              show execN code lim (1 + 1) _ = _
              rw [execN_add, execN_one, hbin]
              simp only []
              rw [execN_one]
              have := exec1_pre code lim hc hf (.bool q) hfn rfl
              rw [this]
          · rw [hi] at hc3 ⊢
            simp only [List.map_cons, List.map_nil] at hc3
            have hbin := exec1_bin code lim hc hf op a b st2 hi hne hc3.head hheap
            simp only [List.length_singleton]
            rcases hb : binOp op a b sp st2 with ⟨rb, st3⟩
            obtain rfl := binOp_state hb
            rw [hb] at hbin
            cases rb with
            | ok v =>
              refine ⟨rfl, ?_⟩
              rw [hrun, execN_one]
              exact hbin
            | error cb =>
              cases cb <;> try trivial
              obtain ⟨s', hs', hss⟩ := hbin
              refine ⟨rfl, s', ?_, hss⟩
              rw [hrun, execN_one]
              exact hs'

end HmsProofs.Sim
