import HmsProofs.Lemmas.PrattSound
/-! Fuel: a run is returned at every fuel above twice the length of the input, and no call runs out of that fuel. -/
namespace HmsProofs.Lemmas.Pratt
open Hms Hms.Pratt

variable {prec : Prec}

/-- The result `r` of a call at fuel `n` is right: a success is a run, and the fuel error occurs only below
the bound `b`. -/
def ResOK {α : Type} (n b : Nat) (run : α → List TokKind → Prop) : Res α → Prop
  | .ok (a, out) => run a out
  | .error e => e = .fuel → n < b

/-- From the result of the last call of a branch to the result of the whole. -/
theorem ResOK.next {α : Type} {n b b' : Nat} {run run' : α → List TokKind → Prop} {r : Res α}
    (h : ResOK n b run r) (hb : b < b') (hr : ∀ a out, run a out → run' a out) : ResOK (n + 1) b' run' r := by
  rcases r with e | ⟨a, out⟩
  · exact fun he => Nat.lt_of_le_of_lt (h he) hb
  · exact hr a out h

theorem ResOK.run {α : Type} {n b : Nat} {run : α → List TokKind → Prop} {r : Res α} {a : α} {out : List TokKind}
    (h : ResOK n b run r) (hr : r = .ok (a, out)) : run a out := by subst hr; exact h

theorem ResOK.error {α β : Type} {n b b' : Nat} {run : α → List TokKind → Prop} {run' : β → List TokKind → Prop}
    {r : Res α} {e : Err} (h : ResOK n b run r) (hr : r = .error e) (hb : b < b') :
    ResOK (n + 1) b' run' (.error e) :=
  fun he => by subst hr; exact Nat.lt_of_le_of_lt (h he) hb

/-- Whatever the three functions return is a run, and with `2 * length + 1` fuel (`+ 2` for `parseArgs`,
which re-reads its first token) none runs out of fuel. -/
theorem parse_spec (prec : Prec) : ∀ n,
    (∀ p ts, ResOK n (2 * ts.length + 1) (RunE prec p ts) (parseE prec n p ts)) ∧
    (∀ p lhs ts, ResOK n (2 * ts.length + 1) (RunL prec p lhs ts) (loop prec n p lhs ts)) ∧
    (∀ close ts, ResOK n (2 * ts.length + 2) (RunA prec close ts) (parseArgs prec n close ts)) := by
  intro n
  induction n with
  | zero => exact ⟨fun _ _ _ => Nat.succ_pos _, fun _ _ _ _ => Nat.succ_pos _, fun _ _ _ => Nat.succ_pos _⟩
  | succ n ih =>
    obtain ⟨ihE, ihL, ihA⟩ := ih
    -- a sub-call's success is a run (which consumes input); its error is passed on
    have okE : ∀ {q ts e out}, parseE prec n q ts = .ok (e, out) → RunE prec q ts e out :=
      (ihE _ _).run
    have okA : ∀ {c ts xs out}, parseArgs prec n c ts = .ok (xs, out) → RunA prec c ts xs out :=
      (ihA _ _).run
    have errE : ∀ {α run b' q ts e}, parseE prec n q ts = .error e → 2 * ts.length + 1 < b' →
        ResOK (α := α) (n + 1) b' run (.error e) := (ihE _ _).error
    have errA : ∀ {α run b' c ts e}, parseArgs prec n c ts = .error e → 2 * ts.length + 2 < b' →
        ResOK (α := α) (n + 1) b' run (.error e) := (ihA _ _).error
    -- a branch that read a primary or performed a suffix operation goes on with the loop on a shorter input
    have prim : ∀ {p k rest lhs rest'}, Run prec (.prim k rest lhs rest') →
        ResOK (n + 1) (2 * (rest.length + 1) + 1) (RunE prec p (k :: rest)) (loop prec n p lhs rest') :=
      fun hp => (ihL ..).next (by have := hp.prim_len; omega) fun _ _ => .mk hp
    have step : ∀ {p lhs k rest lhs' rest'}, (prec k).1 > p → Run prec (.step lhs k rest lhs' rest') →
        ResOK (n + 1) (2 * (rest.length + 1) + 1) (RunL prec p lhs (k :: rest)) (loop prec n p lhs' rest') :=
      fun hp hs => (ihL ..).next (by have := hs.step_len; omega) fun _ _ => .step hp hs
    have hE : ∀ p ts, ResOK (n + 1) (2 * ts.length + 1) (RunE prec p ts) (parseE prec (n + 1) p ts) := by
      intro p ts
      generalize hm : n + 1 = m
      -- cases of `parseE` in its order: 1 no fuel, 2 no input, 3 atom, 4–6 `(` (closed, not closed, error),
      -- 7–8 prefix operator (ok, error), 9–10 `[` (ok, error), 11 opaque start, 12 anything else
      fun_cases parseE prec m p ts <;> cases hm <;> simp only [List.length_cons, List.length_nil]
      case case3 hk => exact prim (.atom hk)
      case case4 hk _ _ he => obtain rfl := eq_of_beq hk; exact prim (.grp (okE he))
      case case6 he => exact errE he (by omega)
      case case7 hk _ _ he => exact prim (.pre hk (okE he))
      case case8 he => exact errE he (by omega)
      case case9 hk _ _ ha => obtain rfl := eq_of_beq hk; exact prim (.list (okA ha))
      case case10 ha => exact errA ha (by omega)
      all_goals exact nofun
    have hL : ∀ p lhs ts, ResOK (n + 1) (2 * ts.length + 1) (RunL prec p lhs ts) (loop prec (n + 1) p lhs ts) := by
      intro p lhs ts
      generalize hm : n + 1 = m
      -- cases of `loop` in its order: 1 no fuel, 2 no input, 3–4 `..` (ok, error), 5–6 infix, 7–9 assignment
      -- (valid target, invalid target, error), 10–11 call, 12–14 index (closed, not closed, error),
      -- 15–17 member (identifier, `_`, other), 18–19 `as` (identifier, other), 20 no suffix operation, 21 stop
      fun_cases loop prec m p lhs ts <;> cases hm <;> simp only [List.length_cons, List.length_nil]
      case case2 => exact .stop (Nat.zero_le _)
      case case3 hk _ _ hrs _ _ hp he => obtain rfl := eq_of_beq hk; exact step hp (.range hrs (okE he))
      case case4 hrs _ _ he => have := rangeSplit_len hrs; exact errE he (by omega)
      case case5 hk _ _ hp he => exact step hp (.bin hk (okE he))
      case case6 he => exact errE he (by omega)
      case case7 hk _ _ hp hv he => exact step hp (.asg hk hv (okE he))
      case case9 he => exact errE he (by omega)
      case case10 hk _ _ hp ha => obtain rfl := eq_of_beq hk; exact step hp (.call (okA ha))
      case case11 ha => exact errA ha (by omega)
      case case12 hk _ _ hp he => obtain rfl := eq_of_beq hk; exact step hp (.index (okE he))
      case case14 he => exact errE he (by omega)
      case case15 hk _ hp => exact step hp (.member hk (.inl rfl))
      case case16 hk _ hp => exact step hp (.member hk (.inr rfl))
      case case18 hk _ hp => obtain rfl := eq_of_beq hk; exact step hp .cast
      case case21 hp => exact .stop (Nat.le_of_not_gt hp)
      all_goals exact nofun
    refine ⟨hE, hL, fun close ts => ?_⟩
    cases ts with
    | nil => exact nofun
    | cons k rest =>
      rw [parseArgs.eq_3]
      simp only [List.length_cons]
      -- branches of `parseArgs` in its order: `k` closes; else the result of `parseE`: a comma follows (then the
      -- remaining arguments: ok, error), another token follows (the closer, anything else), nothing follows, error
      split
      · rename_i hk
        obtain rfl := eq_of_beq hk
        exact .close
      · rename_i hk
        have hk : (k == close) = false := by simpa using hk
        split
        · rename_i he
          have := (okE he).len
          simp only [List.length_cons] at this
          split
          · rename_i ha; exact .more hk (okE he) (okA ha)
          · rename_i ha; exact errA ha (by omega)
        · rename_i he
          split
          · rename_i hc
            obtain rfl := eq_of_beq hc
            exact .last hk ‹_› (okE he)
          · exact nofun
        · exact nofun
        · rename_i he; exact errE he (by simp only [List.length_cons]; omega)

theorem run_of_ok {n p : Nat} {ts out : List TokKind} {t : Tree} (h : parseE prec n p ts = .ok (t, out)) :
    RunE prec p ts t out :=
  ((parse_spec prec n).1 p ts).run h

/-- A run is what the function returns at every fuel above twice the length of the input (a primary and a
suffix operation: what the first step of `parseE` and of `loop` comes to). -/
def Replays (prec : Prec) : Call → Prop
  | .parseE p ts t out => ∀ n, 2 * ts.length + 1 ≤ n → parseE prec n p ts = .ok (t, out)
  | .loop p lhs ts t out => ∀ n, 2 * ts.length + 1 ≤ n → loop prec n p lhs ts = .ok (t, out)
  | .parseArgs close ts xs out => ∀ n, 2 * ts.length + 2 ≤ n → parseArgs prec n close ts = .ok (xs, out)
  | .prim k rest lhs rest' => ∀ n p, 2 * rest.length + 2 ≤ n →
      parseE prec (n + 1) p (k :: rest) = loop prec n p lhs rest'
  | .step lhs k rest lhs' rest' => ∀ n p, (prec k).1 > p → 2 * rest.length + 2 ≤ n →
      loop prec (n + 1) p lhs (k :: rest) = loop prec n p lhs' rest'

/-- The bound is kept through the sub-calls because every run consumes input (`RunE.len` and the like:
corollaries of soundness). -/
theorem Run.ok {x : Call} (h : Run prec x) : Replays prec x := by
  induction h with (simp only [Replays] at *)
  | atom hk => intros; simp [parseE, hk]
  | grp _ ih => intro n _ hn; simp [parseE, isAtom, ih n (by omega)]
  | pre hk _ ih => intro n _ hn; simp [parseE, hk, ih n (by omega), prefix_fails_earlier hk]
  | list _ ih => intro n _ hn; simp [parseE, isAtom, isPrefix, ih n (by omega)]
  | range hrs _ ih =>
    intro n _ hp hn
    have he := ih n (by have := rangeSplit_len hrs; omega)
    unfold rangeSplit at hrs
    split at hrs <;> cases hrs <;> simp [loop, hp, he]
  | bin hk _ ih =>
    intro n _ hp hn; simp [loop, hp, hk, ih n (by omega), beq_false_of_class (c := .doubleDot) hk rfl]
  | asg hk hv _ ih => intro n _ hp hn; simp [loop, hp, hk, hv, ih n (by omega), assign_fails_earlier hk]
  | call _ ih => intro n _ hp hn; simp [loop, hp, isInfix, isAssign, ih n (by omega)]
  | index _ ih => intro n _ hp hn; simp [loop, hp, isInfix, isAssign, ih n (by omega)]
  | member hk hnm => intro _ _ hp _; rcases hnm with rfl | rfl <;> simp [loop, hp, hk, member_fails_earlier hk]
  | cast => intro _ _ hp _; simp [loop, hp, isInfix, isAssign, isMemberOp]
  -- the bound leaves no fuel `0`
  | mk hprim _ ihp ihl =>
    intro | n + 1, hn => ?_
    simp only [List.length_cons] at hn
    rw [ihp n _ (by omega)]
    exact ihl n (by have := hprim.prim_len; omega)
  | stop hstop => exact fun | _ + 1, _ => loop_stop prec _ _ _ _ hstop
  | step hp hstep _ ihs ihl =>
    intro | n + 1, hn => ?_
    simp only [List.length_cons] at hn
    rw [ihs n _ hp (by omega)]
    exact ihl n (by have := hstep.step_len; omega)
  | close => exact fun | _ + 1, _ => by simp [parseArgs]
  | more hk he _ ihe iha =>
    intro | n + 1, hn => ?_
    have := RunE.len he
    simp only [List.length_cons] at hn this
    simp [parseArgs, hk, ihe n (by simp only [List.length_cons]; omega), iha n (by omega)]
  | last hk hc _ ih =>
    intro | n + 1, hn => ?_
    simp only [List.length_cons] at hn
    rw [parseArgs.eq_3, if_neg (by simp [hk]), ih n (by simp only [List.length_cons]; omega)]
    -- the match on the result has a case for a comma first: `close` is none
    split <;> rename_i heq <;> cases heq
    · exact absurd rfl hc
    · simp

theorem ok_fuel_independent {N n p : Nat} {ts : List TokKind} {r : Tree × List TokKind}
    (h : parseE prec N p ts = .ok r) (hn : 2 * ts.length + 1 ≤ n) : parseE prec n p ts = .ok r :=
  (run_of_ok h).ok n hn

/-- Runs are unique: both are what the function returns. -/
theorem RunE.unique {p : Nat} {ts out out' : List TokKind} {t t' : Tree} (h : RunE prec p ts t out)
    (h' : RunE prec p ts t' out') : (t, out) = (t', out') :=
  Except.ok.inj ((Run.ok h _ (Nat.le_refl _)).symm.trans (Run.ok h' _ (Nat.le_refl _)))

theorem parseE_len {n p : Nat} {ts out : List TokKind} {t : Tree}
    (h : parseE prec n p ts = .ok (t, out)) : out.length < ts.length :=
  (run_of_ok h).len

theorem loop_len {prec : Prec} {n p : Nat} {lhs : Tree} {ts out : List TokKind} {t : Tree}
    (h : loop prec n p lhs ts = .ok (t, out)) : out.length ≤ ts.length := by
  obtain ⟨c, rfl, _⟩ := Run.sound (((parse_spec prec n).2.1 p lhs ts).run h)
  simp

theorem parseArgs_len {n : Nat} {close : TokKind} {ts out : List TokKind} {xs : Args}
    (h : parseArgs prec n close ts = .ok (xs, out)) : out.length < ts.length :=
  RunA.len (((parse_spec prec n).2.2 close ts).run h)

theorem parseE_ne_fuel {n p : Nat} {ts : List TokKind} (hn : 2 * ts.length + 1 ≤ n) :
    parseE prec n p ts ≠ .error .fuel := fun h => by
  have := (parse_spec prec n).1 p ts
  rw [h] at this
  exact Nat.not_lt.2 hn (this rfl)

end HmsProofs.Lemmas.Pratt
