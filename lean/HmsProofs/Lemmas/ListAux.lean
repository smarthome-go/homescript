/-!
Facts about core types that several slices use and the core library does not state: association
lists searched with `List.lookup` (scopes, tables, Go maps), a list cut at its last separator and
decimal numerals (both name-mangling schemes). Nothing of the development is imported.
-/

namespace List

theorem eq_of_fst_eq_of_nodup_keys {α β} {l : List (α × β)} (hk : (l.map Prod.fst).Nodup)
    {a b : α × β} (ha : a ∈ l) (hb : b ∈ l) (h : a.1 = b.1) : a = b := by
  have hp : l.Pairwise (fun a b => a.1 ≠ b.1) := pairwise_map.mp hk
  exact Pairwise.forall_of_forall_of_flip (R := fun a b => a.1 = b.1 → a = b) (fun _ _ _ => rfl)
    (hp.imp fun hne e => absurd e hne) (hp.imp fun hne e => absurd e.symm hne) ha hb h

section lookup
variable {α β} [BEq α] [LawfulBEq α] {l : List (α × β)} {k : α}

theorem lookup_cons_ne {q : α} {v : β} (h : q ≠ k) : ((k, v) :: l).lookup q = l.lookup q := by
  rw [lookup_cons, beq_false_of_ne h]

theorem mem_of_lookup_eq_some {v : β} (h : l.lookup k = some v) : (k, v) ∈ l := by
  obtain ⟨l₁, l₂, rfl, _⟩ := lookup_eq_some_iff.mp h
  exact mem_append_right _ mem_cons_self

theorem lookup_isSome_iff_mem_keys : (l.lookup k).isSome ↔ k ∈ l.map Prod.fst := by
  rw [lookup_isSome_iff, mem_map]
  exact exists_congr fun p => and_congr_right fun _ => by rw [beq_iff_eq, eq_comm]

theorem lookup_eq_none_iff_not_mem_keys : l.lookup k = none ↔ k ∉ l.map Prod.fst := by
  rw [← lookup_isSome_iff_mem_keys, Option.not_isSome_iff_eq_none]

theorem lookup_key_mem {v : β} (h : l.lookup k = some v) : k ∈ l.map Prod.fst :=
  lookup_isSome_iff_mem_keys.mp (h ▸ rfl)

theorem lookup_eq_some_iff_mem (hk : (l.map Prod.fst).Nodup) {v : β} : l.lookup k = some v ↔ (k, v) ∈ l := by
  refine ⟨mem_of_lookup_eq_some, fun hm => ?_⟩
  obtain ⟨w, hw⟩ := Option.isSome_iff_exists.mp (lookup_isSome_iff_mem_keys.mpr (mem_map_of_mem hm))
  rw [hw, (Prod.mk.inj (eq_of_fst_eq_of_nodup_keys hk (mem_of_lookup_eq_some hw) hm rfl)).2]

/-- The test `addFn` and the keyword table make before they search. -/
theorem any_fst_beq_eq_lookup_isSome (l : List (α × β)) (k : α) :
    (l.any fun e => e.1 == k) = (l.lookup k).isSome := by
  rw [Bool.eq_iff_iff, any_eq_true, lookup_isSome_iff]
  exact exists_congr fun p => and_congr_right fun _ => by rw [beq_iff_eq, beq_iff_eq, eq_comm]

end lookup

theorem split_last_sep {α} {sep : α} {xs xs' ys ys' : List α}
    (h : xs ++ sep :: ys = xs' ++ sep :: ys') (hy : sep ∉ ys) (hy' : sep ∉ ys') :
    xs = xs' ∧ ys = ys' := by
  induction xs generalizing xs' with
  | nil =>
    cases xs' with
    | nil => simpa using h
    | cons c t =>
      simp only [List.nil_append, List.cons_append, List.cons.injEq] at h
      exact absurd (h.2 ▸ (by simp : sep ∈ t ++ sep :: ys')) hy
  | cons a s ih =>
    cases xs' with
    | nil =>
      simp only [List.nil_append, List.cons_append, List.cons.injEq] at h
      exact absurd (h.2 ▸ (by simp : sep ∈ s ++ sep :: ys)) hy'
    | cons c t =>
      simp only [List.cons_append, List.cons.injEq] at h
      obtain ⟨rfl, h⟩ := h
      obtain ⟨rfl, rfl⟩ := ih h
      exact ⟨rfl, rfl⟩

end List

namespace Nat

theorem toDigits_injective {a b : Nat} (h : toDigits 10 a = toDigits 10 b) : a = b := by
  rw [← ofDigitChars_ten_toDigits (n := a), h, ofDigitChars_ten_toDigits]

theorem dot_not_mem_toDigits (c : Nat) : '.' ∉ toDigits 10 c := by
  intro h
  simpa using isDigit_of_mem_toDigits (by decide) (by decide) h

end Nat
