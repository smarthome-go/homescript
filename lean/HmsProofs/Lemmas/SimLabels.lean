import HmsProofs.Lemmas.SimReach
import HmsProofs.Lemmas.SimRename
/-!
# Where a fragment lands after `relocate` and `renameVars`

A fragment `frag` emitted into a function's symbolic code `pre ++ frag ++ post` ends up, in the
code the VM runs, at instruction index `(stripLabels pre).length`, lowered through the label
resolution of the whole function and its slot assignment (`codeAt_of_compiled`). If the labels
the fragment defines are pairwise distinct and not redefined later in the function, `relocate`
resolves each of them to its own position, so the fragment is `Placed` in the final VM code
(`placed_of_relocate`).
-/
namespace HmsProofs.Sim
open Hms.Core Hms.Core.Comp

theorem renameVars_relocate (code : SCode) (r : NCode) (h : relocate code = some r) :
    renameVars r = (stripLabels code).map (lower (labelIndex code) (slotFn r)) := by
  rw [renameVars_eq_map]
  conv => lhs; arg 2; rw [relocate_some code r h]
  rw [List.map_map]
  apply List.map_congr_left
  intro p _
  simp only [Function.comp, resolve, lower, mapLV_mapLV]
  rfl

theorem CodeAt.mid (a b c : List (RInstr × Span)) : CodeAt (a ++ b ++ c) a.length b := by
  intro k hk
  rw [List.append_assoc, List.getElem?_append_right (by omega), List.getElem?_append_left (by omega)]
  congr 1; omega

theorem codeAt_of_compiled (pre frag post : SCode) (r : NCode)
    (h : relocate (pre ++ frag ++ post) = some r) :
    CodeAt (renameVars r) (stripLabels pre).length
      ((stripLabels frag).map (lower (labelIndex (pre ++ frag ++ post)) (slotFn r))) := by
  rw [renameVars_relocate _ r h, stripLabels_append, stripLabels_append, List.map_append, List.map_append]
  have := CodeAt.mid ((stripLabels pre).map (lower (labelIndex (pre ++ frag ++ post)) (slotFn r)))
    ((stripLabels frag).map (lower (labelIndex (pre ++ frag ++ post)) (slotFn r)))
    ((stripLabels post).map (lower (labelIndex (pre ++ frag ++ post)) (slotFn r)))
  simpa using this

theorem placed_of_relocate (pre frag post : SCode) (r : NCode)
    (hrel : relocate (pre ++ frag ++ post) = some r)
    (hnodup : (definedLabels frag).Nodup)
    (hdisj : ∀ l ∈ definedLabels frag, l ∉ definedLabels post) :
    Placed (labelIndex (pre ++ frag ++ post)) (slotFn r) (renameVars r) (nI pre) frag := by
  refine ⟨codeAt_of_compiled pre frag post r hrel, ?_⟩
  intro a l sp b hab
  subst hab
  have hnb : l ∉ definedLabels b := by
    simp only [definedLabels_append, definedLabels_label] at hnodup
    have := (List.nodup_append.mp hnodup).2.1
    exact (List.nodup_cons.mp this).1
  have hnp : l ∉ definedLabels post := hdisj l (by simp)
  have := labelIndex_of_last (pre ++ a) (b ++ post) l sp (by
    intro sp' hm
    rcases List.mem_append.mp hm with hm | hm
    · exact hnb ((mem_definedLabels _ _).mpr ⟨sp', hm⟩)
    · exact hnp ((mem_definedLabels _ _).mpr ⟨sp', hm⟩))
  have e : pre ++ (a ++ (Instr.label l, sp) :: b) ++ post = pre ++ a ++ (Instr.label l, sp) :: (b ++ post) := by
    simp
  rw [e, this, stripLabels_append, List.length_append]
  rfl

end HmsProofs.Sim
