import Hms.Fuzz.Rules
/-! Value-level facts behind the fuzzer's rewrite rules (64-bit wrap-around integers, booleans). -/
namespace HmsProofs.Lemmas.Fuzz
open Hms Hms.Core

theorem lit_add_sub (n k : I64) : (n + k) - k = n := BitVec.add_sub_cancel n k
theorem lit_sub_add (n k : I64) : (n - k) + k = n := BitVec.sub_add_cancel n k
theorem add_comm (a b : I64) : a + b = b + a := BitVec.add_comm a b
theorem mul_comm (a b : I64) : a * b = b * a := BitVec.mul_comm a b
theorem sub_as_add_neg (a b : I64) : a - b = a + (-b) := BitVec.sub_eq_add_neg a b
theorem add_as_sub_neg (a b : I64) : a + b = a - (-b) := by rw [BitVec.sub_eq_add_neg, BitVec.neg_neg]

theorem lit_mul_div (n k : I64) (hk : 0 < k.toNat) (hk' : k.toNat < 2 ^ 63)
    (h : n.toNat * k.toNat < 2 ^ 63) : (n * k).sdiv k = n := by
  have hprod : (n * k).toNat = n.toNat * k.toNat := BitVec.toNat_mul_of_lt (by omega)
  have m1 : (n * k).msb = false := BitVec.msb_eq_false_iff_two_mul_lt.2 (by omega)
  have m2 : k.msb = false := BitVec.msb_eq_false_iff_two_mul_lt.2 (by omega)
  rw [BitVec.sdiv_eq, m1, m2]
  apply BitVec.eq_of_toNat_eq
  rw [BitVec.udiv_eq, BitVec.toNat_udiv, hprod]
  exact Nat.mul_div_cancel _ hk

theorem lit_mul_div_overflow_counterexample :
    ((4611686018427387904 : I64) * 4).sdiv 4 ≠ 4611686018427387904 := by decide

/-- The loop the fuzzer unrolls a product into: `res`/`count` are `mul_res`/`mul_count`, one round
of `while mul_count < b { mul_res += a; mul_count += 1; }` per unit of fuel. -/
def mulLoop (a b : I64) : Nat → I64 → I64 → I64
  | 0, res, _ => res
  | fuel + 1, res, count => if count.slt b then mulLoop a b fuel (res + a) (count + 1) else res

theorem slt_iff_of_nonneg (c b : I64) (hc : c.toNat < 2 ^ 63) (hb : b.toNat < 2 ^ 63) :
    c.slt b = true ↔ c.toNat < b.toNat := by
  rw [BitVec.slt_iff_toInt_lt, BitVec.toInt_eq_toNat_of_lt (by omega), BitVec.toInt_eq_toNat_of_lt (by omega)]
  omega

/-- The invariant of the loop: `res = a * count` and `count ≤ b`. -/
theorem mulLoop_inv (a b : I64) (hb : b.toNat < 2 ^ 63) : ∀ (fuel : Nat) (c : I64),
    c.toNat ≤ b.toNat → b.toNat - c.toNat ≤ fuel → mulLoop a b fuel (a * c) c = a * b
  | 0, c, hc, hf => by rw [show c = b from BitVec.eq_of_toNat_eq (by omega)]; rfl
  | fuel + 1, c, hc, hf => by
    have hlt := slt_iff_of_nonneg c b (by omega) hb
    simp only [mulLoop]
    split
    · next h =>
      have := hlt.1 h
      have hc1 : (c + 1).toNat = c.toNat + 1 := by bv_omega
      rw [← BitVec.mul_succ]
      exact mulLoop_inv a b hb fuel (c + 1) (by omega) (by omega)
    · next h =>
      have := mt hlt.2 h
      rw [show c = b from BitVec.eq_of_toNat_eq (by omega)]

theorem mul_as_loop (a b : I64) (hb : b.toNat < 2 ^ 63) (fuel : Nat) (hf : b.toNat ≤ fuel) :
    mulLoop a b fuel 0 0 = a * b := by
  simpa using mulLoop_inv a b hb fuel 0 (by simp) (by simpa using hf)

theorem mul_as_loop_negative_counterexample :
    (∀ fuel, mulLoop 2 (-3) fuel 0 0 = 0) ∧ (2 : I64) * (-3) ≠ 0 := by
  refine ⟨fun fuel => ?_, by decide⟩
  cases fuel <;> rfl

theorem not_not (b : Bool) : (!(!b)) = b := Bool.not_not b

theorem cmp_swap_revOp {op : InfixOp} (hop : op = .lt ∨ op = .gt ∨ op = .le ∨ op = .ge) (a b : Val)
    (sp : Span) : binOp op a b sp = binOp (Fuzz.revOp op) b a sp := by
  -- a case for each pair of kinds: `binOp` looks at both operands before it answers
  have lt (a b : Val) : binOp .lt a b sp = binOp .gt b a sp := by cases a <;> cases b <;> rfl
  have le (a b : Val) : binOp .le a b sp = binOp .ge b a sp := by cases a <;> cases b <;> rfl
  rcases hop with rfl | rfl | rfl | rfl
  · exact lt a b
  · exact (lt b a).symm
  · exact le a b
  · exact (le b a).symm

theorem binOp_add_comm_int (x y : I64) (sp : Span) :
    binOp .add (.int x) (.int y) sp = binOp .add (.int y) (.int x) sp := by
  simp only [binOp, intOp]; rw [add_comm x y]
theorem binOp_mul_comm_int (x y : I64) (sp : Span) :
    binOp .mul (.int x) (.int y) sp = binOp .mul (.int y) (.int x) sp := by
  simp only [binOp, intOp]; rw [mul_comm x y]

theorem binOp_add_as_sub_neg (x y : I64) (sp : Span) :
    binOp .add (.int x) (.int y) sp = binOp .sub (.int x) (.int (-y)) sp := by
  simp only [binOp, intOp]; rw [add_as_sub_neg x y]

end HmsProofs.Lemmas.Fuzz
