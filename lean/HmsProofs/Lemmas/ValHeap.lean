import Hms.Value.Heap
/-! Lemmas for C13: `Clone()` copies, and mutations through one root never reach cells that are
separated from it. -/
namespace HmsProofs.Lemmas.ValHeap
open Hms.Value Hms.Value.Heap

def Out (lo hi a : Nat) : Prop := a < lo ∨ hi ≤ a

/-- The region `[lo, hi)` of the heap is closed under references, and no cell outside it refers
into it; all references are in bounds. -/
structure Sep (lo hi : Nat) (h : Heap) : Prop where
  hi_le : hi ≤ h.length
  inside : ∀ a node, h[a]? = some node → lo ≤ a → a < hi → ∀ r ∈ node.refs, lo ≤ r ∧ r < hi
  outside : ∀ a node, h[a]? = some node → Out lo hi a → ∀ r ∈ node.refs, Out lo hi r ∧ r < h.length

/-- The later heap `h'` has the cells of `h` on the region (the later heap stands second, as in `Ext`). -/
def Same (lo hi : Nat) (h h' : Heap) : Prop := ∀ a, lo ≤ a → a < hi → h'[a]? = h[a]?

theorem Same.refl (lo hi : Nat) (h : Heap) : Same lo hi h h := fun _ _ _ => rfl

theorem Same.trans {lo hi : Nat} {h1 h2 h3 : Heap} (a : Same lo hi h1 h2) (b : Same lo hi h2 h3) :
    Same lo hi h1 h3 := fun x h1' h2' => (b x h1' h2').trans (a x h1' h2')

theorem mapM_congr {α β} {f g : α → Option β} : ∀ (l : List α), (∀ x ∈ l, f x = g x) → l.mapM f = l.mapM g
  | [], _ => rfl
  | x :: xs, h => by
    simp only [List.mapM_cons]
    rw [h x (by simp), mapM_congr xs (fun y hy => h y (by simp [hy]))]

theorem mapM_some_mem {α β} {f : α → Option β} : ∀ {l : List α} {vs : List β}, l.mapM f = some vs →
    ∀ x ∈ l, ∃ v, f x = some v
  | [], _, _, x, hx => by simp at hx
  | y :: ys, vs, hm, x, hx => by
    simp only [List.mapM_cons, Option.bind_eq_bind] at hm
    cases hy : f y with
    | none => simp [hy] at hm
    | some v =>
      cases hys : ys.mapM f with
      | none => simp [hy, hys] at hm
      | some ws =>
        rcases List.mem_cons.mp hx with rfl | hx
        · exact ⟨v, hy⟩
        · exact mapM_some_mem hys x hx

theorem read_same {lo hi : Nat} {h h' : Heap}
    (hin : ∀ a node, h[a]? = some node → lo ≤ a → a < hi → ∀ r ∈ node.refs, lo ≤ r ∧ r < hi)
    (hs : Same lo hi h h') : ∀ (fuel a : Nat), lo ≤ a → a < hi → Heap.read fuel h' a = Heap.read fuel h a
  | 0, _, _, _ => rfl
  | fuel + 1, a, h1, h2 => by
    have ih := read_same hin hs fuel
    simp only [Heap.read, hs a h1 h2]
    cases hn : h[a]? with
    | none => rfl
    | some node =>
      have hr := hin a node hn h1 h2
      cases node with
      | leaf v => rfl
      | some c =>
        have := hr c (by simp [Node.refs])
        simp [ih c this.1 this.2]
      | list cells =>
        have : cells.mapM (Heap.read fuel h') = cells.mapM (Heap.read fuel h) :=
          mapM_congr cells (fun c hc => ih c (hr c (by simpa [Node.refs] using hc)).1 (hr c (by simpa [Node.refs] using hc)).2)
        simp [this]
      | obj fields | anyobj fields =>
        have : fields.mapM (fun kc => (Heap.read fuel h' kc.2).map fun v => (kc.1, v)) =
            fields.mapM (fun kc => (Heap.read fuel h kc.2).map fun v => (kc.1, v)) :=
          mapM_congr fields (fun kc hkc => by
            have hm := hr kc.2 (by simp [Node.refs]; exact ⟨kc.1, hkc⟩)
            rw [ih kc.2 hm.1 hm.2])
        simp [this]

/-- `h'` is `h` with cells appended, and the appended cells refer to appended cells only. This is all `alloc`
and `clone` do to a heap (`alloc_spec`, `clone_spec`), and it is why the old and the new part are separated from
each other afterwards (`sep_old`, `sep_new`). -/
def Ext (h h' : Heap) : Prop :=
  ∃ ext : Heap, h' = h ++ ext ∧ ∀ (i : Nat) (node : Node), ext[i]? = some node → ∀ r ∈ node.refs, h.length ≤ r ∧ r < h'.length

theorem Ext.refl (h : Heap) : Ext h h := ⟨[], by simp, by simp⟩

theorem Ext.length_le {h h' : Heap} (e : Ext h h') : h.length ≤ h'.length := by
  obtain ⟨ext, rfl, _⟩ := e; simp

theorem Ext.trans {h h1 h2 : Heap} (a : Ext h h1) (b : Ext h1 h2) : Ext h h2 := by
  obtain ⟨e1, rfl, p1⟩ := a
  obtain ⟨e2, rfl, p2⟩ := b
  refine ⟨e1 ++ e2, by simp, ?_⟩
  intro i node hi r hr
  by_cases hlt : i < e1.length
  · rw [List.getElem?_append_left hlt] at hi
    have := p1 i node hi r hr
    simp at this ⊢; omega
  · rw [List.getElem?_append_right (by omega)] at hi
    have := p2 _ node hi r hr
    simp at this ⊢; omega

/-- The last step of every `alloc` and `clone`: the root node is appended. The conclusion is that of
`alloc_spec` and `clone_spec` for the appended cell as root. -/
theorem Ext.snoc {h h1 : Heap} (a : Ext h h1) (node : Node)
    (hn : ∀ r ∈ node.refs, h.length ≤ r ∧ r < h1.length) :
    Ext h (h1 ++ [node]) ∧ h.length ≤ h1.length ∧ h1.length < (h1 ++ [node]).length := by
  refine ⟨?_, a.length_le, by simp⟩
  obtain ⟨e1, rfl, p1⟩ := a
  refine ⟨e1 ++ [node], by simp, ?_⟩
  intro i n hi r hr
  by_cases hlt : i < e1.length
  · rw [List.getElem?_append_left hlt] at hi
    have := p1 i n hi r hr
    simp at this ⊢; omega
  · rw [List.getElem?_append_right (by omega)] at hi
    have hz : i - e1.length = 0 := by
      cases hk : i - e1.length with
      | zero => rfl
      | succ k => rw [hk] at hi; simp at hi
    rw [hz] at hi; simp at hi; subst hi
    have := hn r hr
    simp at this ⊢; omega

/-- The step of every walk that allocates for one item after the other. -/
theorem Ext.cons {α} {cell : α → Nat} {h h1 h2 : Heap} {x : α} {xs : List α} (e1 : Ext h h1)
    (a : h.length ≤ cell x ∧ cell x < h1.length) (e2 : Ext h1 h2)
    (hc : ∀ y ∈ xs, h1.length ≤ cell y ∧ cell y < h2.length) :
    Ext h h2 ∧ ∀ y ∈ x :: xs, h.length ≤ cell y ∧ cell y < h2.length := by
  refine ⟨e1.trans e2, ?_⟩
  intro y hy
  rcases List.mem_cons.mp hy with rfl | hy
  · exact ⟨a.1, Nat.lt_of_lt_of_le a.2 e2.length_le⟩
  · exact ⟨Nat.le_trans e1.length_le (hc y hy).1, (hc y hy).2⟩

theorem Ext.old {h h' : Heap} (e : Ext h h') (a : Nat) (ha : a < h.length) : h'[a]? = h[a]? := by
  obtain ⟨ext, rfl, _⟩ := e
  exact List.getElem?_append_left ha

mutual
theorem alloc_spec : ∀ (v : Val) (h : Heap),
    Ext h (alloc v h).1 ∧ h.length ≤ (alloc v h).2 ∧ (alloc v h).2 < (alloc v h).1.length
  | .list xs, h => by
    obtain ⟨e, hc⟩ := allocVals_spec xs h
    simp only [alloc]
    exact e.snoc _ (by simpa [Node.refs] using hc)
  | .obj fs, h | .anyobj fs, h => by
    obtain ⟨e, hc⟩ := allocFields_spec fs h
    simp only [alloc]
    exact e.snoc _ (List.forall_mem_map.mpr hc)
  | .some v, h => by
    obtain ⟨e, h1, h2⟩ := alloc_spec v h
    simp only [alloc]
    exact e.snoc _ (by simpa [Node.refs] using And.intro h1 h2)
  | .null, h | .int _, h | .flt _, h | .bool _, h | .str _, h | .none, h | .range .., h | .fn, h => by
    simp only [alloc]
    exact (Ext.refl h).snoc _ (by simp [Node.refs])
theorem allocVals_spec : ∀ (xs : Vals) (h : Heap),
    Ext h (allocVals xs h).1 ∧ ∀ c ∈ (allocVals xs h).2, h.length ≤ c ∧ c < (allocVals xs h).1.length
  | .nil, h => by simp [allocVals, Ext.refl]
  | .cons v vs, h => by
    obtain ⟨e1, a1, a2⟩ := alloc_spec v h
    obtain ⟨e2, hc⟩ := allocVals_spec vs (alloc v h).1
    simp only [allocVals]
    exact e1.cons (cell := id) ⟨a1, a2⟩ e2 hc
theorem allocFields_spec : ∀ (fs : Fields) (h : Heap),
    Ext h (allocFields fs h).1 ∧ ∀ kc ∈ (allocFields fs h).2, h.length ≤ kc.2 ∧ kc.2 < (allocFields fs h).1.length
  | .nil, h => by simp [allocFields, Ext.refl]
  | .cons k v fs, h => by
    obtain ⟨e1, a1, a2⟩ := alloc_spec v h
    obtain ⟨e2, hc⟩ := allocFields_spec fs (alloc v h).1
    simp only [allocFields]
    exact e1.cons (cell := Prod.snd) ⟨a1, a2⟩ e2 hc
end

theorem Sep.ext {lo hi : Nat} {h h' : Heap} (s : Sep lo hi h) (e : Ext h h') : Sep lo hi h' ∧ Same lo hi h h' := by
  have hle := e.length_le
  obtain ⟨ext, rfl, p⟩ := e
  have hsame : Same lo hi h (h ++ ext) := fun a _ h2 =>
    List.getElem?_append_left (Nat.lt_of_lt_of_le h2 s.hi_le)
  refine ⟨⟨Nat.le_trans s.hi_le hle, ?_, ?_⟩, hsame⟩
  · intro a node hn h1 h2 r hr
    rw [hsame a h1 h2] at hn
    exact s.inside a node hn h1 h2 r hr
  · intro a node hn ho r hr
    by_cases hlt : a < h.length
    · rw [List.getElem?_append_left hlt] at hn
      have := s.outside a node hn ho r hr
      exact ⟨this.1, Nat.lt_of_lt_of_le this.2 hle⟩
    · rw [List.getElem?_append_right (by omega)] at hn
      have := p _ node hn r hr
      exact ⟨Or.inr (Nat.le_trans s.hi_le this.1), this.2⟩

theorem Sep.set {lo hi : Nat} {h : Heap} (s : Sep lo hi h) (c : Nat) (node' : Node) (hc : Out lo hi c)
    (hr : ∀ r ∈ node'.refs, Out lo hi r ∧ r < h.length) :
    Sep lo hi (h.set c node') ∧ Same lo hi h (h.set c node') := by
  have hne : ∀ a, lo ≤ a → a < hi → c ≠ a := by
    intro a h1 h2 e; subst e; rcases hc with hc | hc <;> omega
  have hsame : Same lo hi h (h.set c node') := fun a h1 h2 => by
    rw [List.getElem?_set_ne (hne a h1 h2)]
  refine ⟨⟨by simpa using s.hi_le, ?_, ?_⟩, hsame⟩
  · intro a node hn h1 h2 r hr'
    rw [hsame a h1 h2] at hn
    exact s.inside a node hn h1 h2 r hr'
  · intro a node hn ho r hr'
    by_cases e : c = a
    · subst e
      rw [List.getElem?_set_self' ] at hn
      cases hx : h[c]? with
      | none => simp [hx] at hn
      | some old =>
        simp [hx] at hn; subst hn
        have := hr r hr'
        exact ⟨this.1, by simpa using this.2⟩
    · rw [List.getElem?_set_ne e] at hn
      have := s.outside a node hn ho r hr'
      exact ⟨this.1, by simpa using this.2⟩

theorem lookupCell_mem {fields : List (String × Nat)} {k : String} {c : Nat} (h : lookupCell fields k = some c) :
    c ∈ fields.map (·.2) := by
  simp only [lookupCell, Option.map_eq_some_iff] at h
  obtain ⟨kc, hf, rfl⟩ := h
  exact List.mem_map.mpr ⟨kc, List.mem_of_find?_eq_some hf, rfl⟩

theorem walk_out {lo hi : Nat} {h : Heap} (s : Sep lo hi h) (p : Path) (root c : Nat) (ho : Out lo hi root)
    (hw : walk h root p = some c) : Out lo hi c ∧ c < h.length := by
  -- every step goes from a cell outside the region to one it refers to
  fun_induction walk h root p with
  | case1 a hlt => cases hw; exact ⟨ho, hlt⟩
  | case2 | case7 => cases hw
  | case3 a rest cells i hn ih =>
    obtain ⟨c', hc, hw⟩ := Option.bind_eq_some_iff.mp hw
    exact ih c' (s.outside a _ hn ho c' (by simp [Node.refs]; exact List.mem_of_getElem? hc)).1 hw
  | case4 a rest fields k hn ih | case5 a rest fields k hn ih =>
    obtain ⟨c', hc, hw⟩ := Option.bind_eq_some_iff.mp hw
    exact ih c' (s.outside a _ hn ho c' (by simpa [Node.refs] using lookupCell_mem hc)).1 hw
  | case6 a rest c' hn ih => exact ih (s.outside a _ hn ho c' (by simp [Node.refs])).1 hw

theorem sep_alloc_set {lo hi : Nat} {h : Heap} (s : Sep lo hi h) (v : Val) (c : Nat) (hc : Out lo hi c)
    (node' : Node) (hr : ∀ r ∈ node'.refs, Out lo hi r ∧ r < (alloc v h).1.length) :
    Sep lo hi ((alloc v h).1.set c node') ∧ Same lo hi h ((alloc v h).1.set c node') := by
  obtain ⟨s1, same1⟩ := s.ext (alloc_spec v h).1
  obtain ⟨s2, same2⟩ := s1.set c node' hc hr
  exact ⟨s2, same1.trans same2⟩

theorem old_refs {lo hi : Nat} {h : Heap} (s : Sep lo hi h) (v : Val) {c : Nat} {node : Node} (hc : Out lo hi c)
    (hn : h[c]? = some node) : ∀ r ∈ node.refs, Out lo hi r ∧ r < (alloc v h).1.length := by
  intro r hr
  have := s.outside c node hn hc r hr
  exact ⟨this.1, Nat.lt_of_lt_of_le this.2 (alloc_spec v h).1.length_le⟩

theorem fresh_root {lo hi : Nat} {h : Heap} (s : Sep lo hi h) (v : Val) :
    Out lo hi (alloc v h).2 ∧ (alloc v h).2 < (alloc v h).1.length := by
  obtain ⟨_, h1, h2⟩ := alloc_spec v h
  exact ⟨Or.inr (Nat.le_trans s.hi_le h1), h2⟩

theorem fresh_node_refs {lo hi : Nat} {h : Heap} (s : Sep lo hi h) (v : Val) :
    ∀ r ∈ ((alloc v h).1[(alloc v h).2]?.getD (.leaf .null)).refs, Out lo hi r ∧ r < (alloc v h).1.length := by
  obtain ⟨s1, _⟩ := s.ext (alloc_spec v h).1
  intro r hr
  cases hn : (alloc v h).1[(alloc v h).2]? with
  | none => simp [hn, Node.refs] at hr
  | some node =>
    simp only [hn, Option.getD_some] at hr
    exact s1.outside _ node hn (fresh_root s v).1 r hr

theorem upsert_refs (fields : List (String × Nat)) (k : String) (c r : Nat)
    (h : r ∈ (upsert fields k c).map (·.2)) : r = c ∨ r ∈ fields.map (·.2) := by
  unfold upsert at h
  split at h
  · simp only [List.map_map, List.mem_map, Function.comp] at h
    obtain ⟨kc, hm, he⟩ := h
    split at he
    · left; exact he.symm
    · right; exact List.mem_map.mpr ⟨kc, hm, he⟩
  · simp only [List.map_append, List.mem_append, List.map_cons, List.map_nil, List.mem_singleton] at h
    rcases h with h | h
    · right; exact h
    · left; exact h

theorem applyOp_sep {lo hi : Nat} {h : Heap} (s : Sep lo hi h) (root : Nat) (hroot : Out lo hi root) (op : Op) :
    Sep lo hi (applyOp h root op).1 ∧ Same lo hi h (applyOp h root op).1 := by
  have out {c : Nat} (hw : walk h root op.path = some c) : Out lo hi c := (walk_out s op.path root c hroot hw).1
  -- Every operation overwrites one cell `c` reached from the root, which lies outside the region (`walk_out`), by a
  -- node whose references are references of the old node (`old_refs`, `s.outside`) or lead into what `alloc v` has
  -- just appended (`fresh_root`, `fresh_node_refs`); `Sep.set`, after an `alloc` `sep_alloc_set`, does the rest.
  fun_cases applyOp h root op with
  | case1 | case6 | case8 | case11 | case12 | case13 | case15 | case19 => exact ⟨s, Same.refl _ _ _⟩
  | case2 c hw v cells hn => -- push
    refine sep_alloc_set s v c (out hw) _ fun r hr => ?_
    simp only [Node.refs, List.mem_append, List.mem_singleton] at hr
    rcases hr with hr | rfl
    · exact old_refs s v (out hw) hn r (by simpa [Node.refs] using hr)
    · exact fresh_root s v
  | case3 c hw v cells hn => -- pushFront
    refine sep_alloc_set s v c (out hw) _ fun r hr => ?_
    simp only [Node.refs, List.mem_cons] at hr
    rcases hr with rfl | hr
    · exact fresh_root s v
    · exact old_refs s v (out hw) hn r (by simpa [Node.refs] using hr)
  | case4 c hw cells hn => -- pop
    exact s.set c _ (out hw) fun r hr => s.outside c _ hn (out hw) r
      (by simpa [Node.refs] using List.dropLast_subset _ (by simpa [Node.refs] using hr))
  | case5 c hw cells hn => -- popFront
    exact s.set c _ (out hw) fun r hr => s.outside c _ hn (out hw) r
      (by simp only [Node.refs] at hr ⊢; exact List.mem_of_mem_drop hr)
  | case7 c hw i v cells hn => -- insert
    refine sep_alloc_set s v c (out hw) _ fun r hr => ?_
    simp only [Node.refs, List.mem_append, List.mem_singleton] at hr
    rcases hr with (hr | rfl) | hr
    · exact old_refs s v (out hw) hn r (by simpa [Node.refs] using List.mem_of_mem_take hr)
    · exact fresh_root s v
    · exact old_refs s v (out hw) hn r (by simpa [Node.refs] using List.mem_of_mem_drop hr)
  | case9 c hw i cells hn => -- remove
    refine s.set c _ (out hw) fun r hr => ?_
    simp only [Node.refs, List.mem_append] at hr
    rcases hr with hr | hr
    · exact s.outside c _ hn (out hw) r (by simpa [Node.refs] using List.mem_of_mem_take hr)
    · exact s.outside c _ hn (out hw) r (by simpa [Node.refs] using List.mem_of_mem_drop hr)
  | case10 c hw v cells hn _ _ more hm => -- concat
    refine sep_alloc_set s v c (out hw) _ fun r hr => ?_
    simp only [Node.refs, List.mem_append] at hr
    rcases hr with hr | hr
    · exact old_refs s v (out hw) hn r (by simpa [Node.refs] using hr)
    · exact fresh_node_refs s v r (by simpa [show (alloc v h).1[(alloc v h).2]? = _ from hm, Node.refs] using hr)
  | case14 c hw i v cells hn _ _ _ dest hd => -- setIndex
    have hdest := s.outside c _ hn (out hw) dest (by simpa [Node.refs] using List.mem_of_getElem? hd)
    exact sep_alloc_set s v dest hdest.1 _ (fresh_node_refs s v)
  | case16 c hw k v fields hn _ dest hd => -- setField on an object
    have hdest := s.outside c _ hn (out hw) dest (by simpa [Node.refs] using lookupCell_mem hd)
    exact sep_alloc_set s v dest hdest.1 _ (fresh_node_refs s v)
  | case17 c hw k v fields hn => -- setField on an any-object
    refine sep_alloc_set s v c (out hw) _ fun r hr => ?_
    rcases upsert_refs fields k _ r (by simpa [Node.refs] using hr) with rfl | hr
    · exact fresh_root s v
    · exact old_refs s v (out hw) hn r (by simpa [Node.refs] using hr)
  | case18 c hw v node hn => -- assign
    exact sep_alloc_set s v c (out hw) _ (fresh_node_refs s v)

theorem applyOps_sep {lo hi : Nat} (root : Nat) (hroot : Out lo hi root) : ∀ (ops : List Op) (h : Heap), Sep lo hi h →
    Sep lo hi (applyOps h root ops) ∧ Same lo hi h (applyOps h root ops)
  | [], h, s => ⟨s, Same.refl _ _ _⟩
  | op :: ops, h, s => by
    obtain ⟨s1, same1⟩ := applyOp_sep s root hroot op
    obtain ⟨s2, same2⟩ := applyOps_sep root hroot ops _ s1
    exact ⟨s2, same1.trans same2⟩

/-- Whatever is done through a root outside the region, every cell of the region denotes what it did. -/
theorem applyOps_read {lo hi : Nat} {h : Heap} (s : Sep lo hi h) (root : Nat) (hroot : Out lo hi root) (ops : List Op)
    (fuel a : Nat) (h1 : lo ≤ a) (h2 : a < hi) : Heap.read fuel (applyOps h root ops) a = Heap.read fuel h a :=
  read_same s.inside (applyOps_sep root hroot ops h s).2 fuel a h1 h2

/-- No reference leaves the heap; `alloc` and `clone` keep it so (`Closed.ext`). -/
def Closed (h : Heap) : Prop := ∀ (a : Nat) (node : Node), h[a]? = some node → ∀ r ∈ node.refs, r < h.length

theorem Closed.sep {h : Heap} (c : Closed h) : Sep 0 h.length h :=
  ⟨Nat.le_refl _, fun a node hn _ _ r hr => ⟨Nat.zero_le _, c a node hn r hr⟩, fun a node hn ho r hr => by
    have := (List.getElem?_eq_some_iff.mp hn).1
    rcases ho with ho | ho <;> omega⟩

theorem Sep.closed {lo hi : Nat} {h : Heap} (s : Sep lo hi h) : Closed h := fun a node hn r hr => by
  by_cases hin : lo ≤ a ∧ a < hi
  · exact Nat.lt_of_lt_of_le (s.inside a node hn hin.1 hin.2 r hr).2 s.hi_le
  · exact (s.outside a node hn (by unfold Out; omega) r hr).2

theorem sep_old {h h' : Heap} (c : Closed h) (e : Ext h h') : Sep 0 h.length h' :=
  (c.sep.ext e).1

/-- With `sep_old`: the two regions after a clone are separated from each other. -/
theorem sep_new {h h' : Heap} (c : Closed h) (e : Ext h h') : Sep h.length h'.length h' := by
  have hle := e.length_le
  have hold := e.old
  obtain ⟨ext, rfl, p⟩ := e
  refine ⟨Nat.le_refl _, ?_, ?_⟩
  · intro a node hn h1 _ r hr
    rw [List.getElem?_append_right h1] at hn
    exact p _ node hn r hr
  · intro a node hn ho r hr
    rcases ho with ho | ho
    · rw [hold a ho] at hn
      have := c a node hn r hr
      exact ⟨Or.inl this, Nat.lt_of_lt_of_le this hle⟩
    · have : (h ++ ext)[a]? = none := List.getElem?_eq_none ho
      rw [this] at hn; cases hn

theorem Closed.ext {h h' : Heap} (c : Closed h) (e : Ext h h') : Closed h' :=
  (sep_old c e).closed

theorem read_append {h : Heap} (c : Closed h) (ext : Heap) (fuel a : Nat) (ha : a < h.length) :
    Heap.read fuel (h ++ ext) a = Heap.read fuel h a :=
  read_same c.sep.inside
    (fun _ _ h2 => List.getElem?_append_left h2) fuel a (Nat.zero_le _) ha

theorem read_ext {h h' : Heap} (c : Closed h) (e : Ext h h') (fuel a : Nat) (ha : a < h.length) :
    Heap.read fuel h' a = Heap.read fuel h a := by
  obtain ⟨ext, rfl, _⟩ := e
  exact read_append c ext fuel a ha

theorem read_some_lt {fuel : Nat} {h : Heap} {a : Nat} {v : Val} (hr : Heap.read fuel h a = some v) : a < h.length := by
  cases fuel with
  | zero => simp [Heap.read] at hr
  | succ n =>
    simp only [Heap.read] at hr
    cases hn : h[a]? with
    | none => simp [hn] at hr
    | some node => exact (List.getElem?_eq_some_iff.mp hn).1

/-! The two cell walks of `clone` as one: `mapThread` walks the cells of a list, `mapThreadFields` the named cells
of an object; both are `thread cell put`, where `cell` reads the cell of an item and `put` replaces it. -/

def thread {α} (cell : α → Nat) (put : α → Nat → α) (f : Heap → Nat → Option (Heap × Nat)) :
    Heap → List α → Option (Heap × List α)
  | h, [] => some (h, [])
  | h, x :: xs =>
    match f h (cell x) with
    | none => none
    | some (h1, c') =>
      match thread cell put f h1 xs with
      | none => none
      | some (h2, xs') => some (h2, put x c' :: xs')

theorem mapThread_eq (f : Heap → Nat → Option (Heap × Nat)) :
    ∀ (cs : List Nat) (h : Heap), mapThread f h cs = thread id (fun _ c => c) f h cs
  | [], _ => rfl
  | c :: cs, h => by
    simp only [mapThread, thread, id]
    cases f h c with
    | none => rfl
    | some p =>
      obtain ⟨h1, c'⟩ := p
      simp only [mapThread_eq f cs]
      rcases thread id (fun _ c => c) f h1 cs with _ | ⟨h2, cs'⟩ <;> rfl

theorem mapThreadFields_eq (f : Heap → Nat → Option (Heap × Nat)) :
    ∀ (cs : List (String × Nat)) (h : Heap),
      mapThreadFields f h cs = thread Prod.snd (fun kc c => (kc.1, c)) f h cs
  | [], _ => rfl
  | (k, c) :: cs, h => by
    simp only [mapThreadFields, thread]
    cases f h c with
    | none => rfl
    | some p =>
      obtain ⟨h1, c'⟩ := p
      simp only [mapThreadFields_eq f cs]
      rcases thread Prod.snd (fun kc c => (kc.1, c)) f h1 cs with _ | ⟨h2, cs'⟩ <;> rfl

theorem thread_spec {α} {cell : α → Nat} {put : α → Nat → α} (hput : ∀ x c, cell (put x c) = c)
    {f : Heap → Nat → Option (Heap × Nat)}
    (hf : ∀ h c h1 c', f h c = some (h1, c') → Ext h h1 ∧ h.length ≤ c' ∧ c' < h1.length) :
    ∀ (xs : List α) (h h' : Heap) (xs' : List α), thread cell put f h xs = some (h', xs') →
      Ext h h' ∧ ∀ y ∈ xs', h.length ≤ cell y ∧ cell y < h'.length
  | [], h, h', xs', hm => by simp [thread] at hm; obtain ⟨rfl, rfl⟩ := hm; simp [Ext.refl]
  | x :: xs, h, h', xs', hm => by
    simp only [thread] at hm
    cases h1 : f h (cell x) with
    | none => simp [h1] at hm
    | some p1 =>
      obtain ⟨ha, c1⟩ := p1
      simp only [h1] at hm
      cases h2 : thread cell put f ha xs with
      | none => simp [h2] at hm
      | some p2 =>
        obtain ⟨hb, xs2⟩ := p2
        simp [h2] at hm
        obtain ⟨rfl, rfl⟩ := hm
        obtain ⟨e1, a⟩ := hf h (cell x) ha c1 h1
        obtain ⟨e2, hc⟩ := thread_spec hput hf xs ha hb xs2 h2
        exact e1.cons (cell := cell) (by rw [hput]; exact a) e2 hc

theorem clone_spec : ∀ (fuel : Nat) (h : Heap) (a : Nat) (h' : Heap) (r' : Nat), clone fuel h a = some (h', r') →
    Ext h h' ∧ h.length ≤ r' ∧ r' < h'.length
  | 0, h, a, h', r', hc => by simp [clone] at hc
  | fuel + 1, h, a, h', r', hc => by
    have ih := clone_spec fuel
    simp only [clone, mapThread_eq, mapThreadFields_eq] at hc
    split at hc
    · cases hc
    · cases hc
      exact (Ext.refl h).snoc _ (by simp [Node.refs])
    · rename_i c hn
      cases h1 : clone fuel h c with
      | none => simp [h1] at hc
      | some p1 =>
        obtain ⟨ha, c1⟩ := p1
        simp [h1] at hc
        obtain ⟨rfl, rfl⟩ := hc
        obtain ⟨e, a1, a2⟩ := ih h c ha c1 h1
        exact e.snoc _ (by simpa [Node.refs] using And.intro a1 a2)
    · rename_i cells hn
      cases h1 : thread id (fun _ c => c) (clone fuel) h cells with
      | none => simp [h1] at hc
      | some p1 =>
        obtain ⟨ha, cs1⟩ := p1
        simp [h1] at hc
        obtain ⟨rfl, rfl⟩ := hc
        obtain ⟨e, hcs⟩ := thread_spec (cell := id) (fun _ _ => rfl) ih cells h ha cs1 h1
        exact e.snoc _ (by simpa [Node.refs] using hcs)
    iterate 2
      · rename_i fields hn
        cases h1 : thread Prod.snd (fun kc c => (kc.1, c)) (clone fuel) h fields with
        | none => simp [h1] at hc
        | some p1 =>
          obtain ⟨ha, cs1⟩ := p1
          simp [h1] at hc
          obtain ⟨rfl, rfl⟩ := hc
          obtain ⟨e, hcs⟩ := thread_spec (cell := Prod.snd) (fun _ _ => rfl) ih fields h ha cs1 h1
          exact e.snoc _ (List.forall_mem_map.mpr hcs)

def CloneOK (fuel : Nat) : Prop :=
  ∀ (h : Heap) (c : Nat) (v : Val), Closed h → Heap.read fuel h c = some v →
    ∃ h1 c', clone fuel h c = some (h1, c') ∧ Heap.read fuel h1 c' = some v

/-- What an item denotes is its cell read and tagged by the item (`rd`, `hrd`); `tag` is the identity for the cells
of a list and pairs the value with the field name for those of an object. -/
theorem thread_read {α β} {cell : α → Nat} {put : α → Nat → α} (hput : ∀ x c, cell (put x c) = c)
    {tag : α → Val → β} (htag : ∀ x c, tag (put x c) = tag x) {fuel : Nat} {rd : Heap → α → Option β}
    (hrd : ∀ h x, rd h x = (Heap.read fuel h (cell x)).map (tag x)) (ih : CloneOK fuel) :
    ∀ (xs : List α) (h : Heap) (vs : List β), Closed h → xs.mapM (rd h) = some vs →
      ∃ h' xs', thread cell put (clone fuel) h xs = some (h', xs') ∧ xs'.mapM (rd h') = some vs
  | [], h, vs, _, hm => ⟨h, [], rfl, hm⟩
  | x :: xs, h, vs, hc, hm => by
    obtain ⟨w, hw⟩ := mapM_some_mem hm x (by simp)
    rw [hrd] at hw
    cases hx : Heap.read fuel h (cell x) with
    | none => simp [hx] at hw
    | some v =>
      obtain ⟨h1, c', hcl, hrd1⟩ := ih h (cell x) v hc hx
      obtain ⟨e1, _, a2⟩ := clone_spec fuel h (cell x) h1 c' hcl
      have hc1 := hc.ext e1
      -- the remaining items denote in `h1` what they denote in `h`
      have hrest : ∀ ws, xs.mapM (rd h) = some ws → xs.mapM (rd h1) = some ws := fun ws hws => by
        rw [← hws]
        exact mapM_congr xs fun y hy => by
          obtain ⟨u, hu⟩ := mapM_some_mem hws y hy
          rw [hrd] at hu
          cases hy' : Heap.read fuel h (cell y) with
          | none => simp [hy'] at hu
          | some _ => rw [hrd, hrd, read_ext hc e1 fuel _ (read_some_lt hy')]
      cases hxs : xs.mapM (rd h) with
      | none => simp [List.mapM_cons, hxs] at hm
      | some ws =>
        obtain ⟨h2, xs', hmt, hrs⟩ := thread_read hput htag hrd ih xs h1 ws hc1 (hrest ws hxs)
        obtain ⟨e2, _⟩ := thread_spec hput (clone_spec fuel) xs h1 h2 xs' hmt
        refine ⟨h2, put x c' :: xs', by simp [thread, hcl, hmt], ?_⟩
        simp only [List.mapM_cons, Option.bind_eq_bind, hxs, hrd h x, hx] at hm
        simp only [List.mapM_cons, Option.bind_eq_bind, hrs, hrd h2, hput, htag,
          read_ext hc1 e2 fuel c' a2, hrd1]
        exact hm

theorem clone_read : ∀ (fuel : Nat), CloneOK fuel
  | 0 => by intro h c v _ hr; simp [Heap.read] at hr
  | fuel + 1 => by
    have ih := clone_read fuel
    intro h a v hc hr
    simp only [Heap.read] at hr
    cases hn : h[a]? with
    | none => simp [hn] at hr
    | some node =>
      simp only [hn] at hr
      cases node with
      | leaf w =>
        simp at hr; subst hr
        exact ⟨h ++ [.leaf w], h.length, by simp [clone, hn], by simp [Heap.read]⟩
      | some c =>
        cases hx : Heap.read fuel h c with
        | none => simp [hx] at hr
        | some x =>
          simp [hx] at hr; subst hr
          obtain ⟨h1, c', hcl, hrd⟩ := ih h c x hc hx
          obtain ⟨e1, _, a2⟩ := clone_spec fuel h c h1 c' hcl
          have hc1 := hc.ext e1
          refine ⟨h1 ++ [.some c'], h1.length, by simp [clone, hn, hcl], ?_⟩
          simp only [Heap.read, List.getElem?_concat_length]
          rw [read_append hc1 _ fuel c' a2, hrd]; rfl
      | list cells =>
        cases hx : cells.mapM (Heap.read fuel h) with
        | none => simp [hx] at hr
        | some vs =>
          simp [hx] at hr; subst hr
          obtain ⟨h1, cs', hmt, hrs⟩ := thread_read (cell := id) (put := fun _ c => c) (tag := fun _ v => v) (rd := Heap.read fuel)
            (fun _ _ => rfl) (fun _ _ => rfl) (fun _ _ => by simp) ih cells h vs hc hx
          obtain ⟨e1, hcs⟩ := thread_spec (cell := id) (fun _ _ => rfl) (clone_spec fuel) cells h h1 cs' hmt
          have hc1 := hc.ext e1
          refine ⟨h1 ++ [.list cs'], h1.length, by simp [clone, hn, mapThread_eq, hmt], ?_⟩
          simp only [Heap.read, List.getElem?_concat_length]
          have : cs'.mapM (Heap.read fuel (h1 ++ [.list cs'])) = cs'.mapM (Heap.read fuel h1) :=
            mapM_congr cs' (fun c hc' => read_append hc1 _ fuel c (hcs c hc').2)
          rw [this, hrs]; rfl
      | obj fields | anyobj fields =>
        cases hx : fields.mapM (fun kc => (Heap.read fuel h kc.2).map fun v => (kc.1, v)) with
        | none => simp [hx] at hr
        | some vs =>
          simp [hx] at hr; subst hr
          obtain ⟨h1, cs', hmt, hrs⟩ := thread_read (cell := Prod.snd) (put := fun kc c => (kc.1, c)) (tag := fun kc v => (kc.1, v))
            (fun _ _ => rfl) (fun _ _ => rfl)
            (fun _ _ => rfl) ih fields h vs hc hx
          obtain ⟨e1, hcs⟩ := thread_spec (cell := Prod.snd) (fun _ _ => rfl) (clone_spec fuel) fields h h1 cs' hmt
          have hc1 := hc.ext e1
          have : ∀ node, cs'.mapM (fun kc => (Heap.read fuel (h1 ++ [node]) kc.2).map fun v => (kc.1, v)) =
              cs'.mapM (fun kc => (Heap.read fuel h1 kc.2).map fun v => (kc.1, v)) := fun node =>
            mapM_congr cs' (fun kc hc' => by rw [read_append hc1 _ fuel kc.2 (hcs kc hc').2])
          refine ⟨_, h1.length, by simp only [clone, hn, mapThreadFields_eq, hmt]; rfl, ?_⟩
          simp only [Heap.read, List.getElem?_concat_length]
          rw [this, hrs]; rfl

end HmsProofs.Lemmas.ValHeap
