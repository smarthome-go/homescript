import HmsProofs.Lemmas.SimStmt
/-! `liveNames T cs`: the mangled names that the tracked identifiers `T` are bound to in the compiler scopes `cs`.
`Named`: they are `mangleName`s with counters below the current ones, so a fresh name differs from every live one.
Only the identifiers in `T` are tracked, because a scope also holds the pseudo entry `cleanupKey mod fn`, whose value
is a label and not a variable: the hypothesis `cleanupKey … ∉ T` of `fnEnv_unbound`, `fn_slots_le`, `cgFn_slots` keeps
that key out of `T`. An identifier outside `T` is called a ghost. -/
namespace HmsProofs.Sim

section
variable (T : List String)

def levelNames (sc : List (String × String)) : List String := (sc.filter fun p => T.contains p.1).map (·.2)

def liveNames (cs : CScopes) : List String := cs.flatMap (levelNames T)

theorem lookup_mem_levelNames (sc : List (String × String)) (x m : String) (hx : x ∈ T)
    (h : sc.lookup x = some m) : m ∈ levelNames T sc := by
  unfold levelNames
  refine List.mem_map.mpr ⟨(x, m), ?_, rfl⟩
  exact List.mem_filter.mpr ⟨List.mem_of_lookup_eq_some h, by simpa using hx⟩

end

def Named (mod : String) (T : List String) (vm : List (String × Nat)) (cs : CScopes) : Prop :=
  ∀ sc ∈ cs, ∀ p ∈ sc, p.1 ∈ T → ∃ c, p.2 = mangleName mod p.1 c ∧ c < cnt vm p.1

theorem mem_liveNames (T : List String) (cs : CScopes) (m : String) :
    m ∈ liveNames T cs ↔ ∃ sc ∈ cs, ∃ p ∈ sc, p.1 ∈ T ∧ p.2 = m := by
  simp only [liveNames, List.mem_flatMap, levelNames, List.mem_map, List.mem_filter, List.contains_iff_mem]
  constructor
  · rintro ⟨sc, hsc, p, ⟨hp, hT⟩, rfl⟩; exact ⟨sc, hsc, p, hp, hT, rfl⟩
  · rintro ⟨sc, hsc, p, hp, hT, rfl⟩; exact ⟨sc, hsc, p, ⟨hp, hT⟩, rfl⟩

theorem fresh_ne_live {mod T cs vm} (hn : Named mod T vm cs) (x : String) :
    ∀ m ∈ liveNames T cs, m ≠ mangleName mod x (cnt vm x) := by
  intro m hm heq
  obtain ⟨sc, hsc, p, hp, hpT, rfl⟩ := (mem_liveNames T cs m).mp hm
  obtain ⟨c, hc, hlt⟩ := hn sc hsc p hp hpT
  rw [hc] at heq
  obtain ⟨e1, e2⟩ := mangleName_inj mod p.1 x c _ heq
  rw [e1] at hlt
  omega

theorem freshVar_scopes (mod : String) (env : CEnv) (x : String) :
    (freshVar mod env x).2.scopes =
      ((x, (freshVar mod env x).1) :: (env.scopes.headD []).filter (·.1 != x)) :: env.scopes.tail := by
  unfold freshVar
  cases env.scopes <;> rfl

theorem lookup_filter_ne {α β} [BEq α] [LawfulBEq α] (l : List (α × β)) (x y : α) (h : y ≠ x) :
    (l.filter (·.1 != x)).lookup y = l.lookup y := by
  induction l with
  | nil => rfl
  | cons p l ih =>
    obtain ⟨k, w⟩ := p
    by_cases hk : k = x
    · subst hk
      have : (y == k) = false := beq_false_of_ne h
      simp [List.lookup_cons, this, ih]
    · have hk' : (k != x) = true := by simpa using hk
      simp only [List.filter_cons, hk', if_true, List.lookup_cons, ih]

theorem lookup_cons_ite {β} (c : List (String × β)) (x y : String) (m : β) :
    ((x, m) :: c).lookup y = if y = x then some m else c.lookup y := by
  by_cases h : y = x
  · simp [h]
  · simp only [List.lookup_cons, beq_false_of_ne h, if_neg h]

theorem lookup_bind {β} (c : List (String × β)) (x y : String) (m : β) :
    ((x, m) :: c.filter (·.1 != x)).lookup y = if y = x then some m else c.lookup y := by
  rw [lookup_cons_ite]
  split
  · rfl
  · exact lookup_filter_ne c x y ‹_›

theorem liveNames_cons (T : List String) (c : List (String × String)) (cs : CScopes) :
    liveNames T (c :: cs) = levelNames T c ++ liveNames T cs := by
  simp [liveNames]

theorem liveNames_headD_tail (T : List String) (cs : CScopes) :
    liveNames T cs = levelNames T (cs.headD []) ++ liveNames T cs.tail := by
  cases cs <;> simp [liveNames, levelNames]

theorem liveNames_tail (T : List String) (cs : CScopes) : (liveNames T cs.tail).Sublist (liveNames T cs) := by
  rw [liveNames_headD_tail T cs]
  exact List.sublist_append_right _ _

theorem levelNames_bind (T : List String) (c : List (String × String)) (x m : String) :
    (levelNames T ((x, m) :: c.filter (·.1 != x))).Sublist (m :: levelNames T c) := by
  unfold levelNames
  have h : (((c.filter (·.1 != x)).filter fun p => T.contains p.1).map (·.2)).Sublist
      ((c.filter fun p => T.contains p.1).map (·.2)) := (List.Sublist.filter _ List.filter_sublist).map _
  rw [List.filter_cons]
  split
  · exact h.cons_cons m
  · exact h.cons m

theorem levelNames_ghost (T : List String) (c : List (String × String)) (x m : String) (hx : x ∉ T) :
    levelNames T ((x, m) :: c.filter (·.1 != x)) = levelNames T c := by
  have hc : T.contains x = false := by simpa using hx
  unfold levelNames
  simp only [List.filter_cons, hc, Bool.false_eq_true, if_false, List.filter_filter]
  congr 1
  apply List.filter_congr
  intro p _
  by_cases hp : p.1 = x
  · rw [hp]; simp [hx]
  · have : (p.1 != x) = true := by simpa using hp
    simp [this]

theorem liveNames_freshVar (mod : String) (T : List String) (env : CEnv) (x : String) :
    (liveNames T (freshVar mod env x).2.scopes).Sublist ((freshVar mod env x).1 :: liveNames T env.scopes) := by
  rw [freshVar_scopes, liveNames_cons, liveNames_headD_tail T env.scopes]
  exact (levelNames_bind T _ x _).append (List.Sublist.refl _)

theorem liveNames_freshVar_ghost (mod : String) (T : List String) (env : CEnv) (x : String) (hx : x ∉ T) :
    liveNames T (freshVar mod env x).2.scopes = liveNames T env.scopes := by
  rw [freshVar_scopes, liveNames_cons, levelNames_ghost T _ x _ hx, ← liveNames_headD_tail]

theorem ρS_mem_liveNames (T : List String) : ∀ (cs : CScopes) (x m : String), x ∈ T → ρS cs x = some m →
    m ∈ liveNames T cs := by
  intro cs x m hx h
  obtain ⟨sc, hsc, hl⟩ := List.exists_of_findSome?_eq_some h
  exact (mem_liveNames T cs m).mpr ⟨sc, hsc, (x, m), List.mem_of_lookup_eq_some hl, hx, rfl⟩

theorem Named.fresh {mod T} {env : CEnv} (h : Named mod T env.vm env.scopes) (x : String) :
    Named mod T (freshVar mod env x).2.vm (freshVar mod env x).2.scopes := by
  have old : ∀ sc ∈ env.scopes, ∀ p ∈ sc, p.1 ∈ T →
      ∃ c, p.2 = mangleName mod p.1 c ∧ c < cnt (freshVar mod env x).2.vm p.1 := fun sc hsc p hp hpT =>
    let ⟨c, e, hlt⟩ := h sc hsc p hp hpT
    ⟨c, e, Nat.lt_of_lt_of_le hlt (freshVar_vm_mono mod env x _)⟩
  rw [freshVar_scopes]
  intro sc hsc p hp hpT
  rcases List.mem_cons.mp hsc with rfl | hsc
  · rcases List.mem_cons.mp hp with rfl | hp
    · exact ⟨cnt env.vm x, rfl, by rw [cnt_freshVar, if_pos rfl]; exact Nat.lt_succ_self _⟩
    · cases hs : env.scopes with
      | nil => rw [hs] at hp; cases hp
      | cons c rest => rw [hs] at hp; exact old c (by rw [hs]; exact List.mem_cons_self ..) p (List.mem_filter.mp hp).1 hpT
  · exact old sc (List.mem_of_mem_tail hsc) p hp hpT

theorem levelNames_of_unbound (T : List String) (sc : List (String × String))
    (h : ∀ x ∈ T, sc.lookup x = none) : levelNames T sc = [] := by
  unfold levelNames
  rw [List.map_eq_nil_iff, List.filter_eq_nil_iff]
  intro p hp hT
  have hpT : p.1 ∈ T := by simpa using hT
  exact List.lookup_eq_none_iff_not_mem_keys.mp (h p.1 hpT) (List.mem_map_of_mem hp)

theorem liveNames_of_unbound (T : List String) (cs : CScopes)
    (h : ∀ sc ∈ cs, ∀ x ∈ T, sc.lookup x = none) : liveNames T cs = [] := by
  unfold liveNames
  rw [List.flatMap_eq_nil_iff]
  intro sc hsc
  exact levelNames_of_unbound T sc (h sc hsc)

end HmsProofs.Sim
