import HmsProofs.Lemmas.PrattBasic
/-! Soundness of the parser model (`Run.sound`, one induction on runs): a run reads a text of the tree it returns, and
the tree is normal (`Sound`; `normal`, `rightSpineOK`: Hms/Parse/Normal.lean). `parseArgs` accepts a trailing comma
before the closing token and the tree does not record it, so the consumed input is the tree's flattening only *up to
trailing commas*. `Flat t c` says exactly that: `c` is a token sequence of `t` in which each non-empty argument list
may carry one trailing comma. -/
namespace HmsProofs.Lemmas.Pratt
open Hms Hms.Pratt

mutual
inductive Flat : Tree → List TokKind → Prop
  | atom (k : TokKind) : Flat (.atom k) [k]
  | grp {e c} : Flat e c → Flat (.grp e) (.lParen :: c ++ [.rParen])
  | pre {op e c} : Flat e c → Flat (.pre op e) (op :: c)
  | bin {l op r cl cr} : Flat l cl → Flat r cr → Flat (.bin l op r) (cl ++ op :: cr)
  | asg {l op r cl cr} : Flat l cl → Flat r cr → Flat (.asg l op r) (cl ++ op :: cr)
  | call {f args cf ca} : Flat f cf → FlatArgs args ca →
      Flat (.call f args) (cf ++ .lParen :: ca ++ [.rParen])
  | index {b i cb ci} : Flat b cb → Flat i ci →
      Flat (.index b i) (cb ++ .lBracket :: ci ++ [.rBracket])
  | member {b op nm cb} : Flat b cb → Flat (.member b op nm) (cb ++ [op, nm])
  | cast {b ty cb} : Flat b cb → Flat (.cast b ty) (cb ++ [.as, ty])
  | range {a incl b ca cb} : Flat a ca → Flat b cb →
      Flat (.range a incl b) (ca ++ (if incl then [.doubleDot, .assign] else [.doubleDot]) ++ cb)
  | list {xs c} : FlatArgs xs c → Flat (.list xs) (.lBracket :: c ++ [.rBracket])
/-- Argument lists: `last` is the canonical end, `cons` onto `nil` is the trailing comma. -/
inductive FlatArgs : Args → List TokKind → Prop
  | nil : FlatArgs .nil []
  | last {x c} : Flat x c → FlatArgs (.cons x .nil) c
  | cons {x xs c cs} : Flat x c → FlatArgs xs cs → FlatArgs (.cons x xs) (c ++ .comma :: cs)
end

theorem Flat.congr {t : Tree} {c c' : List TokKind} (h : Flat t c) (e : c = c') : Flat t c' := e ▸ h

theorem rangeSplit_eq {rest rest1 : List TokKind} {incl : Bool} (h : rangeSplit rest = (incl, rest1)) :
    rest = (if incl then [TokKind.assign] else []) ++ rest1 := by
  unfold rangeSplit at h
  split at h <;> cases h <;> rfl

theorem rightSpineOK_zero (prec : Prec) : ∀ t : Tree, rightSpineOK prec 0 t = true
  | .bin _ _ r | .asg _ _ r | .pre _ r | .range _ _ r => by
    simp [rightSpineOK, rightSpineOK_zero prec r]
  | .atom _ | .grp _ | .call _ _ | .index _ _ | .member _ _ _ | .cast _ _ | .list _ => by
    simp [rightSpineOK]

theorem Flat.ne_nil {t : Tree} {c : List TokKind} (h : Flat t c) : c ≠ [] := by
  cases h <;> simp
  intro _; split <;> simp

variable {prec : Prec}

/-- What soundness says of a run; `headLbp prec out ≤ p`: the loop stopped at a token whose left binding power is at
most `p`. For a suffix operation and for the loop the text `c` read exists whatever the operand `lhs` is; the rest is
relative to a text `c0` of a normal operand. -/
def Sound (prec : Prec) : Call → Prop
  | .parseE p ts t out => ∃ c, ts = c ++ out ∧ Flat t c ∧ normal prec p t = true ∧ headLbp prec out ≤ p
      ∧ rightSpineOK prec (headLbp prec out) t = true
  | .loop p lhs ts t out => ∃ c, ts = c ++ out ∧ ∀ c0, Flat lhs c0 → normal prec p lhs = true →
      rightSpineOK prec (headLbp prec ts) lhs = true →
      Flat t (c0 ++ c) ∧ normal prec p t = true ∧ headLbp prec out ≤ p
        ∧ rightSpineOK prec (headLbp prec out) t = true
  | .parseArgs close ts xs out => ∃ c, ts = c ++ close :: out ∧ FlatArgs xs c ∧ normalArgs prec xs = true
  | .prim k rest lhs rest' => ∀ p, ∃ c, rest = c ++ rest' ∧ Flat lhs (k :: c) ∧ normal prec p lhs = true
      ∧ rightSpineOK prec (headLbp prec rest') lhs = true
  | .step lhs k rest lhs' rest' => ∃ c, rest = c ++ rest' ∧ ∀ p c0, (prec k).1 > p → Flat lhs c0 →
      normal prec p lhs = true → rightSpineOK prec (prec k).1 lhs = true →
      Flat lhs' (c0 ++ k :: c) ∧ normal prec p lhs' = true ∧ rightSpineOK prec (headLbp prec rest') lhs' = true

theorem Run.sound {x : Call} (h : Run prec x) : Sound prec x := by
  induction h with (simp only [Sound] at *)
  | @atom k _ hk => exact fun _ => ⟨[], rfl, .atom k, by simpa [normal] using hk, by simp [rightSpineOK]⟩
  | grp _ ih =>
    obtain ⟨c, rfl, hf, hn, _, _⟩ := ih
    exact fun _ => ⟨c ++ [TokKind.rParen], by simp, .grp hf, by simpa [normal] using hn, by simp [rightSpineOK]⟩
  | pre hk _ ih =>
    obtain ⟨c, rfl, hf, hn, hl, hs⟩ := ih
    refine fun _ => ⟨c, rfl, .pre hf, by simp [normal, hk, hn], ?_⟩
    simp [rightSpineOK, hs]; exact hl
  | list _ ih =>
    obtain ⟨c, rfl, hf, hn⟩ := ih
    exact fun _ => ⟨c ++ [TokKind.rBracket], by simp, .list hf, by simpa [normal] using hn, by simp [rightSpineOK]⟩
  | @range _ _ incl _ _ rest' hrs _ ih =>
    obtain ⟨c, rfl, hf, hn, hl, hs⟩ := ih
    have hl0 : headLbp prec rest' = 0 := by omega
    refine ⟨(if incl then [TokKind.assign] else []) ++ c, by rw [rangeSplit_eq hrs]; simp,
      fun _ _ hp hf0 hn0 hs0 => ⟨(Flat.range hf0 hf).congr (by cases incl <;> simp), ?_, ?_⟩⟩
    · simp [normal, hp, hn0, hs0, hn]
    · simp [rightSpineOK, hl0]; simpa [hl0] using hs
  | bin hk _ ih =>
    obtain ⟨c, rfl, hf, hn, hl, hs⟩ := ih
    refine ⟨c, rfl, fun _ _ hp hf0 hn0 hs0 => ⟨.bin hf0 hf, ?_, ?_⟩⟩
    · simp [normal, hk, hp, hn0, hs0, hn]
    · simp [rightSpineOK, hs]; exact hl
  | asg hk hv _ ih =>
    obtain ⟨c, rfl, hf, hn, hl, hs⟩ := ih
    refine ⟨c, rfl, fun _ _ hp hf0 hn0 hs0 => ⟨.asg hf0 hf, ?_, ?_⟩⟩
    · simp [normal, hk, hp, hn0, hs0, hn, hv]
    · simp [rightSpineOK, hs]; exact hl
  | call _ ih =>
    obtain ⟨c, rfl, hf, hn⟩ := ih
    exact ⟨c ++ [TokKind.rParen], by simp, fun _ _ hp hf0 hn0 hs0 =>
      ⟨(Flat.call hf0 hf).congr (by simp), by simp [normal, hp, hn0, hs0, hn], by simp [rightSpineOK]⟩⟩
  | index _ ih =>
    obtain ⟨c, rfl, hf, hn, _, _⟩ := ih
    exact ⟨c ++ [TokKind.rBracket], by simp, fun _ _ hp hf0 hn0 hs0 =>
      ⟨(Flat.index hf0 hf).congr (by simp), by simp [normal, hp, hn0, hs0, hn], by simp [rightSpineOK]⟩⟩
  | @member _ _ nm _ hk hnm =>
    exact ⟨[nm], rfl, fun _ _ hp hf0 hn0 hs0 => ⟨.member hf0,
      by rcases hnm with rfl | rfl <;> simp [normal, hk, hp, hn0, hs0], by simp [rightSpineOK]⟩⟩
  | cast =>
    exact ⟨[.identifier], rfl, fun _ _ hp hf0 hn0 hs0 => ⟨.cast hf0, by simp [normal, hp, hn0, hs0],
      by simp [rightSpineOK]⟩⟩
  | @mk p k _ _ _ _ _ _ _ ihp ihl =>
    obtain ⟨c0, rfl, hf0, hn0, hs0⟩ := ihp p
    obtain ⟨c, rfl, h⟩ := ihl
    exact ⟨k :: c0 ++ c, by simp, h _ hf0 hn0 hs0⟩
  | stop hstop => exact ⟨[], by simp, fun _ hf0 hn0 hs0 => ⟨by simpa using hf0, hn0, hstop, hs0⟩⟩
  | @step _ _ k _ _ _ _ _ hp _ _ ihs ihl =>
    obtain ⟨c1, rfl, h1⟩ := ihs
    obtain ⟨c, rfl, h⟩ := ihl
    refine ⟨k :: c1 ++ c, by simp, fun _ hf0 hn0 hs0 => ?_⟩
    obtain ⟨hf1, hn1, hs1⟩ := h1 _ _ hp hf0 hn0 (by simpa [headLbp] using hs0)
    simpa using h _ hf1 hn1 hs1
  | close => exact ⟨[], by simp, .nil, by simp [normalArgs]⟩
  | more _ _ _ ihe iha =>
    obtain ⟨c, hc, hf, hn, _, _⟩ := ihe
    obtain ⟨cs, rfl, hfs, hns⟩ := iha
    exact ⟨c ++ .comma :: cs, by simp [hc], .cons hf hfs, by simp [normalArgs, hn, hns]⟩
  | last _ _ _ ih =>
    obtain ⟨c, hc, hf, hn, _, _⟩ := ih
    exact ⟨c, hc, .last hf, by simp [normalArgs, hn]⟩

/-! Every run consumes input: the text it read is not empty. -/

theorem RunE.len {p ts t out} (h : RunE prec p ts t out) : out.length < ts.length := by
  obtain ⟨c, rfl, hf, _⟩ := h.sound
  have := List.length_pos_iff.mpr hf.ne_nil
  simp; omega

theorem RunA.len {close ts xs out} (h : RunA prec close ts xs out) : out.length < ts.length := by
  obtain ⟨c, rfl, _⟩ := h.sound
  simp; omega

theorem Run.prim_len {k rest lhs rest'} (h : Run prec (.prim k rest lhs rest')) : rest'.length ≤ rest.length := by
  obtain ⟨c, rfl, _⟩ := h.sound 0
  simp

theorem Run.step_len {lhs k rest lhs' rest'} (h : Run prec (.step lhs k rest lhs' rest')) :
    rest'.length ≤ rest.length := by
  obtain ⟨c, rfl, _⟩ := h.sound
  simp

/-! Inputs without trailing commas: `Flat` collapses to `flatten`. -/

def isCloser : TokKind → Bool
  | .rParen | .rBracket => true
  | _ => false

def startsWithCloser : List TokKind → Bool
  | c :: _ => isCloser c
  | [] => false

/-- Some comma is immediately followed by `)` or `]`. -/
def hasTrailingComma : List TokKind → Bool
  | [] => false
  | k :: tl => (k == .comma && startsWithCloser tl) || hasTrailingComma tl

theorem hasTrailingComma_append_false {a b : List TokKind} (h : hasTrailingComma (a ++ b) = false) :
    hasTrailingComma a = false ∧ hasTrailingComma b = false := by
  induction a with
  | nil => exact ⟨rfl, by simpa using h⟩
  | cons k a ih =>
    simp only [List.cons_append, hasTrailingComma, Bool.or_eq_false_iff] at h ⊢
    obtain ⟨h1, h2⟩ := h
    refine ⟨⟨?_, (ih h2).1⟩, (ih h2).2⟩
    cases a with
    | nil => simp [startsWithCloser]
    | cons x a => simpa [startsWithCloser] using h1

theorem hasTrailingComma_comma_closer (a b : List TokKind) {c : TokKind} (hc : isCloser c = true) :
    hasTrailingComma (a ++ .comma :: c :: b) = true := by
  induction a with
  | nil => simp [hasTrailingComma, startsWithCloser, hc]
  | cons k a ih => simp [hasTrailingComma, ih]

mutual
theorem flat_exact : ∀ {t : Tree} {c : List TokKind}, Flat t c → hasTrailingComma c = false → c = flatten t
  | _, _, .atom k, _ => by simp [flatten]
  | _, _, .grp h, hn => by
    simp only [List.cons_append] at hn
    have h1 := hasTrailingComma_append_false (a := [.lParen]) hn
    have h2 := hasTrailingComma_append_false h1.2
    simp [flatten, flat_exact h h2.1]
  | _, _, .pre h, hn => by
    have := hasTrailingComma_append_false (a := [_]) hn
    simp [flatten, flat_exact h this.2]
  | _, _, .bin hl hr, hn | _, _, .asg hl hr, hn => by
    have h1 := hasTrailingComma_append_false hn
    have h2 := hasTrailingComma_append_false (a := [_]) h1.2
    simp [flatten, flat_exact hl h1.1, flat_exact hr h2.2]
  | _, _, .call hf ha, hn => by
    simp only [List.append_assoc, List.cons_append] at hn
    have h1 := hasTrailingComma_append_false hn
    have h2 := hasTrailingComma_append_false (a := [_]) h1.2
    simp [flatten, flat_exact hf h1.1, flatArgs_exact ha .rParen rfl h2.2]
  | _, _, .index hb hi, hn => by
    simp only [List.append_assoc, List.cons_append] at hn
    have h1 := hasTrailingComma_append_false hn
    have h2 := hasTrailingComma_append_false (a := [_]) h1.2
    have h3 := hasTrailingComma_append_false h2.2
    simp [flatten, flat_exact hb h1.1, flat_exact hi h3.1]
  | _, _, .member hb, hn | _, _, .cast hb, hn => by
    have h1 := hasTrailingComma_append_false hn
    simp [flatten, flat_exact hb h1.1]
  | _, _, .range ha hb, hn => by
    have h1 := hasTrailingComma_append_false hn
    have h2 := hasTrailingComma_append_false h1.1
    simp [flatten, flat_exact ha h2.1, flat_exact hb h1.2]
  | _, _, .list ha, hn => by
    simp only [List.cons_append] at hn
    have h2 := hasTrailingComma_append_false (a := [_]) hn
    simp [flatten, flatArgs_exact ha .rBracket rfl h2.2]
theorem flatArgs_exact : ∀ {xs : Args} {c : List TokKind}, FlatArgs xs c → ∀ close, isCloser close = true →
    hasTrailingComma (c ++ [close]) = false → c = flattenArgs xs
  | _, _, .nil, _, _, _ => by simp [flattenArgs]
  | _, _, .last h, _, _, hn => by
    simp [flattenArgs, flat_exact h (hasTrailingComma_append_false hn).1]
  | _, _, .cons (xs := xs) h hs, close, hc, hn => by
    simp only [List.append_assoc, List.cons_append] at hn
    cases xs with
    | nil =>
      cases hs
      rw [List.nil_append, hasTrailingComma_comma_closer _ _ hc] at hn
      cases hn
    | cons y ys =>
      have h1 := hasTrailingComma_append_false hn
      have h2 := hasTrailingComma_append_false (a := [_]) h1.2
      simp [flattenArgs, flat_exact h h1.1, flatArgs_exact hs close hc h2.2]
end

mutual
theorem flat_flatten : ∀ t : Tree, Flat t (flatten t)
  | .atom k => .atom k
  | .grp e => (Flat.grp (flat_flatten e)).congr (by simp [flatten])
  | .pre op e => (Flat.pre (flat_flatten e)).congr (by simp [flatten])
  | .bin l op r => (Flat.bin (flat_flatten l) (flat_flatten r)).congr (by simp [flatten])
  | .asg l op r => (Flat.asg (flat_flatten l) (flat_flatten r)).congr (by simp [flatten])
  | .call f args => (Flat.call (flat_flatten f) (flatArgs_flatten args)).congr (by simp [flatten])
  | .index b i => (Flat.index (flat_flatten b) (flat_flatten i)).congr (by simp [flatten])
  | .member b op nm => (Flat.member (flat_flatten b)).congr (by simp [flatten])
  | .cast b ty => (Flat.cast (flat_flatten b)).congr (by simp [flatten])
  | .range a incl b => (Flat.range (flat_flatten a) (flat_flatten b)).congr (by simp [flatten])
  | .list xs => (Flat.list (flatArgs_flatten xs)).congr (by simp [flatten])
theorem flatArgs_flatten : ∀ xs : Args, FlatArgs xs (flattenArgs xs)
  | .nil => by simpa [flattenArgs] using FlatArgs.nil
  | .cons x .nil => by simpa [flattenArgs] using FlatArgs.last (flat_flatten x)
  | .cons x (.cons y ys) => by
    simpa [flattenArgs] using FlatArgs.cons (flat_flatten x) (flatArgs_flatten (.cons y ys))
end
end HmsProofs.Lemmas.Pratt
