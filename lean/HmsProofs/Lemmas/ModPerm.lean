import Hms.Mod.Order
import HmsProofs.Lemmas.ListAux
/-! Order-independence of the computations that range over Go maps, and name mangling (C14). Each computation of
`Hms/Mod/Order.lean` is a function of the list of map entries in iteration order; permuting that list does not change
what can be observed. The fixed mangling scheme gives distinct declarations distinct names. -/
namespace Hms.Mod

/-- A Go map has distinct keys: lookups do not depend on the iteration order. -/
theorem lookup_perm_of_nodup_keys {β} {l₁ l₂ : List (String × β)} (h : l₁.Perm l₂)
    (hk : (l₁.map Prod.fst).Nodup) (k : String) : l₁.lookup k = l₂.lookup k := by
  apply Option.ext
  intro v
  rw [List.lookup_eq_some_iff_mem hk, List.lookup_eq_some_iff_mem ((h.map _).nodup_iff.mp hk), h.mem_iff]

theorem map_fst_rebuild {β γ} (f : String → β → γ) (l : List (String × β)) :
    (rebuild f l).map Prod.fst = l.map Prod.fst := by
  simp [rebuild, List.map_map, Function.comp_def]

theorem perm_invariant_rebuild {β γ} (f : String → β → γ) {l₁ l₂ : List (String × β)} (h : l₁.Perm l₂)
    (hk : (l₁.map Prod.fst).Nodup) (k : String) : obsMap (rebuild f l₁) k = obsMap (rebuild f l₂) k := by
  unfold obsMap
  apply lookup_perm_of_nodup_keys
  · exact h.map _
  · rw [map_fst_rebuild]; exact hk

theorem keyLe_trans {β} (a b c : String × β) (h₁ : keyLe a b = true) (h₂ : keyLe b c = true) :
    keyLe a c = true := by
  simp only [keyLe, decide_eq_true_eq] at *
  exact String.le_trans h₁ h₂

theorem keyLe_total {β} (a b : String × β) : (keyLe a b || keyLe b a) = true := by
  simp only [keyLe, Bool.or_eq_true, decide_eq_true_eq]
  exact String.le_total _ _

theorem perm_invariant_sortByKey {β} {l₁ l₂ : List (String × β)} (h : l₁.Perm l₂)
    (hk : (l₁.map Prod.fst).Nodup) : sortByKey l₁ = sortByKey l₂ := by
  unfold sortByKey
  refine List.Perm.eq_of_pairwise (le := fun a b => keyLe a b = true) ?_
    (List.pairwise_mergeSort keyLe_trans keyLe_total l₁)
    (List.pairwise_mergeSort keyLe_trans keyLe_total l₂)
    ((List.mergeSort_perm l₁ keyLe).trans (h.trans (List.mergeSort_perm l₂ keyLe).symm))
  intro a b ha hb hab hba
  have ha' : a ∈ l₁ := (List.mergeSort_perm l₁ keyLe).mem_iff.mp ha
  have hb' : b ∈ l₁ := h.mem_iff.mpr ((List.mergeSort_perm l₂ keyLe).mem_iff.mp hb)
  simp only [keyLe, decide_eq_true_eq] at hab hba
  exact List.eq_of_fst_eq_of_nodup_keys hk ha' hb' (String.le_antisymm hab hba)

theorem perm_invariant_displayFields {l₁ l₂ : List (String × String)} (h : l₁.Perm l₂)
    (hk : (l₁.map Prod.fst).Nodup) : displayFields l₁ = displayFields l₂ := by
  unfold displayFields
  rw [perm_invariant_sortByKey h hk]

theorem perm_invariant_fieldsEqual {β} [BEq β] {l₁ l₂ r₁ r₂ : List (String × β)} (hl : l₁.Perm l₂) (hr : r₁.Perm r₂)
    (hk : (r₁.map Prod.fst).Nodup) : fieldsEqual l₁ r₁ = fieldsEqual l₂ r₂ := by
  unfold fieldsEqual
  rw [hl.length_eq, hr.length_eq, hl.all_eq]
  simp only [lookup_perm_of_nodup_keys hr hk]

/-- the diagnostics of `dropScope` as a multiset -/
theorem perm_invariant_dropScope {l₁ l₂ : List (String × ScopeEntry)} (h : l₁.Perm l₂) :
    (dropScopeWarnings l₁).Perm (dropScopeWarnings l₂) :=
  h.filterMap _

/-- a loop that emits one batch of diagnostics per entry: the multiset does not depend on the order
(`List.Perm.flatMap_right`, under the name by which the classification table cites it) -/
theorem perm_invariant_emit {α β} (f : α → List β) {l₁ l₂ : List α} (h : l₁.Perm l₂) :
    (l₁.flatMap f).Perm (l₂.flatMap f) := h.flatMap_right f

/-- a loop that searches for an entry with a property (`break`/`return` a constant on the first hit;
`List.Perm.any_eq`, under the name by which the classification table cites it) -/
theorem perm_invariant_any {α} (p : α → Bool) {l₁ l₂ : List α} (h : l₁.Perm l₂) : l₁.any p = l₂.any p :=
  h.any_eq

theorem varsOf_cons (i : VInstr) (rest : List VInstr) :
    varsOf (i :: rest) = (match i.var? with | some v => [v] | none => []) ++ varsOf rest := by
  cases i <;> rfl

theorem renameCode_append (old : List (String × Nat)) (code : List VInstr)
    (hd : ∀ v ∈ varsOf code, old.lookup v = none) (new : List (String × Nat)) (cnt : Nat) :
    renameCode (new ++ old) cnt code
      = ((renameCode new cnt code).1 ++ old, (renameCode new cnt code).2) := by
  induction code generalizing new cnt with
  | nil => rfl
  | cons i rest ih =>
    have hrest : ∀ v ∈ varsOf rest, old.lookup v = none := fun v hv =>
      hd v (varsOf_cons i rest ▸ List.mem_append_right _ hv)
    cases i with
    | other t => simp only [renameCode, ih hrest]
    | getVar v | setVar v =>
      have hv : old.lookup v = none := hd v List.mem_cons_self
      simp only [renameCode, List.lookup_append, hv, Option.or_none]
      cases new.lookup v with
      | some n => simp only [ih hrest]
      | none => simp only [← List.cons_append, ih hrest]

theorem renameCode_lookup_none (code : List VInstr) (slots : List (String × Nat)) (cnt : Nat) (v : String)
    (hs : slots.lookup v = none) (hv : v ∉ varsOf code) :
    (renameCode slots cnt code).1.lookup v = none := by
  induction code generalizing slots cnt with
  | nil => exact hs
  | cons i rest ih =>
    have hv' : v ∉ varsOf rest := fun h => hv (varsOf_cons i rest ▸ List.mem_append_right _ h)
    cases i with
    | other t => exact ih slots cnt hs hv'
    | getVar w | setVar w =>
      have hne : (v == w) = false := beq_false_of_ne fun e => hv (e ▸ List.mem_cons_self)
      simp only [renameCode]
      cases slots.lookup w with
      | some n => exact ih slots cnt hs hv'
      | none => exact ih _ (cnt + 1) (by rw [List.lookup_cons, hne]; exact hs) hv'

/-- `noSharedVars` as a pairwise condition. -/
def VarsDisjoint (p q : String × List VInstr) : Prop := ∀ v ∈ varsOf p.2, v ∉ varsOf q.2

theorem VarsDisjoint.symm {p q : String × List VInstr} (h : VarsDisjoint p q) : VarsDisjoint q p :=
  fun v hq hp => h v hp hq

theorem noSharedVars_iff_pairwise (fs : List (String × List VInstr)) :
    noSharedVars fs = true ↔ fs.Pairwise VarsDisjoint := by
  induction fs with
  | nil => exact ⟨fun _ => .nil, fun _ => rfl⟩
  | cons p rest ih =>
    rw [noSharedVars, Bool.and_eq_true, List.pairwise_cons, ih, List.all_eq_true]
    refine and_congr_left' (forall₂_congr fun q _ => ?_)
    rw [List.all_eq_true]
    exact forall₂_congr fun v _ => by
      rw [Bool.not_eq_true', List.contains_eq_mem, decide_eq_false_iff_not]

theorem noSharedVars_perm {l₁ l₂ : List (String × List VInstr)} (h : l₁.Perm l₂)
    (hs : noSharedVars l₁ = true) : noSharedVars l₂ = true :=
  (noSharedVars_iff_pairwise l₂).mpr
    (h.pairwise ((noSharedVars_iff_pairwise l₁).mp hs) VarsDisjoint.symm)

theorem renameAll_eq_of_disjoint (fs : List (String × List VInstr)) (h : fs.Pairwise VarsDisjoint)
    (slots : List (String × Nat)) (hd : ∀ p ∈ fs, ∀ v ∈ varsOf p.2, slots.lookup v = none) :
    renameAll slots fs = fs.map fun (n, c) => (n, (renameCode [] 0 c).2) := by
  induction fs generalizing slots with
  | nil => simp [renameAll]
  | cons p rest ih =>
    obtain ⟨n, c⟩ := p
    rw [List.pairwise_cons] at h
    have hc : ∀ v ∈ varsOf c, slots.lookup v = none := hd (n, c) (by simp)
    have e := renameCode_append slots c hc [] 0
    simp only [List.nil_append] at e
    simp only [renameAll, e, List.map_cons]
    congr 1
    apply ih h.2
    intro q hq v hv
    rw [List.lookup_append]
    have h1 : (renameCode [] 0 c).1.lookup v = none :=
      renameCode_lookup_none c [] 0 v rfl (fun hvc => h.1 q hq v hvc hv)
    have h2 : slots.lookup v = none := hd q (List.mem_cons_of_mem _ hq) v hv
    simp [h1, h2]

theorem renameAll_eq_of_noSharedVars (fs : List (String × List VInstr)) (h : noSharedVars fs = true) :
    renameAll [] fs = fs.map fun (n, c) => (n, (renameCode [] 0 c).2) :=
  renameAll_eq_of_disjoint fs ((noSharedVars_iff_pairwise fs).mp h) [] (fun _ _ _ _ => rfl)

theorem perm_invariant_renameVariables_partial {l₁ l₂ : List (String × List VInstr)} (h : l₁.Perm l₂)
    (hs : noSharedVars l₁ = true) (hk : (l₁.map Prod.fst).Nodup) (k : String) :
    obsMap (renameAll [] l₁) k = obsMap (renameAll [] l₂) k := by
  rw [renameAll_eq_of_noSharedVars l₁ hs, renameAll_eq_of_noSharedVars l₂ (noSharedVars_perm h hs)]
  exact perm_invariant_rebuild (fun _ c => (renameCode [] 0 c).2) h hk k

/-! Name mangling, on character lists; the collisions of the unfixed scheme (finding V26) are in `C14.lean`. -/

theorem mangleFn_injective_partial {m₁ m₂ n₁ n₂ : List Char} (h₁ : '.' ∉ n₁) (h₂ : '.' ∉ n₂)
    (h : mangleFnFixedL m₁ n₁ = mangleFnFixedL m₂ n₂) : m₁ = m₂ ∧ n₁ = n₂ := by
  unfold mangleFnFixedL at h
  obtain ⟨hm, hn⟩ := List.split_last_sep h h₁ h₂
  exact ⟨by simpa using hm, hn⟩

/-- fixed scheme `@module.name.counter`, that is the function scheme followed by `.counter`: injective as
soon as identifiers contain no '.' (the lexer only admits letters, digits, '_' and the compiler's own
'$' prefix) — whatever the module names are -/
theorem mangleVar_injective_partial {m₁ m₂ n₁ n₂ : List Char} {c₁ c₂ : Nat}
    (h₁ : '.' ∉ n₁) (h₂ : '.' ∉ n₂) (h : mangleVarFixedL m₁ n₁ c₁ = mangleVarFixedL m₂ n₂ c₂) :
    m₁ = m₂ ∧ n₁ = n₂ ∧ c₁ = c₂ := by
  obtain ⟨h, hc⟩ := List.split_last_sep (xs := mangleFnFixedL m₁ n₁) (xs' := mangleFnFixedL m₂ n₂) h
    (Nat.dot_not_mem_toDigits c₁) (Nat.dot_not_mem_toDigits c₂)
  exact ⟨(mangleFn_injective_partial h₁ h₂ h).1, (mangleFn_injective_partial h₁ h₂ h).2,
    Nat.toDigits_injective hc⟩

end Hms.Mod
