import Hms.Conc.Protocol
/-! The step function of `Wait` is turned into a case distinction once (`WaitCase`); every later proof, here
and in `ConcWait.lean`, goes by those cases. -/
namespace Hms.Conc
variable {cfg : Cfg} {s s' : PState}

theorem upd_iff {α : Type} {p : α → Prop} {f : Nat → α} {c : Nat} {v : α} (h : p v ↔ p (f c)) (d : Nat) :
    p (upd f c v d) ↔ p (f d) := by
  by_cases e : d = c
  · rw [e, upd_same]; exact h
  · rw [upd_other e]

theorem PState.lockFree_iff : s.lockFree = true ↔ s.wait.holdsR = false ∧ s.leaked = 0 := by
  simp [PState.lockFree]

inductive WaitCase (cfg : Cfg) (s s' : PState) : Prop where
  | top : s.wait = .top → s' = { s with wait := .scan s.listed } → WaitCase cfg s s'
  | sleeping : s.wait = .sleeping → s' = { s with wait := .top } → WaitCase cfg s s'
  | retNone : s.wait = .scan [] → s.listed = [] → s' = { s with wait := .returned none } → WaitCase cfg s s'
  | toSleep : s.wait = .scan [] → s.listed ≠ [] → s' = { s with wait := .sleeping } → WaitCase cfg s s'
  | recv (c : Nat) (rest : List Nat) (sg : Sig) : s.wait = .scan (c :: rest) →
      (s.core c = .signalled sg ∨ s.core c = .sending sg) →
      s' = { s with core := upd s.core c (.received sg),
                    wait := match sg with
                      | none => .rmWantLock c (s.listed.filter (· != c)) rest
                      | some i => .cancelWantLock c i } → WaitCase cfg s s'
  | skip (c : Nat) (rest : List Nat) : s.wait = .scan (c :: rest) →
      (∀ sg, s.core c ≠ .signalled sg) → (∀ sg, s.core c ≠ .sending sg) →
      s' = { s with wait := .scan rest } → WaitCase cfg s s'
  | remove (c : Nat) (stale rest : List Nat) : s.wait = .rmWantLock c stale rest → s.leaked = 0 →
      s' = { s with listed := if cfg.staleFilter then stale else s.listed.filter (· != c),
                    wait := .rmWantRLock rest } → WaitCase cfg s s'
  | relock (rest : List Nat) : s.wait = .rmWantRLock rest → s' = { s with wait := .scan rest } →
      WaitCase cfg s s'
  | cancel (c : Nat) (i : Intr) : s.wait = .cancelWantLock c i → s.leaked = 0 →
      s' = { s with cancelled := true, dropped := true, listed := [],
                    leaked := if cfg.leakRLock then 1 else 0, wait := .returned (some (c, i)) } →
      WaitCase cfg s s'

theorem waitStep_cases (h : waitStep cfg s = some s') : WaitCase cfg s s' := by
  revert h
  -- the cases are numbered in the order of the branches of `waitStep`; four of them do not step
  fun_cases waitStep cfg s with
  | case1 | case2 | case11 | case14 => nofun
  | case3 hw => rintro ⟨⟩; exact .top hw rfl
  | case4 hw => rintro ⟨⟩; exact .sleeping hw rfl
  | case5 hw hl => rintro ⟨⟩; exact .retNone hw (List.isEmpty_iff.mp hl) rfl
  | case6 hw hl => rintro ⟨⟩; exact .toSleep hw (mt List.isEmpty_iff.mpr hl) rfl
  | case7 c rest hw _ sg hc => rintro ⟨⟩; cases sg <;> exact .recv c rest _ hw (.inl hc) rfl
  | case8 c rest hw _ sg hc => rintro ⟨⟩; cases sg <;> exact .recv c rest _ hw (.inr hc) rfl
  | case9 c rest hw h1 h2 => rintro ⟨⟩; exact .skip c rest hw h1 h2 rfl
  | case10 c stale rest hw hl => rintro ⟨⟩; exact .remove c stale rest hw hl rfl
  | case12 rest hw => rintro ⟨⟩; exact .relock rest hw rfl
  | case13 c i hw hl => rintro ⟨⟩; exact .cancel c i hw hl rfl

theorem WaitCase.waitStep_eq (h : WaitCase cfg s s') : waitStep cfg s = some s' := by
  cases h with
  | recv c rest sg h hc e => rcases hc with hc | hc <;> cases sg <;> simp only [e, waitStep, h, hc]
  | _ => simp only [*, waitStep, List.isEmpty_nil, List.isEmpty_iff, if_true, if_false]

theorem waitRun_succ (k : Nat) (h : waitStep cfg s = some s') :
    waitRun cfg (k + 1) s = waitRun cfg k s' := by simp only [waitRun, h]

theorem waitRun_step (k : Nat) (h : WaitCase cfg s s') :
    waitRun cfg (k + 1) s = waitRun cfg k s' := waitRun_succ k h.waitStep_eq

theorem waitRun_none (h : waitStep cfg s = none) : ∀ k, waitRun cfg k s = s
  | 0 => rfl
  | k + 1 => by simp only [waitRun, h]

theorem waitRun_add (cfg : Cfg) (a b : Nat) (s : PState) :
    waitRun cfg (a + b) s = waitRun cfg b (waitRun cfg a s) := by
  fun_induction waitRun cfg a s with
  | case1 => rw [Nat.zero_add]
  | case2 _ _ _ h ih => rw [Nat.succ_add, waitRun_succ _ h]; exact ih
  | case3 _ _ h => rw [waitRun_none h, waitRun_none h]

theorem waitRun_reach (k : Nat) (s : PState) (h : Reach cfg s) : Reach cfg (waitRun cfg k s) := by
  fun_induction waitRun cfg k s with
  | case1 | case3 => exact h
  | case2 _ s s' hs ih => exact ih (.step s s' h (.wait s s' hs))

/-- Where a core stands relative to the globals mutex (a core that is not running holds nothing). -/
def CoreSt.gpc : CoreSt → GPc
  | .running g => g
  | _ => .idle

/-- The signal `Wait` has received and not yet acted upon. -/
def WaitPc.taken : WaitPc → Option (Nat × Sig)
  | .rmWantLock c _ _ => some (c, none)
  | .cancelWantLock c i => some (c, some i)
  | _ => none

namespace WaitPc

theorem taken_of_inactive {w : WaitPc} (h : w.active = false) : w.taken = none := by
  cases w <;> first | rfl | cases h

theorem holdsR_of_inactive {w : WaitPc} (h : w.active = false) : w.holdsR = false := by
  cases w <;> first | rfl | cases h

end WaitPc

theorem live_ne_received {st : CoreSt} (h : st.isLive = true) (sg : Sig) : st ≠ .received sg := by
  rintro rfl; cases h

/-! The invariant of the fixed protocol, in three parts, each over the fields it reads, so that
a step carries a part over unchanged wherever it leaves those fields alone. -/

structure CoresOk (n : Nat) (core : Nat → CoreSt) (listed : List Nat) : Prop where
  absent_iff : ∀ c, core c = .absent ↔ n ≤ c
  listed_lt : ∀ c ∈ listed, c < n
  listed_nodup : listed.Nodup
  /-- With buffered channels no core is blocked in its send. -/
  no_sending : ∀ c sg, core c ≠ .sending sg

namespace CoresOk

theorem set_core {n core listed c v} (h : CoresOk n core listed) (hc : core c ≠ .absent)
    (hv : v ≠ .absent) (hs : ∀ sg, v ≠ .sending sg) : CoresOk n (upd core c v) listed where
  absent_iff d := (upd_iff (p := (· = CoreSt.absent)) (iff_of_false hv hc) d).trans (h.absent_iff d)
  listed_lt := h.listed_lt
  listed_nodup := h.listed_nodup
  no_sending d sg := mt (upd_iff (p := (· = CoreSt.sending sg)) (iff_of_false (hs sg) (h.no_sending c sg)) d).mp
    (h.no_sending d sg)

theorem spawn {n core listed} (h : CoresOk n core listed) :
    CoresOk (n + 1) (upd core n (.running .idle)) (listed ++ [n]) where
  absent_iff d := by
    by_cases e : d = n
    · rw [e, upd_same]; exact iff_of_false nofun (Nat.not_succ_le_self n)
    · rw [upd_other e, h.absent_iff]; omega
  listed_lt d hd := by
    rcases List.mem_append.mp hd with hd | hd
    · exact Nat.lt_succ_of_lt (h.listed_lt d hd)
    · rw [List.mem_singleton.mp hd]; exact Nat.lt_succ_self n
  listed_nodup := List.nodup_append.mpr ⟨h.listed_nodup, List.pairwise_singleton _ n, fun a ha b hb e =>
    Nat.lt_irrefl n (by have := h.listed_lt a ha; rwa [e, List.mem_singleton.mp hb] at this)⟩
  no_sending d sg := mt (upd_iff (p := (· = CoreSt.sending sg)) (iff_of_false (by nofun) (h.no_sending n sg)) d).mp
    (h.no_sending d sg)

theorem sublist {n core listed l} (h : CoresOk n core listed) (hl : l.Sublist listed) :
    CoresOk n core l :=
  ⟨h.absent_iff, fun c hc => h.listed_lt c (hl.subset hc), h.listed_nodup.sublist hl, h.no_sending⟩

end CoresOk

structure MutexOk (core : Nat → CoreSt) (gWriter : Option Nat) (gReader : Nat → Bool) : Prop where
  rd_iff : ∀ c, (core c).gpc = .rd ↔ gReader c = true
  wr_iff : ∀ c, (core c).gpc = .wr ↔ gWriter = some c
  wr_excl : ∀ c, gWriter = some c → ∀ d, gReader d = false

namespace MutexOk

theorem set_core {core w r c v} (h : MutexOk core w r) (e : v.gpc = (core c).gpc) :
    MutexOk (upd core c v) w r where
  rd_iff d := (upd_iff (p := fun st : CoreSt => st.gpc = .rd) (by rw [e]) d).trans (h.rd_iff d)
  wr_iff d := (upd_iff (p := fun st : CoreSt => st.gpc = .wr) (by rw [e]) d).trans (h.wr_iff d)
  wr_excl := h.wr_excl

/-- A core takes (`b = true`) or gives back the read lock. -/
theorem reader {core w r c} (b : Bool) (h : MutexOk core w r) (hc : (core c).gpc ≠ .wr) (hw : b = true → w = none) :
    MutexOk (upd core c (.running (bif b then .rd else .idle))) w (upd r c b) where
  rd_iff d := by
    by_cases e : d = c
    · rw [e, upd_same, upd_same]
      cases b
      · exact iff_of_false nofun nofun
      · exact iff_of_true rfl rfl
    · rw [upd_other e, upd_other e]; exact h.rd_iff d
  wr_iff d := (upd_iff (p := fun st : CoreSt => st.gpc = .wr) (iff_of_false (by cases b <;> nofun) hc) d).trans
    (h.wr_iff d)
  wr_excl d hd e := by
    by_cases ec : e = c
    · rw [ec, upd_same]; cases b with
      | false => rfl
      | true => rw [hw rfl] at hd; cases hd
    · rw [upd_other ec]; exact h.wr_excl d hd e

theorem lock {core w r c} (h : MutexOk core w r) (hc : core c = .running .idle) (hw : w = none)
    (hr : ∀ d, r d = false) : MutexOk (upd core c (.running .wr)) (some c) r where
  rd_iff d := (upd_iff (p := fun st : CoreSt => st.gpc = .rd) (iff_of_false (by nofun) (by rw [hc]; nofun)) d).trans
    (h.rd_iff d)
  wr_iff d := by
    by_cases e : d = c
    · rw [e, upd_same]; exact iff_of_true rfl rfl
    · rw [upd_other e, h.wr_iff, hw]
      exact iff_of_false nofun (fun h => e (Option.some.inj h).symm)
  wr_excl _ _ := hr

theorem unlock {core w r c} (h : MutexOk core w r) (hc : core c = .running .wr) :
    MutexOk (upd core c (.running .idle)) none r where
  rd_iff d := (upd_iff (p := fun st : CoreSt => st.gpc = .rd) (iff_of_false (by nofun) (by rw [hc]; nofun)) d).trans
    (h.rd_iff d)
  wr_iff d := by
    refine iff_of_false ?_ nofun
    by_cases e : d = c
    · rw [e, upd_same]; nofun
    · rw [upd_other e, h.wr_iff, (h.wr_iff c).mp (congrArg CoreSt.gpc hc)]
      exact fun h => e (Option.some.inj h).symm
  wr_excl := nofun

end MutexOk

/-- `Wait` and the list: a live core is listed unless the list has been dropped, and a core's
signal has been received exactly when `Wait` is about to act on it, or (an interrupt) has dropped
the list for it. -/
structure WaitOk (core : Nat → CoreSt) (listed : List Nat) (dropped : Bool) (taken : Option (Nat × Sig)) :
    Prop where
  live_listed : ∀ c, (core c).isLive = true → c ∈ listed ∨ dropped = true
  taken_received : ∀ c sg, taken = some (c, sg) → core c = .received sg
  recv_intr : ∀ c i, core c = .received (some i) → taken = some (c, some i) ∨ dropped = true

namespace WaitOk

theorem mono {core listed l dropped t} (h : WaitOk core listed dropped t) (hl : ∀ c ∈ listed, c ∈ l) :
    WaitOk core l dropped t :=
  ⟨fun c hc => (h.live_listed c hc).imp (hl c) id, h.taken_received, h.recv_intr⟩

theorem set_core {core listed dropped t c v} (h : WaitOk core listed dropped t)
    (hl : v.isLive = true → c ∈ listed ∨ dropped = true) (hr : ∀ sg, v = .received sg ↔ core c = .received sg) :
    WaitOk (upd core c v) listed dropped t where
  live_listed d hd := by
    by_cases e : d = c
    · rw [e, upd_same] at hd; exact e ▸ hl hd
    · rw [upd_other e] at hd; exact h.live_listed d hd
  taken_received d sg ht := (upd_iff (p := (· = CoreSt.received sg)) (hr sg) d).mpr (h.taken_received d sg ht)
  recv_intr d i hd := h.recv_intr d i ((upd_iff (p := (· = CoreSt.received (some i))) (hr _) d).mp hd)

theorem take {core listed dropped c sg} (h : WaitOk core listed dropped none) :
    WaitOk (upd core c (.received sg)) listed dropped (some (c, sg)) where
  live_listed d hd := by
    by_cases e : d = c
    · rw [e, upd_same] at hd; cases hd
    · rw [upd_other e] at hd; exact h.live_listed d hd
  taken_received d sg' ht := by cases ht; exact upd_same ..
  recv_intr d i hd := by
    by_cases e : d = c
    · rw [e, upd_same] at hd; cases hd; exact .inl (e ▸ rfl)
    · rw [upd_other e] at hd; exact (h.recv_intr d i hd).imp nofun id

theorem remove {core listed dropped c} (h : WaitOk core listed dropped (some (c, none))) :
    WaitOk core (listed.filter (· != c)) dropped none where
  live_listed d hd := (h.live_listed d hd).imp_left fun hm => List.mem_filter.mpr ⟨hm, bne_iff_ne.mpr fun e =>
    live_ne_received hd none (e ▸ h.taken_received c none rfl)⟩
  taken_received := nofun
  recv_intr d i hd := (h.recv_intr d i hd).imp nofun id

end WaitOk

structure Inv (s : PState) : Prop where
  cores : CoresOk s.n s.core s.listed
  leaked0 : s.leaked = 0
  mutex : MutexOk s.core s.gWriter s.gReader
  waiting : WaitOk s.core s.listed s.dropped s.wait.taken

theorem inv_init : Inv PState.init where
  cores := ⟨fun c => iff_of_true rfl (Nat.zero_le c), nofun, .nil, nofun⟩
  leaked0 := rfl
  mutex := ⟨fun _ => iff_of_false nofun nofun, fun _ => iff_of_false nofun nofun, nofun⟩
  waiting := ⟨nofun, nofun, nofun⟩

theorem inv_spawn (hi : Inv s) : Inv s.spawn :=
  have hn : s.core s.n = .absent := (hi.cores.absent_iff _).mpr (Nat.le_refl _)
  { cores := hi.cores.spawn
    leaked0 := hi.leaked0
    mutex := hi.mutex.set_core (congrArg CoreSt.gpc hn).symm
    waiting := (hi.waiting.mono fun _ h => List.mem_append_left _ h).set_core
      (fun _ => .inl (List.mem_append_right _ (List.mem_singleton_self _)))
      (fun _ => iff_of_false nofun (by rw [hn]; nofun)) }

namespace Inv

theorem upd_running {c g v w r} (hi : Inv s) (hc : s.core c = .running g)
    (hv : v.isLive = true) (hs : ∀ sg, v ≠ .sending sg) (hm : MutexOk (upd s.core c v) w r) :
    Inv { s with core := upd s.core c v, gWriter := w, gReader := r } where
  cores := hi.cores.set_core (by rw [hc]; nofun) (by rintro rfl; cases hv) hs
  leaked0 := hi.leaked0
  mutex := hm
  waiting := hi.waiting.set_core (fun _ => hi.waiting.live_listed c (by rw [hc]; rfl))
    (fun sg => iff_of_false (live_ne_received hv sg) (by rw [hc]; nofun))

theorem set_wait {w : WaitPc} (hi : Inv s) (h : s.wait.taken = none) (hw : w.taken = none) :
    Inv { s with wait := w } :=
  ⟨hi.cores, hi.leaked0, hi.mutex, show WaitOk s.core s.listed s.dropped w.taken from hw ▸ h ▸ hi.waiting⟩

end Inv

theorem inv_step (hi : Inv s) (hs : Step Cfg.fixed s s') : Inv s' := by
  cases hs with
  | hostSpawn _ | coreSpawn _ _ _ => exact inv_spawn hi
  | hostCancel | gWrite _ _ => exact ⟨hi.cores, hi.leaked0, hi.mutex, hi.waiting⟩
  | coreFinish c sg hc _ => exact hi.upd_running hc rfl nofun (hi.mutex.set_core (congrArg CoreSt.gpc hc).symm)
  | gRLock c hc hw => exact hi.upd_running hc rfl nofun (hi.mutex.reader true (by rw [hc]; nofun) fun _ => hw)
  | gRUnlock c hc => exact hi.upd_running hc rfl nofun (hi.mutex.reader false (by rw [hc]; nofun) nofun)
  | gLock c hc hw hr => exact hi.upd_running hc rfl nofun (hi.mutex.lock hc hw hr)
  | gUnlock c hc => exact hi.upd_running hc rfl nofun (hi.mutex.unlock hc)
  | waitStart ha => exact hi.set_wait (WaitPc.taken_of_inactive ha) rfl
  | wait =>
    rename_i hw
    cases waitStep_cases hw with
    | top h e | sleeping h e | retNone h _ e | toSleep h _ e | skip _ _ h _ _ e | relock _ h e =>
      exact e ▸ hi.set_wait (congrArg WaitPc.taken h) rfl
    | recv c _ sg h hc e =>
      have hw := hi.waiting
      rw [h] at hw
      exact e ▸ ⟨hi.cores.set_core (by rcases hc with e | e <;> rw [e] <;> nofun) nofun nofun, hi.leaked0,
        hi.mutex.set_core (by rcases hc with e | e <;> rw [e] <;> rfl), by cases sg <;> exact hw.take⟩
    | remove c _ _ h _ e =>
      have hw := hi.waiting
      rw [h] at hw
      exact e ▸ ⟨hi.cores.sublist List.filter_sublist, hi.leaked0, hi.mutex, hw.remove⟩
    | cancel _ _ _ _ e =>
      -- with the list dropped, `WaitOk` asks nothing
      exact e ▸ ⟨hi.cores.sublist (List.nil_sublist _), rfl, hi.mutex, fun _ _ => .inr rfl, nofun, fun _ _ _ => .inr rfl⟩

theorem reach_inv (h : Reach Cfg.fixed s) : Inv s := by
  induction h with
  | init => exact inv_init
  | step s s' _ hs ih => exact inv_step ih hs

/-- What a step can change: the globals only from inside a write, the core list only while nobody
holds its lock, the `cancelled` flag only upwards. -/
theorem step_changes (h : Step cfg s s') :
    (s'.gVersion = s.gVersion ∨ ∃ c, s.core c = .running .wr)
      ∧ (s'.listed = s.listed ∨ (s.wait.holdsR = false ∧ s.leaked = 0))
      ∧ (s.cancelled = true → s'.cancelled = true) := by
  cases h with
  | hostSpawn hf | coreSpawn _ _ hf => exact ⟨.inl rfl, .inr (PState.lockFree_iff.mp hf), id⟩
  | hostCancel => exact ⟨.inl rfl, .inl rfl, fun _ => rfl⟩
  | gWrite c hc => exact ⟨.inr ⟨c, hc⟩, .inl rfl, id⟩
  | coreFinish _ _ _ _ | gRLock _ _ _ | gRUnlock _ _ | gLock _ _ _ _ | gUnlock _ _ | waitStart _ =>
    exact ⟨.inl rfl, .inl rfl, id⟩
  | wait =>
    rename_i hw
    cases waitStep_cases hw with
    | top _ e | sleeping _ e | retNone _ _ e | toSleep _ _ e | recv _ _ _ _ _ e
    | skip _ _ _ _ _ e | relock _ _ e => exact e ▸ ⟨.inl rfl, .inl rfl, id⟩
    | remove _ _ _ h hl e => exact e ▸ ⟨.inl rfl, .inr ⟨by rw [h]; rfl, hl⟩, id⟩
    | cancel _ _ h hl e => exact e ▸ ⟨.inl rfl, .inr ⟨by rw [h]; rfl, hl⟩, fun _ => rfl⟩

/-- The cores of `Wait`'s snapshot that it has not let go of in its current pass: those still to be
polled, and the one whose `nil` signal it has received and is about to take off the list. -/
def snapshotOf : WaitPc → List Nat
  | .scan r => r
  | .rmWantLock c _ r => c :: r
  | .rmWantRLock r => r
  | _ => []

/-- A core blocked in its send that is neither listed nor in `Wait`'s snapshot stays blocked,
whatever happens next (any configuration that shortens the list under the lock). -/
theorem sending_unlisted_stuck (hst : cfg.staleFilter = false) (h : Step cfg s s')
    (c : Nat) (sg : Sig) (hc : s.core c = .sending sg) (hl : c ∉ s.listed) (hs : c ∉ snapshotOf s.wait)
    (hn : c < s.n) :
    s'.core c = .sending sg ∧ c ∉ s'.listed ∧ c ∉ snapshotOf s'.wait ∧ c < s'.n := by
  cases h with
  | hostSpawn _ | coreSpawn _ _ _ =>
    exact ⟨(upd_other (Nat.ne_of_lt hn)).trans hc,
      fun h => (List.mem_append.mp h).elim hl fun h => Nat.ne_of_lt hn (List.mem_singleton.mp h), hs,
      Nat.lt_succ_of_lt hn⟩
  | hostCancel | gWrite _ _ => exact ⟨hc, hl, hs, hn⟩
  | coreFinish d _ hd _ | gRLock d hd _ | gRUnlock d hd | gLock d hd _ _ | gUnlock d hd =>
    -- the core that moves is running, so it is not `c`
    exact ⟨(upd_other fun e => by rw [e, hd] at hc; cases hc).trans hc, hl, hs, hn⟩
  | waitStart _ => exact ⟨hc, hl, nofun, hn⟩
  | wait =>
    rename_i hw
    cases waitStep_cases hw with
    | top _ e => exact e ▸ ⟨hc, hl, hl, hn⟩
    | sleeping _ e | retNone _ _ e | toSleep _ _ e => exact e ▸ ⟨hc, hl, nofun, hn⟩
    | cancel _ _ _ _ e => exact e ▸ ⟨hc, nofun, nofun, hn⟩
    | recv d r sg h _ e =>
      rw [h] at hs
      refine e ▸ ⟨(upd_other fun e' => hs (List.mem_cons.mpr (.inl e'))).trans hc, hl, ?_, hn⟩
      cases sg
      · exact hs
      · nofun
    | skip d r h _ _ e => rw [h] at hs; exact e ▸ ⟨hc, hl, fun hm => hs (List.mem_cons_of_mem _ hm), hn⟩
    | relock r h e => rw [h] at hs; exact e ▸ ⟨hc, hl, hs, hn⟩
    | remove d _ r h _ e =>
      rw [h] at hs
      exact e ▸ ⟨hc, fun hm => hl (by rw [hst] at hm; exact (List.mem_filter.mp hm).1),
        fun hm => hs (List.mem_cons_of_mem _ hm), hn⟩

/-- Zero or more transitions ("whatever happens afterwards" in the statements of C10). -/
inductive Steps (cfg : Cfg) : PState → PState → Prop where
  | refl (s : PState) : Steps cfg s s
  | tail (s s' s'' : PState) : Steps cfg s s' → Step cfg s' s'' → Steps cfg s s''

theorem sending_unlisted_stuck_forever (hst : cfg.staleFilter = false)
    (h : Steps cfg s s') (c : Nat) (sg : Sig) (hc : s.core c = .sending sg) (hl : c ∉ s.listed)
    (hs : c ∉ snapshotOf s.wait) (hn : c < s.n) : s'.core c = .sending sg := by
  suffices s'.core c = .sending sg ∧ c ∉ s'.listed ∧ c ∉ snapshotOf s'.wait ∧ c < s'.n from this.1
  induction h with
  | refl => exact ⟨hc, hl, hs, hn⟩
  | tail s' s'' _ hstep ih =>
    obtain ⟨h1, h2, h3, h4⟩ := ih
    exact sending_unlisted_stuck hst hstep c sg h1 h2 h3 h4

end Hms.Conc
