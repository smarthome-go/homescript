import Hms.Members.Sig
/-!
Lemmas for C18: the 64-bit index arithmetic of the transcribed code against the wrap rule over ℤ. An in-range index
is an `int64` that holds a position of the slice (`Pos`); the Go primitives, the comparisons of the bounds checks
and `± 1` are read off the position. Only the wrap step itself and the out-of-range branches are argued over `toInt`.
-/
namespace HmsProofs.Lemmas.Members
open Hms.Members

/-- The `int64` `x` holds the position `k ≤ len(xs)` of a slice of Go size. -/
structure Pos {α} (xs : List α) (x : I64) (k : Nat) : Prop where
  eq : x = BitVec.ofNat 64 k
  le : k ≤ xs.length
  sized : xs.length < 2 ^ 63

namespace Pos
variable {α : Type _} {xs : List α} {x y : I64} {k m : Nat}

theorem toNat (p : Pos xs x k) : x.toNat = k := by
  rw [p.eq, BitVec.toNat_ofNat]
  exact Nat.mod_eq_of_lt (by have := p.le; have := p.sized; omega)

theorem toInt (p : Pos xs x k) : x.toInt = k := by
  have := p.toNat; have := p.le; have := p.sized
  rw [BitVec.toInt_eq_toNat_cond]
  omega

theorem of_toInt (hl : xs.length < 2 ^ 63) (hk : k ≤ xs.length) (h : x.toInt = k) : Pos xs x k :=
  have q : Pos xs (BitVec.ofNat 64 k) k := ⟨rfl, hk, hl⟩
  ⟨BitVec.eq_of_toInt_eq (h.trans q.toInt.symm), hk, hl⟩

theorem len (hl : xs.length < 2 ^ 63) : Pos xs (goLen xs) xs.length := ⟨rfl, Nat.le_refl _, hl⟩

theorem zero (hl : xs.length < 2 ^ 63) : Pos xs 0 0 := ⟨rfl, Nat.zero_le _, hl⟩

theorem succ (p : Pos xs x k) (h : k < xs.length) : Pos xs (x + 1) (k + 1) :=
  ⟨by rw [p.eq, BitVec.ofNat_add]; rfl, h, p.sized⟩

theorem pred (p : Pos xs x (k + 1)) : Pos xs (x - 1) k :=
  ⟨by rw [p.eq]; exact BitVec.ofNat_sub_ofNat_of_le _ _ (by decide) (Nat.le_add_left 1 k), Nat.le_of_succ_le p.le, p.sized⟩

theorem slt (p : Pos xs x k) (q : Pos xs y m) : x.slt y = decide (k < m) := by
  rw [BitVec.slt_eq_decide, p.toInt, q.toInt]; simp

theorem beq (p : Pos xs x k) (q : Pos xs y m) : (x == y) = decide (k = m) := by
  rw [Bool.eq_iff_iff]
  simp only [beq_iff_eq, decide_eq_true_eq]
  exact ⟨fun h => by rw [← p.toNat, ← q.toNat, h], fun h => by rw [p.eq, q.eq, h]⟩

theorem nonneg (p : Pos xs x k) : x.slt 0 = false := by
  rw [p.slt (zero p.sized)]; rfl

theorem len_slt (p : Pos xs x k) : (goLen xs).slt x = false := by
  rw [(len p.sized).slt p]; exact decide_eq_false (Nat.not_lt.2 p.le)

theorem idx (p : Pos xs x k) : goIdx xs x = xs[k]? := by
  rw [goIdx, p.nonneg, p.toNat]; rfl

theorem sliceTo (p : Pos xs x k) : goSliceTo xs x = Option.some (xs.take k) := by
  rw [goSliceTo, p.nonneg, p.len_slt, p.toNat]; rfl

theorem sliceFrom (p : Pos xs x k) : goSliceFrom xs x = Option.some (xs.drop k) := by
  rw [goSliceFrom, p.nonneg, p.len_slt, p.toNat]; rfl

theorem set (p : Pos xs x k) (ys : List α) (h : k < ys.length) (v : α) : goSet ys x v = Option.some (ys.set k v) := by
  rw [goSet, p.nonneg, p.toNat, decide_eq_true h]; rfl

end Pos

theorem slt_zero (x : I64) : x.slt 0 = decide (x.toInt < 0) := by
  rw [BitVec.slt_eq_decide]; simp

theorem toNat_of_nonneg (x : I64) (h : 0 ≤ x.toInt) : x.toNat = x.toInt.toNat := by
  rw [BitVec.toInt_eq_toNat_cond] at h ⊢
  split at h <;> rename_i h2
  · simp [h2]
  · have := x.isLt
    omega

/-- The wrap step never overflows: a negative index plus a slice length stays in range. -/
theorem toInt_wrapIdx {α} (xs : List α) (i : I64) (h : xs.length < 2 ^ 63) :
    (wrapIdx i (goLen xs)).toInt = wrappedInt i.toInt xs.length := by
  unfold wrapIdx wrappedInt
  rw [slt_zero]
  by_cases hi : i.toInt < 0
  · simp only [hi, decide_true, if_true]
    rw [BitVec.toInt_add, (Pos.len h).toInt, Int.bmod_def]
    have := BitVec.toInt_lt (x := i)
    have := BitVec.le_toInt (x := i)
    omega
  · simp [hi]

theorem wrapSpec_eq (i : Int) (n : Nat) : wrapSpec i n =
    if 0 ≤ wrappedInt i n ∧ wrappedInt i n < n then Option.some (wrappedInt i n).toNat else Option.none := rfl

theorem wrapSpecIns_eq (i : Int) (n : Nat) : wrapSpecIns i n =
    if 0 ≤ wrappedInt i n ∧ wrappedInt i n ≤ n then Option.some (wrappedInt i n).toNat else Option.none := rfl

section wrap
variable {α : Type _} (xs : List α) (i : I64) (hl : xs.length < 2 ^ 63)
include hl

theorem wrap_pos {k : Nat} (hs : wrapSpec i.toInt xs.length = Option.some k) :
    Pos xs (wrapIdx i (goLen xs)) k ∧ k < xs.length := by
  rw [wrapSpec_eq, ← toInt_wrapIdx xs i hl] at hs
  split at hs <;> cases hs
  exact ⟨.of_toInt hl (by omega) (by omega), by omega⟩

theorem wrapIns_pos {k : Nat} (hs : wrapSpecIns i.toInt xs.length = Option.some k) :
    Pos xs (wrapIdx i (goLen xs)) k := by
  rw [wrapSpecIns_eq, ← toInt_wrapIdx xs i hl] at hs
  split at hs <;> cases hs
  exact .of_toInt hl (by omega) (by omega)

theorem wrap_out (hs : wrapSpec i.toInt xs.length = Option.none) :
    ((wrapIdx i (goLen xs)).slt 0 || !((wrapIdx i (goLen xs)).slt (goLen xs))) = true := by
  rw [wrapSpec_eq, ← toInt_wrapIdx xs i hl] at hs
  split at hs <;> cases hs
  rw [slt_zero, BitVec.slt_eq_decide, (Pos.len hl).toInt]
  simp only [Bool.or_eq_true, Bool.not_eq_true', decide_eq_true_eq, decide_eq_false_iff_not]
  omega

theorem wrapIns_out (hs : wrapSpecIns i.toInt xs.length = Option.none) :
    ((wrapIdx i (goLen xs)).slt 0 || (goLen xs).slt (wrapIdx i (goLen xs))) = true := by
  rw [wrapSpecIns_eq, ← toInt_wrapIdx xs i hl] at hs
  split at hs <;> cases hs
  rw [slt_zero, BitVec.slt_eq_decide, (Pos.len hl).toInt]
  simp only [Bool.or_eq_true, decide_eq_true_eq]
  omega

end wrap

theorem listIndex_spec (xs : List MVal) (i : I64) (hl : xs.length < 2 ^ 63) :
    (∀ k, wrapSpec i.toInt xs.length = Option.some k →
      ∃ v, xs[k]? = Option.some v ∧ listIndex xs i = .ok v (.list xs)) ∧
    (wrapSpec i.toInt xs.length = Option.none → listIndex xs i
      = .fatal "IndexOutOfBounds" (oobMsgIndex "list" xs.length (wrapIdx i (goLen xs)))) := by
  unfold listIndex
  refine ⟨fun k hs => ?_, fun hs => if_pos (wrap_out xs i hl hs)⟩
  obtain ⟨p, hk⟩ := wrap_pos xs i hl hs
  simp only [p.nonneg, p.slt (.len hl), decide_eq_true hk, p.idx, List.getElem?_eq_getElem hk]
  exact ⟨xs[k], rfl, rfl⟩

theorem strIndex_spec (cs : List Char) (i : I64) (hl : cs.length < 2 ^ 63) :
    (∀ k, wrapSpec i.toInt cs.length = Option.some k →
      ∃ c, cs[k]? = Option.some c ∧ strIndex cs i = .ok (.str [c]) (.str cs)) ∧
    (wrapSpec i.toInt cs.length = Option.none → strIndex cs i
      = .fatal "IndexOutOfBounds" (oobMsgIndex "string" cs.length (wrapIdx i (goLen cs)))) := by
  unfold strIndex
  refine ⟨fun k hs => ?_, fun hs => if_pos (wrap_out cs i hl hs)⟩
  obtain ⟨p, hk⟩ := wrap_pos cs i hl hs
  simp only [p.nonneg, p.slt (.len hl), decide_eq_true hk, p.idx, List.getElem?_eq_getElem hk]
  exact ⟨cs[k], rfl, rfl⟩

end HmsProofs.Lemmas.Members
