import HmsProofs.Lemmas.SimExec
import HmsProofs.Lemmas.VMLoop
/-!
# Instruction sequences with exception dispatch

`exec1`/`execN` stop at every interrupt. The VM's inner loop `runQuantum` handles a thrown
exception itself: it unwinds to the newest handler. `exec1H`/`execHN` include that dispatch.
-/
namespace HmsProofs.Sim
open Hms.Core Hms.Core.VM HmsProofs.Lemmas.VMRun

/-- The error object `catch` binds. -/
def errCell (msg : String) (tsp : Span) : Cell :=
  .obj [("message", .str msg), ("line", .int (I64.ofInt tsp.sl)), ("column", .int (I64.ofInt tsp.sc)),
    ("filename", .str "main")]

/-- What `runQuantum` does with a thrown exception; with no handler the interrupt stands. -/
def dispatch (msg : String) (tsp : Span) (s' : VMState) : StepRes :=
  match s'.handlers with
  | [] => .intr (.throw msg tsp) s'
  | h :: _ =>
    match s'.calls.drop (s'.calls.length - h.callDepth) with
    | [] => .panic "no frame for the handler" s'
    | _ :: below =>
      match (alloc (errCell msg tsp)) s'.st with
      | (.ok o, st') =>
        .next (push1 { s' with calls := h.target :: below,
                               stack := s'.stack.drop (s'.stack.length - h.stackHeight), mp := h.mp, st := st' } o)
      | (.error _, _) => .panic "alloc" s'

def exec1H (code : Code) (lim : Limits) (s : VMState) : StepRes :=
  match exec1 code lim s with
  | .intr (.throw msg tsp) s' => dispatch msg tsp s'
  | r => r

def execHN (code : Code) (lim : Limits) : Nat → VMState → StepRes
  | 0, s => .next s
  | n + 1, s =>
    match exec1H code lim s with
    | .next s' => execHN code lim n s'
    | r => r

theorem execHN_add (code : Code) (lim : Limits) (a b : Nat) : ∀ s,
    execHN code lim (a + b) s = match execHN code lim a s with
      | .next s' => execHN code lim b s'
      | r => r := by
  induction a with
  | zero => intro s; simp [execHN]
  | succ a ih =>
    intro s
    rw [Nat.add_right_comm]
    simp only [execHN]
    cases exec1H code lim s with
    | next s' => exact ih s'
    | intr i s' => rfl
    | panic w s' => rfl

theorem execHN_one (code : Code) (lim : Limits) (s : VMState) : execHN code lim 1 s = exec1H code lim s := by
  simp only [execHN]
  cases exec1H code lim s <;> rfl

theorem exec1H_of_next {code lim s s'} (h : exec1 code lim s = .next s') : exec1H code lim s = .next s' := by
  unfold exec1H; rw [h]

theorem exec1H_of_fatal {code lim s s' kd m sp} (h : exec1 code lim s = .intr (.fatal kd m sp) s') :
    exec1H code lim s = .intr (.fatal kd m sp) s' := by
  unfold exec1H; rw [h]

theorem exec1H_of_throw {code lim s s' msg sp} (h : exec1 code lim s = .intr (.throw msg sp) s') :
    exec1H code lim s = dispatch msg sp s' := by
  unfold exec1H; rw [h]

theorem execHN_of_execN (code : Code) (lim : Limits) : ∀ (n : Nat) (s : VMState) (r : StepRes),
    (∀ msg sp s', r ≠ .intr (.throw msg sp) s') → execN code lim n s = r → execHN code lim n s = r := by
  intro n
  induction n with
  | zero => intro s r _ h; exact h
  | succ n ih =>
    intro s r hr h
    simp only [execN] at h
    simp only [execHN, exec1H]
    cases h1 : exec1 code lim s with
    | next s1 => rw [h1] at h; exact ih s1 r hr h
    | panic w s1 => rw [h1] at h; exact h
    | intr i s1 =>
      rw [h1] at h
      cases i with
      | throw msg sp => exact absurd h.symm (hr msg sp s1)
      | fatal | term => exact h

/-- How a run ends on an interrupt that `execHN` leaves standing. -/
def _root_.Hms.Core.VM.Interrupt.outcome : Interrupt → VMState → VM.Outcome
  | .fatal k m sp, s => .fatal k m sp s
  | .throw m sp, s => .fatal "UncaughtThrow" m sp s
  | .term, s => .term s

/-- The VM slice's `throwTo` is `dispatch`, read as the answer of a loop round. -/
theorem throwTo_eq_dispatch (msg : String) (tsp : Span) (s' : VMState) :
    throwTo s' msg tsp = match dispatch msg tsp s' with
      | .next s'' => .cont s''
      | .intr i s'' => .done (i.outcome s'')
      | .panic w s'' => .done (.panic w s'') := by
  unfold throwTo dispatch
  cases s'.handlers with
  | nil => rfl
  | cons h _ =>
    dsimp only
    generalize List.drop _ s'.calls = cs
    cases cs with
    | nil => rfl
    | cons _ below =>
      dsimp only [errCell]
      generalize alloc _ s'.st = r
      obtain ⟨_ | _, st'⟩ := r <;> rfl

/-- `exec1H` is the loop round `iter` of `runQuantum` (`VMLoop`), wherever it does not panic. -/
theorem iter_of_exec1H {code : Code} {lim : Limits} {s : VMState} :
    (∀ s', exec1H code lim s = .next s' → iter code lim s = .cont s') ∧
    (∀ i s', exec1H code lim s = .intr i s' → iter code lim s = .done (i.outcome s')) := by
  unfold exec1H exec1
  rcases iter_cases code lim s with ⟨hc, _⟩ | ⟨f, rest, hc, ⟨hf | hf, _⟩ | ⟨c, hf, _, ⟨hi, _⟩ | ⟨i, sp, hi, h⟩⟩⟩
  -- nothing to fetch: `exec1H` panics
  · simp [fetch, hc]
  · simp [fetch, hc, hf]
  · simp [fetch, hc, hf]
  · simp [fetch, hc, hf, hi]
  · have hfe : fetch code s = some (i, sp) := by simp [fetch, hc, hf, hi]
    rw [hfe, h]
    dsimp only
    generalize step code lim _ i sp = r
    rcases r with s1 | ⟨⟨msg, tsp⟩ | _ | _, s1⟩ | _
    · exact ⟨fun _ h => by cases h; rfl, (fun _ _ h => nomatch h)⟩
    · dsimp only
      rw [throwTo_eq_dispatch]
      cases dispatch msg tsp s1 <;> exact ⟨fun _ h => by cases h <;> rfl, fun _ _ h => by cases h <;> rfl⟩
    · exact ⟨(fun _ h => nomatch h), fun _ _ h => by cases h; rfl⟩
    · exact ⟨(fun _ h => nomatch h), fun _ _ h => by cases h; rfl⟩
    · exact ⟨(fun _ h => nomatch h), (fun _ _ h => nomatch h)⟩

theorem runQuantum_execHN (code : Code) (lim : Limits) (m : Nat) : ∀ (n : Nat) (s : VMState),
    (∀ s', execHN code lim n s = .next s' → runQuantum code lim (n + m) s = runQuantum code lim m s') ∧
    (∀ i s', execHN code lim n s = .intr i s' → runQuantum code lim (n + m) s = .inr (i.outcome s')) := by
  intro n
  induction n with
  | zero => intro s; exact ⟨fun s' h => (by cases h; rw [Nat.zero_add]), fun i s' h => (by cases h)⟩
  | succ n ih =>
    intro s
    simp only [execHN]
    rw [Nat.add_right_comm, runQuantum_succ]
    cases he : exec1H code lim s with
    | next s1 => rw [iter_of_exec1H.1 s1 he]; exact ih s1
    | intr j s1 => exact ⟨fun _ h => (by cases h), fun i s' h => (by cases h; rw [iter_of_exec1H.2 _ _ he])⟩
    | panic w s1 => exact ⟨fun _ h => (by cases h), fun _ _ h => (by cases h)⟩

/-- A run that fits in its first quantum: one poll that passes, then `k` instructions (dispatch included) that empty
the call stack or stop at an interrupt. This is all that the simulation theorems need of `run`. -/
theorem run_of_execHN {code : Code} {lim : Limits} {ca : Option Nat} {s : VMState} {k : Nat}
    (hp : PollPass lim ca s) :
    (∀ s', execHN code lim k (pollState s) = .next s' → s'.calls = [] →
      ∀ quantum, k + 1 ≤ quantum → ∀ fuel, run code lim quantum ca (fuel + 1) s = .ok s') ∧
    (∀ i s', execHN code lim k (pollState s) = .intr i s' →
      ∀ quantum, k ≤ quantum → ∀ fuel, run code lim quantum ca (fuel + 1) s = i.outcome s') := by
  refine ⟨fun s' h hc quantum hq fuel => ?_, fun i s' h quantum hq fuel => ?_⟩
  · obtain ⟨j, rfl⟩ : ∃ j, quantum = k + (j + 1) := ⟨quantum - k - 1, by omega⟩
    rw [run_pass hp, (runQuantum_execHN code lim (j + 1) k _).1 _ h, runQuantum_nil j hc]
  · obtain ⟨j, rfl⟩ : ∃ j, quantum = k + j := ⟨quantum - k, by omega⟩
    rw [run_pass hp, (runQuantum_execHN code lim j k _).2 _ _ h]

end HmsProofs.Sim
