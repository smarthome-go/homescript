import HmsProofs.Lemmas.SimHLoop
namespace HmsProofs.Sim
open Hms.Core Hms.Core.Comp Hms.Core.VM

theorem roundSt_frame (name : String) (x : Val) (s : St) :
    roundSt name x s = { s with scopes := declScopes name x ([] :: s.scopes) } := rfl

theorem mkS_intoRange (code : Code) (lim : Limits) (s : VMState) (fn : String) (ip : Nat) (rest : List Frame)
    (mp : Int) (k : Nat) (stk : List SVal) (mem : List (Int × Val)) (out : World) (c : List (RInstr × Span))
    (hf : findCode code fn = some c) (sp : Span) (incl : Bool) (a b : I64) (o1 o2 : Option Org)
    (hx : c[ip]? = some (.intoRange incl, sp)) :
    exec1 code lim (mkS s (⟨fn, ip⟩ :: rest) mp k (⟨.int b, o1⟩ :: ⟨.int a, o2⟩ :: stk) mem out) =
      .next (mkS s (⟨fn, ip + 1⟩ :: rest) mp (k + 1) (⟨.range a b incl, none⟩ :: stk) mem out) := by
  rw [exec1_mkS hf hx]
  simp only [step, mkS, advance, push1]

theorem mkS_clone_range (code : Code) (lim : Limits) (s : VMState) (fn : String) (ip : Nat) (rest : List Frame)
    (mp : Int) (k : Nat) (stk : List SVal) (mem : List (Int × Val)) (out : World) (c : List (RInstr × Span))
    (hf : findCode code fn = some c) (sp : Span) (incl : Bool) (a b : I64) (o : Option Org)
    (hx : c[ip]? = some (.clone, sp)) :
    exec1 code lim (mkS s (⟨fn, ip⟩ :: rest) mp k (⟨.range a b incl, o⟩ :: stk) mem out) =
      .next (mkS s (⟨fn, ip + 1⟩ :: rest) mp (k + 1) (⟨.range a b incl, none⟩ :: stk) mem out) := by
  rw [exec1_mkS hf hx]
  simp only [step, mkS, pop1, snapshotVal, cloneVal, advance, push1]

/-- Go's `Into_Iter` pushes a `ValueIterator` holding a function value; the VM model has no such value and writes the handle
of iterator `id` as `.closure (1000000 + id)`, the offset keeping it apart from the indices of the specification's lambdas
(`St.closures`). `Iter_Advance` takes the offset off again. -/
theorem mkS_intoIter_range (code : Code) (lim : Limits) (s : VMState) (fn : String) (ip : Nat) (rest : List Frame)
    (mp : Int) (k : Nat) (stk : List SVal) (mem : List (Int × Val)) (out : World) (c : List (RInstr × Span))
    (hf : findCode code fn = some c) (sp : Span) (incl : Bool) (a b : I64) (o : Option Org) (it : ItSt)
    (hx : c[ip]? = some (.intoIter, sp)) (hsmall : ¬ (a.toInt - b.toInt).natAbs > 100000) :
    exec1 code lim (mkS (withIt s it) (⟨fn, ip⟩ :: rest) mp k (⟨.range a b incl, o⟩ :: stk) mem out) =
      .next (mkS (withIt s ⟨(it.next, (rangeElems a b incl).map Val.int) :: it.iters, it.next + 1⟩)
        (⟨fn, ip + 1⟩ :: rest) mp (k + 1) (⟨.closure (1000000 + it.next), none⟩ :: stk) mem out) := by
  rw [exec1_mkS hf hx]
  simp only [step, mkS, withIt, pop1, runM, iterElems_range, hsmall, if_false, advance, push1]

theorem mkS_iterAdvance_cons (code : Code) (lim : Limits) (s : VMState) (fn : String) (ip : Nat) (rest : List Frame)
    (mp : Int) (k : Nat) (stk : List SVal) (mem : List (Int × Val)) (out : World) (c : List (RInstr × Span))
    (hf : findCode code fn = some c) (sp : Span) (o : Option Org) (it : ItSt) (id : Nat) (x : Val) (xs : List Val)
    (hx : c[ip]? = some (.iterAdvance, sp)) (hl : it.iters.lookup id = some (x :: xs)) :
    exec1 code lim (mkS (withIt s it) (⟨fn, ip⟩ :: rest) mp k (⟨.closure (1000000 + id), o⟩ :: stk) mem out) =
      .next (mkS (withIt s ⟨(id, xs) :: it.iters.filter (·.1 != id), it.next⟩)
        (⟨fn, ip + 1⟩ :: rest) mp (k + 1) (⟨x, none⟩ :: ⟨.bool true, none⟩ :: stk) mem out) := by
  rw [exec1_mkS hf hx]
  have hid : 1000000 + id - 1000000 = id := by omega
  simp only [step, mkS, withIt, pop1, hid, hl, advance, push1]

theorem mkS_iterAdvance_nil (code : Code) (lim : Limits) (s : VMState) (fn : String) (ip : Nat) (rest : List Frame)
    (mp : Int) (k : Nat) (stk : List SVal) (mem : List (Int × Val)) (out : World) (c : List (RInstr × Span))
    (hf : findCode code fn = some c) (sp : Span) (o : Option Org) (it : ItSt) (id : Nat)
    (hx : c[ip]? = some (.iterAdvance, sp)) (hl : it.iters.lookup id = some []) :
    exec1 code lim (mkS (withIt s it) (⟨fn, ip⟩ :: rest) mp k (⟨.closure (1000000 + id), o⟩ :: stk) mem out) =
      .next (mkS (withIt s it) (⟨fn, ip + 1⟩ :: rest) mp (k + 1) (⟨.null, none⟩ :: ⟨.bool false, none⟩ :: stk) mem out) := by
  rw [exec1_mkS hf hx]
  have hid : 1000000 + id - 1000000 = id := by omega
  simp only [step, mkS, withIt, pop1, hid, hl, advance, push1]

theorem cleanupKey_ne_iter (mod fn name : String) : cleanupKey mod fn ≠ "$iter_" ++ name := by
  intro e
  have := congrArg String.toList e
  unfold cleanupKey at this
  simp [String.toList_append] at this
  have h : (toString "cleanup:").toList = 'c' :: "leanup:".toList := rfl
  rw [h] at this
  simp at this

theorem GhostOK.of_cons {A : Act} {p : String × Val} {mem : Mem}
    (h : GhostOK { A with ghost := p :: A.ghost } mem) : GhostOK A mem :=
  fun q hq => h q (List.mem_cons_of_mem _ hq)

/-- `for x in a..b { … }`: the bounds, `Into_Range`/`Clone`/`Into_Iter` (a fresh iterator over the snapshot of the
elements), then round by round `Iter_Advance`, the loop variable, the body in the round's scope — with the iterator's
cell protected as a ghost cell of the activation —, `break`/`continue`/`return`/exceptions as for `loop`. -/
theorem pgf_step (G : GCtx) (n : Nat) (hPE : ∀ m, m ≤ n → PE G m) (hPSs : ∀ m, m ≤ n → PGSs G m) : PGF G (n + 1) := by
  intro A hA loops lscopes d sp name vty rsp a b incl bsp bty stmts env stmt hs hT hws hN ip stk mem spec hpl hI ip0 mem0 st0
    hat
  obtain ⟨hrel, hsp, hls⟩ := hI
  -- for this one base (`Ends`), not as a `SimJ`: the rounds are simulated for the bases that do not yet have the loop's
  -- iterator — `Iter_Advance` rewrites it, which for a later base is a change of memory it was promised not to see
  change Ends (.stmt G A loops lscopes d) ip0 stk mem0 st0 _ _ _ (evalStmt G.cfg (n + 1) stmt spec)
  simp only [stmt, Frag.okFS, Bool.and_eq_true] at hs
  obtain ⟨⟨⟨hfr, hoka⟩, hokb⟩, hoks⟩ := hs
  simp only [stmt, Frag.identsGS, List.mem_cons, List.mem_append] at hT
  have hnameT : name ∈ A.T := hT name (Or.inl rfl)
  have hitT : ("$iter_" ++ name) ∉ A.T := hA.ghostT hfr name hnameT
  simp only [stmt, Frag.wsGS, Bool.and_eq_true] at hws
  obtain ⟨⟨hwa, hwb⟩, hwS⟩ := hws
  simp only [stmt, cgS, codeVars_append, List.mem_append] at hN hpl ⊢
  generalize freshLabel G.mod env.lm "loop_head" = head at hN hpl hwS ⊢
  generalize freshLabel G.mod head.2 "loop_update" = upd at hN hpl hwS ⊢
  generalize freshLabel G.mod upd.2 "loop_end" = aft at hN hpl hwS ⊢
  generalize hCA : cgE G.mod (ρS env.scopes) A.φ a aft.2 = CA at hN hpl hwS ⊢
  generalize hCB : cgE G.mod (ρS env.scopes) A.φ b CA.2 = CB at hN hpl hwS ⊢
  obtain ⟨fit, hFit⟩ : ∃ fit, fit = freshVar G.mod { env with scopes := [] :: env.scopes, lm := CB.2 } ("$iter_" ++ name) :=
    ⟨_, rfl⟩
  rw [← hFit] at hN hpl hwS ⊢
  obtain ⟨fhv, hFhv⟩ : ∃ fhv, fhv = freshVar G.mod fit.2 name := ⟨_, rfl⟩
  rw [← hFhv] at hN hpl hwS ⊢
  generalize hCS : cgSs G.mod A.src A.φ ((aft.1, upd.1) :: loops) stmts fhv.2 = CS at hN hpl ⊢
  unplace at hpl
  obtain ⟨hplA, hplB, irange, iclone, iiter, iset, ehead, iget, iadv, isethv, ijif, hplS, eupd, ijmp, eaft⟩ := hpl
  have hNit : A.N fit.1 := hN fit.1 (Or.inl (Or.inl (Or.inr (by simp [codeVars, var?]))))
  have hNhv : A.N fhv.1 := hN fhv.1 (Or.inl (Or.inl (Or.inr (by simp [codeVars, var?]))))
  have hcit := hA.cell _ hNit
  have hchv := hA.cell _ hNhv
  have hfitName : fit.1 = mangleName G.mod ("$iter_" ++ name)
      (cnt ({ env with scopes := [] :: env.scopes, lm := CB.2 } : CEnv).vm ("$iter_" ++ name)) := by rw [hFit]; rfl
  have hfhvName : fhv.1 = mangleName G.mod name (cnt fit.2.vm name) := by rw [hFhv]; rfl
  have hne : fit.1 ≠ fhv.1 := by
    rw [hfitName, hfhvName]
    intro e
    have := (mangleName_inj G.mod _ _ _ _ e).1
    exact hitT (by rw [this]; exact hnameT)
  have hσne : A.σ fit.1 ≠ A.σ fhv.1 := fun e => hne (hA.inj _ _ hNit hNhv e)
  have hleI : EnvLeT { env with scopes := [] :: env.scopes, lm := CB.2 } fit.2 := hFit ▸ freshVar_envLeT ..
  have hleH : EnvLeT fit.2 fhv.2 := hFhv ▸ freshVar_envLeT ..
  have hleS : EnvLeT fhv.2 CS.2 := hCS ▸ cgSs_envLeT ..
  have hfhvsc : fhv.2.scopes.tail = env.scopes := (hleI.trans hleH).scopes
  have hCSsc : CS.2.scopes.tail = env.scopes := hleS.scopes.trans hfhvsc
  have hkeyIt : cleanupKey G.mod A.src ≠ "$iter_" ++ name := cleanupKey_ne_iter _ _ _
  rw [evalStmt_forS_bind]
  cases n with
  | zero => rw [M_bind, evalExpr]; exact True.intro
  | succ m =>
  have hPEm := hPE m (by omega)
  rw [evalExpr_range_bind]
  simp only [bind_assoc]
  refine Ends.bind ((hPEm A hA _ Stable.grel_rel a aft.2 hoka hwa (fun x hx => hT x (Or.inr (Or.inl hx))) ip [] stk mem spec
    (hCA ▸ hplA)).ends ⟨hrel, hsp, hls⟩ hat) fun va st1 mem1 ys ⟨ov1, _, eys⟩ hI1 hat1 => ?_
  subst eys
  rw [hCA] at hat1
  refine Ends.bind ((hPEm A hA _ Stable.grel_rel b CA.2 hokb hwb (fun x hx => hT x (Or.inr (Or.inr (Or.inl hx))))
    (ip + nI CA.1) [⟨va, ov1⟩] stk mem1 st1 (hCB ▸ hplB)).ends hI1 hat1) fun vb st2 mem2 ys ⟨ov2, _, eys⟩ hI2 hat2 => ?_
  subst eys
  rw [hCB] at hat2
  obtain ⟨hrel2, hsp2, _⟩ := hI2
  suffices main : ∀ xa xb : I64, Reached (.stmt G A loops lscopes d) ip0 stk mem0 st0 (ip + nI CA.1 + nI CB.1)
      ([⟨.int xb, ov2⟩, ⟨.int xa, ov1⟩] ++ stk) mem2 st2 →
      Ends (.stmt G A loops lscopes d) ip0 stk mem0 st0 (ip + nI CA.1 + nI CB.1 + 8 + nI CS.1 + 1) (fun _ _ _ ys => ys = [])
        (fun st' mem' => GRel G A CS.2.scopes.tail CS.2.vm st'.scopes mem')
        ((iterElems (.range xa xb incl) >>= fun elems => forRun G.cfg (m + 1) name elems (.mk bsp bty stmts none)) st2) by
    cases va <;> try (rw [M_bind]; exact True.intro)
    cases vb <;> try (rw [M_bind]; exact True.intro)
    rw [M_bind]
    simp only []
    rw [M_pure]
    simp only []
    exact main _ _ hat2
  intro xa xb hat2
  rw [M_bind, iterElems_range]
  -- `100000`: the model's bound on a range it lists: above it `iterElems`, which the VM's `Into_Iter` runs too, answers
  -- `unsupported`
  by_cases hhuge : (xa.toInt - xb.toInt).natAbs > 100000
  · simp only [hhuge, if_true]; exact True.intro
  simp only [hhuge, if_false]
  -- the VM up to the loop head
  obtain ⟨idv, hidv⟩ : ∃ idv, idv = mem2.it.next := ⟨_, rfl⟩
  obtain ⟨elems0, helems0⟩ : ∃ es, es = (rangeElems xa xb incl).map Val.int := ⟨_, rfl⟩
  rw [← helems0]
  have hrange := hA.step mem2 id (fun it_ k => mkS_intoRange G.code G.lim (withIt G.s it_) A.fn
    (ip + nI CA.1 + nI CB.1) A.rest A.mp k stk mem2.cells st2.world A.c hA.code rsp incl xa xb ov2 ov1 irange)
  have hclone := hA.step mem2 id (fun it_ k => mkS_clone_range G.code G.lim (withIt G.s it_) A.fn
    (ip + nI CA.1 + nI CB.1 + 1) A.rest A.mp k stk mem2.cells st2.world A.c hA.code sp incl xa xb none iclone)
  have hiter : Runs G.fr G.code G.lim G.s A.fn A.rest A.mp (ip + nI CA.1 + nI CB.1 + 1 + 1)
      (⟨.range xa xb incl, none⟩ :: stk) mem2 st2.world (ip + nI CA.1 + nI CB.1 + 1 + 1 + 1)
      (⟨.closure (1000000 + idv), none⟩ :: stk) ⟨mem2.cells, ⟨(idv, elems0) :: mem2.it.iters, idv + 1⟩⟩ st2.world := by
    rw [hidv, helems0]
    exact Runs.of_step fun k => mkS_intoIter_range G.code G.lim G.s A.fn _ A.rest A.mp k stk mem2.cells st2.world A.c
      hA.code sp incl xa xb none mem2.it iiter hhuge
  let memH0 : Mem := (⟨mem2.cells, ⟨(idv, elems0) :: mem2.it.iters, idv + 1⟩⟩ : Mem).set (A.mp - (A.σ fit.1 : Int))
    (.closure (1000000 + idv))
  -- the base does not have the iterator yet
  have hidge : mem0.it.next ≤ idv := by rw [hidv]; exact (hat2.le.it.le hfr).1
  have hatH0 : Reached (.stmt G A loops lscopes d) ip0 stk mem0 st0 (A.lab head.1) stk memH0 st2 := by
    rw [ehead]
    refine hat2.trans ⟨(((hrange.trans hclone).trans hiter).trans (hA.setVar hNit iset)), rfl,
      ⟨(CellsLe.refl _ _).trans (CellsLe.set _ _ _ _ hcit.2.2), ItR.of_le hfr ⟨?_, fun j hj => ?_⟩⟩⟩
    · show mem2.it.next ≤ idv + 1; omega
    · have hne' : j ≠ idv := by omega
      have hb : (j == idv) = false := by simpa using hne'
      show ((idv, elems0) :: mem2.it.iters).lookup j = _
      rw [List.lookup_cons, hb]
  have again : ∀ (f : Nat), f ≤ m + 1 → ∀ (elems : List Val) (s' : St) (memH : Mem),
      Reached (.stmt G A loops lscopes d) ip0 stk mem0 st0 (A.lab head.1) stk memH s' → SpecOK G A.mp s' →
      idv < memH.it.next → memH.it.iters.lookup idv = some elems →
      memH.cells.lookup (A.mp - (A.σ fit.1 : Int)) = some (.closure (1000000 + idv)) →
      (ScopesRel A.T A.σ G.lim A.mp memH.cells env.scopes s'.scopes ∧ GhostOK A memH) →
      Ends (.stmt G A loops lscopes d) ip0 stk mem0 st0 (ip + nI CA.1 + nI CB.1 + 8 + nI CS.1 + 1) (fun _ _ _ ys => ys = [])
        (fun st' mem' => GRel G A CS.2.scopes.tail CS.2.vm st'.scopes mem')
        (forRun G.cfg f name elems (.mk bsp bty stmts none) s') := by
    intro f
    induction f with
    | zero => intro _ elems s' memH _ _ _ _ _ _; rw [forRun]; exact True.intro
    | succ f ih =>
      intro hf elems s' memH hatH hsp' hidlt hlook hcell hsr
      have hrelH : GRel G A env.scopes env.vm s'.scopes memH := hrel.of_scopes hsr
      have g2 : GRel G A fit.2.scopes fit.2.vm ([] :: s'.scopes) memH := by
        rw [hFit]
        exact GRel.ghostDecl (env := { env with scopes := [] :: env.scopes, lm := CB.2 }) hrelH.push
          ("$iter_" ++ name) hitT hkeyIt
      have g3 : ∀ v, GRel G A fhv.2.scopes fhv.2.vm (declScopes name v ([] :: s'.scopes))
          (memH.set (A.mp - (A.σ fhv.1 : Int)) v) := by
        intro v
        have := GRel.declare (env := fit.2) hA g2 name hnameT v (by rw [← hFhv]; exact hNhv)
        rw [← hFhv] at this
        exact this
      -- `Get_Var it`
      have hget : Runs G.fr G.code G.lim G.s A.fn A.rest A.mp (A.lab head.1) stk memH s'.world (A.lab head.1 + 1)
          (⟨.closure (1000000 + idv), none⟩ :: stk) memH s'.world :=
        hA.getVar hNit (by rw [ehead]; exact iget) hcell
      cases elems with
      | nil =>
        rw [forRun_nil]
        have hadv : Runs G.fr G.code G.lim G.s A.fn A.rest A.mp (A.lab head.1 + 1)
            (⟨.closure (1000000 + idv), none⟩ :: stk) memH s'.world (A.lab head.1 + 1 + 1)
            (⟨.null, none⟩ :: ⟨.bool false, none⟩ :: stk) memH s'.world := by
          exact Runs.of_step fun k => mkS_iterAdvance_nil G.code G.lim G.s A.fn _ A.rest A.mp k stk memH.cells s'.world A.c
            hA.code sp none memH.it idv (by rw [ehead]; exact iadv) hlook
        refine ⟨[], memH.set (A.mp - (A.σ fhv.1 : Int)) .null, rfl, ?_, hatH.trans
          ⟨(((hget.trans hadv).trans (hA.setVar hNhv (by rw [ehead]; exact isethv))).trans
            (hA.jumpIfFalse (b := false) (by rw [ehead]; exact ijif))).cast
            ((if_neg Bool.false_ne_true).trans (by rw [eaft])), rfl, MemLe.set _ _ _ _ _ hchv.2.2⟩⟩
        have ht := (g3 .null).rel.tail
        rw [hfhvsc] at ht
        refine GRel.vm_mono ⟨by rw [hCSsc]; exact ht, by rw [hCSsc]; exact hrel.key, (g3 .null).ghost,
          (g3 .null).ghostC⟩ hleS.vm
      | cons x xs =>
        cases f with
        | zero => rw [forRun_cons_short]; exact True.intro
        | succ g =>
        rw [forRun_cons_stmts]
        -- the VM: `Iter_Advance`, the loop variable, `JumpIfFalse`
        let memR : Mem := ⟨memH.cells, ⟨(idv, xs) :: memH.it.iters.filter (·.1 != idv), memH.it.next⟩⟩
        have hadv : Runs G.fr G.code G.lim G.s A.fn A.rest A.mp (A.lab head.1 + 1)
            (⟨.closure (1000000 + idv), none⟩ :: stk) memH s'.world (A.lab head.1 + 1 + 1)
            (⟨x, none⟩ :: ⟨.bool true, none⟩ :: stk) memR s'.world :=
          Runs.of_step fun k => mkS_iterAdvance_cons G.code G.lim G.s A.fn _ A.rest A.mp k stk memH.cells s'.world
            A.c hA.code sp none memH.it idv x xs (by rw [ehead]; exact iadv) hlook
        let memB : Mem := memR.set (A.mp - (A.σ fhv.1 : Int)) x
        have hlookR : memB.it.iters.lookup idv = some xs := by
          show ((idv, xs) :: _).lookup idv = _; simp
        have hnextR : idv < memB.it.next := hidlt
        -- to the body; the iterator is rewritten, which the base does not see
        have hatB : Reached (.stmt G A loops lscopes d) ip0 stk mem0 st0 (ip + nI CA.1 + nI CB.1 + 8) stk memB
            (roundSt name x s') := by
          refine ⟨hatH.run.trans ?_, by show _ = _; rw [roundSt_frame, hatH.frame], ?_, ?_⟩
          · exact (((hget.trans hadv).trans (hA.setVar hNhv (by rw [ehead]; exact isethv))).trans
              (hA.jumpIfFalse (b := true) (by rw [ehead]; exact ijif))).cast ((if_pos rfl).trans (by rw [ehead]))
          · exact hatH.le.cells.trans (CellsLe.set _ _ _ _ hchv.2.2)
          · have hitle := hatH.le.it.le hfr
            refine ItR.of_le hfr ⟨hitle.1, fun j hj => ?_⟩
            have hne' : j ≠ idv := by omega  -- `hidge`: the base's iterators lie below `idv`
            have hb : (j == idv) = false := by simpa using hne'
            show ((idv, xs) :: memH.it.iters.filter (·.1 != idv)).lookup j = _
            rw [List.lookup_cons, hb, lookup_filter_ne _ _ _ hne']
            exact hitle.2 j hj
        -- the activation with the iterator's cell protected
        let A' : Act := { A with ghost := (fit.1, .closure (1000000 + idv)) :: A.ghost }
        have hA' : A'.OK G :=
          { hA with
            ghostN := fun p hp => by
              rcases List.mem_cons.mp hp with rfl | hp
              · exact ⟨hNit, name, _, hfitName, hitT⟩
              · exact hA.ghostN p hp }
        have hcellsB : memB.cells = (memH.set (A.mp - (A.σ fhv.1 : Int)) x).cells := rfl
        have g3B : GRel G A fhv.2.scopes fhv.2.vm (declScopes name x ([] :: s'.scopes)) memB :=
          (g3 x).cells_congr hcellsB
        have hcellB : memB.cells.lookup (A.mp - (A.σ fit.1 : Int)) = some (.closure (1000000 + idv)) := by
          rw [hcellsB, Mem.set_cells, lookup_memSet, if_neg (by omega)]; exact hcell
        have hrelB : GRel G A' fhv.2.scopes fhv.2.vm (roundSt name x s').scopes memB := by
          refine ⟨g3B.rel, g3B.key, fun p hp => ?_, fun p hp => ?_⟩
          · rcases List.mem_cons.mp hp with rfl | hp
            · exact hcellB
            · exact g3B.ghost p hp
          · rcases List.mem_cons.mp hp with rfl | hp
            · refine ⟨name, _, hfitName, ?_⟩
              show cnt env.vm ("$iter_" ++ name) < cnt fhv.2.vm ("$iter_" ++ name)
              refine Nat.lt_of_lt_of_le ?_ (hleH.vm _)
              rw [hFit, cnt_freshVar]; simp
            · exact g3B.ghostC p hp
        have hspR : SpecOK G A'.mp (roundSt name x s') :=
          hsp'.scopes_out _ (by rw [roundSt_frame]) (fun hi => by rw [roundSt_frame]; exact hi)
        -- the body, seen from where it starts
        have hPS := hPSs g (by omega) A' hA' ((aft.1, upd.1) :: loops) env.scopes 1 stmts fhv.2 hoks
          (fun y hy => hT y (Or.inr (Or.inr (Or.inr hy)))) hwS
          (by rw [hCS]; exact fun mm hm => hN mm (Or.inl (Or.inr hm))) (Nat.le_refl 1)
          (ip + nI CA.1 + nI CB.1 + 8) stk memB (roundSt name x s') (by rw [hCS]; exact hplS)
          ⟨hrelB, hspR, by rw [List.drop_one, hfhvsc]⟩ (ip + nI CA.1 + nI CB.1 + 8) memB (roundSt name x s') .refl
        simp only [A', hCS] at hPS
        generalize evalStmts G.cfg g stmts (roundSt name x s') = r at hPS ⊢
        obtain ⟨r, s1⟩ := r
        -- what the next round starts from
        have hnext : ∀ (mem3 : Mem), MemLe G.fr (A.mp - (A.nv : Int)) memB mem3 →
            s1 = { roundSt name x s' with scopes := s1.scopes, out := s1.out, heap := s1.heap } →
            Runs G.fr G.code G.lim G.s A.fn A.rest A.mp (ip + nI CA.1 + nI CB.1 + 8) stk memB (roundSt name x s').world
              (A.lab upd.1) stk mem3 s1.world →
            (ScopesRel A.T A.σ G.lim A.mp mem3.cells env.scopes s1.scopes.tail ∧
              GhostOK { A with ghost := (fit.1, .closure (1000000 + idv)) :: A.ghost } mem3) →
            Ends (.stmt G A loops lscopes d) ip0 stk mem0 st0 (ip + nI CA.1 + nI CB.1 + 8 + nI CS.1 + 1)
              (fun _ _ _ ys => ys = []) (fun st' mem' => GRel G A CS.2.scopes.tail CS.2.vm st'.scopes mem')
              (forRun G.cfg (g + 1) name xs (.mk bsp bty stmts none) { s1 with scopes := s1.scopes.tail }) := by
          intro mem3 hm3 hfr3 hrun3 hsr3
          have hle3 : ItLe memB.it mem3.it := hm3.it.le hfr
          refine ih (by omega) xs { s1 with scopes := s1.scopes.tail } mem3
            (hatB.trans ⟨hrun3.trans (hA.jump (by rw [eupd]; exact ijmp)), frame_pop _ s1 hfr3, hm3⟩)
            (hsp'.scopes_out _ (by rw [hfr3, roundSt_frame]) (fun hi => hrun3.inv (by rw [roundSt_frame]; exact hi)))
            (Nat.lt_of_lt_of_le hnextR hle3.1) (by rw [hle3.2 idv hnextR]; exact hlookR)
            (hsr3.2 _ (List.mem_cons_self ..)) ⟨hsr3.1, GhostOK.of_cons hsr3.2⟩
        cases r with
        | ok u =>
          obtain ⟨ys, mem3, rfl, hq, hat3⟩ := hPS
          refine hnext mem3 hat3.le hat3.frame (hat3.run.cast (by rw [eupd])) ⟨?_, hq.ghost⟩
          have := hq.rel.tail.scopes
          rw [hCSsc] at this
          exact this
        | error c =>
          cases c
          case brk =>
            obtain ⟨hfr3, mem3, hrun3, hml3, hsr3⟩ := hPS
            have hsr3' : ScopesRel A.T A.σ G.lim A.mp mem3.cells env.scopes s1.scopes.tail := by
              have := hsr3.1; rwa [List.drop_one] at this
            have hg := hrel.of_scopes (ss' := s1.scopes.tail) ⟨hsr3', GhostOK.of_cons hsr3.2⟩
            exact ⟨[], mem3, rfl, GRel.vm_mono (by rw [hCSsc]; exact hg) ((hleI.trans hleH).trans hleS).vm,
              hatB.trans ⟨hrun3.cast (by rw [eaft]), frame_pop _ s1 hfr3, hml3⟩⟩
          case cont =>
            obtain ⟨hfr3, mem3, hrun3, hml3, hsr3⟩ := hPS
            refine hnext mem3 hml3 hfr3 hrun3 ⟨?_, hsr3.2⟩
            have := hsr3.1; rwa [List.drop_one] at this
          case ret v =>
            obtain ⟨hrt, hfr3, mem3, o3, ho3, hrun3, hml3⟩ := hPS
            exact (Lvl.stmt G A loops lscopes d).after hatB.run hatB.frame hatB.le
              ⟨hrt, frame_pop _ s1 hfr3, mem3, o3, ho3, hrun3, hml3⟩
          case fatal kd fm fsp =>
            exact (Lvl.stmt G A loops lscopes d).after hatB.run hatB.frame hatB.le (fun hk => hPS hk)
          case unsupported | timeout => exact True.intro
          case throw msg tsp =>
            obtain ⟨hfr3, mem3, hT3, hml3, hsr3⟩ := hPS
            refine (Lvl.stmt G A loops lscopes d).after hatB.run hatB.frame hatB.le
              ⟨frame_pop _ s1 hfr3, mem3, hT3, hml3, ?_, GhostOK.of_cons hsr3.2⟩
            rw [hls]
            have := ScopesRel.drop d hsr3.1
            rwa [List.drop_one] at this
  -- from the first round on
  refine again (m + 1) (Nat.le_refl _) elems0 st2 memH0 hatH0 hsp2 (Nat.lt_succ_self idv)
    (by show ((idv, elems0) :: mem2.it.iters).lookup idv = _; simp)
    (by rw [Mem.set_cells, lookup_memSet]; simp)
    (by simp only [memH0, hfitName]
        exact ⟨(hrel2.set_fresh hA _ (hfitName ▸ hNit) _).rel.scopes, (hrel2.set_fresh hA _ (hfitName ▸ hNit) _).ghost⟩)

end HmsProofs.Sim
