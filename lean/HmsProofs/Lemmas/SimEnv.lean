import HmsProofs.Lemmas.SimLive
import HmsProofs.Lemmas.SimPureExec
/-!
# The relation between specification scopes, compiler scopes and VM memory

`ScopesRel`: level by level, every tracked identifier is bound on both sides or on neither, and
when bound its mangled name's slot holds the specification's value. `StRel` adds what tells two cells apart when
one of them is written (by `let` or by an assignment): the live mangled names are pairwise distinct, belong to the
name set `N` on which the slot assignment is injective, and are `mangleName`s with counters below the current ones.

How the preservation lemmas are built: the relation is read at the head of both stacks (`ScopesRel.cons_iff`; a
missing specification level counts as an empty one, so nothing splits on `[]`); a level changes in one way only
(`LevelRel.update`), fed by one `lookup` equation per primitive; the three fields of `StRel` that speak of the
compiler alone change only at `freshVar` (`StRel.fresh`).
-/
namespace HmsProofs.Sim
open Hms.Core Hms.Core.VM

abbrev SScopes := List (List (String × Val))

section Rel
variable (T : List String) (σ : String → Nat) (lim : Limits) (mp : Int)

/-- What `EnvRel` says of each identifier after resolving it. -/
def SlotOK (mem : List (Int × Val)) (m : String) (v : Val) : Prop :=
  0 ≤ mp - (σ m : Int) ∧ mp - (σ m : Int) < (lim.memory : Int) ∧ mem.lookup (mp - (σ m : Int)) = some v

def LevelRel (mem : List (Int × Val)) (csc : List (String × String)) (ssc : List (String × Val)) : Prop :=
  ∀ x ∈ T, match csc.lookup x, ssc.lookup x with
    | some m, some v => SlotOK σ lim mp mem m v
    | none, none => True
    | _, _ => False

/-- Innermost level first. The compiler may have more (outer) levels than the specification's
activation — the module-level scope around a function — provided they bind no tracked identifier. -/
def ScopesRel (mem : List (Int × Val)) : CScopes → SScopes → Prop
  | [], [] => True
  | c :: cs, s :: ss => LevelRel T σ lim mp mem c s ∧ ScopesRel mem cs ss
  | c :: cs, [] => (∀ x ∈ T, c.lookup x = none) ∧ ScopesRel mem cs []
  | [], _ :: _ => False

theorem LevelRel.nil_iff {mem} {c : List (String × String)} :
    LevelRel T σ lim mp mem c [] ↔ ∀ x ∈ T, c.lookup x = none := by
  unfold LevelRel
  refine forall₂_congr fun x _ => ?_
  cases c.lookup x <;> simp [List.lookup]

theorem ScopesRel.cons_iff {mem} {c : List (String × String)} {cs : CScopes} {ss : SScopes} :
    ScopesRel T σ lim mp mem (c :: cs) ss ↔
      LevelRel T σ lim mp mem c (ss.headD []) ∧ ScopesRel T σ lim mp mem cs ss.tail := by
  cases ss with
  | nil => exact and_congr_left' (LevelRel.nil_iff T σ lim mp).symm
  | cons s ss => exact Iff.rfl

theorem ScopesRel.lookup {mem} : ∀ {cs : CScopes} {ss : SScopes}, ScopesRel T σ lim mp mem cs ss →
    ∀ x ∈ T, match ρS cs x, lookupScopes x ss with
      | some m, some v => SlotOK σ lim mp mem m v ∧ m ∈ liveNames T cs
      | none, none => True
      | _, _ => False := by
  intro cs
  induction cs with
  | nil =>
    intro ss h x _
    cases ss with
    | nil => trivial
    | cons _ _ => exact h.elim
  | cons c cs ih =>
    intro ss h x hx
    obtain ⟨hl, hr⟩ := (ScopesRel.cons_iff T σ lim mp).mp h
    have hl := hl x hx
    have hr := ih hr x hx
    have e : lookupScopes x ss =
        match (ss.headD []).lookup x with | some v => some v | none => lookupScopes x ss.tail := by cases ss <;> rfl
    rw [e]
    simp only [ρS, List.findSome?_cons, liveNames, List.flatMap_cons, List.mem_append] at hr ⊢
    cases hc : c.lookup x <;> cases hs : (ss.headD []).lookup x <;> simp only [hc, hs] at hl ⊢
    · -- bound further out, or nowhere: the outer levels decide
      cases hf : List.findSome? (fun sc => List.lookup x sc) cs <;> cases hv : lookupScopes x ss.tail <;>
        simp only [hf, hv] at hr ⊢
      exact ⟨hr.1, Or.inr hr.2⟩
    · exact ⟨hl, Or.inl (lookup_mem_levelNames T c x _ hx hc)⟩

theorem ScopesRel.read {mem} {cs : CScopes} {ss : SScopes} (h : ScopesRel T σ lim mp mem cs ss) {x m : String}
    (hx : x ∈ T) (hρ : ρS cs x = some m) : ∃ v, lookupScopes x ss = some v ∧ SlotOK σ lim mp mem m v := by
  have hl := h.lookup T σ lim mp x hx
  rw [hρ] at hl
  cases hs : lookupScopes x ss with
  | none => rw [hs] at hl; exact hl.elim
  | some v => rw [hs] at hl; exact ⟨v, rfl, hl.1⟩

theorem ScopesRel.read_none {mem} {cs : CScopes} {ss : SScopes} (h : ScopesRel T σ lim mp mem cs ss) {x : String}
    (hx : x ∈ T) (hρ : ρS cs x = none) : lookupScopes x ss = none := by
  have hl := h.lookup T σ lim mp x hx
  rw [hρ] at hl
  cases hs : lookupScopes x ss with
  | none => rfl
  | some v => rw [hs] at hl; exact hl.elim

theorem ScopesRel.envRel {mem} {cs : CScopes} {ss : SScopes} (h : ScopesRel T σ lim mp mem cs ss)
    (xs : List String) (hT : ∀ x ∈ xs, x ∈ T) (hres : Frag.resolved cs xs = true) :
    EnvRel (ρS cs) σ lim xs ss mp mem := by
  intro x hx
  simp only [Frag.resolved, List.all_eq_true] at hres
  obtain ⟨m, hρ⟩ := Option.isSome_iff_exists.mp (hres x hx)
  obtain ⟨v, hv, h0, h1, h2⟩ := h.read T σ lim mp (hT x hx) hρ
  exact ⟨m, v, hρ, hv, h0, h1, h2⟩

theorem ScopesRel.push {mem} {cs : CScopes} {ss : SScopes} (h : ScopesRel T σ lim mp mem cs ss) :
    ScopesRel T σ lim mp mem ([] :: cs) ([] :: ss) :=
  ⟨fun _ _ => trivial, h⟩

theorem ScopesRel.tail {mem} {cs : CScopes} {ss : SScopes} (h : ScopesRel T σ lim mp mem cs ss) :
    ScopesRel T σ lim mp mem cs.tail ss.tail := by
  cases cs with
  | nil => cases ss with
    | nil => trivial
    | cons _ _ => exact h.elim
  | cons c cs => cases ss with
    | nil => exact h.2
    | cons s ss => exact h.2

theorem ScopesRel.head {mem} {cs : CScopes} {ss : SScopes} (h : ScopesRel T σ lim mp mem cs ss) :
    LevelRel T σ lim mp mem (cs.headD []) (ss.headD []) := by
  cases cs with
  | nil => cases ss with
    | nil => exact fun _ _ => trivial
    | cons _ _ => exact h.elim
  | cons c cs => exact ((ScopesRel.cons_iff T σ lim mp).mp h).1

theorem LevelRel.congr {mem} {c c' : List (String × String)} {s s' : List (String × Val)}
    (hc : ∀ y ∈ T, c'.lookup y = c.lookup y) (hs : ∀ y ∈ T, s'.lookup y = s.lookup y)
    (h : LevelRel T σ lim mp mem c s) : LevelRel T σ lim mp mem c' s' :=
  fun y hy => by rw [hc y hy, hs y hy]; exact h y hy

/-- The one change `let`, parameter passing and assignment make to a level: the binding of `x` is replaced on
both sides, by a name whose cell holds the new value; the other bindings and their cells stay. -/
theorem LevelRel.update {mem mem'} {c c' : List (String × String)} {s s' : List (String × Val)}
    {x m : String} {v : Val} (h : LevelRel T σ lim mp mem c s)
    (hc : ∀ y, c'.lookup y = if y = x then some m else c.lookup y)
    (hs : ∀ y, s'.lookup y = if y = x then some v else s.lookup y)
    (hv : SlotOK σ lim mp mem' m v)
    (hm : ∀ y ∈ T, y ≠ x → ∀ m2, c.lookup y = some m2 →
      mem'.lookup (mp - (σ m2 : Int)) = mem.lookup (mp - (σ m2 : Int))) :
    LevelRel T σ lim mp mem' c' s' := by
  intro y hy
  rw [hc, hs]
  by_cases hyx : y = x
  · rw [if_pos hyx, if_pos hyx]; exact hv
  · rw [if_neg hyx, if_neg hyx]
    have := h y hy
    cases hcy : c.lookup y with
    | none => rw [hcy] at this; cases hsy : s.lookup y <;> simp only [hsy] at this ⊢
    | some m2 =>
      cases hsy : s.lookup y with
      | none => simp only [hcy, hsy] at this
      | some w =>
        simp only [hcy, hsy] at this ⊢
        exact ⟨this.1, this.2.1, (hm y hy hyx m2 hcy).trans this.2.2⟩

theorem LevelRel.mem_congr {mem mem'} {c : List (String × String)} {s : List (String × Val)}
    (hm : ∀ m ∈ levelNames T c, mem'.lookup (mp - (σ m : Int)) = mem.lookup (mp - (σ m : Int)))
    (h : LevelRel T σ lim mp mem c s) : LevelRel T σ lim mp mem' c s := by
  intro x hx
  have := h x hx
  cases hc : c.lookup x with
  | none =>
    cases hs : s.lookup x with
    | none => trivial
    | some v => simp [hc, hs] at this
  | some m =>
    cases hs : s.lookup x with
    | none => simp [hc, hs] at this
    | some v =>
      simp only [hc, hs] at this ⊢
      exact ⟨this.1, this.2.1, by rw [hm m (lookup_mem_levelNames T c x m hx hc)]; exact this.2.2⟩

theorem ScopesRel.mem_congr {mem mem'} : ∀ {cs : CScopes} {ss : SScopes},
    (∀ m ∈ liveNames T cs, mem'.lookup (mp - (σ m : Int)) = mem.lookup (mp - (σ m : Int))) →
    ScopesRel T σ lim mp mem cs ss → ScopesRel T σ lim mp mem' cs ss := by
  intro cs
  induction cs with
  | nil => intro ss _ h; cases ss <;> exact h
  | cons c cs ih =>
    intro ss hm h
    simp only [liveNames, List.flatMap_cons, List.mem_append] at hm
    cases ss with
    | nil => exact ⟨h.1, ih (fun m hmm => hm m (Or.inr hmm)) h.2⟩
    | cons s ss =>
      exact ⟨h.1.mem_congr T σ lim mp (fun m hmm => hm m (Or.inl hmm)),
        ih (fun m hmm => hm m (Or.inr hmm)) h.2⟩

end Rel

/-- `memSet` on the memory component. -/
def memSetL (mem : List (Int × Val)) (a : Int) (v : Val) : List (Int × Val) :=
  (a, v) :: mem.filter (·.1 != a)

theorem lookup_memSet (mem : List (Int × Val)) (a b : Int) (v : Val) :
    (memSetL mem a v).lookup b = if b = a then some v else mem.lookup b := by
  unfold memSetL
  by_cases h : b = a
  · subst h; simp
  · simp only [List.lookup_cons, beq_false_of_ne h, h, if_false]
    exact lookup_filter_ne mem a b h

/-- What the slot assignment `σ` owes the frame at `mp`: injective on the names `N`, and every `N`-slot inside the
memory limit. `T` occurs in neither field: `Good T N σ lim mp` says the same for every `T`. -/
structure Good (T : List String) (N : String → Prop) (σ : String → Nat) (lim : Limits) (mp : Int) : Prop where
  inj : ∀ a b, N a → N b → σ a = σ b → a = b
  frame : ∀ m, N m → 0 ≤ mp - (σ m : Int) ∧ mp - (σ m : Int) < (lim.memory : Int)

theorem Good.slot_set {T N σ lim mp} (hg : Good T N σ lim mp) {m : String} (hN : N m) (mem : List (Int × Val))
    (v : Val) : SlotOK σ lim mp (memSetL mem (mp - (σ m : Int)) v) m v :=
  ⟨(hg.frame m hN).1, (hg.frame m hN).2, by rw [lookup_memSet, if_pos rfl]⟩

theorem Good.lookup_set_ne {T N σ lim mp} (hg : Good T N σ lim mp) {m m2 : String} (hN : N m) (hN2 : N m2)
    (hne : m2 ≠ m) (mem : List (Int × Val)) (v : Val) :
    (memSetL mem (mp - (σ m : Int)) v).lookup (mp - (σ m2 : Int)) = mem.lookup (mp - (σ m2 : Int)) := by
  have : σ m2 ≠ σ m := fun e => hne (hg.inj _ _ hN2 hN e)
  rw [lookup_memSet, if_neg (by omega)]

structure StRel (mod : String) (T : List String) (N : String → Prop) (σ : String → Nat) (lim : Limits)
    (mp : Int) (cs : CScopes) (vm : List (String × Nat)) (ss : SScopes) (mem : List (Int × Val)) : Prop where
  scopes : ScopesRel T σ lim mp mem cs ss
  nodup : (liveNames T cs).Nodup
  inN : ∀ m ∈ liveNames T cs, N m
  named : Named mod T vm cs

/-- The specification's `declare` on the scope stack. -/
def declScopes (x : String) (v : Val) : SScopes → SScopes
  | s :: rest => ((x, v) :: s) :: rest
  | [] => [[(x, v)]]

theorem declareSt_scopes (name v st) : (declareSt name v st).scopes = declScopes name v st.scopes := by
  unfold declareSt declScopes
  cases st.scopes <;> rfl

theorem declScopes_eq (x : String) (v : Val) (ss : SScopes) :
    declScopes x v ss = ((x, v) :: ss.headD []) :: ss.tail := by
  cases ss <;> rfl

/-- The part of the invariant that speaks of the compiler alone (distinct live names, all in `N`, all mangled below the
counters) after a declaration, tracked or not: what is left to show is the relation of the scopes. -/
theorem StRel.fresh {mod T N σ lim mp ss mem ss' mem'} {env : CEnv}
    (h : StRel mod T N σ lim mp env.scopes env.vm ss mem) (x : String) (hN : x ∈ T → N (freshVar mod env x).1)
    (hs : ScopesRel T σ lim mp mem' (freshVar mod env x).2.scopes ss') :
    StRel mod T N σ lim mp (freshVar mod env x).2.scopes (freshVar mod env x).2.vm ss' mem' := by
  refine ⟨hs, (liveNames_freshVar mod T env x).nodup
    (List.nodup_cons.mpr ⟨fun hm => fresh_ne_live h.named x _ hm rfl, h.nodup⟩), fun m hm => ?_, h.named.fresh x⟩
  by_cases hx : x ∈ T
  · rcases List.mem_cons.mp ((liveNames_freshVar mod T env x).subset hm) with rfl | hm
    · exact hN hx
    · exact h.inN m hm
  · exact h.inN m (liveNames_freshVar_ghost mod T env x hx ▸ hm)

/-- Writing the cell of a name the compiler has not handed out yet touches no live cell. -/
theorem StRel.set_fresh {mod T N σ lim mp cs vm ss mem} (hg : Good T N σ lim mp)
    (h : StRel mod T N σ lim mp cs vm ss mem) (x : String) (hN : N (mangleName mod x (cnt vm x))) (v : Val) :
    StRel mod T N σ lim mp cs vm ss (memSetL mem (mp - (σ (mangleName mod x (cnt vm x)) : Int)) v) :=
  ⟨h.scopes.mem_congr T σ lim mp fun m hm =>
    hg.lookup_set_ne hN (h.inN m hm) (fresh_ne_live h.named x m hm) mem v, h.nodup, h.inN, h.named⟩

/-- `let`: the cell of the fresh name is written (`set_fresh`), then the name is bound on both sides. -/
theorem StRel.declare {mod T N σ lim mp ss mem} {env : CEnv} (hg : Good T N σ lim mp)
    (h : StRel mod T N σ lim mp env.scopes env.vm ss mem) (x : String) (v : Val)
    (hN : N (freshVar mod env x).1) :
    StRel mod T N σ lim mp (freshVar mod env x).2.scopes (freshVar mod env x).2.vm (declScopes x v ss)
      (memSetL mem (mp - (σ (freshVar mod env x).1 : Int)) v) := by
  have h' := h.set_fresh hg x hN v
  refine h'.fresh x (fun _ => hN) ?_
  rw [freshVar_scopes, declScopes_eq]
  exact ⟨(h'.scopes.head T σ lim mp).update T σ lim mp (lookup_bind _ x · _) (lookup_cons_ite _ x · v)
    (hg.slot_set hN mem v) fun _ _ _ _ _ => rfl, h'.scopes.tail T σ lim mp⟩

/-- The compiler declares a variable the relation does not track (the iterator of a `for` loop):
nothing changes. -/
theorem StRel.fresh_untracked {mod T N σ lim mp ss mem} {env : CEnv}
    (h : StRel mod T N σ lim mp env.scopes env.vm ss mem) (x : String) (hx : x ∉ T) :
    StRel mod T N σ lim mp (freshVar mod env x).2.scopes (freshVar mod env x).2.vm ss mem := by
  refine h.fresh x (fun hxT => absurd hxT hx) ?_
  rw [freshVar_scopes]
  refine (ScopesRel.cons_iff T σ lim mp).mpr
    ⟨(h.scopes.head T σ lim mp).congr T σ lim mp (fun y hy => ?_) (fun _ _ => rfl), h.scopes.tail T σ lim mp⟩
  rw [lookup_bind, if_neg fun e : y = x => hx (e ▸ hy)]

/-- The per-entry update of `assignScopes`. -/
def assignMap (x : String) (v : Val) : String × Val → String × Val :=
  fun (k, old) => if k == x then (k, v) else (k, old)

theorem assignMap_mk (x : String) (v : Val) (k : String) (w : Val) :
    assignMap x v (k, w) = if k == x then (k, v) else (k, w) := rfl

theorem assignScopes_cons_some (x : String) (v : Val) (s : List (String × Val)) (ss : SScopes)
    (h : (s.lookup x).isSome = true) : assignScopes x v (s :: ss) = some (s.map (assignMap x v) :: ss) := by
  unfold assignScopes
  simp only [h, if_true]
  rfl

theorem assignScopes_cons_none (x : String) (v : Val) (s : List (String × Val)) (ss : SScopes)
    (h : s.lookup x = none) : assignScopes x v (s :: ss) = (assignScopes x v ss).map (s :: ·) := by
  rw [assignScopes]
  simp [h]

theorem lookup_assign (s : List (String × Val)) (x y : String) (v : Val) (h : (s.lookup x).isSome = true) :
    (s.map (assignMap x v)).lookup y = if y = x then some v else s.lookup y := by
  have e : assignMap x v = fun p => (p.1, if p.1 == x then v else p.2) := by
    funext ⟨k, w⟩; rw [assignMap_mk]; split <;> rfl
  rw [e, lookup_map_val (fun k old => if k == x then v else old)]
  by_cases e : y = x
  · subst e
    obtain ⟨w, hw⟩ := Option.isSome_iff_exists.mp h
    simp [hw]
  · cases s.lookup y <;> simp [e]

theorem assign_scopes {mod T N σ lim mp vm mem} (hg : Good T N σ lim mp) (x : String) (hx : x ∈ T)
    (m : String) (v : Val) : ∀ (cs : CScopes) (ss : SScopes),
    ScopesRel T σ lim mp mem cs ss → Named mod T vm cs → (liveNames T cs).Nodup →
    (∀ m ∈ liveNames T cs, N m) → ρS cs x = some m →
    ∃ ss', assignScopes x v ss = some ss' ∧
      ScopesRel T σ lim mp (memSetL mem (mp - (σ m : Int)) v) cs ss' := by
  intro cs
  induction cs with
  | nil => intro ss _ _ _ _ hρ; simp [ρS] at hρ
  | cons c cs ih =>
    intro ss hrel hnamed hnodup hinN hρ
    have hNm : N m := hinN m (ρS_mem_liveNames T _ x m hx hρ)
    -- the cells of the other live names keep their contents
    have hkeep : ∀ m2 ∈ liveNames T (c :: cs), m2 ≠ m → _ = mem.lookup (mp - (σ m2 : Int)) := fun m2 h2 hne =>
      hg.lookup_set_ne hNm (hinN m2 h2) hne mem v
    rw [liveNames_cons] at hnodup hkeep hinN
    -- names of this level differ from those further out
    have hdisj := (List.nodup_append.mp hnodup).2.2
    cases ss with
    | nil =>
      have := ScopesRel.lookup T σ lim mp hrel x hx
      rw [hρ] at this
      simp [lookupScopes] at this
    | cons s ss =>
      obtain ⟨hl, hrest⟩ := hrel
      have hlx := hl x hx
      simp only [ρS, List.findSome?_cons] at hρ
      cases hc : c.lookup x with
      | some m0 =>
        rw [hc] at hρ
        cases hρ
        cases hs : s.lookup x with
        | none => simp [hc, hs] at hlx
        | some v0 =>
          obtain ⟨c1, hc1, _⟩ := hnamed c (List.mem_cons_self ..) (x, m) (List.mem_of_lookup_eq_some hc) hx
          refine ⟨_, assignScopes_cons_some x v s ss (by simp [hs]),
            hl.update T σ lim mp (fun y => ?_) (lookup_assign s x · v (by simp [hs])) (hg.slot_set hNm mem v)
              fun y hy hyx m2 hcy => ?_,
            hrest.mem_congr T σ lim mp fun m2 h2 => hkeep m2 (List.mem_append_right _ h2) fun e =>
              hdisj m (lookup_mem_levelNames T c x m hx hc) m2 h2 e.symm⟩
          · split
            · rename_i e; rw [e, hc]
            · rfl
          · -- a binding of another identifier has another name
            refine hkeep m2 (List.mem_append_left _ (lookup_mem_levelNames T c y m2 hy hcy)) fun e => ?_
            obtain ⟨c2, hc2, _⟩ := hnamed c (List.mem_cons_self ..) (y, m2) (List.mem_of_lookup_eq_some hcy) hy
            exact hyx (mangleName_inj mod y x c2 c1 (hc2.symm.trans (e.trans hc1))).1
      | none =>
        rw [hc] at hρ
        cases hs : s.lookup x with
        | some v0 => simp [hc, hs] at hlx
        | none =>
          have hρ' : ρS cs x = some m := hρ
          obtain ⟨ss'', hass, hrel''⟩ := ih ss hrest (fun sc hsc => hnamed sc (List.mem_cons_of_mem _ hsc))
            (List.nodup_append.mp hnodup).2.1 (fun m2 h2 => hinN m2 (List.mem_append_right _ h2)) hρ'
          exact ⟨s :: ss'', by rw [assignScopes_cons_none x v s ss hs, hass]; rfl,
            hl.mem_congr T σ lim mp fun m2 h2 => hkeep m2 (List.mem_append_left _ h2) fun e =>
              hdisj m2 h2 m (ρS_mem_liveNames T cs x m hx hρ') e, hrel''⟩

theorem StRel.assign {mod T N σ lim mp cs vm ss mem} (hg : Good T N σ lim mp)
    (h : StRel mod T N σ lim mp cs vm ss mem) (x : String) (hx : x ∈ T) (m : String) (hρ : ρS cs x = some m)
    (v : Val) :
    ∃ ss', assignScopes x v ss = some ss' ∧
      StRel mod T N σ lim mp cs vm ss' (memSetL mem (mp - (σ m : Int)) v) := by
  obtain ⟨ss', h1, h2⟩ := assign_scopes hg x hx m v cs ss h.scopes h.named h.nodup h.inN hρ
  exact ⟨ss', h1, ⟨h2, h.nodup, h.inN, h.named⟩⟩

theorem StRel.push {mod T N σ lim mp cs vm ss mem} (h : StRel mod T N σ lim mp cs vm ss mem) :
    StRel mod T N σ lim mp ([] :: cs) vm ([] :: ss) mem := by
  have hl : liveNames T ([] :: cs) = liveNames T cs := liveNames_cons T [] cs
  refine ⟨h.scopes.push T σ lim mp, hl ▸ h.nodup, hl ▸ h.inN, fun sc hsc p hp hpT => ?_⟩
  rcases List.mem_cons.mp hsc with rfl | hsc
  · cases hp
  · exact h.named sc hsc p hp hpT

theorem StRel.tail {mod T N σ lim mp cs vm ss mem} (h : StRel mod T N σ lim mp cs vm ss mem) :
    StRel mod T N σ lim mp cs.tail vm ss.tail mem :=
  ⟨h.scopes.tail T σ lim mp, (liveNames_tail T cs).nodup h.nodup, fun m hm => h.inN m ((liveNames_tail T cs).subset hm),
    fun sc hsc p hp hpT => h.named sc (List.mem_of_mem_tail hsc) p hp hpT⟩

theorem StRel.vm_mono {mod T N σ lim mp cs vm vm' ss mem} (h : StRel mod T N σ lim mp cs vm ss mem)
    (hm : ∀ k, cnt vm k ≤ cnt vm' k) : StRel mod T N σ lim mp cs vm' ss mem := by
  refine ⟨h.scopes, h.nodup, h.inN, ?_⟩
  intro sc hsc p hp hpT
  obtain ⟨c, e, hlt⟩ := h.named sc hsc p hp hpT
  exact ⟨c, e, Nat.lt_of_lt_of_le hlt (hm _)⟩

theorem scopesRel_outer (T : List String) (σ : String → Nat) (lim : Limits) (mp : Int) (mem : List (Int × Val))
    (cs : CScopes) (h : ∀ sc ∈ cs, ∀ x ∈ T, sc.lookup x = none) : ScopesRel T σ lim mp mem cs [] := by
  induction cs with
  | nil => trivial
  | cons c cs ih => exact ⟨h c (by simp), ih (fun sc hsc => h sc (by simp [hsc]))⟩

/-- At function entry: no compiler scope binds a tracked identifier, the specification has one empty scope. -/
theorem StRel.unbound {mod T N σ lim mp vm mem} {c : List (String × String)} {rest : CScopes}
    (h : ∀ sc ∈ c :: rest, ∀ x ∈ T, sc.lookup x = none) : StRel mod T N σ lim mp (c :: rest) vm [[]] mem := by
  have hl := liveNames_of_unbound T _ h
  refine ⟨⟨(LevelRel.nil_iff T σ lim mp).mpr (h c (List.mem_cons_self ..)),
    scopesRel_outer T σ lim mp mem rest fun sc hsc => h sc (List.mem_cons_of_mem _ hsc)⟩,
    hl ▸ List.nodup_nil, (fun m hm => nomatch hl ▸ hm), fun sc hsc p hp hpT => ?_⟩
  have := List.lookup_eq_none_iff.mp (h sc hsc p.1 hpT) p hp
  simp at this

end HmsProofs.Sim
