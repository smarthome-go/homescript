import HmsProofs.Lemmas.SimHSyn
import HmsProofs.Lemmas.SimHStatic
/-!
# Label hygiene for the general fragment: every label of `cgFn …` is defined once

No lemma of `SimHStatic` is used here. It is imported because both modules take `cgS` apart
(`cgS.mutual_induct_unfolding`): the auxiliary declarations Lean makes on demand for the matches of `cgS`
(`cgS.match_3.congr_eq_1…`) would otherwise be made in both, and the two could not be imported together (`SimFrag` does).
-/
namespace HmsProofs.Sim
open Hms.Core Hms.Core.Comp

theorem definedLabels_litTests (sp : Span) (name : String) :
    ∀ (lits : List Expr), definedLabels (litTests sp name lits) = [] := by
  intro lits
  induction lits with
  | nil => rfl
  | cons l ls ih =>
    have hl : definedLabels (litCode l) = [] := by cases l <;> rfl
    simp only [litTests, definedLabels_rules, hl, ih, labelOf?, Option.toList, List.append_nil]

theorem armTests_lbl (mod : String) (sp : Span) : ∀ (arms : List (List Expr × Expr)) (lm : LM),
    definedLabels (armTests mod sp arms lm).1 = [] ∧
    LblInv mod lm (armTests mod sp arms lm).2.2 (armTests mod sp arms lm).2.1 := by
  intro arms
  induction arms with
  | nil => intro lm; exact ⟨rfl, LblInv.nil mod lm⟩
  | cons a rest ih =>
    intro lm
    obtain ⟨h1, h2⟩ := ih (freshLabel mod lm "case").2
    refine ⟨by simp only [armTests, definedLabels_append, definedLabels_litTests, h1, List.append_nil], ?_⟩
    simp only [armTests]
    exact (LblInv.single mod lm "case" (by decide)).append h2

theorem cgEls_labels (mod : String) (ρ : String → Option String) (sp : Span) : ∀ (xs : List Expr) (lm : LM),
    LblInv mod lm (cgEls mod ρ sp xs lm).2 (definedLabels (cgEls mod ρ sp xs lm).1) := by
  intro xs
  induction xs with
  | nil => intro lm; exact LblInv.nil mod lm
  | cons x xs ih =>
    intro lm
    have h1 := (cpE_labels mod ρ).1 x lm
    have h2 := ih (cpE mod ρ x lm).2
    simp only [cgEls, definedLabels_rules, labelOf?, Option.toList, List.append_nil]
    exact h1.append h2

theorem cgFields_labels (mod : String) (ρ : String → Option String) (sp : Span) :
    ∀ (fs : List (String × Expr)) (lm : LM),
    LblInv mod lm (cgFields mod ρ sp fs lm).2 (definedLabels (cgFields mod ρ sp fs lm).1) := by
  intro fs
  induction fs with
  | nil => intro lm; exact LblInv.nil mod lm
  | cons f fs ih =>
    intro lm
    have h1 := (cpE_labels mod ρ).1 f.2 lm
    have h2 := ih (cpE mod ρ f.2 lm).2
    simp only [cgFields, definedLabels_rules, labelOf?, Option.toList, List.nil_append, List.append_nil]
    exact h1.append h2

theorem definedLabels_opPre (op : Option InfixOp) (sp : Span) : definedLabels (opPre op sp) = [] := by
  cases op <;> rfl

theorem definedLabels_opPost (op : Option InfixOp) (sp : Span) : definedLabels (opPost op sp) = [] := by
  cases op <;> first | rfl | exact definedLabels_arithI _ _

theorem cgE_labels (mod : String) (ρ φ : String → Option String) :
    (∀ (e : Expr) (lm : LM), LblInv mod lm (cgE mod ρ φ e lm).2 (definedLabels (cgE mod ρ φ e lm).1)) ∧
    (∀ (sp : Span) (after : String) (arms : List (List Expr × Expr)) (nms : List String) (lm : LM),
      arms.length = nms.length →
      ∃ inner, LblInv mod lm (cgArms mod ρ φ sp after arms nms lm).2 inner ∧
        (definedLabels (cgArms mod ρ φ sp after arms nms lm).1).Perm (nms ++ inner)) ∧
    (∀ (args : List (String × Expr)) (lm : LM),
      LblInv mod lm (cgArgs mod ρ φ args lm).2 (definedLabels (cgArgs mod ρ φ args lm).1)) ∧
    (∀ (b : Block) (lm : LM), LblInv mod lm (cgB mod ρ φ b lm).2 (definedLabels (cgB mod ρ φ b lm).1)) := by
  refine cgE.mutual_induct_unfolding mod ρ φ
    (motive_1 := fun _ lm r => LblInv mod lm r.2 (definedLabels r.1))
    (motive_2 := fun _ _ arms nms lm r => arms.length = nms.length →
      ∃ inner, LblInv mod lm r.2 inner ∧ (definedLabels r.1).Perm (nms ++ inner))
    (motive_3 := fun _ lm r => LblInv mod lm r.2 (definedLabels r.1))
    (motive_4 := fun _ lm r => LblInv mod lm r.2 (definedLabels r.1))
    ?int ?bool ?str ?null ?none ?grouped ?ident ?pre ?cast ?or ?and ?arith ?ifE ?call ?matchE ?list ?index ?obj
    ?member ?meth ?other ?block ?blockOther ?argsNil ?argsCons ?armsCons ?armsOther
  case int | bool | str | null | none | other | blockOther | argsNil => intros; exact LblInv.nil mod _
  case grouped | block => intros; assumption
  case ident => intro sp ty name g f si lm; cases ρ name <;> exact LblInv.nil mod lm
  case pre | cast | member | meth | call =>
    intros; rename_i ih
    simpa only [definedLabels_rules, definedLabels_instr _ _ _ (preI_notLabel _), labelOf?, Option.toList, List.nil_append,
      List.append_nil] using ih
  case list =>
    intro sp ty xs lm
    simpa only [definedLabels_rules, labelOf?, Option.toList, List.nil_append]
      using cgEls_labels mod ρ sp xs lm
  case obj =>
    intro sp ty fs lm
    simpa only [definedLabels_rules, labelOf?, Option.toList, List.nil_append]
      using cgFields_labels mod ρ sp fs lm
  case arith =>
    intro sp ty op l r lm _ _ cl cr ihl ihr
    simpa only [definedLabels_append, definedLabels_arithI, List.append_nil] using ihl.append ihr
  case index =>
    intro sp ty b i lm cb ci ihb ihi
    simpa only [definedLabels_rules, labelOf?, Option.toList, List.nil_append, List.append_nil]
      using ihb.append ihi
  case argsCons =>
    intro a as lm iha ihe
    simpa only [definedLabels_append] using iha.append ihe
  case or =>
    intro sp ty l r lm rt af cl cr ihl ihr
    refine ((((LblInv.single mod lm "return_true" (by decide)).append
      (LblInv.single mod rt.2 "after_infix" (by decide))).append ihl).append ihr).of_count_le fun a => ?_
    simp only [rt, af, cl, cr, definedLabels_rules, labelOf?, Option.toList, List.nil_append]
    omega
  case and =>
    intro sp ty l r lm rf af cl cr ihl ihr
    refine ((((LblInv.single mod lm "return_false" (by decide)).append
      (LblInv.single mod rf.2 "after_infix" (by decide))).append ihl).append ihr).of_count_le fun a => ?_
    simp only [rf, af, cl, cr, definedLabels_rules, labelOf?, Option.toList, List.nil_append]
    omega
  case ifE =>
    intro sp ty c t eb lm cc after els ct ce ihc iht ihe
    refine ((((ihc.append (LblInv.single mod cc.2 "if_after" (by decide))).append
      (LblInv.single mod after.2 "else" (by decide))).append iht).append ihe).of_count_le fun a => ?_
    simp only [cc, after, els, ct, ce, definedLabels_rules, labelOf?, Option.toList, List.nil_append]
    omega
  case matchE =>
    intro sp ty c arms d lm cc after ts dfl bs cd ihc iha ihd
    obtain ⟨ht0, hts⟩ := armTests_lbl mod sp arms after.2
    obtain ⟨inner, hbs, hperm⟩ := iha (armTests_length mod sp arms after.2).symm
    refine (((((ihc.append (LblInv.single mod cc.2 "match_after" (by decide))).append hts).append
      (LblInv.single mod ts.2.2 "match_default" (by decide))).append hbs).append ihd).of_count_le fun a => ?_
    have hc := hperm.count_eq a
    simp only [cc, after, ts, dfl, bs, cd, definedLabels_rules, ht0, labelOf?, Option.toList, List.nil_append] at hc ⊢
    omega
  case armsCons =>
    intro sp after a rest nm nms lm ihe ihr hlen
    obtain ⟨inner, h2, hperm⟩ := ihr (by simpa using hlen)
    refine ⟨_, ihe.append h2, List.perm_iff_count.mpr fun x => ?_⟩
    have hc := hperm.count_eq x
    simp only [definedLabels_rules, labelOf?, Option.toList, List.nil_append] at hc ⊢
    omega
  case armsOther =>
    intro arms sp after nms lm hne hlen
    cases arms <;> cases nms <;>
      first | exact ⟨[], LblInv.nil mod lm, .refl _⟩ | exact (hne _ _ _ _ rfl rfl).elim | simp at hlen

theorem cgE_lbl (mod : String) (ρ φ : String → Option String) (e : Expr) (lm : LM) :
    LblInv mod lm (cgE mod ρ φ e lm).2 (definedLabels (cgE mod ρ φ e lm).1) :=
  (cgE_labels mod ρ φ).1 e lm

theorem cgArgs_lbl (mod : String) (ρ φ : String → Option String) (args : List (String × Expr)) (lm : LM) :
    LblInv mod lm (cgArgs mod ρ φ args lm).2 (definedLabels (cgArgs mod ρ φ args lm).1) :=
  (cgE_labels mod ρ φ).2.2.1 args lm

theorem cgS_labels (mod fn : String) (φ : String → Option String) :
    (∀ (loops : List (String × String)) (st : Stmt) (env : CEnv),
      LblInv mod env.lm (cgS mod fn φ loops st env).2.lm (definedLabels (cgS mod fn φ loops st env).1)) ∧
    (∀ (loops : List (String × String)) (sp : Span) (after : String) (arms : List (List Expr × Expr))
        (nms : List String) (env : CEnv), arms.length = nms.length →
      ∃ inner, LblInv mod env.lm (cgArmsS mod fn φ loops sp after arms nms env).2.lm inner ∧
        (definedLabels (cgArmsS mod fn φ loops sp after arms nms env).1).Perm (nms ++ inner)) ∧
    (∀ (loops : List (String × String)) (b : Block) (env : CEnv),
      LblInv mod env.lm (cgBS mod fn φ loops b env).2.lm (definedLabels (cgBS mod fn φ loops b env).1)) ∧
    (∀ (loops : List (String × String)) (ss : List Stmt) (env : CEnv),
      LblInv mod env.lm (cgSs mod fn φ loops ss env).2.lm (definedLabels (cgSs mod fn φ loops ss env).1)) := by
  refine cgS.mutual_induct_unfolding mod fn φ
    (motive_1 := fun _ _ env r => LblInv mod env.lm r.2.lm (definedLabels r.1))
    (motive_2 := fun _ _ _ arms nms env r => arms.length = nms.length →
      ∃ inner, LblInv mod env.lm r.2.lm inner ∧ (definedLabels r.1).Perm (nms ++ inner))
    (motive_3 := fun _ _ env r => LblInv mod env.lm r.2.lm (definedLabels r.1))
    (motive_4 := fun _ _ env r => LblInv mod env.lm r.2.lm (definedLabels r.1))
    ?letS ?assign ?opAssign ?idxAssign ?memAssign ?push ?ifElse ?ifThen ?tryCatch ?matchS ?throw ?println ?call
    ?whileS ?loopS ?forS ?brk ?cont ?ret ?other ?block ?blockOther ?armsBlock ?armsSkip ?armsOther ?stmtsNil ?stmtsCons
  case other | blockOther | stmtsNil => intros; exact LblInv.nil mod _
  case brk | cont => intro loops sp env; rcases loops with _ | ⟨⟨b, c⟩, _⟩ <;> exact LblInv.nil mod env.lm
  case block => intros; assumption
  case letS =>
    intro loops sp name vty oty e env ce fv
    simp only [definedLabels_rules, labelOf?, Option.toList, List.append_nil]
    exact cgE_lbl mod _ φ e env.lm
  case assign | ret =>
    intros
    simp only [definedLabels_rules, labelOf?, Option.toList, List.append_nil]
    exact cgE_lbl mod _ φ _ _
  case opAssign =>
    intro loops sp asp op isp ity name f r env m cr
    simp only [definedLabels_rules, definedLabels_arithI, labelOf?, Option.toList, List.nil_append, List.append_nil]
    exact cgE_lbl mod _ φ r env.lm
  case idxAssign | memAssign =>
    intro loops sp asp op _ _ b _ r env cl cr
    simp only [definedLabels_rules, definedLabels_opPre, definedLabels_opPost, labelOf?, Option.toList, List.append_nil]
    exact (cgE_lbl mod _ φ _ env.lm).append (cgE_lbl mod _ φ r _)
  case push =>
    intro loops sp csp cty msp mty b nm a env ca cb
    simp only [definedLabels_rules, labelOf?, Option.toList, List.append_nil]
    exact (cgE_lbl mod _ φ a.2 env.lm).append (cgE_lbl mod _ φ b _)
  case throw =>
    intro loops sp csp cty isp ity name g f si args sw env _ ca
    have hD : definedLabels (if cty.isNull = true then ([] : SCode) else [(Instr.drop, sp)]) = [] := by split <;> rfl
    simp only [definedLabels_rules, hD, labelOf?, Option.toList, List.append_nil]
    exact cgArgs_lbl mod _ φ args env.lm
  case println =>
    intro loops sp csp cty isp ity name g f si args sw env _ _ ca
    simp only [definedLabels_rules, labelOf?, Option.toList, List.append_nil]
    exact cgArgs_lbl mod _ φ args env.lm
  case call =>
    intro loops sp csp cty isp ity name g f si args sw env _ _ ce
    simp only [definedLabels_rules, labelOf?, Option.toList, List.append_nil]
    exact cgE_lbl mod _ φ _ env.lm
  case stmtsCons =>
    intro loops s ss env ihs ihss
    simpa only [definedLabels_append] using ihs.append ihss
  case ifElse =>
    intro loops sp isp ty c t eb env cc after els ct ce iht ihe
    refine (((((cgE_lbl mod _ φ c env.lm).append (LblInv.single mod cc.2 "if_after" (by decide))).append
      (LblInv.single mod after.2 "else" (by decide))).append iht).append ihe).of_count_le fun a => ?_
    simp only [cc, after, els, ct, ce, definedLabels_rules, labelOf?, Option.toList, List.nil_append]
    omega
  case ifThen =>
    intro loops sp isp ty c t env cc after els ct iht
    refine ((((cgE_lbl mod _ φ c env.lm).append (LblInv.single mod cc.2 "if_after" (by decide))).append
      (LblInv.single mod after.2 "else" (by decide))).append iht).of_count_le fun a => ?_
    simp only [cc, after, els, ct, definedLabels_rules, labelOf?, Option.toList, List.nil_append]
    omega
  case tryCatch =>
    intro loops sp tsp ty t ci csp cty cstmts env exc after ct fv cc iht ihc
    refine ((((LblInv.single mod env.lm "exception_label" (by decide)).append
      (LblInv.single mod exc.2 "after_catch_label" (by decide))).append iht).append ihc).of_count_le fun a => ?_
    simp only [exc, after, ct, fv, cc, definedLabels_rules, labelOf?, Option.toList, List.nil_append]
    omega
  case matchS =>
    intro loops sp msp ty c arms db env cc after ts dfl bs cd iha ihd
    obtain ⟨ht0, hts⟩ := armTests_lbl mod msp arms after.2
    obtain ⟨inner, hbs, hperm⟩ := iha (armTests_length mod msp arms after.2).symm
    refine ((((((cgE_lbl mod _ φ c env.lm).append (LblInv.single mod cc.2 "match_after" (by decide))).append hts).append
      (LblInv.single mod ts.2.2 "match_default" (by decide))).append hbs).append ihd).of_count_le fun a => ?_
    have hc := hperm.count_eq a
    simp only [cc, after, ts, dfl, bs, cd, definedLabels_rules, ht0, labelOf?, Option.toList, List.nil_append] at hc ⊢
    omega
  case whileS =>
    intro loops sp c body env head after cc cb ihb
    refine ((((LblInv.single mod env.lm "loop_head" (by decide)).append
      (LblInv.single mod head.2 "loop_end" (by decide))).append (cgE_lbl mod _ φ c after.2)).append ihb).of_count_le
      fun a => ?_
    simp only [head, after, cc, cb, definedLabels_rules, labelOf?, Option.toList, List.nil_append]
    omega
  case loopS =>
    intro loops sp body env head after cb ihb
    refine (((LblInv.single mod env.lm "loop_head" (by decide)).append
      (LblInv.single mod head.2 "loop_end" (by decide))).append ihb).of_count_le fun a => ?_
    simp only [head, after, cb, definedLabels_rules, labelOf?, Option.toList, List.nil_append]
    omega
  case forS =>
    intro loops sp name vty rsp a b incl bsp bty stmts env head upd after ca cb fit fhv cbody ih
    refine ((((((LblInv.single mod env.lm "loop_head" (by decide)).append
      (LblInv.single mod head.2 "loop_update" (by decide))).append
      (LblInv.single mod upd.2 "loop_end" (by decide))).append (cgE_lbl mod _ φ a after.2)).append
      (cgE_lbl mod _ φ b ca.2)).append ih).of_count_le fun x => ?_
    simp only [head, upd, after, ca, cb, fit, fhv, cbody, definedLabels_rules, labelOf?, Option.toList, List.nil_append]
    omega
  case armsBlock =>
    intro loops sp after lits b rest nm nms env ihb ihr hlen
    obtain ⟨inner, h2, hperm⟩ := ihr (by simpa using hlen)
    refine ⟨_, ihb.append h2, List.perm_iff_count.mpr fun x => ?_⟩
    have hc := hperm.count_eq x
    simp only [definedLabels_rules, labelOf?, Option.toList, List.nil_append] at hc ⊢
    omega
  case armsSkip =>
    intro loops sp after a rest nm nms env _ ihr hlen
    obtain ⟨inner, h2, hperm⟩ := ihr (by simpa using hlen)
    refine ⟨inner, h2, List.perm_iff_count.mpr fun x => ?_⟩
    have hc := hperm.count_eq x
    simp only [definedLabels_rules, labelOf?, Option.toList, List.nil_append] at hc ⊢
    omega
  case armsOther =>
    intro arms loops sp after nms env _ hne hlen
    cases arms <;> cases nms <;>
      first | exact ⟨[], LblInv.nil mod _, .refl _⟩ | exact (hne _ _ _ _ rfl rfl).elim | simp at hlen

theorem cgParams_lm (mod : String) (sp : Span) : ∀ (ps : List Param) (env : CEnv),
    (cgParams mod sp ps env).2.lm = env.lm ∧ definedLabels (cgParams mod sp ps env).1 = [] := by
  intro ps
  induction ps with
  | nil => intro env; exact ⟨rfl, rfl⟩
  | cons p ps ih =>
    intro env
    simp only [cgParams]
    split
    · exact ih env
    · obtain ⟨h1, h2⟩ := ih (freshVar mod env p.name).2
      refine ⟨h1.trans rfl, ?_⟩
      rw [definedLabels_cons]
      exact h2

theorem cgFn_labels_nodup (mod : String) (φ : String → Option String) (fd : FnDef) (stmts : List Stmt)
    (oe : Option Expr) (scopes0 : List (List (String × String))) (vm0 : List (String × Nat)) (lm0 : LM) :
    (definedLabels (cgFn mod φ fd stmts oe scopes0 vm0 lm0)).Nodup := by
  let P := fnParts mod φ fd stmts oe scopes0 vm0 lm0
  let env0 : CEnv := ⟨[] :: scopes0, vm0, lm0, 0⟩
  have h1 : LblInv mod (cgParams mod fd.sp fd.params env0).2.lm P.envB.lm [P.cleanup] :=
    LblInv.single mod (cgParams mod fd.sp fd.params env0).2.lm "cleanup" (by decide)
  have h2 : LblInv mod P.envB.lm P.envS.lm (definedLabels P.scode) := (cgS_labels mod fd.name φ).2.2.2 [] stmts P.envB
  have h3 : ∃ lm3, LblInv mod P.envS.lm lm3 (definedLabels P.ecode) := by
    cases oe with
    | none => exact ⟨_, LblInv.nil mod _⟩
    | some e => exact ⟨_, cgE_lbl mod _ φ e _⟩
  obtain ⟨lm3, h3⟩ := h3
  have hp : definedLabels P.pcode = [] := (cgParams_lm mod fd.sp fd.params env0).2
  refine (List.Perm.nodup_iff (List.perm_iff_count.mpr fun a => ?_)).mp ((h1.append h2).append h3).nodup
  show _ = List.count a (definedLabels ([(.addMp (P.envE.nv : Int), fd.sp)] ++ P.pcode ++ P.scode ++ P.ecode ++
    [(.label P.cleanup, fd.sp), (.addMp (-(P.envE.nv : Int)), fd.sp), (.ret, fd.sp)]))
  simp only [definedLabels_rules, hp, labelOf?, Option.toList, List.nil_append]
  omega

end HmsProofs.Sim
