import HmsProofs.Lemmas.SimLabels
import HmsProofs.Lemmas.SimPure
import HmsProofs.Lemmas.SimFresh
/-!
# Semantic correctness of pure expressions with control flow (`exec_pure`)

`&&`, `||` and `if`/`else` are compiled to jumps; given that the labels of the fragment resolve
to their positions (`Placed`), the VM follows the branch the specification takes.
-/
namespace HmsProofs.Sim
open Hms.Core Hms.Core.Comp Hms.Core.VM

/-- The simulation claim for one evaluation result `r` of the specification. `unsupported` / `timeout` (outside the
model): no claim; the last case is `False` because a pure expression never ends in `break`/`continue`/`return`/`throw`. -/
def SimP (code : Code) (lim : Limits) (s : VMState) (ip n : Nat) (stk : List SVal) (mem : List (Int × Val))
    (st : St) (r : Except Ctl Val × St) : Prop :=
  match r with
  | (.ok v, st') => st' = st ∧ RunsTo code lim s ip stk mem (ip + n) (⟨v, none⟩ :: stk) mem
  | (.error (.fatal kd m sp), st') => st' = st ∧ RunsFatal code lim s ip stk mem kd m sp
  | (.error (.unsupported _), _) => True
  | (.error .timeout, _) => True
  | _ => False

theorem SimP.error_after {code lim s ip n stk mem st c st1 ip1 stk1} (n' : Nat)
    (h0 : RunsTo code lim s ip stk mem ip1 stk1 mem)
    (h : SimP code lim s ip1 n stk1 mem st (.error c, st1)) : SimP code lim s ip n' stk mem st (.error c, st1) := by
  cases c <;> first | trivial | exact h.elim | exact ⟨h.1, h0.fatal h.2⟩

theorem SimP.error_n {code lim s ip n stk mem st c st1} (n' : Nat)
    (h : SimP code lim s ip n stk mem st (.error c, st1)) : SimP code lim s ip n' stk mem st (.error c, st1) :=
  SimP.error_after n' (RunsTo.refl code lim s ip stk mem) h

/-- A fragment inside a larger one: a run up to its start and, for a value, a run from its end that keeps the value. -/
theorem SimP.inside {code lim s ip n stk mem st r ip1 n1} (h : SimP code lim s ip1 n1 stk mem st r)
    (h0 : RunsTo code lim s ip stk mem ip1 stk mem)
    (h1 : ∀ x, RunsTo code lim s (ip1 + n1) (x :: stk) mem (ip + n) (x :: stk) mem) :
    SimP code lim s ip n stk mem st r := by
  obtain ⟨r, st1⟩ := r
  cases r with
  | error c => exact SimP.error_after _ h0 h
  | ok v => exact ⟨h.1, (h0.trans h.2).trans (h1 _)⟩

/-- The VM has no instruction for either end of a scope. -/
theorem SimP.inScope {code lim s ip n stk mem st} {m : M Val}
    (h : SimP code lim s ip n stk mem { st with scopes := [] :: st.scopes } (m { st with scopes := [] :: st.scopes })) :
    SimP code lim s ip n stk mem st (inScope m st) := by
  rw [inScope_run]
  generalize m { st with scopes := [] :: st.scopes } = r1 at h ⊢
  obtain ⟨r1, st1⟩ := r1
  cases r1 with
  | ok v => obtain ⟨rfl, hrun⟩ := h; exact ⟨rfl, hrun⟩
  | error c => cases c <;> first | exact h | exact ⟨h.1 ▸ rfl, h.2⟩

theorem EnvRel.pushed {ρ σ lim xs scopes mp mem} (h : EnvRel ρ σ lim xs scopes mp mem) :
    EnvRel ρ σ lim xs ([] :: scopes) mp mem := by
  intro x hx
  obtain ⟨m, v, h1, h2, h3⟩ := h x hx
  exact ⟨m, v, h1, by simpa [lookupScopes] using h2, h3⟩

/-- `||` is `pol = true`, `&&` is `pol = false`: the left value `pol` sends the test to `ipS`, where `pol` is pushed;
the other value lets it fall into the right operand at `ipB`, and a jump carries that operand's value past the push. -/
theorem SimP.logical {code lim s ip nA nB n' ipS ipB ipE stk mem st cfg n sp ty l r} (pol : Bool)
    (h1 : SimP code lim s ip nA stk mem st (evalExpr cfg n l st))
    (htest : ∀ b, RunsTo code lim s (ip + nA) (⟨.bool b, none⟩ :: stk) mem (if b = pol then ipS else ipB) stk mem)
    (hpush : RunsTo code lim s ipS stk mem ipE (⟨.bool pol, none⟩ :: stk) mem)
    (h2 : SimP code lim s ipB nB stk mem st (evalExpr cfg n r st))
    (hjmp : ∀ x, RunsTo code lim s (ipB + nB) (x :: stk) mem ipE (x :: stk) mem) (he : ip + n' = ipE) :
    SimP code lim s ip n' stk mem st (evalExpr cfg (n + 1) (.infix sp ty (if pol then .or else .and) l r) st) := by
  subst he
  rw [evalExpr_logical]
  rcases hel : evalExpr cfg n l st with ⟨r1, st1⟩
  rw [hel] at h1
  cases r1 with
  | error c1 => exact h1.error_n _
  | ok a =>
    obtain ⟨rfl, hrun⟩ := h1
    cases a <;> try trivial
    rename_i b
    have hpre := hrun.trans (htest b)
    simp only []
    by_cases hb : b = pol
    · rw [if_pos hb] at hpre ⊢
      exact ⟨rfl, hpre.trans hpush⟩
    · rw [if_neg hb] at hpre ⊢
      exact SimP.inside h2 hpre hjmp

theorem exec_arith (code : Code) (lim : Limits) (s : VMState) (f : Frame) (rest : List Frame)
    (c : List (RInstr × Span)) (σ lab : String → Nat) (hc : s.calls = f :: rest) (hf : findCode code f.fn = some c)
    (op : InfixOp) (sp : Span) (a b : Val) (oa ob : Option Org) (st : St) (ip : Nat) (stk : List SVal)
    (mem : List (Int × Val)) (hlog : Frag.isLogical op = false)
    (hpl : Placed lab σ c ip ((arithI op).map (·, sp))) (hheap : s.st.heap = st.heap) :
    match binOp op a b sp st with
    | (.ok v, _) =>
      RunsTo code lim s ip (⟨b, ob⟩ :: ⟨a, oa⟩ :: stk) mem (ip + nI ((arithI op).map (·, sp))) (⟨v, none⟩ :: stk) mem
    | (.error (.fatal kd m fsp), _) => RunsFatal code lim s ip (⟨b, ob⟩ :: ⟨a, oa⟩ :: stk) mem kd m fsp
    | (.error (.unsupported _), _) => True
    | (.error .timeout, _) => True
    | _ => False := by
  rcases arithI_cases op hlog with rfl | ⟨hne, i, hi⟩
  · simp only [arithI, List.map_cons, List.map_nil, Placed.cons_iff, Placed.nil_iff, nI_cons, nI_nil, and_true,
      Nat.add_zero, ← Nat.add_assoc] at hpl ⊢
    obtain ⟨ieq, inot⟩ := hpl
    have hbin := fun k => reach_bin code lim s ip k stk mem f rest c hc hf .eq .eq sp lab σ a b
      oa ob st rfl (by decide) ieq hheap
    rw [binOp_ne_run]
    simp only [binOp_eq_run] at hbin
    cases hv : valEq st.heap 64 a b with
    | none => trivial
    | some q =>
      simp only [hv] at hbin
      exact (RunsTo.of_exec1 hbin).trans (RunsTo.pre hc hf .not inot rfl)
  · rw [hi] at hpl ⊢
    simp only [List.map_cons, List.map_nil] at hpl ⊢
    have hil : isLabel i = false := by
      cases op <;> simp [arithI] at hi <;> subst hi <;> rfl
    obtain ⟨iop, _⟩ := hpl.instr hil
    have hbin := fun k => reach_bin code lim s ip k stk mem f rest c hc hf op i sp lab σ a b
      oa ob st hi hne iop hheap
    rcases hb : binOp op a b sp st with ⟨rb, st3⟩
    simp only [hb] at hbin
    cases rb with
    | ok v =>
      simp only [] at hbin
      refine (RunsTo.of_exec1 hbin).cast ?_
      rw [nI_instr _ _ _ hil]
      simp only [nI_nil]
    | error cb =>
      have hben := binOp_benign hb
      cases cb <;> first | trivial | exact hben.elim | skip
      simp only [] at hbin
      intro k
      -- `SameStoreM` to the conjuncts of `RunsFatal`: drop the memory
      obtain ⟨s', hs', h1, _, h3, h4, h5⟩ := hbin k
      exact ⟨1, s', by rw [execN_one]; exact hs', h1, h3, h4, h5⟩

theorem exec_pure (cfg : Cfg) (code : Code) (lim : Limits) (mod : String) (ρ : String → Option String)
    (σ lab : String → Nat) (s : VMState) (f : Frame) (rest : List Frame) (c : List (RInstr × Span))
    (hc : s.calls = f :: rest) (hf : findCode code f.fn = some c) :
    ∀ (fuel : Nat) (e : Expr) (st : St) (ip : Nat) (stk : List SVal) (mem : List (Int × Val)) (lm : LM),
      Frag.pureE e = true →
      Placed lab σ c ip (cpE mod ρ e lm).1 →
      EnvRel ρ σ lim (Frag.varsE e) st.scopes s.mp mem →
      s.st.heap = st.heap →
      SimP code lim s ip (nI (cpE mod ρ e lm).1) stk mem st (evalExpr cfg fuel e st) := by
  intro fuel
  -- strong induction: an `if` at fuel `n + 1` runs its blocks at `n`, and a block its final expression at `n - 1`
  induction fuel using Nat.strongRecOn with
  | _ fuel ih =>
  cases fuel with
  | zero =>
    intro e st ip stk mem lm _ _ _ _
    rw [evalExpr]; trivial
  | succ n =>
    intro e st ip stk mem lm hs hpl henv hheap
    have ihn := ih n (Nat.lt_succ_self n)
    have lit : ∀ (pv : PVal) (sp : Span) (v : Val), (∀ st, pvalToVal st pv = (v, st)) →
        Placed lab σ c ip [((Instr.copyPush pv : SInstr), sp)] →
        SimP code lim s ip (nI [((Instr.copyPush pv : SInstr), sp)]) stk mem st (.ok v, st) := by
      intro pv sp v hp hpl
      exact ⟨rfl, RunsTo.push hc hf (hpl.instr rfl).1 hp⟩
    have blockCase : ∀ (b : Block) (ip0 : Nat) (stk0 : List SVal) (lm0 : LM),
        Frag.pureB b = true → Placed lab σ c ip0 (cpB mod ρ b lm0).1 →
        EnvRel ρ σ lim (Frag.varsB b) st.scopes s.mp mem →
        SimP code lim s ip0 (nI (cpB mod ρ b lm0).1) stk0 mem st (inScope (evalBlock cfg n b) st) := by
      intro b ip0 stk0 lm0 hb hplb henvb
      obtain ⟨bsp, bty, stmts, oe⟩ := b
      cases stmts with
      | cons _ _ => simp [Frag.pureB] at hb
      | nil =>
        cases oe with
        | none => simp [Frag.pureB] at hb
        | some te =>
          simp only [Frag.pureB] at hb
          simp only [Frag.varsB] at henvb
          rw [cpB] at hplb ⊢
          refine SimP.inScope ?_
          match n, ih with
          | 0, _ => rw [evalBlock]; trivial
          | 1, _ => rw [evalBlock_one]; trivial
          | n' + 2, ih =>
            rw [evalBlock_pure]
            exact ih (n' + 1) (by omega) te { st with scopes := [] :: st.scopes } ip0 stk0 mem lm0 hb hplb henvb.pushed hheap
    cases e <;> try (simp only [Frag.pureE, Bool.false_eq_true] at hs)
    case int sp v => rw [evalExpr]; exact lit (.int v) sp _ (fun _ => rfl) hpl
    case bool sp b => rw [evalExpr]; exact lit (.bool b) sp _ (fun _ => rfl) hpl
    case str sp b => rw [evalExpr]; exact lit (.str b) sp _ (fun _ => rfl) hpl
    case null sp => rw [evalExpr]; exact lit .null sp _ (fun _ => rfl) hpl
    case none sp => rw [evalExpr]; exact lit .noneOpt sp _ (fun _ => rfl) hpl
    case grouped sp e =>
      rw [evalExpr]
      exact ihn e st ip stk mem lm hs hpl henv hheap
    case ident sp ty name isGlobal isFn isSingleton =>
      obtain ⟨m, v, hρ, hl, h0, h1, hm⟩ := henv name (by simp [Frag.varsE])
      rw [evalExpr_ident _ _ _ _ _ _ _ _ _ v hl]
      simp only [cpE, hρ] at hpl ⊢
      exact ⟨rfl, RunsTo.getVar hc hf (hpl.instr rfl).1 h0 h1 hm⟩
    case pre sp ty op e =>
      simp only [cpE] at hpl ⊢
      obtain ⟨hA, hB⟩ := hpl.append
      have hi := (hB.instr (preI_notLabel op)).1
      have h1 := ihn e st ip stk mem lm hs hA henv hheap
      have hn : nI ((cpE mod ρ e lm).1 ++ [(preI op, sp)]) = nI (cpE mod ρ e lm).1 + 1 := by
        rw [nI_append, nI_instr _ _ _ (preI_notLabel op)]; rfl
      rw [evalExpr_pre, hn]
      rcases he : evalExpr cfg n e st with ⟨r1, st1⟩
      rw [he] at h1
      cases r1 with
      | error c1 => exact h1.error_n _
      | ok a =>
        obtain ⟨rfl, hrun⟩ := h1
        simp only []
        cases hp : preOp op a with
        | error c' =>
          obtain ⟨w, rfl⟩ := preOp_error hp
          trivial
        | ok v =>
          refine ⟨rfl, (hrun.trans (RunsTo.pre hc hf op hi hp)).cast ?_⟩
          omega
    case «infix» sp ty op l r =>
      simp only [Bool.and_eq_true] at hs
      obtain ⟨hl, hr⟩ := hs
      have henvl : EnvRel ρ σ lim (Frag.varsE l) st.scopes s.mp mem :=
        henv.mono (by intro x hx; simp [Frag.varsE, hx])
      have henvr : EnvRel ρ σ lim (Frag.varsE r) st.scopes s.mp mem :=
        henv.mono (by intro x hx; simp [Frag.varsE, hx])
      by_cases hor : op = .or
      · subst hor
        simp only [cpE] at hpl ⊢
        unplace at hpl
        obtain ⟨hpA, inot, ijif, hpB, ijmp, ert, ipush, eaf⟩ := hpl
        rw [ert] at ijif
        rw [eaf] at ijmp
        exact SimP.logical true (ihn l st ip stk mem _ hl hpA henvl hheap)
          (fun b => ((RunsTo.pre (lab := lab) (σ := σ) hc hf .not inot rfl).trans (RunsTo.jumpIfFalse hc hf ijif)).cast
            (by cases b <;> rfl))
          (RunsTo.push hc hf ipush fun _ => rfl) (ihn r st _ stk mem _ hr hpB henvr hheap)
          (fun _ => RunsTo.jump hc hf ijmp) (by omega)
      · by_cases hand : op = .and
        · subst hand
          simp only [cpE] at hpl ⊢
          unplace at hpl
          obtain ⟨hpA, ijif, hpB, ijmp, erf, ipush, eaf⟩ := hpl
          rw [erf] at ijif
          rw [eaf] at ijmp
          exact SimP.logical false (ihn l st ip stk mem _ hl hpA henvl hheap)
            (fun b => (RunsTo.jumpIfFalse hc hf ijif).cast (by cases b <;> rfl))
            (RunsTo.push hc hf ipush fun _ => rfl) (ihn r st _ stk mem _ hr hpB henvr hheap)
            (fun _ => RunsTo.jump hc hf ijmp) (by omega)
        · have hlog : Frag.isLogical op = false := by
            cases op <;> first | rfl | exact absurd rfl hor | exact absurd rfl hand
          rw [cpE_infix _ _ _ _ _ _ _ _ hlog] at hpl ⊢
          simp only [] at hpl ⊢
          generalize hA : cpE mod ρ l lm = A at hpl ⊢
          generalize hB : cpE mod ρ r A.2 = B at hpl ⊢
          unplace at hpl
          obtain ⟨hpA, hpB, hY⟩ := hpl
          rw [evalExpr_infix _ _ _ _ _ _ _ _ (Frag.not_logical hlog)]
          have h1 := ihn l st ip stk mem _ hl (hA ▸ hpA) henvl hheap
          rw [hA] at h1
          rcases hel : evalExpr cfg n l st with ⟨r1, st1⟩
          rw [hel] at h1
          cases r1 with
          | error c1 => exact h1.error_n _
          | ok a =>
            obtain ⟨rfl, hrun⟩ := h1
            simp only []
            have h2 := ihn r st1 (ip + nI A.1) (⟨a, none⟩ :: stk) mem _ hr (hB ▸ hpB) henvr hheap
            rw [hB] at h2
            rcases her : evalExpr cfg n r st1 with ⟨r2, st2⟩
            rw [her] at h2
            cases r2 with
            | error c2 => exact SimP.error_after _ hrun h2
            | ok b =>
              obtain ⟨rfl, hrun2⟩ := h2
              simp only []
              have hrun12 := hrun.trans hrun2
              have ha := exec_arith code lim s f rest c σ lab hc hf op sp a b none none st2 _ stk mem hlog hY hheap
              rcases hb : binOp op a b sp st2 with ⟨rb, st3⟩
              obtain rfl := binOp_state hb
              rw [hb] at ha
              cases rb with
              | error cb => cases cb <;> first | trivial | exact ha.elim | exact ⟨rfl, hrun12.fatal ha⟩
              | ok v => exact ⟨rfl, (hrun12.trans ha).cast (by omega)⟩
    case ifE sp ty cnd t el =>
      cases el with
      | none => simp [Frag.pureE] at hs
      | some eb =>
        simp only [Frag.pureE, Bool.and_eq_true] at hs
        obtain ⟨⟨hcnd, ht⟩, he⟩ := hs
        have henvc : EnvRel ρ σ lim (Frag.varsE cnd) st.scopes s.mp mem :=
          henv.mono (by intro x hx; simp [Frag.varsE, hx])
        have henvt : EnvRel ρ σ lim (Frag.varsB t) st.scopes s.mp mem :=
          henv.mono (by intro x hx; simp [Frag.varsE, hx])
        have henve : EnvRel ρ σ lim (Frag.varsB eb) st.scopes s.mp mem :=
          henv.mono (by intro x hx; simp [Frag.varsE, hx])
        simp only [cpE] at hpl ⊢
        generalize hC : cpE mod ρ cnd lm = C at hpl ⊢
        generalize hAf : freshLabel mod C.2 "if_after" = aft at hpl ⊢
        generalize hEl : freshLabel mod aft.2 "else" = els at hpl ⊢
        generalize hT : cpB mod ρ t els.2 = T at hpl ⊢
        generalize hE : cpB mod ρ eb T.2 = E at hpl ⊢
        unplace at hpl
        obtain ⟨hpC, ijif, hpT, ijmp, eels, hpE, eaft⟩ := hpl
        rw [eels] at ijif
        rw [evalExpr_ifE_bind, M_bind]
        have h1 := ihn cnd st ip stk mem _ hcnd (hC ▸ hpC) henvc hheap
        rw [hC] at h1
        rcases hec : evalExpr cfg n cnd st with ⟨r1, st1⟩
        rw [hec] at h1
        cases r1 with
        | error c1 => exact h1.error_n _
        | ok a =>
          obtain ⟨rfl, hrun⟩ := h1
          cases a <;> try trivial
          rename_i b
          cases b with
          | true =>
            simp only []
            have h2 := blockCase t (ip + nI C.1 + 1) stk els.2 ht (hT ▸ hpT) henvt
            rw [hT] at h2
            exact SimP.inside h2 (hrun.trans (RunsTo.jumpIfFalse hc hf ijif)) fun _ =>
              (RunsTo.jump hc hf ijmp).cast (by omega)
          | false =>
            simp only []
            have h2 := blockCase eb (ip + nI C.1 + 1 + nI T.1 + 1) stk T.2 he (hE ▸ hpE) henve
            rw [hE] at h2
            exact SimP.inside h2 (hrun.trans (RunsTo.jumpIfFalse hc hf ijif)) fun _ =>
              (RunsTo.refl code lim s _ _ mem).cast (by omega)

theorem cpE_labels_disjoint (mod : String) (ρ : String → Option String) (e : Expr) (lm lm'' : LM)
    (ls : List String) (h : LblInv mod (cpE mod ρ e lm).2 lm'' ls) :
    ∀ l ∈ definedLabels (cpE mod ρ e lm).1, l ∉ ls := by
  have h1 := (cpE_labels mod ρ).1 e lm
  have := (List.nodup_append.mp (h1.append h).nodup).2.2
  intro l hl hl'
  exact this l hl l hl' rfl

/-- The three passes together. The function's symbolic code is `pre ++ code(e) ++ post`, `relocate` gives `r`, the VM
runs `renameVars r`; no label of `e`'s code is defined again in `post`. Then from instruction index `nI pre` the VM
simulates the specification's evaluation of `e` (`SimP`). -/
theorem compiled_pure_correct (cfg : Cfg) (code : Code) (lim : Limits) (mod : String)
    (ρ : String → Option String) (fuel : Nat) (e : Expr) (lm : LM) (st : St) (s : VMState)
    (f : Frame) (rest : List Frame) (pre post : SCode) (r : NCode) (stk : List SVal) (mem : List (Int × Val))
    (hs : Frag.pureE e = true)
    (hrel : relocate (pre ++ (cpE mod ρ e lm).1 ++ post) = some r)
    (hpost : ∀ l ∈ definedLabels (cpE mod ρ e lm).1, l ∉ definedLabels post)
    (hcalls : s.calls = f :: rest) (hfn : findCode code f.fn = some (renameVars r))
    (henv : EnvRel ρ (slotFn r) lim (Frag.varsE e) st.scopes s.mp mem) (hheap : s.st.heap = st.heap) :
    SimP code lim s (nI pre) (nI (cpE mod ρ e lm).1) stk mem st (evalExpr cfg fuel e st) :=
  exec_pure cfg code lim mod ρ (slotFn r) (labelIndex (pre ++ (cpE mod ρ e lm).1 ++ post)) s f rest
    (renameVars r) hcalls hfn fuel e st (nI pre) stk mem lm hs
    (placed_of_relocate pre _ post r hrel ((cpE_labels mod ρ).1 e lm).nodup hpost) henv hheap

end HmsProofs.Sim
