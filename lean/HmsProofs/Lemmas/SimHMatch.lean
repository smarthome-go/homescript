import HmsProofs.Lemmas.SimHExec
/-! `match` over literals. Which arm a value selects is a function of value and heap (`armsHit`); the specification's
`evalArms` goes on with that arm's body or with the default, the VM's tests jump to that arm's label or fall through,
and `armTests_choice` pairs the two. -/
namespace HmsProofs.Sim
open Hms.Core Hms.Core.Comp Hms.Core.VM

def litVal : Expr → Val
  | .int _ v => .int (I64.ofInt v)
  | .bool _ b => .bool b
  | .str _ s => .str s
  | _ => .null

/-- `none`: a comparison the model does not support (`valEq` at `64`, the fuel of the specification's `eqM`, gives no
answer); the specification then ends `unsupported`, and `litTests_run`/`armTests_run` claim nothing (`none => True`). -/
def litsHit (heap : Array Cell) (v : Val) : List Expr → Option Bool
  | [] => some false
  | l :: ls =>
    match valEq heap 64 (litVal l) v with
    | none => none
    | some true => some true
    | some false => litsHit heap v ls

/-- The index of the first arm one of whose literals equals `v` (`some none`: no arm). -/
def armsHit (heap : Array Cell) (v : Val) : List (List Expr × Expr) → Option (Option Nat)
  | [] => some none
  | a :: rest =>
    match litsHit heap v a.1 with
    | none => none
    | some true => some (some 0)
    | some false => (armsHit heap v rest).map (·.map (· + 1))

theorem evalExpr_lit (cfg : Cfg) (f : Nat) (l : Expr) (st : St) (h : Frag.litE l = true) :
    evalExpr cfg (f + 1) l st = (.ok (litVal l), st) := by
  cases l <;> simp [Frag.litE] at h <;> (rw [evalExpr]; rfl)

theorem anyLit_spec (cfg : Cfg) : ∀ (lits : List Expr) (fuel : Nat) (v : Val) (st : St),
    (∀ l ∈ lits, Frag.litE l = true) →
    anyLit cfg fuel v lits st = (.error .timeout, st) ∨
    anyLit cfg fuel v lits st = (match litsHit st.heap v lits with
      | some b => (.ok b, st)
      | none => (.error (.unsupported "equality of these values"), st)) := by
  intro lits
  induction lits with
  | nil =>
    intro fuel v st _
    cases fuel with
    | zero => left; rw [anyLit]; rfl
    | succ f => right; rw [anyLit]; rfl
  | cons l ls ih =>
    intro fuel v st h
    cases fuel with
    | zero => left; rw [anyLit]; rfl
    | succ f =>
      rw [anyLit_cons]
      cases f with
      | zero => left; rw [evalExpr]; rfl
      | succ f' =>
        rw [evalExpr_lit cfg f' l st (h l (by simp))]
        simp only [eqM_run, litsHit]
        cases valEq st.heap 64 (litVal l) v with
        | none => right; rfl
        | some b =>
          cases b with
          | true => right; rfl
          | false =>
            simp only []
            exact ih (f' + 1) v st (fun l' hl' => h l' (by simp [hl']))

theorem evalArms_spec (cfg : Cfg) : ∀ (arms : List (List Expr × Expr)) (fuel : Nat) (v : Val) (d : Expr) (st : St),
    (∀ a ∈ arms, ∀ l ∈ a.1, Frag.litE l = true) →
    evalArms cfg fuel v arms (some d) st = (.error .timeout, st) ∨
    (∃ msg, evalArms cfg fuel v arms (some d) st = (.error (.unsupported msg), st)) ∨
    (∃ i a f', arms[i]? = some a ∧ armsHit st.heap v arms = some (some i) ∧ f' < fuel ∧
      evalArms cfg fuel v arms (some d) st = evalExpr cfg f' a.2 st) ∨
    (armsHit st.heap v arms = some none ∧ ∃ f', f' < fuel ∧
      evalArms cfg fuel v arms (some d) st = evalExpr cfg f' d st) := by
  intro arms
  induction arms with
  | nil =>
    intro fuel v d st _
    cases fuel with
    | zero => left; rw [evalArms]; rfl
    | succ f => right; right; right; exact ⟨rfl, f, Nat.lt_succ_self f, by rw [evalArms]⟩
  | cons a rest ih =>
    intro fuel v d st h
    obtain ⟨lits, act⟩ := a
    cases fuel with
    | zero => left; rw [evalArms]; rfl
    | succ f =>
      rw [evalArms_cons]
      rcases anyLit_spec cfg lits f v st (fun l hl => h (lits, act) (by simp) l hl) with h1 | h1
      · left; rw [h1]
      · rw [h1]
        simp only [armsHit]
        cases litsHit st.heap v lits with
        | none => right; left; exact ⟨_, rfl⟩
        | some b =>
          cases b with
          | true => right; right; left; exact ⟨0, (lits, act), f, rfl, rfl, Nat.lt_succ_self f, rfl⟩
          | false =>
            simp only []
            rcases ih f v d st (fun a' ha' => h a' (by simp [ha'])) with h2 | ⟨msg, h2⟩ | ⟨i, a', f', hi, hh, hf, h2⟩ |
              ⟨hh, f', hf, h2⟩
            · left; exact h2
            · right; left; exact ⟨msg, h2⟩
            · right; right; left
              exact ⟨i + 1, a', f', by simpa using hi, by simp [hh], by omega, h2⟩
            · right; right; right
              exact ⟨by simp [hh], f', by omega, h2⟩

theorem mkS_eqPopOnce {code : Code} {lim : Limits} {s : VMState} {fn : String} {ip : Nat} {rest : List Frame}
    {mp : Int} {k : Nat} {stk : List SVal} {mem : List (Int × Val)} {out : World} {c : List (RInstr × Span)}
    (hf : findCode code fn = some c) (sp : Span) (l r : SVal) (b : Bool)
    (hx : c[ip]? = some (.eqPopOnce, sp)) (he : valEq out.heap 64 l.v r.v = some b) :
    exec1 code lim (mkS s (⟨fn, ip⟩ :: rest) mp k (l :: r :: stk) mem out) =
      .next (mkS s (⟨fn, ip + 1⟩ :: rest) mp (k + 1) (⟨.bool b, none⟩ :: r :: stk) mem out) := by
  rw [exec1_mkS hf hx]
  simp only [step, mkS, runM, eqM_run, he, advance, push1]

theorem litCode_notLabel (l : Expr) : ∀ p ∈ litCode l, isLabel p.1 = false := by
  intro p hp
  cases l <;> simp [litCode] at hp <;> (subst hp; rfl)

theorem lit_runs (G : GCtx) (A : Act) (hA : A.OK G) (l : Expr) (hl : Frag.litE l = true) (ip : Nat)
    (stk : List SVal) (mem : Mem) (w : World) (hpl : Placed A.lab A.σ A.c ip (litCode l)) :
    Runs G.fr G.code G.lim G.s A.fn A.rest A.mp ip stk mem w (ip + 1) (⟨litVal l, none⟩ :: stk) mem w := by
  cases l <;> simp [Frag.litE] at hl
  all_goals
    obtain ⟨ix, _⟩ := hpl.instr rfl
    exact hA.push _ ix (fun _ => rfl) stk mem w

theorem nI_litCode (l : Expr) (h : Frag.litE l = true) : nI (litCode l) = 1 := by
  cases l <;> simp [Frag.litE] at h <;> rfl

theorem litTests_run (G : GCtx) (A : Act) (hA : A.OK G) (sp : Span) (name : String) (cv : SVal)
    (stk : List SVal) (mem : Mem) (w : World) : ∀ (lits : List Expr) (ip : Nat),
    (∀ l ∈ lits, Frag.litE l = true) → Placed A.lab A.σ A.c ip (litTests sp name lits) →
    match litsHit w.heap cv.v lits with
    | some true => Runs G.fr G.code G.lim G.s A.fn A.rest A.mp ip (cv :: stk) mem w (A.lab name) (cv :: stk) mem w
    | some false => Runs G.fr G.code G.lim G.s A.fn A.rest A.mp ip (cv :: stk) mem w
        (ip + nI (litTests sp name lits)) (cv :: stk) mem w
    | none => True := by
  intro lits
  induction lits with
  | nil => intro ip _ _; exact (Runs.refl ip _ mem w).cast (by simp [litTests])
  | cons l ls ih =>
    intro ip hl hpl
    simp only [litTests] at hpl ⊢
    unplace at hpl
    rw [nI_litCode l (hl l (by simp))] at hpl ⊢
    obtain ⟨hplL, ieq, inot, ijif, hplR⟩ := hpl
    simp only [litsHit]
    have hpush := lit_runs G A hA l (hl l (by simp)) ip (cv :: stk) mem w hplL
    cases he : valEq w.heap 64 (litVal l) cv.v with
    | none => trivial
    | some b =>
      have heq := hA.step mem id fun _ _ =>
        mkS_eqPopOnce (stk := stk) (out := w) hA.code sp ⟨litVal l, none⟩ cv b ieq he
      have hnot : Runs G.fr G.code G.lim G.s A.fn A.rest A.mp (ip + 1 + 1) (⟨.bool b, none⟩ :: cv :: stk) mem w
          (ip + 1 + 1 + 1) (⟨.bool (!b), none⟩ :: cv :: stk) mem w := hA.pre (op := .not) inot rfl
      have hjif := hA.jumpIfFalse (stk := cv :: stk) (mem := mem) (out := w) (b := !b) (ob := none) ijif
      have hpre := ((hpush.trans heq).trans hnot).trans hjif
      cases b with
      | true =>
        simp only []
        exact hpre.cast (by simp)
      | false =>
        simp only []
        have hrest := ih (ip + 1 + 1 + 1 + 1) (fun l' hl' => hl l' (by simp [hl'])) hplR
        have hpre' : Runs G.fr G.code G.lim G.s A.fn A.rest A.mp ip (cv :: stk) mem w (ip + 1 + 1 + 1 + 1) (cv :: stk) mem w :=
          hpre.cast (by simp)
        cases hh : litsHit w.heap cv.v ls with
        | none => trivial
        | some b' =>
          rw [hh] at hrest
          cases b' with
          | true => exact hpre'.trans hrest
          | false => exact hpre'.trans hrest

theorem armTests_run (G : GCtx) (A : Act) (hA : A.OK G) (sp : Span) (cv : SVal)
    (stk : List SVal) (mem : Mem) (w : World) : ∀ (arms : List (List Expr × Expr)) (lm : LM) (ip : Nat),
    (∀ a ∈ arms, ∀ l ∈ a.1, Frag.litE l = true) → Placed A.lab A.σ A.c ip (armTests G.mod sp arms lm).1 →
    match armsHit w.heap cv.v arms with
    | some (some i) => ∃ nm, (armTests G.mod sp arms lm).2.1[i]? = some nm ∧
        Runs G.fr G.code G.lim G.s A.fn A.rest A.mp ip (cv :: stk) mem w (A.lab nm) (cv :: stk) mem w
    | some none => Runs G.fr G.code G.lim G.s A.fn A.rest A.mp ip (cv :: stk) mem w
        (ip + nI (armTests G.mod sp arms lm).1) (cv :: stk) mem w
    | none => True := by
  intro arms
  induction arms with
  | nil => intro lm ip _ _; exact (Runs.refl ip _ mem w).cast (by simp [armTests])
  | cons a rest ih =>
    intro lm ip hl hpl
    simp only [armTests] at hpl ⊢
    obtain ⟨hpl1, hpl2⟩ := hpl.append
    have h1 := litTests_run G A hA sp (freshLabel G.mod lm "case").1 cv stk mem w a.1 ip
      (fun l hl' => hl a (by simp) l hl') hpl1
    simp only [armsHit]
    cases hh : litsHit w.heap cv.v a.1 with
    | none => trivial
    | some b =>
      rw [hh] at h1
      cases b with
      | true => exact ⟨_, rfl, h1⟩
      | false =>
        simp only [] at h1 ⊢
        have h2 := ih (freshLabel G.mod lm "case").2 (ip + nI (litTests sp (freshLabel G.mod lm "case").1 a.1))
          (fun a' ha' => hl a' (by simp [ha'])) hpl2
        cases hr : armsHit w.heap cv.v rest with
        | none => trivial
        | some oi =>
          rw [hr] at h2
          cases oi with
          | none =>
            simp only [Option.map_some, Option.map_none] at h2 ⊢
            exact (h1.trans h2).cast (by rw [nI_append]; omega)
          | some i =>
            simp only [Option.map_some] at h2 ⊢
            obtain ⟨nm, hnm, hrun⟩ := h2
            exact ⟨nm, by simpa using hnm, h1.trans hrun⟩

/-- Timeout ∨ unsupported ∨ arm `i` hits (specification: its body at some `f' < fuel`; VM: at the arm's label `nm`) ∨ none
hits (specification: the default `d`; VM: behind the tests). `evalArms_spec` is the specification's half. -/
theorem armTests_choice (G : GCtx) (A : Act) (hA : A.OK G) (sp : Span) (cv : SVal) (stk : List SVal) (mem : Mem)
    (st : St) (arms : List (List Expr × Expr)) (d : Expr) (lm : LM) (ip fuel : Nat) {ts : SCode × List String × LM}
    (hl : ∀ a ∈ arms, ∀ l ∈ a.1, Frag.litE l = true) (hts : armTests G.mod sp arms lm = ts)
    (hpl : Placed A.lab A.σ A.c ip ts.1) :
    evalArms G.cfg fuel cv.v arms (some d) st = (.error .timeout, st) ∨
    (∃ msg, evalArms G.cfg fuel cv.v arms (some d) st = (.error (.unsupported msg), st)) ∨
    (∃ (i : Nat) (a : List Expr × Expr) (nm : String) (f' : Nat), arms[i]? = some a ∧ ts.2.1[i]? = some nm ∧ f' < fuel ∧
      evalArms G.cfg fuel cv.v arms (some d) st = evalExpr G.cfg f' a.2 st ∧
      Runs G.fr G.code G.lim G.s A.fn A.rest A.mp ip (cv :: stk) mem st.world (A.lab nm) (cv :: stk) mem st.world) ∨
    (∃ f', f' < fuel ∧ evalArms G.cfg fuel cv.v arms (some d) st = evalExpr G.cfg f' d st ∧
      Runs G.fr G.code G.lim G.s A.fn A.rest A.mp ip (cv :: stk) mem st.world (ip + nI ts.1) (cv :: stk) mem st.world) := by
  subst hts
  have htest := armTests_run G A hA sp cv stk mem st.world arms lm ip hl hpl
  rcases evalArms_spec G.cfg arms fuel cv.v d st hl with h | h | ⟨i, a, f', hi, hh, hf, h⟩ | ⟨hh, f', hf, h⟩
  · exact .inl h
  · exact .inr (.inl h)
  · rw [show armsHit st.world.heap cv.v arms = some (some i) from hh] at htest
    obtain ⟨nm, hnm, hrun⟩ := htest
    exact .inr (.inr (.inl ⟨i, a, nm, f', hi, hnm, hf, h, hrun⟩))
  · rw [show armsHit st.world.heap cv.v arms = some none from hh] at htest
    exact .inr (.inr (.inr ⟨f', hf, h, htest⟩))

theorem cgArms_at (A : Act) (mod : String) (ρ φ : String → Option String) (sp : Span) (after : String) :
    ∀ (arms : List (List Expr × Expr)) (nms : List String) (lm : LM) (ip : Nat), arms.length = nms.length →
    Placed A.lab A.σ A.c ip (cgArms mod ρ φ sp after arms nms lm).1 →
    ∀ (i : Nat) (a : List Expr × Expr) (nm : String), arms[i]? = some a → nms[i]? = some nm →
      ∃ lmi, A.c[A.lab nm]? = some (.drop, sp) ∧ Placed A.lab A.σ A.c (A.lab nm + 1) (cgE mod ρ φ a.2 lmi).1 ∧
        A.c[A.lab nm + 1 + nI (cgE mod ρ φ a.2 lmi).1]? = some (.jump (A.lab after), sp) := by
  intro arms
  induction arms with
  | nil => intro nms lm ip _ _ i a nm hi; simp at hi
  | cons a0 rest ih =>
    intro nms lm ip hlen hpl i a nm hi hn
    cases nms with
    | nil => simp at hlen
    | cons n0 nms' =>
      simp only [cgArms] at hpl
      unplace at hpl
      obtain ⟨elb, idrop, hplB, ijmp, hplR⟩ := hpl
      cases i with
      | zero =>
        simp only [List.getElem?_cons_zero, Option.some.injEq] at hi hn
        subst hi; subst hn
        rw [elb]
        exact ⟨lm, idrop, hplB, ijmp⟩
      | succ j =>
        simp only [List.getElem?_cons_succ] at hi hn
        exact ih nms' _ _ (by simpa using hlen) hplR j a nm hi hn

end HmsProofs.Sim
