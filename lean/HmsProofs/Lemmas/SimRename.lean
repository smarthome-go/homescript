import HmsProofs.Lemmas.SimReloc
import HmsProofs.Lemmas.ListAux
/-! `Comp.renameVars` (Go: `renameVariables`): `renameVars code = code.map (mapLV id (slotFn code))`, where `slotFn code`
is injective on the names occurring in `code`, with values below the number of distinct names. -/
namespace HmsProofs.Sim
open Hms.Core Hms.Core.Comp

abbrev NCode := List (Instr Nat String × Span)

def slotOf (slots : List (String × Nat)) (v : String) : List (String × Nat) × Nat :=
  match slots.lookup v with
  | some n => (slots, n)
  | none => (slots ++ [(v, slots.length)], slots.length)

def renStep (acc : List (String × Nat) × List (RInstr × Span)) (x : Instr Nat String × Span) :
    List (String × Nat) × List (RInstr × Span) :=
  match var? x.1 with
  | some v => ((slotOf acc.1 v).1, acc.2 ++ [(mapLV id (fun _ => (slotOf acc.1 v).2) x.1, x.2)])
  | none => (acc.1, acc.2 ++ [(mapLV id (fun _ => 0) x.1, x.2)])

theorem renameVars_eq_foldl (code : NCode) : renameVars code = (code.foldl renStep ([], [])).2 := by
  unfold renameVars
  simp only []
  congr 2
  funext ⟨slots, out⟩ ⟨i, sp⟩
  cases i
  case getVar v | setVar v =>
    simp only [renStep, var?, mapLV, slotOf]
    cases List.lookup v slots <;> rfl
  all_goals rfl

def varNames (code : NCode) : List String := code.filterMap fun p => var? p.1

def slotTable (code : NCode) : List (String × Nat) := (code.foldl renStep ([], [])).1

def slotFn (code : NCode) (v : String) : Nat := ((slotTable code).lookup v).getD 0

theorem slotOf_lookup (slots : List (String × Nat)) (v : String) :
    (slotOf slots v).1.lookup v = some (slotOf slots v).2 := by
  unfold slotOf
  cases h : slots.lookup v with
  | some n => simp [h]
  | none => simp [List.lookup_append, h]

theorem slotOf_prefix (slots : List (String × Nat)) (v : String) :
    ∃ ext, (slotOf slots v).1 = slots ++ ext := by
  unfold slotOf
  cases h : slots.lookup v with
  | some n => exact ⟨[], by simp⟩
  | none => exact ⟨_, rfl⟩

theorem renStep_prefix (acc) (x : Instr Nat String × Span) : ∃ ext, (renStep acc x).1 = acc.1 ++ ext := by
  unfold renStep
  cases h : var? x.1 with
  | some v => exact slotOf_prefix _ _
  | none => exact ⟨[], by simp⟩

theorem foldl_prefix (code : NCode) : ∀ acc, ∃ ext, (code.foldl renStep acc).1 = acc.1 ++ ext := by
  induction code with
  | nil => intro acc; exact ⟨[], by simp⟩
  | cons x code ih =>
    intro acc
    obtain ⟨e1, h1⟩ := renStep_prefix acc x
    obtain ⟨e2, h2⟩ := ih (renStep acc x)
    exact ⟨e1 ++ e2, by rw [List.foldl_cons, h2, h1, List.append_assoc]⟩

/-- The fold as a `map` with the *final* table. -/
theorem foldl_renStep (code : NCode) : ∀ acc,
    (code.foldl renStep acc).2 =
      acc.2 ++ code.map fun p =>
        (mapLV id (fun v => (((code.foldl renStep acc).1).lookup v).getD 0) p.1, p.2) := by
  induction code with
  | nil => intro acc; simp
  | cons x code ih =>
    intro acc
    rw [List.foldl_cons, ih (renStep acc x), List.map_cons]
    obtain ⟨ext, hext⟩ := foldl_prefix code (renStep acc x)
    have hx : (renStep acc x).2 =
        acc.2 ++ [(mapLV id (fun v => (((code.foldl renStep (renStep acc x)).1).lookup v).getD 0) x.1, x.2)] := by
      unfold renStep at hext ⊢
      cases hv : var? x.1 with
      | some v =>
        simp only [hv] at hext ⊢
        have : ((slotOf acc.1 v).1 ++ ext).lookup v = some (slotOf acc.1 v).2 := by
          simp [List.lookup_append, slotOf_lookup]
        rw [← hext] at this
        congr 3
        apply mapLV_congr
        · intros; rfl
        · intros; rfl
        · intro w hw
          rw [hv] at hw
          cases hw
          simp [this]
      | none =>
        simp only
        congr 3
        apply mapLV_congr
        · intros; rfl
        · intros; rfl
        · intro w hw; rw [hv] at hw; cases hw
    rw [hx]
    simp

theorem renameVars_eq_map (code : NCode) :
    renameVars code = code.map fun p => (mapLV id (slotFn code) p.1, p.2) := by
  rw [renameVars_eq_foldl, foldl_renStep]
  rfl

theorem renameVars_length (code : NCode) : (renameVars code).length = code.length := by
  simp [renameVars_eq_map]

theorem renameVars_spans (code : NCode) : (renameVars code).map (·.2) = code.map (·.2) := by
  simp [renameVars_eq_map, Function.comp_def]

theorem renameVars_getElem? (code : NCode) (k : Nat) :
    (renameVars code)[k]? = (code[k]?).map fun p => (mapLV id (slotFn code) p.1, p.2) := by
  simp [renameVars_eq_map]

structure TblInv (slots : List (String × Nat)) (names : List String) : Prop where
  lt : ∀ v n, slots.lookup v = some n → n < slots.length
  inj : ∀ v w n, slots.lookup v = some n → slots.lookup w = some n → v = w
  nodup : (slots.map Prod.fst).Nodup
  dom : ∀ v, v ∈ slots.map Prod.fst ↔ v ∈ names

theorem TblInv.slotOf {slots names} (h : TblInv slots names) (v : String) :
    TblInv (slotOf slots v).1 (names ++ [v]) := by
  unfold Sim.slotOf
  cases hl : slots.lookup v with
  | some n =>
    simp only
    have hv : v ∈ slots.map Prod.fst := List.lookup_key_mem hl
    refine ⟨h.lt, h.inj, h.nodup, ?_⟩
    intro w
    simp only [List.mem_append, List.mem_singleton, h.dom w]
    constructor
    · exact Or.inl
    · rintro (hw | rfl)
      · exact hw
      · exact (h.dom _).mp hv
  | none =>
    simp only
    have hnm := List.lookup_eq_none_iff_not_mem_keys.mp hl
    have key : ∀ w n, (slots ++ [(v, slots.length)]).lookup w = some n →
        slots.lookup w = some n ∨ (w = v ∧ n = slots.length) := by
      intro w n hw
      rw [List.lookup_append] at hw
      cases hs : slots.lookup w with
      | some m => left; simpa [hs] using hw
      | none =>
        right
        simp only [hs, Option.none_or, List.lookup_cons, List.lookup_nil] at hw
        split at hw
        · rename_i heq
          simp at heq hw
          exact ⟨heq, hw.symm⟩
        · cases hw
    refine ⟨?_, ?_, ?_, ?_⟩
    · intro w n hw
      rcases key w n hw with h1 | ⟨_, rfl⟩
      · have := h.lt w n h1; simp; omega
      · simp
    · intro w w' n hw hw'
      rcases key w n hw with h1 | ⟨e1, e1'⟩ <;> rcases key w' n hw' with h2 | ⟨e2, e2'⟩
      · exact h.inj w w' n h1 h2
      · have := h.lt w _ h1; omega
      · have := h.lt w' _ h2; omega
      · rw [e1, e2]
    · simp only [List.map_append, List.map_cons, List.map_nil]
      rw [List.nodup_append]
      refine ⟨h.nodup, by simp, ?_⟩
      intro a ha b hb
      simp only [List.mem_singleton] at hb
      subst hb
      intro e; subst e
      exact hnm ha
    · intro w
      simp only [List.map_append, List.map_cons, List.map_nil, List.mem_append, List.mem_singleton, h.dom w]

theorem TblInv.renStep {acc names} (h : TblInv acc.1 names) (x : Instr Nat String × Span) :
    TblInv (renStep acc x).1 (names ++ varNames [x]) := by
  unfold Sim.renStep varNames
  cases hv : var? x.1 with
  | some v => simpa [hv] using h.slotOf v
  | none => simpa [hv] using h

theorem TblInv.foldl (code : NCode) : ∀ {acc names}, TblInv acc.1 names →
    TblInv (code.foldl Sim.renStep acc).1 (names ++ varNames code) := by
  induction code with
  | nil => intro acc names h; simpa [varNames] using h
  | cons x code ih =>
    intro acc names h
    have := ih (h.renStep x)
    rw [List.append_assoc] at this
    have e : varNames [x] ++ varNames code = varNames (x :: code) := by
      simp [varNames, ← List.filterMap_append]
    rw [e] at this
    exact this

theorem slotTable_inv (code : NCode) : TblInv (slotTable code) (varNames code) := by
  have : TblInv ([] : List (String × Nat)) [] :=
    ⟨by simp, by simp, by simp, by simp⟩
  simpa [slotTable] using TblInv.foldl code (acc := ([], [])) this

/-- The distinct names of `code`, in order of first occurrence: slot `k` belongs to the `k`-th. -/
def distinctNames (code : NCode) : List String := (slotTable code).map Prod.fst

theorem distinctNames_nodup (code : NCode) : (distinctNames code).Nodup := (slotTable_inv code).nodup

theorem mem_distinctNames (code : NCode) (v : String) : v ∈ distinctNames code ↔ v ∈ varNames code :=
  (slotTable_inv code).dom v

theorem slotTable_lookup (code : NCode) (v : String) (hv : v ∈ varNames code) :
    (slotTable code).lookup v = some (slotFn code v) := by
  have := List.lookup_isSome_iff_mem_keys.mpr ((mem_distinctNames code v).mpr hv)
  unfold slotFn
  cases h : (slotTable code).lookup v with
  | some n => rfl
  | none => simp [h] at this

theorem slotFn_lt (code : NCode) (v : String) (hv : v ∈ varNames code) :
    slotFn code v < (distinctNames code).length := by
  have := (slotTable_inv code).lt v _ (slotTable_lookup code v hv)
  simpa [distinctNames] using this

theorem slotFn_inj (code : NCode) (v w : String) (hv : v ∈ varNames code) (hw : w ∈ varNames code) :
    slotFn code v = slotFn code w ↔ v = w := by
  constructor
  · intro h
    refine (slotTable_inv code).inj v w _ (slotTable_lookup code v hv) ?_
    rw [h]; exact slotTable_lookup code w hw
  · rintro rfl; rfl

/-- `varNames` for symbolic code (labels still in place, before `relocate`), where the compiler lemmas speak of the
variables; `varNames_relocate` joins the two. -/
def codeVars (frag : SCode) : List String := frag.filterMap fun p => var? p.1

@[simp] theorem codeVars_append (a b : SCode) : codeVars (a ++ b) = codeVars a ++ codeVars b := by
  simp [codeVars]

theorem codeVars_stripLabels (code : SCode) : codeVars (stripLabels code) = codeVars code := by
  induction code with
  | nil => rfl
  | cons p code ih =>
    obtain ⟨i, sp⟩ := p
    cases hl : isLabel i with
    | true =>
      obtain ⟨l, rfl⟩ := (isLabel_iff i).mp hl
      rw [stripLabels_cons_label]
      simpa [codeVars, var?] using ih
    | false =>
      rw [stripLabels_cons_other _ _ _ hl]
      simp only [codeVars, List.filterMap_cons] at ih ⊢
      rw [ih]

theorem varNames_relocate (code : SCode) (r : NCode) (h : relocate code = some r) :
    varNames r = codeVars code := by
  rw [relocate_some code r h, ← codeVars_stripLabels]
  unfold varNames codeVars
  rw [List.filterMap_map]
  congr 1
  funext p
  simp [resolve, var?_mapLV]

end HmsProofs.Sim
