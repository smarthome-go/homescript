import HmsProofs.Lemmas.SimHList
/-! Object literals `new { k: e, … }`. The VM allocates the object first — `Cloning_Push` of a template whose fields are
`null` — and then assigns every field through its member (`Dup; Member k; code(e); Assign`); the specification evaluates
the initializers and allocates afterwards. With pure initializers (atoms) and distinct field names both end with the same
cell at the same address. -/
namespace HmsProofs.Sim
open Hms.Core Hms.Core.Comp Hms.Core.VM

theorem pvalToVal_nulls (st : St) (ks : List String) :
    pvalToVal st (.obj (ks.map fun k => (k, PVal.null))) =
      (.ref st.heap.size, { st with heap := st.heap.push (.obj (ks.map fun k => (k, Val.null))) }) := by
  have key : ∀ (f : List (String × Val) × St → String × PVal → List (String × Val) × St),
      (∀ acc k, f acc (k, PVal.null) = (acc.1 ++ [(k, Val.null)], acc.2)) →
      ∀ (ks : List String) (acc : List (String × Val)),
        (ks.map fun k => (k, PVal.null)).foldl f (acc, st) = (acc ++ ks.map fun k => (k, Val.null), st) := by
    intro f hf ks
    induction ks with
    | nil => intro acc; simp
    | cons k ks ih => intro acc; rw [List.map_cons, List.foldl_cons, hf, ih]; simp
  unfold pvalToVal
  simp only []
  rw [key _ (fun _ _ => rfl)]
  rfl

theorem mkS_cloningPush_obj {code : Code} {lim : Limits} {s : VMState} {fn : String} {ip : Nat}
    {rest : List Frame} {mp : Int} {k : Nat} {stk : List SVal} {mem : List (Int × Val)} {out : World}
    {c : List (RInstr × Span)} (hf : findCode code fn = some c) (sp : Span) (ks : List String)
    (hx : c[ip]? = some (.cloningPush (.obj (ks.map fun k => (k, PVal.null))), sp)) :
    exec1 code lim (mkS s (⟨fn, ip⟩ :: rest) mp k stk mem out) =
      .next (mkS s (⟨fn, ip + 1⟩ :: rest) mp (k + 1) (⟨.ref out.heap.size, none⟩ :: stk) mem
        ⟨out.heap.push (.obj (ks.map fun k => (k, Val.null))), out.out⟩) := by
  rw [exec1_mkS hf hx]
  simp only [step, mkS]
  rw [pvalToVal_nulls]
  rfl

theorem lookup_append_not_mem {β} (pre : List (String × β)) (k : String) (x : β) (post : List (String × β))
    (h : k ∉ pre.map (·.1)) : (pre ++ (k, x) :: post).lookup k = some x := by
  rw [List.lookup_append, List.lookup_eq_none_iff_not_mem_keys.mpr h]
  simp

theorem lookup_nulls (fs : List (String × Expr)) (k : String) (hk : ∀ f ∈ fs, f.1 ≠ k) :
    (fs.map fun f => (f.1, Val.null)).lookup k = none := by
  rw [List.lookup_eq_none_iff_not_mem_keys, List.map_map]
  exact fun hm => by
    obtain ⟨f, hf, e⟩ := List.mem_map.mp hm
    exact hk f hf e

theorem setField_append (pre : List (String × Val)) (k : String) (x v : Val) (post : List (String × Val))
    (h1 : k ∉ pre.map (·.1)) (h2 : k ∉ post.map (·.1)) :
    setField (pre ++ (k, x) :: post) k v = pre ++ (k, v) :: post := by
  have hno : ∀ (l : List (String × Val)), k ∉ l.map (·.1) → setField l k v = l := fun l hl =>
    (List.map_congr_left fun kv hkv =>
      if_neg fun e => hl (List.mem_map.mpr ⟨kv, hkv, by simpa using e⟩)).trans (List.map_id l)
  unfold setField at hno ⊢
  rw [List.map_append, List.map_cons, hno pre h1, hno post h2, if_pos (beq_self_eq_true k)]

theorem objFields_run (G : GCtx) (A : Act) (hA : A.OK G) (st : St) (mem : Mem) (scopes : CScopes)
    (vm : List (String × Nat)) (sp : Span)
    (hrel : StRel G.mod A.T A.N A.σ G.lim A.mp scopes vm st.scopes mem) :
    ∀ (fs : List (String × Expr)) (ip : Nat) (stk : List SVal) (lm : LM),
      fs.all (fun f => Frag.atomE f.2) = true → Frag.resolved scopes (fs.flatMap fun f => Frag.varsE f.2) = true →
      (∀ x ∈ fs.flatMap (fun f => Frag.varsE f.2), x ∈ A.T) →
      Placed A.lab A.σ A.c ip (cgFields G.mod (ρS scopes) sp fs lm).1 →
      (cgFields G.mod (ρS scopes) sp fs lm).2 = lm ∧
      ∃ vals : List (String × Val), vals.map (·.1) = fs.map (·.1) ∧
        (∀ st2 : St, st2.scopes = st.scopes → ∀ fuel,
          evalFields G.cfg fuel fs st2 = (.error .timeout, st2) ∨ evalFields G.cfg fuel fs st2 = (.ok vals, st2)) ∧
        ∀ (h0 : Array Cell) (outs : String) (pre : List (String × Val)),
          (fs.map (·.1)).Nodup → (∀ k ∈ fs.map (·.1), k ∉ pre.map (·.1)) →
          Runs G.fr G.code G.lim G.s A.fn A.rest A.mp ip (⟨.ref h0.size, none⟩ :: stk) mem
            ⟨h0.push (.obj (pre ++ fs.map fun f => (f.1, Val.null))), outs⟩
            (ip + nI (cgFields G.mod (ρS scopes) sp fs lm).1) (⟨.ref h0.size, none⟩ :: stk) mem
            ⟨h0.push (.obj (pre ++ vals)), outs⟩ := by
  intro fs
  induction fs with
  | nil =>
    intro ip stk lm _ _ _ _
    refine ⟨rfl, [], rfl, fun st2 _ fuel => ?_, fun h0 outs pre _ _ => (Runs.refl ip _ mem _).cast (by simp [cgFields])⟩
    cases fuel with
    | zero => left; rw [evalFields]; rfl
    | succ f => right; rw [evalFields_nil]
  | cons f fs ih =>
    obtain ⟨k, x⟩ := f
    intro ip stk lm hat hres hT hpl
    simp only [List.all_cons, Bool.and_eq_true] at hat
    simp only [List.flatMap_cons, resolved_append] at hres hT
    have hlmx : (cpE G.mod (ρS scopes) x lm).2 = lm := cpE_atom_lm _ _ _ x lm (Nat.le_refl _) hat.1
    simp only [cgFields, hlmx] at hpl ⊢
    unplace at hpl
    obtain ⟨idup, imem, hpl2, iasg, hpl4⟩ := hpl
    obtain ⟨hlm, vs, hkeys, hvs1, hvs2⟩ := ih _ stk lm hat.2 hres.2
      (fun y hy => hT y (List.mem_append.mpr (Or.inr hy))) hpl4
    obtain ⟨v, _, hv, hrun⟩ := atom_sim G A hA x st (ip + 1 + 1) mem lm scopes vm hat.1 hres.1
      (fun y hy => hT y (List.mem_append.mpr (Or.inl hy))) hpl2 hrel
    refine ⟨hlm, (k, v) :: vs, by simp [hkeys], fun st2 hsc => evalFields_cons_same (hv st2 hsc) (hvs1 st2 hsc),
      fun h0 outs pre hnd hpre => ?_⟩
    simp only [List.map_cons, List.nodup_cons] at hnd
    obtain ⟨hkfs, hnd'⟩ := hnd
    have hkpre : k ∉ pre.map (·.1) := hpre k (by simp)
    have hkpost : k ∉ (fs.map fun f => (f.1, Val.null)).map (·.1) := by
      simpa [List.map_map, Function.comp_def] using hkfs
    simp only [List.map_cons]
    -- the cell under construction
    generalize hfs0 : pre ++ (k, Val.null) :: fs.map (fun f => (f.1, Val.null)) = fs0
    have hcell : (h0.push (.obj fs0))[h0.size]? = some (.obj fs0) := by simp
    have hlk : fs0.lookup k = some .null := hfs0 ▸ lookup_append_not_mem pre k Val.null _ hkpre
    have hdup := hA.step mem id fun _ _ =>
      mkS_dup (stk := stk) (out := ⟨h0.push (.obj fs0), outs⟩) hA.code sp
        ⟨.ref h0.size, none⟩ idup
    have hmem : Runs G.fr G.code G.lim G.s A.fn A.rest A.mp (ip + 1)
        (⟨.ref h0.size, none⟩ :: ⟨.ref h0.size, none⟩ :: stk) mem ⟨h0.push (.obj fs0), outs⟩ (ip + 1 + 1)
        (⟨.null, some (.field h0.size k)⟩ :: ⟨.ref h0.size, none⟩ :: stk) mem ⟨h0.push (.obj fs0), outs⟩ := by
      refine hA.step mem id fun it_ kk => ?_
      rw [mkS_member (stk := (⟨.ref h0.size, none⟩ :: stk)) (out := ⟨h0.push (.obj fs0), outs⟩) hA.code sp k (.ref h0.size) none imem, memberVal_dot]
      simp only [hcell, hlk, memOrg_field _ _ _ _ _ hcell hlk]
    have hah : assignHeap (h0.push (.obj fs0)) (.field h0.size k) v =
        some ((h0.push (.obj fs0)).setIfInBounds h0.size (.obj (setField fs0 k v))) := by
      simp only [assignHeap, hcell]
    have hasg := hA.step mem (fun hi => HeapInv.assign hah hi) fun _ _ =>
      mkS_assign_org (stk := (⟨.ref h0.size, none⟩ :: stk)) (out := ⟨h0.push (.obj fs0), outs⟩) hA.code sp
        (.field h0.size k) _ .null v none iasg hah
    rw [← hfs0, setField_append pre k .null v _ hkpre hkpost, push_set_last, hfs0] at hasg
    have hrest := hvs2 h0 outs (pre ++ [(k, v)]) hnd' (by
      intro k' hk' hmem'
      simp only [List.map_append, List.map_cons, List.map_nil, List.mem_append, List.mem_singleton] at hmem'
      rcases hmem' with h | h
      · exact hpre k' (by simp [hk']) h
      · subst h; exact hkfs hk')
    rw [List.append_assoc, List.singleton_append, List.append_assoc, List.singleton_append] at hrest
    exact (((hdup.trans hmem).trans (hrun _ _)).trans hasg).trans hrest

end HmsProofs.Sim
