import HmsProofs.Lemmas.SimStmt
/-! The general fragment and the code it compiles to.
Expressions `Frag.okE fr` (`fr = false`: the base fragment; `Frag.okGE` is the same list of constructs without the
parameter, contained in every `okE fr` by `okE_okGE`, and is what the statements of `C01VM` ask): atoms, arithmetic and prefix
operators, parentheses, `if`/`else`, `match` over literals, calls of top-level functions (at most one argument
is not an atom), list and object literals of atoms; with `fr` also casts to scalar types, cell reads `l[i]`, `o.f`
and the argument-free methods `meth0`. `Frag.okXE`/`Frag.okV`: what may stand in a value position.
Statements `Frag.okFS fr il rt`: `let`, assignment to a variable, an
element or a field, `if`, `match`, `while`, `loop`, `break`, `continue`, `return e`, call statements, `println(…)`,
`throw(a)`, `try { … } catch e { … }`; with `fr` also `for` over a range and `l.push(x)`.
The theorems ask that the program be well-scoped (`Frag.wsGE`, `Frag.wsGS`), which for `try` includes that the module
is `main`. -/
namespace HmsProofs.Sim
open Hms.Core

/-- The names of the builtin methods called through a value (`Member m; …; Call_Val`); no object of the fragment
has a data field of such a name. The fragment itself calls `meth0` and `push`. -/
def methNames : List String := ["len", "push", "is_some", "is_none", "unwrap", "unwrap_or"]
/-- The methods without arguments that may stand in expressions: they only read, never yield `null`. -/
def meth0 : List String := ["len", "is_some", "is_none"]

namespace Frag

/-- Literals and local variables: evaluation cannot fail and has no effect. -/
def atomE : Expr → Bool
  | .int .. | .bool .. | .str .. | .null .. | .none .. => true
  | .ident _ _ _ isGlobal isFn isSingleton => !isGlobal && !isFn && !isSingleton
  | .grouped _ e => atomE e
  | _ => false

/-- At most one argument is not an atom (the VM evaluates arguments right to left, the
specification left to right: finding V13). -/
def oneNonAtom (args : List (String × Expr)) : Bool :=
  decide ((args.filter fun a => !atomE a.2).length ≤ 1)

/-- The target types of the casts of the fragment: the scalar kinds (`castVal` converts or raises the cast
exception, and allocates nothing). -/
def castTyOK : Ty → Bool
  | .int | .float | .bool | .str | .null | .range | .any => true
  | _ => false

/-- Literals a `match` arm may test against. -/
def litE : Expr → Bool
  | .int .. | .bool .. | .str .. => true
  | _ => false

mutual
def okGE : Expr → Bool
  | .int .. | .bool .. | .str .. | .null .. | .none .. => true
  | .ident _ _ _ isGlobal isFn isSingleton => !isGlobal && !isFn && !isSingleton
  | .grouped _ e => okGE e
  | .pre _ _ _ e => okGE e
  | .infix sp ty op l r => pureE (.infix sp ty op l r) || (!isLogical op && okGE l && okGE r)
  | .ifE _ _ c t (some eb) => okGE c && okGB t && okGB eb
  | .call _ _ (.ident _ _ name _ _ _) args false =>
    name != "throw" && name != "println" && okGArgs args && oneNonAtom args
  | .matchE _ _ c arms (some d) => okGE c && okGArms arms && okGE d
  | .list _ _ xs => xs.all atomE
  | .obj _ _ fs => fs.all (fun f => atomE f.2) && decide ((fs.map (·.1)).Nodup) &&
      fs.all (fun f => !methNames.contains f.1)
  | _ => false
def okGArms : List (List Expr × Expr) → Bool
  | [] => true
  | a :: as => a.1.all litE && okGE a.2 && okGArms as
def okGB : Block → Bool
  | .mk _ _ [] (some e) => okGE e
  | _ => false
def okGArgs : List (String × Expr) → Bool
  | [] => true
  | a :: as => okGE a.2 && okGArgs as
end

/-- A cell read: `l[i]` or `o.f`, possibly in parentheses (its value on the VM's stack carries the cell's origin). -/
def isRead : Expr → Bool
  | .index .. => true
  | .member .. => true
  | .grouped _ e => isRead e
  | _ => false

mutual
/-- The fuel of the compile theorems is not this but `cdE` (`SimHComp`), which also pays for the lengths of argument,
element and arm lists. -/
def depthGE : Expr → Nat
  | .grouped _ e => depthGE e + 1
  | .pre _ _ _ e => depthGE e + 1
  | .cast _ _ e => depthGE e + 1
  | .infix _ _ _ l r => max (depthGE l) (depthGE r) + 1
  | .ifE _ _ c t (some e) => max (depthGE c) (max (depthGB t) (depthGB e)) + 1
  | .call _ _ (.member _ _ b _ _) args _ => max (depthGE b) (depthGArgs args) + 2
  | .call _ _ _ args _ => depthGArgs args + 1
  | .matchE _ _ c arms (some d) => max (depthGE c) (max (depthGArms arms) (depthGE d)) + 1
  | .index _ _ b i => max (depthGE b) (depthGE i) + 1
  | .member _ _ b _ _ => depthGE b + 1
  | _ => 1
def depthGArms : List (List Expr × Expr) → Nat
  | [] => 1
  | a :: as => max (depthGE a.2) (depthGArms as) + 1
def depthGB : Block → Nat
  | .mk _ _ _ (some e) => depthGE e + 1
  | _ => 1
def depthGArgs : List (String × Expr) → Nat
  | [] => 1
  | a :: as => max (depthGE a.2) (depthGArgs as) + 1
end

mutual
def varsGE : Expr → List String
  | .grouped _ e => varsGE e
  | .ident _ _ name _ _ _ => [name]
  | .pre _ _ _ e => varsGE e
  | .cast _ _ e => varsGE e
  | .infix _ _ _ l r => varsGE l ++ varsGE r
  | .ifE _ _ c t (some e) => varsGE c ++ (varsGB t ++ varsGB e)
  | .call _ _ (.member _ _ b _ _) args _ => varsGE b ++ varsGArgs args
  | .call _ _ _ args _ => varsGArgs args
  | .matchE _ _ c arms (some d) => varsGE c ++ (varsGArms arms ++ varsGE d)
  | .index _ _ b i => varsGE b ++ varsGE i
  | .list _ _ xs => xs.flatMap varsE
  | .obj _ _ fs => fs.flatMap (fun f => varsE f.2)
  | .member _ _ b _ _ => varsGE b
  | _ => []
def varsGArms : List (List Expr × Expr) → List String
  | [] => []
  | a :: as => varsGE a.2 ++ varsGArms as
def varsGB : Block → List String
  | .mk _ _ _ (some e) => varsGE e
  | _ => []
def varsGArgs : List (String × Expr) → List String
  | [] => []
  | a :: as => varsGE a.2 ++ varsGArgs as
end

mutual
def callsGE : Expr → List String
  | .grouped _ e => callsGE e
  | .pre _ _ _ e => callsGE e
  | .cast _ _ e => callsGE e
  | .infix _ _ _ l r => callsGE l ++ callsGE r
  | .ifE _ _ c t (some e) => callsGE c ++ (callsGB t ++ callsGB e)
  | .call _ _ (.ident _ _ name _ _ _) args _ => name :: callsGArgs args
  | .call _ _ (.member _ _ b _ _) args _ => callsGE b ++ callsGArgs args
  | .matchE _ _ c arms (some d) => callsGE c ++ (callsGArms arms ++ callsGE d)
  | .index _ _ b i => callsGE b ++ callsGE i
  | .member _ _ b _ _ => callsGE b
  | _ => []
def callsGArms : List (List Expr × Expr) → List String
  | [] => []
  | a :: as => callsGE a.2 ++ callsGArms as
def callsGB : Block → List String
  | .mk _ _ _ (some e) => callsGE e
  | _ => []
def callsGArgs : List (String × Expr) → List String
  | [] => []
  | a :: as => callsGE a.2 ++ callsGArgs as
end

/-- Expressions in the value positions of statements (`let`, assignments): the expression fragment
closed under cell reads `l[i]`, `o.f` and arithmetic over them. Finding V38 (a read leaves a pointer to
the cell on the VM's stack) is excluded: next to a cell read, the later operand calls no function. -/
def okXE : Expr → Bool
  | .index _ _ b i => okXE b && okXE i && (!isRead b || (callsGE i).isEmpty)
  | .member _ _ b _ .dot => okXE b
  | .infix sp ty op l r =>
    pureE (.infix sp ty op l r) || (!isLogical op && okXE l && okXE r && (!isRead l || (callsGE r).isEmpty))
  | .pre _ _ _ e => okXE e
  | .grouped _ e => okXE e
  | e => okGE e

mutual
/-- `fr = false`: the constructs of `okGE`, see `okE_okGE`. Finding V38 stays excluded as in `okXE`. -/
def okE (fr : Bool) : Expr → Bool
  | .int .. | .bool .. | .str .. | .null .. | .none .. => true
  | .ident _ _ _ isGlobal isFn isSingleton => !isGlobal && !isFn && !isSingleton
  | .grouped _ e => okE fr e
  | .pre _ _ _ e => okE fr e
  | .cast _ ty e => fr && castTyOK ty && okE fr e
  | .infix sp ty op l r =>
    pureE (.infix sp ty op l r) ||
      (!isLogical op && okE fr l && okE fr r && (!isRead l || (callsGE r).isEmpty))
  | .ifE _ _ c t (some eb) => okE fr c && okEB fr t && okEB fr eb
  | .call _ _ (.ident _ _ name _ _ _) args false =>
    name != "throw" && name != "println" && okEArgs fr args && oneNonAtom args
  | .call _ _ (.member _ _ b nm .dot) [] false => fr && meth0.contains nm && okE fr b
  | .matchE _ _ c arms (some d) => okE fr c && okEArms fr arms && okE fr d
  | .list _ _ xs => xs.all atomE
  | .obj _ _ fs => fs.all (fun f => atomE f.2) && decide ((fs.map (·.1)).Nodup) &&
      fs.all (fun f => !methNames.contains f.1)
  | .index _ _ b i => fr && okE fr b && okE fr i && (!isRead b || (callsGE i).isEmpty)
  | .member _ _ b _ .dot => fr && okE fr b
  | _ => false
def okEArms (fr : Bool) : List (List Expr × Expr) → Bool
  | [] => true
  | a :: as => a.1.all litE && okE fr a.2 && okEArms fr as
def okEB (fr : Bool) : Block → Bool
  | .mk _ _ [] (some e) => okE fr e
  | _ => false
def okEArgs (fr : Bool) : List (String × Expr) → Bool
  | [] => true
  | a :: as => okE fr a.2 && okEArgs fr as
end

/-- A value position (`let`, right-hand sides, operands of a heap-slot assignment): `okXE` in every
context, the whole extended fragment when `fr`. -/
def okV (fr : Bool) (e : Expr) : Bool := okXE e || okE fr e

end Frag

def litCode : Expr → SCode
  | .int sp v => [(.copyPush (.int v), sp)]
  | .bool sp b => [(.copyPush (.bool b), sp)]
  | .str sp s => [(.copyPush (.str s), sp)]
  | _ => []

/-- The tests of one `match` arm: the control value stays on the stack; a hit jumps to `name`. -/
def litTests (sp : Span) (name : String) : List Expr → SCode
  | [] => []
  | l :: ls => litCode l ++ [(.eqPopOnce, sp), (.not, sp), (.jumpIfFalse name, sp)] ++ litTests sp name ls

/-- The comparison cascade of a `match`: code, the case labels in arm order, label counters. -/
def armTests (mod : String) (sp : Span) : List (List Expr × Expr) → LM → SCode × List String × LM
  | [], lm => ([], [], lm)
  | a :: rest, lm =>
    (litTests sp (freshLabel mod lm "case").1 a.1 ++ (armTests mod sp rest (freshLabel mod lm "case").2).1,
     (freshLabel mod lm "case").1 :: (armTests mod sp rest (freshLabel mod lm "case").2).2.1,
     (armTests mod sp rest (freshLabel mod lm "case").2).2.2)

/-- The elements of a list literal (atoms in the fragment): each is appended to the list under construction. -/
def cgEls (mod : String) (ρ : String → Option String) (sp : Span) : List Expr → LM → SCode × LM
  | [], lm => ([], lm)
  | x :: xs, lm =>
    ((cpE mod ρ x lm).1 ++ [(.copyPush (.int 2), sp), (.hostCall "__internal_list_push", sp)] ++
      (cgEls mod ρ sp xs (cpE mod ρ x lm).2).1,
     (cgEls mod ρ sp xs (cpE mod ρ x lm).2).2)

/-- The fields of an object literal (atoms in the fragment): each is assigned through its member of the
object under construction. -/
def cgFields (mod : String) (ρ : String → Option String) (sp : Span) : List (String × Expr) → LM → SCode × LM
  | [], lm => ([], lm)
  | f :: fs, lm =>
    ([(.dup, sp), (.member f.1, sp)] ++ (cpE mod ρ f.2 lm).1 ++ [(.assign, sp)] ++
      (cgFields mod ρ sp fs (cpE mod ρ f.2 lm).2).1,
     (cgFields mod ρ sp fs (cpE mod ρ f.2 lm).2).2)

mutual
/-- `ρ`: variables, `φ`: functions. -/
def cgE (mod : String) (ρ φ : String → Option String) : Expr → LM → SCode × LM
  | .int sp v, lm => ([(.copyPush (.int v), sp)], lm)
  | .bool sp b, lm => ([(.copyPush (.bool b), sp)], lm)
  | .str sp s, lm => ([(.copyPush (.str s), sp)], lm)
  | .null sp, lm => ([(.copyPush .null, sp)], lm)
  | .none sp, lm => ([(.copyPush .noneOpt, sp)], lm)
  | .grouped _ e, lm => cgE mod ρ φ e lm
  | .ident sp _ name _ _ _, lm =>
    (match ρ name with
      | some m => [(.getVar m, sp)]
      | none => [], lm)
  | .pre sp _ op e, lm => ((cgE mod ρ φ e lm).1 ++ [(preI op, sp)], (cgE mod ρ φ e lm).2)
  | .cast sp ty e, lm => ((cgE mod ρ φ e lm).1 ++ [(.cast ty true, sp)], (cgE mod ρ φ e lm).2)
  | .infix sp _ .or l r, lm =>
    let rt := freshLabel mod lm "return_true"
    let af := freshLabel mod rt.2 "after_infix"
    let cl := cgE mod ρ φ l af.2
    let cr := cgE mod ρ φ r cl.2
    (cl.1 ++ [(.not, sp), (.jumpIfFalse rt.1, sp)] ++ cr.1 ++
      [(.jump af.1, sp), (.label rt.1, sp), (.copyPush (.bool true), sp), (.label af.1, sp)], cr.2)
  | .infix sp _ .and l r, lm =>
    let rf := freshLabel mod lm "return_false"
    let af := freshLabel mod rf.2 "after_infix"
    let cl := cgE mod ρ φ l af.2
    let cr := cgE mod ρ φ r cl.2
    (cl.1 ++ [(.jumpIfFalse rf.1, sp)] ++ cr.1 ++
      [(.jump af.1, sp), (.label rf.1, sp), (.copyPush (.bool false), sp), (.label af.1, sp)], cr.2)
  | .infix sp _ op l r, lm =>
    let cl := cgE mod ρ φ l lm
    let cr := cgE mod ρ φ r cl.2
    (cl.1 ++ cr.1 ++ (arithI op).map (·, sp), cr.2)
  | .ifE sp _ c t (some eb), lm =>
    let cc := cgE mod ρ φ c lm
    let after := freshLabel mod cc.2 "if_after"
    let els := freshLabel mod after.2 "else"
    let ct := cgB mod ρ φ t els.2
    let ce := cgB mod ρ φ eb ct.2
    (cc.1 ++ [(.jumpIfFalse els.1, sp)] ++ ct.1 ++ [(.jump after.1, sp), (.label els.1, sp)] ++ ce.1 ++
      [(.label after.1, sp)], ce.2)
  | .call sp _ (.ident _ _ name _ _ _) args _, lm =>
    ((cgArgs mod ρ φ args lm).1 ++ [(.callImm ((φ name).getD name), sp)], (cgArgs mod ρ φ args lm).2)
  | .matchE sp _ c arms (some d), lm =>
    let cc := cgE mod ρ φ c lm
    let after := freshLabel mod cc.2 "match_after"
    let ts := armTests mod sp arms after.2
    let dfl := freshLabel mod ts.2.2 "match_default"
    let bs := cgArms mod ρ φ sp after.1 arms ts.2.1 dfl.2
    let cd := cgE mod ρ φ d bs.2
    (cc.1 ++ ts.1 ++ [(.jump dfl.1, sp)] ++ bs.1 ++ [(.label dfl.1, sp), (.drop, sp)] ++ cd.1 ++
      [(.jump after.1, sp), (.label after.1, sp)], cd.2)
  | .list sp _ xs, lm =>
    ([(.cloningPush .emptyList, sp)] ++ (cgEls mod ρ sp xs lm).1, (cgEls mod ρ sp xs lm).2)
  | .index sp _ b i, lm =>
    let cb := cgE mod ρ φ b lm
    let ci := cgE mod ρ φ i cb.2
    (cb.1 ++ ci.1 ++ [(.index, sp)], ci.2)
  | .obj sp _ fs, lm =>
    ([(.cloningPush (.obj (fs.map fun f => (f.1, .null))), sp)] ++ (cgFields mod ρ sp fs lm).1, (cgFields mod ρ sp fs lm).2)
  | .member sp _ b name .dot, lm =>
    ((cgE mod ρ φ b lm).1 ++ [(.member name, sp)], (cgE mod ρ φ b lm).2)
  | .call csp _ (.member msp _ b nm .dot) [] false, lm =>
    ((cgE mod ρ φ b lm).1 ++ [(.member nm, msp), (.copyPush (.int 0), csp), (.callVal, csp)], (cgE mod ρ φ b lm).2)
  | _, lm => ([], lm)
/-- The arm bodies of a `match`: `case: Drop; body; Jump after`. -/
def cgArms (mod : String) (ρ φ : String → Option String) (sp : Span) (after : String) :
    List (List Expr × Expr) → List String → LM → SCode × LM
  | a :: rest, nm :: nms, lm =>
    ([(.label nm, sp), (.drop, sp)] ++ (cgE mod ρ φ a.2 lm).1 ++ [(.jump after, sp)] ++
      (cgArms mod ρ φ sp after rest nms (cgE mod ρ φ a.2 lm).2).1,
     (cgArms mod ρ φ sp after rest nms (cgE mod ρ φ a.2 lm).2).2)
  | _, _, lm => ([], lm)
def cgB (mod : String) (ρ φ : String → Option String) : Block → LM → SCode × LM
  | .mk _ _ [] (some e), lm => cgE mod ρ φ e lm
  | _, lm => ([], lm)
/-- The code of the arguments: last argument first. -/
def cgArgs (mod : String) (ρ φ : String → Option String) : List (String × Expr) → LM → SCode × LM
  | [], lm => ([], lm)
  | a :: as, lm =>
    ((cgArgs mod ρ φ as lm).1 ++ (cgE mod ρ φ a.2 (cgArgs mod ρ φ as lm).2).1,
     (cgE mod ρ φ a.2 (cgArgs mod ρ φ as lm).2).2)
end

theorem cgE_pure (mod : String) (ρ φ : String → Option String) :
    (∀ (e : Expr), Frag.pureE e = true → ∀ lm, cgE mod ρ φ e lm = cpE mod ρ e lm) ∧
    (∀ (b : Block), Frag.pureB b = true → ∀ lm, cgB mod ρ φ b lm = cpB mod ρ b lm) := by
  refine Frag.pureE.mutual_induct_unfolding
    (motive_1 := fun e ok => ok = true → ∀ lm, cgE mod ρ φ e lm = cpE mod ρ e lm)
    (motive_2 := fun b ok => ok = true → ∀ lm, cgB mod ρ φ b lm = cpB mod ρ b lm)
    ?int ?bool ?str ?null ?none ?grouped ?ident ?pre ?infixE ?ifE ?other ?block ?blockOther
  case int | bool | str | null | none | ident => intros; rfl
  case other | blockOther => intros; contradiction
  case grouped => intro sp e ih hp lm; rw [cgE, cpE]; exact ih hp lm
  case pre => intro sp ty op e ih hp lm; rw [cgE, cpE, ih hp lm]
  case block => intro sp ty e ih hp lm; rw [cgB, cpB]; exact ih hp lm
  case infixE =>
    intro sp ty op l r ihl ihr hp lm
    rw [Bool.and_eq_true] at hp
    cases op <;> simp only [cgE, cpE, ihl hp.1, ihr hp.2]
  case ifE =>
    intro sp ty c t e ihc iht ihe hp lm
    simp only [Bool.and_eq_true] at hp
    simp only [cgE, cpE, ihc hp.1.1, iht hp.1.2, ihe hp.2]

theorem cgE_of_pure (mod : String) (ρ φ : String → Option String) (e : Expr) (lm : LM)
    (h : Frag.pureE e = true) : cgE mod ρ φ e lm = cpE mod ρ e lm :=
  (cgE_pure mod ρ φ).1 e h lm

/-- Before the right-hand side of a compound assignment `l[i] op= e` / `o.f op= e`: the current value of the slot is
duplicated. -/
def opPre (op : Option InfixOp) (sp : Span) : SCode :=
  match op with
  | none => []
  | some _ => [(.dup, sp)]
/-- After the right-hand side of a compound assignment: the operator combines it with the duplicated value, before
`Assign`. -/
def opPost (op : Option InfixOp) (sp : Span) : SCode :=
  match op with
  | none => []
  | some o => (arithI o).map (·, sp)
def opOK (op : Option InfixOp) : Bool :=
  match op with
  | none => true
  | some o => !Frag.isLogical o

/-- The pseudo scope entry under which `compileFn` remembers the cleanup label. -/
def cleanupKey (mod fn : String) : String := s!"cleanup:{mod}:{fn}"

mutual
/-- `fn`: the function being compiled (its cleanup label is found under `cleanupKey mod fn` in the scopes); `loops`: the
(break, continue) labels of the enclosing loops, innermost first. -/
def cgS (mod fn : String) (φ : String → Option String) :
    List (String × String) → Stmt → CEnv → SCode × CEnv
  | _, .letS sp name _ false _ e, env =>
    let ce := cgE mod (ρS env.scopes) φ e env.lm
    let fv := freshVar mod { env with lm := ce.2 } name
    (ce.1 ++ [(.setVar fv.1, sp)], { fv.2 with nv := fv.2.nv + 1 })
  | _, .exprS _ (.assign asp none (.ident _ _ name false _ false) r), env =>
    let cr := cgE mod (ρS env.scopes) φ r env.lm
    (cr.1 ++ [(.setVar ((ρS env.scopes name).getD name), asp)], { env with lm := cr.2 })
  | _, .exprS _ (.assign asp (some op) (.ident _ _ name false _ false) r), env =>
    let m := (ρS env.scopes name).getD name
    let cr := cgE mod (ρS env.scopes) φ r env.lm
    ([(.getVar m, asp)] ++ cr.1 ++ (arithI op).map (·, asp) ++ [(.setVar m, asp)], { env with lm := cr.2 })
  | _, .exprS _ (.assign asp op (.index isp ity b i) r), env =>
    let cl := cgE mod (ρS env.scopes) φ (.index isp ity b i) env.lm
    let cr := cgE mod (ρS env.scopes) φ r cl.2
    (cl.1 ++ opPre op asp ++ cr.1 ++ opPost op asp ++ [(.assign, asp)], { env with lm := cr.2 })
  | _, .exprS _ (.assign asp op (.member msp mty b name .dot) r), env =>
    let cl := cgE mod (ρS env.scopes) φ (.member msp mty b name .dot) env.lm
    let cr := cgE mod (ρS env.scopes) φ r cl.2
    (cl.1 ++ opPre op asp ++ cr.1 ++ opPost op asp ++ [(.assign, asp)], { env with lm := cr.2 })
  | _, .exprS _ (.call csp _ (.member msp _ b nm .dot) [a] false), env =>
    -- `l.push(x)`: the argument first, then the receiver and its bound method
    let ca := cgE mod (ρS env.scopes) φ a.2 env.lm
    let cb := cgE mod (ρS env.scopes) φ b ca.2
    (ca.1 ++ cb.1 ++ [(.member nm, msp), (.copyPush (.int 1), csp), (.callVal, csp)], { env with lm := cb.2 })
  | loops, .exprS _ (.ifE isp _ c t (some eb)), env =>
    let cc := cgE mod (ρS env.scopes) φ c env.lm
    let after := freshLabel mod cc.2 "if_after"
    let els := freshLabel mod after.2 "else"
    let ct := cgBS mod fn φ loops t { env with lm := els.2 }
    let ce := cgBS mod fn φ loops eb ct.2
    (cc.1 ++ [(.jumpIfFalse els.1, isp)] ++ ct.1 ++ [(.jump after.1, isp), (.label els.1, isp)] ++ ce.1 ++
      [(.label after.1, isp)], ce.2)
  | loops, .exprS _ (.ifE isp _ c t none), env =>
    let cc := cgE mod (ρS env.scopes) φ c env.lm
    let after := freshLabel mod cc.2 "if_after"
    let els := freshLabel mod after.2 "else"
    let ct := cgBS mod fn φ loops t { env with lm := els.2 }
    (cc.1 ++ [(.jumpIfFalse after.1, isp)] ++ ct.1 ++ [(.jump after.1, isp), (.label after.1, isp)], ct.2)
  | loops, .exprS _ (.tryE tsp _ t catchIdent (.mk _ _ cstmts none)), env =>
    let exc := freshLabel mod env.lm "exception_label"
    let after := freshLabel mod exc.2 "after_catch_label"
    let ct := cgBS mod fn φ [] t { env with lm := after.2 }
    let fv := freshVar mod { ct.2 with scopes := [] :: ct.2.scopes } catchIdent
    let cc := cgSs mod fn φ loops cstmts fv.2
    ([(.setTry ((φ fn).getD "") exc.1, tsp)] ++ ct.1 ++
      [(.popTry, tsp), (.jump after.1, tsp), (.label exc.1, tsp), (.setVar fv.1, tsp), (.popTry, tsp)] ++ cc.1 ++
      [(.label after.1, tsp)], { cc.2 with scopes := cc.2.scopes.tail })
  | loops, .exprS _ (.matchE sp _ c arms (some (.blockE db))), env =>
    let cc := cgE mod (ρS env.scopes) φ c env.lm
    let after := freshLabel mod cc.2 "match_after"
    let ts := armTests mod sp arms after.2
    let dfl := freshLabel mod ts.2.2 "match_default"
    let bs := cgArmsS mod fn φ loops sp after.1 arms ts.2.1 { env with lm := dfl.2 }
    let cd := cgBS mod fn φ loops db bs.2
    (cc.1 ++ ts.1 ++ [(.jump dfl.1, sp)] ++ bs.1 ++ [(.label dfl.1, sp), (.drop, sp)] ++ cd.1 ++
      [(.jump after.1, sp), (.label after.1, sp)], cd.2)
  | _, .exprS sp (.call csp cty (.ident isp ity name g f si) args sw), env =>
    if name == "throw" then
      let ca := cgArgs mod (ρS env.scopes) φ args env.lm
      (ca.1 ++ [(.throw, csp)] ++ (if cty.isNull then [] else [(.drop, sp)]), { env with lm := ca.2 })
    else if name == "println" then
      let ca := cgArgs mod (ρS env.scopes) φ args env.lm
      (ca.1 ++ [(.getGlob "println", csp), (.copyPush (.int args.length), csp), (.callVal, csp)],
        { env with lm := ca.2 })
    else
      let ce := cgE mod (ρS env.scopes) φ (.call csp cty (.ident isp ity name g f si) args sw) env.lm
      (ce.1 ++ [(.drop, sp)], { env with lm := ce.2 })
  | loops, .whileS sp c body, env =>
    let head := freshLabel mod env.lm "loop_head"
    let after := freshLabel mod head.2 "loop_end"
    let cc := cgE mod (ρS env.scopes) φ c after.2
    let cb := cgBS mod fn φ ((after.1, head.1) :: loops) body { env with lm := cc.2 }
    ([(.label head.1, sp)] ++ cc.1 ++ [(.jumpIfFalse after.1, sp)] ++ cb.1 ++
      [(.jump head.1, sp), (.label after.1, sp)], cb.2)
  | loops, .loopS sp body, env =>
    let head := freshLabel mod env.lm "loop_head"
    let after := freshLabel mod head.2 "loop_end"
    let cb := cgBS mod fn φ ((after.1, head.1) :: loops) body { env with lm := after.2 }
    ([(.label head.1, sp)] ++ cb.1 ++ [(.jump head.1, sp), (.label after.1, sp)], cb.2)
  | loops, .forS sp name _ (.range rsp a b incl) (.mk _ _ stmts none), env =>
    let head := freshLabel mod env.lm "loop_head"
    let upd := freshLabel mod head.2 "loop_update"
    let after := freshLabel mod upd.2 "loop_end"
    let ca := cgE mod (ρS env.scopes) φ a after.2
    let cb := cgE mod (ρS env.scopes) φ b ca.2
    let fit := freshVar mod { env with scopes := [] :: env.scopes, lm := cb.2 } ("$iter_" ++ name)
    let fhv := freshVar mod fit.2 name
    let cbody := cgSs mod fn φ ((after.1, upd.1) :: loops) stmts fhv.2
    (ca.1 ++ cb.1 ++ [(.intoRange incl, rsp), (.clone, sp), (.intoIter, sp), (.setVar fit.1, sp), (.label head.1, sp),
        (.getVar fit.1, sp), (.iterAdvance, sp), (.setVar fhv.1, sp), (.jumpIfFalse after.1, sp)] ++ cbody.1 ++
      [(.label upd.1, sp), (.jump head.1, sp), (.label after.1, sp)],
     { cbody.2 with scopes := cbody.2.scopes.tail })
  | loops, .brk sp, env =>
    (match loops with
      | (b, _) :: _ => [(.jump b, sp)]
      | [] => [], env)
  | loops, .cont sp, env =>
    (match loops with
      | (_, c) :: _ => [(.jump c, sp)]
      | [] => [], env)
  | _, .ret sp (some e), env =>
    let ce := cgE mod (ρS env.scopes) φ e env.lm
    (ce.1 ++ [(.jump ((ρS env.scopes (cleanupKey mod fn)).getD "?cleanup"), sp)], { env with lm := ce.2 })
  | _, _, env => ([], env)
def cgSs (mod fn : String) (φ : String → Option String) :
    List (String × String) → List Stmt → CEnv → SCode × CEnv
  | _, [], env => ([], env)
  | loops, s :: ss, env =>
    ((cgS mod fn φ loops s env).1 ++ (cgSs mod fn φ loops ss (cgS mod fn φ loops s env).2).1,
     (cgSs mod fn φ loops ss (cgS mod fn φ loops s env).2).2)
/-- The arm bodies of a `match` statement: `case: Drop; block; Jump after`. -/
def cgArmsS (mod fn : String) (φ : String → Option String) (loops : List (String × String)) (sp : Span)
    (after : String) : List (List Expr × Expr) → List String → CEnv → SCode × CEnv
  | (_, .blockE b) :: rest, nm :: nms, env =>
    ([(.label nm, sp), (.drop, sp)] ++ (cgBS mod fn φ loops b env).1 ++ [(.jump after, sp)] ++
      (cgArmsS mod fn φ loops sp after rest nms (cgBS mod fn φ loops b env).2).1,
     (cgArmsS mod fn φ loops sp after rest nms (cgBS mod fn φ loops b env).2).2)
  | _ :: rest, nm :: nms, env =>
    ([(.label nm, sp), (.drop, sp), (.jump after, sp)] ++ (cgArmsS mod fn φ loops sp after rest nms env).1,
     (cgArmsS mod fn φ loops sp after rest nms env).2)
  | _, _, env => ([], env)
/-- A block of statements without a trailing expression, in its own scope. -/
def cgBS (mod fn : String) (φ : String → Option String) :
    List (String × String) → Block → CEnv → SCode × CEnv
  | loops, .mk _ _ stmts none, env =>
    ((cgSs mod fn φ loops stmts { env with scopes := [] :: env.scopes }).1,
     { (cgSs mod fn φ loops stmts { env with scopes := [] :: env.scopes }).2 with
       scopes := (cgSs mod fn φ loops stmts { env with scopes := [] :: env.scopes }).2.scopes.tail })
  | _, _, env => ([], env)
end

/-- `compileParams`: every (non-singleton) parameter is declared and popped into its slot. -/
def cgParams (mod : String) (sp : Span) : List Param → CEnv → SCode × CEnv
  | [], env => ([], env)
  | p :: ps, env =>
    if p.isSingleton then cgParams mod sp ps env
    else
      ((.setVar (freshVar mod env p.name).1, sp) :: (cgParams mod sp ps (freshVar mod env p.name).2).1,
       (cgParams mod sp ps (freshVar mod env p.name).2).2)

/-- The environment in which the body is compiled: the cleanup label is generated and remembered
under the pseudo key in the function's top scope. -/
def bodyEnv (mod fn : String) (env : CEnv) : CEnv :=
  { env with
    scopes := match env.scopes with
      | sc :: rest => ((cleanupKey mod fn, (freshLabel mod env.lm "cleanup").1) :: sc) :: rest
      | [] => [],
    lm := (freshLabel mod env.lm "cleanup").2 }

structure FnParts where
  pcode : SCode
  envB : CEnv
  scode : SCode
  envS : CEnv
  ecode : SCode
  envE : CEnv
  cleanup : String

def fnParts (mod : String) (φ : String → Option String) (fd : FnDef) (stmts : List Stmt) (oe : Option Expr)
    (scopes0 : List (List (String × String))) (vm0 : List (String × Nat)) (lm0 : LM) : FnParts :=
  let p := cgParams mod fd.sp fd.params ⟨[] :: scopes0, vm0, lm0, 0⟩
  let envB := bodyEnv mod fd.name p.2
  let sc := cgSs mod fd.name φ [] stmts envB
  let ec := match oe with
    | some e => cgE mod (ρS sc.2.scopes) φ e sc.2.lm
    | none => ([], sc.2.lm)
  { pcode := p.1, envB := envB, scode := sc.1, envS := sc.2, ecode := ec.1,
    envE := { sc.2 with lm := ec.2 }, cleanup := (freshLabel mod p.2.lm "cleanup").1 }

/-- `addMp n; setVar p₁ … setVar pₖ; statements; expression; cleanup: addMp (-n); ret`. -/
def cgFn (mod : String) (φ : String → Option String) (fd : FnDef) (stmts : List Stmt) (oe : Option Expr)
    (scopes0 : List (List (String × String))) (vm0 : List (String × Nat)) (lm0 : LM) : SCode :=
  let P := fnParts mod φ fd stmts oe scopes0 vm0 lm0
  [(.addMp (P.envE.nv : Int), fd.sp)] ++ P.pcode ++ P.scode ++ P.ecode ++
    [(.label P.cleanup, fd.sp), (.addMp (-(P.envE.nv : Int)), fd.sp), (.ret, fd.sp)]

namespace Frag

mutual
/-- `fr`: the extension is allowed (`for` loops, `l.push(x)`, the expressions of `okE true`); `il`: inside a loop
(`break`/`continue` are allowed); `rt`: `return` is allowed. -/
def okFS : Bool → Bool → Bool → Stmt → Bool
  | fr, _, _, .letS _ _ _ needsCast _ e => !needsCast && okV fr e
  | fr, _, _, .exprS _ (.assign _ none (.ident _ _ _ false _ false) r) => okV fr r
  | fr, _, _, .exprS _ (.assign _ (some op) (.ident _ _ _ false _ false) r) => !isLogical op && okV fr r
  | fr, _, _, .exprS _ (.assign _ op (.index isp ity b i) r) =>
    opOK op && okV fr (.index isp ity b i) && okV fr r && (callsGE r).isEmpty
  | fr, _, _, .exprS _ (.assign _ op (.member msp mty b name .dot) r) =>
    opOK op && okV fr (.member msp mty b name .dot) && okV fr r && (callsGE r).isEmpty
  | fr, il, rt, .exprS _ (.ifE _ ty c t (some eb)) => ty.isNull && okE fr c && okFBS fr il rt t && okFBS fr il rt eb
  | fr, il, rt, .exprS _ (.ifE _ ty c t none) => ty.isNull && okE fr c && okFBS fr il rt t
  | fr, il, rt, .exprS _ (.tryE _ ty t _ c) => ty.isNull && okFBS fr false false t && okFBS fr il rt c
  | fr, il, rt, .exprS _ (.matchE _ ty c arms (some (.blockE db))) =>
    ty.isNull && okE fr c && okFArmsS fr il rt arms && okFBS fr il rt db
  | fr, _, _, .exprS _ (.call _ cty (.member _ _ b nm .dot) [a] false) =>
    fr && nm == "push" && cty.isNull && okV fr b && okV fr a.2 && (atomE b || atomE a.2)
  | fr, _, _, .exprS _ (.call csp cty (.ident isp ity name g f si) args sw) =>
    if name == "throw" then
      !sw && decide (args.length = 1) && args.all (fun a => atomE a.2)
    else if name == "println" then
      cty.isNull && !sw && okEArgs fr args && oneNonAtom args && decide (args.length < 2 ^ 64)
    else !cty.isNull && okE fr (.call csp cty (.ident isp ity name g f si) args sw)
  | fr, _, rt, .whileS _ c body => okE fr c && okFBS fr true rt body
  | fr, _, rt, .loopS _ body => okFBS fr true rt body
  | fr, _, rt, .forS _ _ _ (.range _ a b _) (.mk _ _ stmts none) => fr && okE fr a && okE fr b && okFSs fr true rt stmts
  | _, il, _, .brk _ => il
  | _, il, _, .cont _ => il
  | fr, _, rt, .ret _ (some e) => rt && okE fr e
  | _, _, _, _ => false
def okFSs : Bool → Bool → Bool → List Stmt → Bool
  | _, _, _, [] => true
  | fr, il, rt, s :: ss => okFS fr il rt s && okFSs fr il rt ss
def okFBS : Bool → Bool → Bool → Block → Bool
  | fr, il, rt, .mk _ _ stmts none => okFSs fr il rt stmts
  | _, _, _, _ => false
def okFArmsS : Bool → Bool → Bool → List (List Expr × Expr) → Bool
  | _, _, _, [] => true
  | fr, il, rt, (lits, .blockE b) :: rest => lits.all litE && okFBS fr il rt b && okFArmsS fr il rt rest
  | _, _, _, _ => false
end

abbrev okGS (il rt : Bool) (st : Stmt) : Bool := okFS false il rt st
abbrev okGSs (il rt : Bool) (ss : List Stmt) : Bool := okFSs false il rt ss
abbrev okGBS (il rt : Bool) (b : Block) : Bool := okFBS false il rt b
abbrev okGArmsS (il rt : Bool) (arms : List (List Expr × Expr)) : Bool := okFArmsS false il rt arms

mutual
/-- The fuel of the compile theorems is `cdS` (`SimHComp`). -/
def depthGS : Stmt → Nat
  | .letS _ _ _ _ _ e => depthGE e + 2
  | .exprS _ (.assign _ _ (.index _ _ b i) r) => max (depthGE b) (max (depthGE i) (depthGE r)) + 3
  | .exprS _ (.assign _ _ (.member _ _ b _ _) r) => max (depthGE b) (depthGE r) + 3
  | .exprS _ (.assign _ _ _ r) => depthGE r + 2
  | .exprS _ (.ifE _ _ c t (some eb)) => max (depthGE c) (max (depthGBS t) (depthGBS eb)) + 2
  | .exprS _ (.ifE _ _ c t none) => max (depthGE c) (depthGBS t) + 2
  | .exprS _ (.call _ _ (.member _ _ b _ _) args _) => max (depthGE b) (depthGArgs args) + 3
  | .exprS _ (.call _ _ _ args _) => depthGArgs args + 2
  | .exprS _ (.tryE _ _ t _ c) => max (depthGBS t) (depthGBS c) + 2
  | .exprS _ (.matchE _ _ c arms (some (.blockE db))) => max (depthGE c) (max (depthGArmsS arms) (depthGBS db)) + 2
  | .whileS _ c body => max (depthGE c) (depthGBS body) + 1
  | .loopS _ body => depthGBS body + 1
  | .forS _ _ _ (.range _ a b _) (.mk _ _ stmts _) => max (depthGE a) (max (depthGE b) (depthGSs stmts)) + 2
  | .ret _ (some e) => depthGE e + 1
  | _ => 1
def depthGSs : List Stmt → Nat
  | [] => 1
  | s :: ss => max (depthGS s) (depthGSs ss) + 1
def depthGBS : Block → Nat
  | .mk _ _ stmts _ => depthGSs stmts + 1
def depthGArmsS : List (List Expr × Expr) → Nat
  | (_, .blockE b) :: rest => max (depthGBS b) (depthGArmsS rest)
  | _ :: rest => depthGArmsS rest
  | [] => 0
end

def callsOK (scopes : List (List (String × String))) (φ : String → Option String) (names : List String) : Bool :=
  names.all fun f => (ρS scopes f).isNone && (φ f).isSome

def wsGE (scopes : List (List (String × String))) (φ : String → Option String) (e : Expr) : Bool :=
  resolved scopes (varsGE e) && callsOK scopes φ (callsGE e)

def wsGArgs (scopes : List (List (String × String))) (φ : String → Option String)
    (args : List (String × Expr)) : Bool :=
  resolved scopes (varsGArgs args) && callsOK scopes φ (callsGArgs args)

mutual
def wsGS (mod fn : String) (φ : String → Option String) : List (String × String) → Stmt → CEnv → Bool
  | _, .letS _ _ _ _ _ e, env => wsGE env.scopes φ e
  | _, .exprS _ (.assign _ _ (.ident _ _ name _ _ _) r), env =>
    (ρS env.scopes name).isSome && wsGE env.scopes φ r
  | _, .exprS _ (.assign _ _ (.index isp ity b i) r), env =>
    wsGE env.scopes φ (.index isp ity b i) && wsGE env.scopes φ r
  | _, .exprS _ (.assign _ _ (.member msp mty b name mop) r), env =>
    wsGE env.scopes φ (.member msp mty b name mop) && wsGE env.scopes φ r
  | loops, .exprS _ (.ifE _ _ c t (some eb)), env =>
    wsGE env.scopes φ c &&
      wsGBS mod fn φ loops t { env with lm := (freshLabel mod (freshLabel mod
        (cgE mod (ρS env.scopes) φ c env.lm).2 "if_after").2 "else").2 } &&
      wsGBS mod fn φ loops eb (cgBS mod fn φ loops t { env with lm := (freshLabel mod (freshLabel mod
        (cgE mod (ρS env.scopes) φ c env.lm).2 "if_after").2 "else").2 }).2
  | loops, .exprS _ (.ifE _ _ c t none), env =>
    wsGE env.scopes φ c &&
      wsGBS mod fn φ loops t { env with lm := (freshLabel mod (freshLabel mod
        (cgE mod (ρS env.scopes) φ c env.lm).2 "if_after").2 "else").2 }
  -- The first two conjuncts say nothing of scopes and the compile theorems ignore them. The run of a `try` needs them
  -- (`SimHStmt2`): the VM's error object names the file "main" whatever the module, and `setTry` names the handler's
  -- function by `φ fn`, which has to be the name the function itself is compiled under.
  | loops, .exprS _ (.tryE _ _ t catchIdent (.mk _ _ cstmts none)), env =>
    mod == "main" && φ fn == some (Hms.Core.Comp.mangleFnName mod fn) &&
      wsGBS mod fn φ [] t { env with lm := (freshLabel mod (freshLabel mod env.lm "exception_label").2
        "after_catch_label").2 } &&
      wsGSs mod fn φ loops cstmts
        (freshVar mod { (cgBS mod fn φ [] t { env with lm := (freshLabel mod (freshLabel mod env.lm
          "exception_label").2 "after_catch_label").2 }).2 with
          scopes := [] :: (cgBS mod fn φ [] t { env with lm := (freshLabel mod (freshLabel mod env.lm
            "exception_label").2 "after_catch_label").2 }).2.scopes } catchIdent).2
  | loops, .exprS _ (.matchE sp _ c arms (some (.blockE db))), env =>
    wsGE env.scopes φ c &&
      wsGArmsS mod fn φ loops arms { env with lm := (freshLabel mod (armTests mod sp arms (freshLabel mod
        (cgE mod (ρS env.scopes) φ c env.lm).2 "match_after").2).2.2 "match_default").2 } &&
      wsGBS mod fn φ loops db (cgArmsS mod fn φ loops sp (freshLabel mod
          (cgE mod (ρS env.scopes) φ c env.lm).2 "match_after").1 arms
        (armTests mod sp arms (freshLabel mod (cgE mod (ρS env.scopes) φ c env.lm).2 "match_after").2).2.1
        { env with lm := (freshLabel mod (armTests mod sp arms (freshLabel mod
          (cgE mod (ρS env.scopes) φ c env.lm).2 "match_after").2).2.2 "match_default").2 }).2
  | _, .exprS _ (.call _ _ (.member _ _ b _ _) args _), env =>
    wsGE env.scopes φ b && wsGArgs env.scopes φ args
  | _, .exprS _ (.call _ _ (.ident _ _ name _ _ _) args _), env =>
    if name == "throw" then
      (ρS env.scopes name).isNone && (φ name).isNone && wsGArgs env.scopes φ args
    else if name == "println" then
      (ρS env.scopes name).isNone && (φ name).isNone && wsGArgs env.scopes φ args
    else (ρS env.scopes name).isNone && (φ name).isSome && wsGArgs env.scopes φ args
  | loops, .whileS _ c body, env =>
    wsGE env.scopes φ c &&
      wsGBS mod fn φ (((freshLabel mod (freshLabel mod env.lm "loop_head").2 "loop_end").1,
          (freshLabel mod env.lm "loop_head").1) :: loops) body
        { env with lm := (cgE mod (ρS env.scopes) φ c
          (freshLabel mod (freshLabel mod env.lm "loop_head").2 "loop_end").2).2 }
  | loops, .loopS _ body, env =>
    wsGBS mod fn φ (((freshLabel mod (freshLabel mod env.lm "loop_head").2 "loop_end").1,
        (freshLabel mod env.lm "loop_head").1) :: loops) body
      { env with lm := (freshLabel mod (freshLabel mod env.lm "loop_head").2 "loop_end").2 }
  | loops, .forS _ name _ (.range _ a b _) (.mk _ _ stmts none), env =>
    let head := freshLabel mod env.lm "loop_head"
    let upd := freshLabel mod head.2 "loop_update"
    let after := freshLabel mod upd.2 "loop_end"
    let ca := cgE mod (ρS env.scopes) φ a after.2
    let cb := cgE mod (ρS env.scopes) φ b ca.2
    let fit := freshVar mod { env with scopes := [] :: env.scopes, lm := cb.2 } ("$iter_" ++ name)
    let fhv := freshVar mod fit.2 name
    wsGE env.scopes φ a && wsGE env.scopes φ b &&
      wsGSs mod fn φ ((after.1, upd.1) :: loops) stmts fhv.2
  | _, .ret _ (some e), env => wsGE env.scopes φ e && (ρS env.scopes (cleanupKey mod fn)).isSome
  | _, _, _ => true
def wsGSs (mod fn : String) (φ : String → Option String) : List (String × String) → List Stmt → CEnv → Bool
  | _, [], _ => true
  | loops, s :: ss, env => wsGS mod fn φ loops s env && wsGSs mod fn φ loops ss (cgS mod fn φ loops s env).2
def wsGBS (mod fn : String) (φ : String → Option String) : List (String × String) → Block → CEnv → Bool
  | loops, .mk _ _ stmts _, env => wsGSs mod fn φ loops stmts { env with scopes := [] :: env.scopes }
def wsGArmsS (mod fn : String) (φ : String → Option String) :
    List (String × String) → List (List Expr × Expr) → CEnv → Bool
  | loops, (_, .blockE b) :: rest, env =>
    wsGBS mod fn φ loops b env && wsGArmsS mod fn φ loops rest (cgBS mod fn φ loops b env).2
  | loops, _ :: rest, env => wsGArmsS mod fn φ loops rest env
  | _, [], _ => true
end

def namesGE (e : Expr) : List String := varsGE e ++ callsGE e
def namesGArgs (args : List (String × Expr)) : List String := varsGArgs args ++ callsGArgs args

mutual
/-- The identifiers a statement declares, reads, assigns or calls. -/
def identsGS : Stmt → List String
  | .letS _ name _ _ _ e => name :: namesGE e
  | .exprS _ (.assign _ _ (.ident _ _ name _ _ _) r) => name :: namesGE r
  | .exprS _ (.assign _ _ (.index isp ity b i) r) => namesGE (.index isp ity b i) ++ namesGE r
  | .exprS _ (.assign _ _ (.member msp mty b name mop) r) => namesGE (.member msp mty b name mop) ++ namesGE r
  | .exprS _ (.ifE _ _ c t (some eb)) => namesGE c ++ (identsGBS t ++ identsGBS eb)
  | .exprS _ (.ifE _ _ c t none) => namesGE c ++ identsGBS t
  | .exprS _ (.call _ _ (.ident _ _ name _ _ _) args _) => name :: namesGArgs args
  | .exprS _ (.call _ _ (.member _ _ b _ _) args _) => namesGE b ++ namesGArgs args
  | .exprS _ (.tryE _ _ t catchIdent c) => identsGBS t ++ (catchIdent :: identsGBS c)
  | .exprS _ (.matchE _ _ c arms (some (.blockE db))) => namesGE c ++ (identsGArmsS arms ++ identsGBS db)
  | .whileS _ c body => namesGE c ++ identsGBS body
  | .loopS _ body => identsGBS body
  | .forS _ name _ (.range _ a b _) (.mk _ _ stmts _) => name :: (namesGE a ++ (namesGE b ++ identsGSs stmts))
  | .ret _ (some e) => namesGE e
  | _ => []
def identsGSs : List Stmt → List String
  | [] => []
  | s :: ss => identsGS s ++ identsGSs ss
def identsGBS : Block → List String
  | .mk _ _ stmts _ => identsGSs stmts
def identsGArmsS : List (List Expr × Expr) → List String
  | (_, .blockE b) :: rest => identsGBS b ++ identsGArmsS rest
  | _ :: rest => identsGArmsS rest
  | [] => []
end

end Frag

/-! Assignment to an element or a field with the operator `op` left a variable. In `okFS` and `cgS` these patterns come
after `.assign _ none (.ident …)` and `.assign _ (some op) (.ident …)`, so their equations unfold only once `op` is
split; the other three functions are stated alongside so that the five can be rewritten together. -/

theorem okFS_idxAssign (fr il rt sp asp op isp ity b i r) :
    Frag.okFS fr il rt (.exprS sp (.assign asp op (.index isp ity b i) r)) =
      (opOK op && Frag.okV fr (.index isp ity b i) && Frag.okV fr r && (Frag.callsGE r).isEmpty) := by
  cases op <;> simp only [Frag.okFS]

theorem cgS_idxAssign (mod fn φ loops sp asp op isp ity b i r) (env : CEnv) :
    cgS mod fn φ loops (.exprS sp (.assign asp op (.index isp ity b i) r)) env =
      ((cgE mod (ρS env.scopes) φ (.index isp ity b i) env.lm).1 ++ opPre op asp ++
        (cgE mod (ρS env.scopes) φ r (cgE mod (ρS env.scopes) φ (.index isp ity b i) env.lm).2).1 ++ opPost op asp ++
        [(.assign, asp)],
       { env with lm := (cgE mod (ρS env.scopes) φ r (cgE mod (ρS env.scopes) φ (.index isp ity b i) env.lm).2).2 }) := by
  cases op <;> simp only [cgS]

theorem wsGS_idxAssign (mod fn φ loops sp asp op isp ity b i r) (env : CEnv) :
    Frag.wsGS mod fn φ loops (.exprS sp (.assign asp op (.index isp ity b i) r)) env =
      (Frag.wsGE env.scopes φ (.index isp ity b i) && Frag.wsGE env.scopes φ r) := by
  simp only [Frag.wsGS]

theorem identsGS_idxAssign (sp asp op isp ity b i r) :
    Frag.identsGS (.exprS sp (.assign asp op (.index isp ity b i) r)) =
      Frag.namesGE (.index isp ity b i) ++ Frag.namesGE r := by
  simp only [Frag.identsGS]

theorem depthGS_idxAssign (sp asp op isp ity b i r) :
    Frag.depthGS (.exprS sp (.assign asp op (.index isp ity b i) r)) =
      max (Frag.depthGE b) (max (Frag.depthGE i) (Frag.depthGE r)) + 3 := by
  simp only [Frag.depthGS]

theorem okFS_memAssign (fr il rt sp asp op msp mty b name r) :
    Frag.okFS fr il rt (.exprS sp (.assign asp op (.member msp mty b name .dot) r)) =
      (opOK op && Frag.okV fr (.member msp mty b name .dot) && Frag.okV fr r && (Frag.callsGE r).isEmpty) := by
  cases op <;> simp only [Frag.okFS]

theorem cgS_memAssign (mod fn φ loops sp asp op msp mty b name r) (env : CEnv) :
    cgS mod fn φ loops (.exprS sp (.assign asp op (.member msp mty b name .dot) r)) env =
      ((cgE mod (ρS env.scopes) φ (.member msp mty b name .dot) env.lm).1 ++ opPre op asp ++
        (cgE mod (ρS env.scopes) φ r (cgE mod (ρS env.scopes) φ (.member msp mty b name .dot) env.lm).2).1 ++ opPost op asp ++
        [(.assign, asp)],
       { env with lm := (cgE mod (ρS env.scopes) φ r (cgE mod (ρS env.scopes) φ (.member msp mty b name .dot) env.lm).2).2 }) := by
  cases op <;> simp only [cgS]

theorem wsGS_memAssign (mod fn φ loops sp asp op msp mty b name mop r) (env : CEnv) :
    Frag.wsGS mod fn φ loops (.exprS sp (.assign asp op (.member msp mty b name mop) r)) env =
      (Frag.wsGE env.scopes φ (.member msp mty b name mop) && Frag.wsGE env.scopes φ r) := by
  simp only [Frag.wsGS]

theorem identsGS_memAssign (sp asp op msp mty b name mop r) :
    Frag.identsGS (.exprS sp (.assign asp op (.member msp mty b name mop) r)) =
      Frag.namesGE (.member msp mty b name mop) ++ Frag.namesGE r := by
  simp only [Frag.identsGS]

theorem depthGS_memAssign (sp asp op msp mty b name mop r) :
    Frag.depthGS (.exprS sp (.assign asp op (.member msp mty b name mop) r)) =
      max (Frag.depthGE b) (Frag.depthGE r) + 3 := by
  simp only [Frag.depthGS]

theorem isRead_of_okGE (e : Expr) (h : Frag.okGE e = true) : Frag.isRead e = false := by
  fun_induction Frag.isRead e with
  | case1 | case2 => simp [Frag.okGE] at h
  | case3 sp e ih => exact ih (by simpa only [Frag.okGE] using h)
  | case4 => rfl

theorem okE_of_okGE (fr : Bool) :
    (∀ (e : Expr), Frag.okGE e = true → Frag.okE fr e = true) ∧
    (∀ (arms : List (List Expr × Expr)), Frag.okGArms arms = true → Frag.okEArms fr arms = true) ∧
    (∀ (args : List (String × Expr)), Frag.okGArgs args = true → Frag.okEArgs fr args = true) ∧
    (∀ (b : Block), Frag.okGB b = true → Frag.okEB fr b = true) := by
  refine Frag.okGE.mutual_induct_unfolding
    (motive_1 := fun e ok => ok = true → Frag.okE fr e = true)
    (motive_2 := fun arms ok => ok = true → Frag.okEArms fr arms = true)
    (motive_3 := fun args ok => ok = true → Frag.okEArgs fr args = true)
    (motive_4 := fun b ok => ok = true → Frag.okEB fr b = true)
    ?int ?bool ?str ?null ?none ?ident ?grouped ?pre ?infixE ?ifE ?call ?matchE ?list ?obj ?other
    ?block ?blockOther ?argsNil ?argsCons ?armsNil ?armsCons
  case int | bool | str | null | none | argsNil | armsNil => intros; rfl
  case other | blockOther => intros; contradiction
  case ident | list | obj => intros; assumption
  case grouped | pre | block => intros; rename_i ih h; simpa only [Frag.okE, Frag.okEB] using ih h
  case infixE =>
    intro sp ty op l r ihl ihr h
    simp only [Frag.okE, Bool.or_eq_true, Bool.and_eq_true] at h ⊢
    refine h.imp id fun ⟨⟨hlog, hl⟩, hr⟩ => ⟨⟨⟨hlog, ihl hl⟩, ihr hr⟩, Or.inl ?_⟩
    rw [isRead_of_okGE l hl]; rfl
  case ifE =>
    intro sp ty c t eb ihc iht ihe h
    simp only [Frag.okE, Bool.and_eq_true] at h ⊢
    exact ⟨⟨ihc h.1.1, iht h.1.2⟩, ihe h.2⟩
  case call =>
    intro sp ty isp ity name g f si args iha h
    simp only [Frag.okE, Bool.and_eq_true] at h ⊢
    exact ⟨⟨h.1.1, iha h.1.2⟩, h.2⟩
  case matchE =>
    intro sp ty c arms d ihc iha ihd h
    simp only [Frag.okE, Bool.and_eq_true] at h ⊢
    exact ⟨⟨ihc h.1.1, iha h.1.2⟩, ihd h.2⟩
  case argsCons =>
    intro a as ihe iha h
    simp only [Frag.okEArgs, Bool.and_eq_true] at h ⊢
    exact ⟨ihe h.1, iha h.2⟩
  case armsCons =>
    intro a as ihe iha h
    simp only [Frag.okEArms, Bool.and_eq_true] at h ⊢
    exact ⟨⟨h.1.1, ihe h.1.2⟩, iha h.2⟩

theorem okE_okGE (fr : Bool) (e : Expr) (h : Frag.okGE e = true) : Frag.okE fr e = true :=
  (okE_of_okGE fr).1 e h

theorem okEArgs_okGArgs (fr : Bool) (args : List (String × Expr)) (h : Frag.okGArgs args = true) :
    Frag.okEArgs fr args = true :=
  (okE_of_okGE fr).2.2.1 args h

theorem okE_mono {fr₀ fr : Bool} (h : fr₀ = true → fr = true) :
    (∀ (e : Expr), Frag.okE fr₀ e = true → Frag.okE fr e = true) ∧
    (∀ (arms : List (List Expr × Expr)), Frag.okEArms fr₀ arms = true → Frag.okEArms fr arms = true) ∧
    (∀ (args : List (String × Expr)), Frag.okEArgs fr₀ args = true → Frag.okEArgs fr args = true) ∧
    (∀ (b : Block), Frag.okEB fr₀ b = true → Frag.okEB fr b = true) := by
  refine Frag.okE.mutual_induct_unfolding fr₀
    (motive_1 := fun e ok => ok = true → Frag.okE fr e = true)
    (motive_2 := fun arms ok => ok = true → Frag.okEArms fr arms = true)
    (motive_3 := fun args ok => ok = true → Frag.okEArgs fr args = true)
    (motive_4 := fun b ok => ok = true → Frag.okEB fr b = true)
    ?int ?bool ?str ?null ?none ?ident ?grouped ?pre ?cast ?infixE ?ifE ?call ?meth ?matchE ?list ?obj ?index ?member
    ?other ?block ?blockOther ?argsNil ?argsCons ?armsNil ?armsCons
  case int | bool | str | null | none | argsNil | armsNil => intros; rfl
  case other | blockOther => intros; contradiction
  case ident | list | obj => intros; assumption
  case grouped | pre | block => intros; rename_i ih hok; simpa only [Frag.okE, Frag.okEB] using ih hok
  case cast =>
    intro sp ty e ih hok
    simp only [Frag.okE, Bool.and_eq_true] at hok ⊢
    exact ⟨⟨h hok.1.1, hok.1.2⟩, ih hok.2⟩
  case infixE =>
    intro sp ty op l r ihl ihr hok
    simp only [Frag.okE, Bool.or_eq_true, Bool.and_eq_true] at hok ⊢
    exact hok.imp id fun ⟨⟨⟨hlog, hl⟩, hr⟩, hv⟩ => ⟨⟨⟨hlog, ihl hl⟩, ihr hr⟩, hv⟩
  case ifE =>
    intro sp ty c t eb ihc iht ihe hok
    simp only [Frag.okE, Bool.and_eq_true] at hok ⊢
    exact ⟨⟨ihc hok.1.1, iht hok.1.2⟩, ihe hok.2⟩
  case call =>
    intro sp ty isp ity name g f si args iha hok
    simp only [Frag.okE, Bool.and_eq_true] at hok ⊢
    exact ⟨⟨hok.1.1, iha hok.1.2⟩, hok.2⟩
  case meth =>
    intro sp ty msp mty b nm ih hok
    simp only [Frag.okE, Bool.and_eq_true] at hok ⊢
    exact ⟨⟨h hok.1.1, hok.1.2⟩, ih hok.2⟩
  case matchE =>
    intro sp ty c arms d ihc iha ihd hok
    simp only [Frag.okE, Bool.and_eq_true] at hok ⊢
    exact ⟨⟨ihc hok.1.1, iha hok.1.2⟩, ihd hok.2⟩
  case index =>
    intro sp ty b i ihb ihi hok
    simp only [Frag.okE, Bool.and_eq_true] at hok ⊢
    exact ⟨⟨⟨h hok.1.1.1, ihb hok.1.1.2⟩, ihi hok.1.2⟩, hok.2⟩
  case member =>
    intro sp ty b nm ih hok
    simp only [Frag.okE, Bool.and_eq_true] at hok ⊢
    exact ⟨h hok.1, ih hok.2⟩
  case argsCons =>
    intro a as ihe iha hok
    simp only [Frag.okEArgs, Bool.and_eq_true] at hok ⊢
    exact ⟨ihe hok.1, iha hok.2⟩
  case armsCons =>
    intro a as ihe iha hok
    simp only [Frag.okEArms, Bool.and_eq_true] at hok ⊢
    exact ⟨⟨hok.1.1, ihe hok.1.2⟩, iha hok.2⟩

theorem okE_of_okXE (e : Expr) (h : Frag.okXE e = true) : Frag.okE true e = true := by
  fun_induction Frag.okXE e with
  | case1 sp ty b i ihb ihi =>
    simp only [Bool.and_eq_true] at h
    simp only [Frag.okE, ihb h.1.1, ihi h.1.2, h.2, Bool.and_self]
  | case2 sp ty b nm ih => simp only [Frag.okE, ih h, Bool.and_self]
  | case3 sp ty op l r ihl ihr =>
    simp only [Bool.or_eq_true, Bool.and_eq_true] at h
    simp only [Frag.okE, Bool.or_eq_true, Bool.and_eq_true]
    exact h.imp id fun ⟨⟨⟨h1, h2⟩, h3⟩, h4⟩ => ⟨⟨⟨h1, ihl h2⟩, ihr h3⟩, h4⟩
  | case4 sp ty op e ih => simpa only [Frag.okE] using ih h
  | case5 sp e ih => simpa only [Frag.okE] using ih h
  | case6 e => exact okE_okGE true e h

theorem okE_of_okV {fr : Bool} (e : Expr) (h : Frag.okV fr e = true) : Frag.okE true e = true := by
  simp only [Frag.okV, Bool.or_eq_true] at h
  exact h.elim (okE_of_okXE e) ((okE_mono fun _ => rfl).1 e)

theorem okV_mono {fr₀ fr : Bool} (h : fr₀ = true → fr = true) (e : Expr) (hv : Frag.okV fr₀ e = true) :
    Frag.okV fr e = true := by
  simp only [Frag.okV, Bool.or_eq_true] at hv ⊢
  exact hv.imp id ((okE_mono h).1 e)

theorem okFS_mono {fr : Bool} :
    (∀ (fr₀ il rt : Bool) (st : Stmt), (fr₀ = true → fr = true) → Frag.okFS fr₀ il rt st = true →
      Frag.okFS fr il rt st = true) ∧
    (∀ (fr₀ il rt : Bool) (ss : List Stmt), (fr₀ = true → fr = true) → Frag.okFSs fr₀ il rt ss = true →
      Frag.okFSs fr il rt ss = true) ∧
    (∀ (fr₀ il rt : Bool) (arms : List (List Expr × Expr)), (fr₀ = true → fr = true) →
      Frag.okFArmsS fr₀ il rt arms = true → Frag.okFArmsS fr il rt arms = true) ∧
    (∀ (fr₀ il rt : Bool) (b : Block), (fr₀ = true → fr = true) → Frag.okFBS fr₀ il rt b = true →
      Frag.okFBS fr il rt b = true) := by
  refine Frag.okFS.mutual_induct_unfolding
    (motive_1 := fun fr₀ il rt st ok => (fr₀ = true → fr = true) → ok = true → Frag.okFS fr il rt st = true)
    (motive_2 := fun fr₀ il rt ss ok => (fr₀ = true → fr = true) → ok = true → Frag.okFSs fr il rt ss = true)
    (motive_3 := fun fr₀ il rt arms ok => (fr₀ = true → fr = true) → ok = true → Frag.okFArmsS fr il rt arms = true)
    (motive_4 := fun fr₀ il rt b ok => (fr₀ = true → fr = true) → ok = true → Frag.okFBS fr il rt b = true)
    ?letS ?assign ?opAssign ?idxAssign ?memAssign ?ifElse ?ifThen ?tryCatch ?matchS ?push ?throw ?println ?call
    ?whileS ?loopS ?forS ?brk ?cont ?ret ?other ?block ?blockOther ?armsNil ?armsCons ?armsOther ?stmtsNil ?stmtsCons
  case other | blockOther | armsOther => intros; contradiction
  case stmtsNil | armsNil => intros; rfl
  case brk | cont => intros; rename_i hok; simpa only [Frag.okFS] using hok
  case throw =>
    intro fr₀ il rt sp csp cty isp ity name g f si args sw ht h hok
    simpa only [Frag.okFS, if_pos ht] using hok
  case letS =>
    intro fr₀ il rt sp name vty nc oty e h hok
    simp only [Frag.okFS, Bool.and_eq_true] at hok ⊢
    exact ⟨hok.1, okV_mono h e hok.2⟩
  case assign =>
    intro fr₀ il rt sp asp isp ity name f r h hok
    simp only [Frag.okFS]
    exact okV_mono h r hok
  case opAssign =>
    intro fr₀ il rt sp asp op isp ity name f r h hok
    simp only [Frag.okFS, Bool.and_eq_true] at hok ⊢
    exact ⟨hok.1, okV_mono h r hok.2⟩
  case idxAssign | memAssign =>
    intros; rename_i r h hok
    simp only [okFS_idxAssign, okFS_memAssign, Bool.and_eq_true] at hok ⊢
    exact ⟨⟨⟨hok.1.1.1, okV_mono h _ hok.1.1.2⟩, okV_mono h r hok.1.2⟩, hok.2⟩
  case ifElse =>
    intro fr₀ il rt sp isp ty c t eb iht ihe h hok
    simp only [Frag.okFS, Bool.and_eq_true] at hok ⊢
    exact ⟨⟨⟨hok.1.1.1, (okE_mono h).1 c hok.1.1.2⟩, iht h hok.1.2⟩, ihe h hok.2⟩
  case ifThen =>
    intro fr₀ il rt sp isp ty c t iht h hok
    simp only [Frag.okFS, Bool.and_eq_true] at hok ⊢
    exact ⟨⟨hok.1.1, (okE_mono h).1 c hok.1.2⟩, iht h hok.2⟩
  case tryCatch =>
    intro fr₀ il rt sp tsp ty t ci c iht ihc h hok
    simp only [Frag.okFS, Bool.and_eq_true] at hok ⊢
    exact ⟨⟨hok.1.1, iht h hok.1.2⟩, ihc h hok.2⟩
  case matchS =>
    intro fr₀ il rt sp msp ty c arms db iha ihd h hok
    simp only [Frag.okFS, Bool.and_eq_true] at hok ⊢
    exact ⟨⟨⟨hok.1.1.1, (okE_mono h).1 c hok.1.1.2⟩, iha h hok.1.2⟩, ihd h hok.2⟩
  case push =>
    intro fr₀ il rt sp csp cty msp mty b nm a h hok
    simp only [Frag.okFS, Bool.and_eq_true] at hok ⊢
    exact ⟨⟨⟨⟨⟨h hok.1.1.1.1.1, hok.1.1.1.1.2⟩, hok.1.1.1.2⟩, okV_mono h b hok.1.1.2⟩, okV_mono h _ hok.1.2⟩, hok.2⟩
  case println =>
    intro fr₀ il rt sp csp cty isp ity name g f si args sw ht hp h hok
    simp only [Frag.okFS, if_neg ht, if_pos hp, Bool.and_eq_true] at hok ⊢
    exact ⟨⟨⟨hok.1.1.1, (okE_mono h).2.2.1 args hok.1.1.2⟩, hok.1.2⟩, hok.2⟩
  case call =>
    intro fr₀ il rt sp csp cty isp ity name g f si args sw ht hp h hok
    simp only [Frag.okFS, if_neg ht, if_neg hp, Bool.and_eq_true] at hok ⊢
    exact ⟨hok.1, (okE_mono h).1 _ hok.2⟩
  case whileS =>
    intro fr₀ il rt sp c body ih h hok
    simp only [Frag.okFS, Bool.and_eq_true] at hok ⊢
    exact ⟨(okE_mono h).1 c hok.1, ih h hok.2⟩
  case loopS =>
    intro fr₀ il rt sp body ih h hok
    simp only [Frag.okFS]
    exact ih h hok
  case forS =>
    intro fr₀ il rt sp name vty rsp a b incl bsp bty stmts ih h hok
    simp only [Frag.okFS, Bool.and_eq_true] at hok ⊢
    exact ⟨⟨⟨h hok.1.1.1, (okE_mono h).1 a hok.1.1.2⟩, (okE_mono h).1 b hok.1.2⟩, ih h hok.2⟩
  case ret =>
    intro fr₀ il rt sp e h hok
    simp only [Frag.okFS, Bool.and_eq_true] at hok ⊢
    exact ⟨hok.1, (okE_mono h).1 e hok.2⟩
  case block =>
    intro fr₀ il rt sp ty ss ih h hok
    simp only [Frag.okFBS]
    exact ih h hok
  case armsCons =>
    intro fr₀ il rt lits b rest ihb ihr h hok
    simp only [Frag.okFArmsS, Bool.and_eq_true] at hok ⊢
    exact ⟨⟨hok.1.1, ihb h hok.1.2⟩, ihr h hok.2⟩
  case stmtsCons =>
    intro fr₀ il rt s ss ihs ihss h hok
    simp only [Frag.okFSs, Bool.and_eq_true] at hok ⊢
    exact ⟨ihs h hok.1, ihss h hok.2⟩

theorem okFSs_of_okGSs (fr il rt : Bool) (ss : List Stmt) (h : Frag.okGSs il rt ss = true) :
    Frag.okFSs fr il rt ss = true :=
  okFS_mono.2.1 false il rt ss nofun h

theorem okGE_of_atom (e : Expr) (h : Frag.atomE e = true) : Frag.okGE e = true := by
  fun_induction Frag.atomE e with
  | case1 | case2 | case3 | case4 | case5 => rfl
  | case6 => simpa only [Frag.okGE] using h
  | case7 sp e ih => simpa only [Frag.okGE] using ih h
  | case8 => contradiction

end HmsProofs.Sim
