import HmsProofs.Lemmas.MembersList
/-! Lemmas for C18: results of the modelled members conform to the signatures `expectedSig`. -/
namespace HmsProofs.Lemmas.Members
open Hms.Members HmsGen

theorem conformsAll_iff {xs : List MVal} {e : GTy} :
    conformsAll xs e = true ↔ ∀ x ∈ xs, conforms x e = true := by
  induction xs with
  | nil => simp [conformsAll]
  | cons x xs ih => simp [conformsAll, ih]

theorem conformsAll_append (xs ys : List MVal) (e : GTy) :
    conformsAll (xs ++ ys) e = (conformsAll xs e && conformsAll ys e) := by
  rw [Bool.eq_iff_iff]; simp [conformsAll_iff, or_imp, forall_and]

theorem conformsAll_mem {xs : List MVal} {e : GTy} (h : conformsAll xs e = true) {v : MVal} (hv : v ∈ xs) :
    conforms v e = true :=
  conformsAll_iff.mp h v hv

theorem conformsAll_sub {xs ys : List MVal} {e : GTy} (h : conformsAll xs e = true) (hs : ys ⊆ xs) :
    conformsAll ys e = true :=
  conformsAll_iff.mpr fun _ hx => conformsAll_mem h (hs hx)

/-- Canonical forms: what a value of an advertised type looks like. -/
theorem canon {v : MVal} {T : GTy} (h : conforms v T = true) :
    match T with
    | .list e => ∃ xs, v = .list xs ∧ conformsAll xs e = true
    | .opt e => v = .none ∨ ∃ w, v = .some w ∧ conforms w e = true
    | .int => ∃ i, v = .int i
    | .str => ∃ cs, v = .str cs
    | .bool => ∃ b, v = .bool b
    | .range => ∃ a b i, v = .range a b i
    | .anyobj => ∃ ks vs, v = .anyobj ks vs
    | .obj => ∃ ks vs, v = .obj ks vs
    | _ => True := by
  cases T with
  | list | opt | int | str | bool | range | anyobj | obj => cases v <;> simp [conforms] at h ⊢ <;> exact h
  | _ => trivial

theorem conforms_any (v : MVal) : conforms v .any = true := by
  cases v <;> simp [conforms]

theorem conformsArgs_nil {args : List MVal} (h : conformsArgs args [] = true) : args = [] := by
  cases args <;> simp [conformsArgs] at h ⊢

theorem conformsArgs_one {args : List MVal} {t : GTy} (h : conformsArgs args [t] = true) :
    ∃ v, args = [v] ∧ conforms v t = true := by
  cases args with
  | nil => simp [conformsArgs] at h
  | cons v vs =>
    simp [conformsArgs] at h
    have := conformsArgs_nil h.2
    subst this
    exact ⟨v, rfl, h.1⟩

theorem conformsArgs_two {args : List MVal} {t u : GTy} (h : conformsArgs args [t, u] = true) :
    ∃ v w, args = [v, w] ∧ conforms v t = true ∧ conforms w u = true := by
  cases args with
  | nil => simp [conformsArgs] at h
  | cons v vs =>
    simp [conformsArgs] at h
    obtain ⟨w, rfl, hw⟩ := conformsArgs_one h.2
    exact ⟨v, w, rfl, h.1, hw⟩

theorem conformsAll_strs (ks : List String) :
    conformsAll (ks.map fun k => MVal.str k.toList) .str = true := by
  induction ks with
  | nil => simp [conformsAll]
  | cons k ks ih => simp [conformsAll, conforms, ih]

theorem typed_generic (T : GTy) (name : String) (params : List GTy) (result : GTy)
    (hs : expectedSig T name = some (params, result)) (vm : Bool) (recv : MVal) (args : List MVal)
    (hr : conforms recv T = true) (hz : goSized recv) (ha : conformsArgs args params = true) :
    typedOutcome (callMember vm recv name args) T result := by
  unfold expectedSig at hs
  split at hs <;> simp only [Option.some.injEq, Prod.mk.injEq, reduceCtorEq] at hs
  all_goals (obtain ⟨rfl, rfl⟩ := hs)
  -- list: len
  · obtain ⟨xs, rfl, hx⟩ := canon hr
    cases conformsArgs_nil ha
    exact ⟨rfl, hx⟩
  -- push
  · obtain ⟨xs, rfl, hx⟩ := canon hr
    obtain ⟨v, rfl, hv⟩ := conformsArgs_one ha
    exact ⟨rfl, by simp [conforms, conformsAll_append, conformsAll, hx, hv]⟩
  -- push_front
  · obtain ⟨xs, rfl, hx⟩ := canon hr
    obtain ⟨v, rfl, hv⟩ := conformsArgs_one ha
    exact ⟨rfl, by simp [conforms, conformsAll, hx, hv]⟩
  -- pop
  · obtain ⟨xs, rfl, hx⟩ := canon hr
    cases conformsArgs_nil ha
    show typedOutcome (listPop xs) _ _
    rw [listPop_spec xs hz]
    cases hl : xs.getLast? with
    | none => simp [typedOutcome, conforms, hx]
    | some v => simp [typedOutcome, conforms, conformsAll_mem hx (List.mem_of_getLast? hl), conformsAll_sub hx (List.dropLast_subset _)]
  -- pop_front
  · obtain ⟨xs, rfl, hx⟩ := canon hr
    cases conformsArgs_nil ha
    show typedOutcome (listPopFront xs) _ _
    rw [listPopFront_spec xs hz]
    cases xs with
    | nil => simp [typedOutcome, conforms, conformsAll]
    | cons v rest =>
      simp [conformsAll] at hx
      simp [typedOutcome, conforms, hx.1, hx.2]
  -- last
  · obtain ⟨xs, rfl, hx⟩ := canon hr
    cases conformsArgs_nil ha
    show typedOutcome (listLast xs) _ _
    rw [listLast_spec xs hz]
    cases hl : xs.getLast? with
    | none => simp [typedOutcome, conforms, hx]
    | some v => simp [typedOutcome, conforms, conformsAll_mem hx (List.mem_of_getLast? hl), hx]
  -- insert
  · obtain ⟨xs, rfl, hx⟩ := canon hr
    obtain ⟨iv, v, rfl, hi, hv⟩ := conformsArgs_two ha
    obtain ⟨i, rfl⟩ := canon hi
    show typedOutcome (listInsert xs i v) _ _
    cases hw : wrapSpecIns i.toInt xs.length with
    | none => rw [(listInsert_spec xs i v hz).2 hw]; trivial
    | some k =>
      rw [(listInsert_spec xs i v hz).1 k hw]
      simp [typedOutcome, conforms, conformsAll_append, conformsAll, conformsAll_sub hx (List.take_subset ..), conformsAll_sub hx (List.drop_subset ..), hv]
  -- remove
  · obtain ⟨xs, rfl, hx⟩ := canon hr
    obtain ⟨iv, rfl, hi⟩ := conformsArgs_one ha
    obtain ⟨i, rfl⟩ := canon hi
    show typedOutcome (listRemove xs i) _ _
    cases hw : wrapSpec i.toInt xs.length with
    | none => rw [(listRemove_spec xs i hz).2 hw]; trivial
    | some k =>
      rw [(listRemove_spec xs i hz).1 k hw]
      simp [typedOutcome, conforms, conformsAll_sub hx List.eraseIdx_subset]
  -- concat
  · obtain ⟨xs, rfl, hx⟩ := canon hr
    obtain ⟨yv, rfl, hy⟩ := conformsArgs_one ha
    obtain ⟨ys, rfl, hys⟩ := canon hy
    exact ⟨rfl, by simp [conforms, conformsAll_append, hx, hys]⟩
  -- str: len
  · obtain ⟨cs, rfl⟩ := canon hr
    cases conformsArgs_nil ha
    exact ⟨rfl, rfl⟩
  -- substring
  · obtain ⟨cs, rfl⟩ := canon hr
    obtain ⟨iv, rfl, hi⟩ := conformsArgs_one ha
    obtain ⟨u, rfl⟩ := canon hi
    show typedOutcome (strSubstring cs u) _ _
    rw [strSubstring_spec cs u hz]
    split <;> simp [typedOutcome, conforms]
  -- repeat
  · obtain ⟨cs, rfl⟩ := canon hr
    obtain ⟨iv, rfl, hi⟩ := conformsArgs_one ha
    obtain ⟨n, rfl⟩ := canon hi
    show typedOutcome (strRepeat cs n) _ _
    rw [strRepeat_spec cs n]
    split
    · simp [typedOutcome]
    · split <;> simp [typedOutcome, conforms]
  -- range: rev
  · obtain ⟨a, b, incl, rfl⟩ := canon hr
    cases conformsArgs_nil ha
    exact ⟨rfl, rfl⟩
  -- diff
  · obtain ⟨a, b, incl, rfl⟩ := canon hr
    cases conformsArgs_nil ha
    exact ⟨rfl, rfl⟩
  -- int: to_range
  · obtain ⟨i, rfl⟩ := canon hr
    cases conformsArgs_nil ha
    exact ⟨rfl, rfl⟩
  -- int: to_string
  · obtain ⟨i, rfl⟩ := canon hr
    cases conformsArgs_nil ha
    exact ⟨rfl, rfl⟩
  -- bool: to_string
  · obtain ⟨b, rfl⟩ := canon hr
    cases conformsArgs_nil ha
    exact ⟨rfl, rfl⟩
  -- option: is_some
  · cases conformsArgs_nil ha
    rcases canon hr with rfl | ⟨w, rfl, hw⟩
    · exact ⟨rfl, rfl⟩
    · exact ⟨rfl, hw⟩
  -- is_none
  · cases conformsArgs_nil ha
    rcases canon hr with rfl | ⟨w, rfl, hw⟩
    · exact ⟨rfl, rfl⟩
    · exact ⟨rfl, hw⟩
  -- unwrap
  · cases conformsArgs_nil ha
    rcases canon hr with rfl | ⟨w, rfl, hw⟩
    · trivial
    · exact ⟨hw, hw⟩
  -- unwrap_or
  · obtain ⟨d, rfl, hd⟩ := conformsArgs_one ha
    rcases canon hr with rfl | ⟨w, rfl, hw⟩
    · exact ⟨hd, rfl⟩
    · exact ⟨hw, hw⟩
  -- expect
  · obtain ⟨mv, rfl, hm⟩ := conformsArgs_one ha
    obtain ⟨msg, rfl⟩ := canon hm
    rcases canon hr with rfl | ⟨w, rfl, hw⟩
    · trivial
    · exact ⟨hw, hw⟩
  -- anyobj: get
  · obtain ⟨ks, vs, rfl⟩ := canon hr
    obtain ⟨kv, rfl, hk⟩ := conformsArgs_one ha
    obtain ⟨k, rfl⟩ := canon hk
    show typedOutcome (match lookupKey ks vs (String.ofList k) with
      | .some v => .ok (.some v) (.anyobj ks vs)
      | .none => .ok .none (.anyobj ks vs)) _ _
    split <;> simp [typedOutcome, conforms, conforms_any]
  -- anyobj: keys
  · obtain ⟨ks, vs, rfl⟩ := canon hr
    cases conformsArgs_nil ha
    exact ⟨conformsAll_strs _, rfl⟩
  -- obj: keys
  · obtain ⟨ks, vs, rfl⟩ := canon hr
    cases conformsArgs_nil ha
    exact ⟨conformsAll_strs _, rfl⟩
  -- anyobj: set
  · obtain ⟨ks, vs, rfl⟩ := canon hr
    obtain ⟨kv, v, rfl, hk, hv⟩ := conformsArgs_two ha
    obtain ⟨k, rfl⟩ := canon hk
    exact ⟨rfl, rfl⟩

theorem typed_field_generic (T : GTy) (name : String) (result : GTy)
    (hs : expectedField T name = some result) (recv : MVal) (hr : conforms recv T = true) :
    typedOutcome (fieldMember recv name) T result := by
  unfold expectedField at hs
  split at hs <;> simp only [Option.some.injEq, reduceCtorEq] at hs
  all_goals subst hs
  · obtain ⟨a, b, incl, rfl⟩ := canon hr
    simp [fieldMember, typedOutcome, conforms]
  · obtain ⟨a, b, incl, rfl⟩ := canon hr
    simp [fieldMember, typedOutcome, conforms]

theorem typed_index (T R : GTy) (hT : indexResultType T = some R) (recv idx : MVal)
    (hr : conforms recv T = true) (hz : goSized recv)
    (hi : conforms idx (match T with | .obj | .anyobj => GTy.str | _ => GTy.int) = true) :
    typedOutcome (indexValue recv idx) T R := by
  unfold indexResultType at hT
  split at hT <;> simp only [Option.some.injEq, reduceCtorEq] at hT
  all_goals subst hT
  · obtain ⟨xs, rfl, hx⟩ := canon hr
    obtain ⟨i, rfl⟩ := canon hi
    simp only [indexValue]
    cases hw : wrapSpec i.toInt xs.length with
    | none => rw [(listIndex_spec xs i hz).2 hw]; trivial
    | some k =>
      obtain ⟨v, hv, he⟩ := (listIndex_spec xs i hz).1 k hw
      rw [he]
      simp [typedOutcome, conforms, hx, conformsAll_mem hx (List.mem_of_getElem? hv)]
  · obtain ⟨cs, rfl⟩ := canon hr
    obtain ⟨i, rfl⟩ := canon hi
    simp only [indexValue]
    cases hw : wrapSpec i.toInt cs.length with
    | none => rw [(strIndex_spec cs i hz).2 hw]; trivial
    | some k =>
      obtain ⟨c, hc, he⟩ := (strIndex_spec cs i hz).1 k hw
      rw [he]
      simp [typedOutcome, conforms]
  · obtain ⟨ks, vs, rfl⟩ := canon hr
    obtain ⟨k, rfl⟩ := canon hi
    simp only [indexValue, keyIndex]
    split <;> simp [typedOutcome, conforms, conforms_any]
  · obtain ⟨ks, vs, rfl⟩ := canon hr
    obtain ⟨k, rfl⟩ := canon hi
    simp only [indexValue, keyIndex]
    split <;> simp [typedOutcome, conforms, conforms_any]

end HmsProofs.Lemmas.Members
