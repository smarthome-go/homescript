import Hms.Value.Content
import HmsProofs.Lemmas.ValEq
/-! `isEqual a b` ↔ `content a = content b` on well-formed data values. -/
namespace HmsProofs.Lemmas.ValContent
open Hms.Value HmsProofs.Lemmas.ValEq

theorem contentFields_eq : ∀ (fs : Fields) (q : String), contentFields fs q = (fs.lookup q).map content
  | .nil, q => by simp [contentFields, Fields.lookup]
  | .cons k v fs, q => by
    simp only [contentFields, Fields.lookup]
    split
    · simp
    · exact contentFields_eq fs q

theorem fields_content_eq (fs gs : Fields) (hnf : nodupKeys fs.keys = true)
    (hl : fs.length = gs.length) (h : Fields.isEqualIn fs gs = true)
    (ih : ∀ k a, (k, a) ∈ fs.toList → ∀ b, (k, b) ∈ gs.toList → a.isEqual b = true → content a = content b) :
    contentFields fs = contentFields gs := by
  have hsub := isEqualIn_keys h
  rw [isEqualIn_iff] at h
  funext q
  rw [contentFields_eq, contentFields_eq]
  by_cases hq : q ∈ fs.keys
  · obtain ⟨a, ha⟩ := lookup_of_mem_keys fs q hq
    obtain ⟨b, hb, hab⟩ := h q a (lookup_mem fs q a ha)
    simp [ha, hb, ih q a (lookup_mem fs q a ha) b (lookup_mem gs q b hb) hab]
  · have hq' : q ∉ gs.keys := fun hg =>
      hq (subset_of_nodup_length fs.keys gs.keys hnf hsub (by simp [keys_length, hl]) q hg)
    simp [lookup_none_of_not_mem fs q hq, lookup_none_of_not_mem gs q hq']

mutual
theorem content_of_isEqual : ∀ (a b : Val), a.wf = true → b.wf = true → a.isEqual b = true → content a = content b
  | .null, b, _, _, h | .int _, b, _, _, h | .flt _, b, _, _, h | .bool _, b, _, _, h | .str _, b, _, _, h
  | .none, b, _, _, h | .range .., b, _, _, h => by
    cases (isEqual_atom rfl b).mp h; rfl
  | .fn, b, _, _, h => (Bool.false_ne_true h).elim
  | .some a, b, hwa, hwb, h => by
    obtain ⟨y, rfl, h⟩ := isEqual_some_inv h
    simp only [content, content_of_isEqual a y hwa hwb h]
  | .list xs, b, hwa, hwb, h => by
    obtain ⟨ys, rfl, hl, h⟩ := isEqual_list_inv h
    simp only [content, content_of_isEqual_vals xs ys hwa hwb hl h]
  | .obj fs, b, hwa, hwb, h | .anyobj fs, b, hwa, hwb, h => by
    obtain ⟨gs, rfl, hl, h⟩ := isEqual_fields_inv (by simp) h
    simp only [Val.wf, Bool.and_eq_true] at hwa hwb
    simp only [content, Content.obj.injEq, Content.anyobj.injEq]
    exact fields_content_eq fs gs hwa.1 hl h
      (fun k a hm b hb => content_of_isEqual_fields fs hwa.2 k a hm b (mem_wf gs hwb.2 k b hb))
theorem content_of_isEqual_vals : ∀ (xs ys : Vals), xs.wf = true → ys.wf = true → xs.length = ys.length →
    Vals.isEqual xs ys = true → contentList xs = contentList ys
  | .nil, ys, _, _, hl, _ => by
    cases ys with
    | nil => rfl
    | cons y ys => simp [Vals.length] at hl
  | .cons x xs, ys, hwa, hwb, hl, h => by
    cases ys with
    | nil => simp [Vals.isEqual] at h
    | cons y ys =>
      simp only [Vals.isEqual, Bool.and_eq_true, Vals.wf, Vals.length] at h hwa hwb hl
      simp [contentList, content_of_isEqual x y hwa.1 hwb.1 h.1, content_of_isEqual_vals xs ys hwa.2 hwb.2 (by omega) h.2]
theorem content_of_isEqual_fields : ∀ (as : Fields), as.wf = true → ∀ k a, (k, a) ∈ as.toList →
    ∀ b, b.wf = true → a.isEqual b = true → content a = content b
  | .nil, _, k, a, hm => by simp [Fields.toList] at hm
  | .cons k' a' as, hw, k, a, hm => by
    simp only [Fields.wf, Bool.and_eq_true] at hw
    rcases mem_toList_cons hm with rfl | hm
    · exact fun b => content_of_isEqual a' b hw.1
    · exact content_of_isEqual_fields as hw.2 k a hm
end

theorem contentList_length : ∀ (xs ys : Vals), contentList xs = contentList ys → xs.length = ys.length
  | .nil, .nil, _ => rfl
  | .nil, .cons _ _, h => by simp [contentList] at h
  | .cons _ _, .nil, h => by simp [contentList] at h
  | .cons x xs, .cons y ys, h => by
    simp only [contentList, List.cons.injEq] at h
    simp [Vals.length, contentList_length xs ys h.2]

theorem fields_isEqualIn_of_content (fs gs : Fields) (hnf : nodupKeys fs.keys = true) (hng : nodupKeys gs.keys = true)
    (h : contentFields fs = contentFields gs)
    (ih : ∀ k a, (k, a) ∈ fs.toList → ∀ b, (k, b) ∈ gs.toList → content a = content b → a.isEqual b = true) :
    fs.length = gs.length ∧ Fields.isEqualIn fs gs = true := by
  have hq : ∀ q, (fs.lookup q).map content = (gs.lookup q).map content := by
    intro q; rw [← contentFields_eq, ← contentFields_eq, h]
  have hkeys : ∀ q, q ∈ fs.keys ↔ q ∈ gs.keys := by
    intro q
    rw [mem_keys_iff_lookup, mem_keys_iff_lookup]
    have := hq q
    cases h1 : fs.lookup q <;> cases h2 : gs.lookup q <;> simp [h1, h2] at this ⊢
  refine ⟨?_, ?_⟩
  · rw [← keys_length, ← keys_length]
    exact Nat.le_antisymm (length_le_of_nodup_subset _ _ hnf (fun x hx => (hkeys x).mp hx))
      (length_le_of_nodup_subset _ _ hng (fun x hx => (hkeys x).mpr hx))
  · rw [isEqualIn_iff]
    intro k a ha
    have hl := lookup_of_mem_nodup fs k a hnf ha
    have := hq k
    rw [hl] at this
    cases hg : gs.lookup k with
    | none => simp [hg] at this
    | some b =>
      simp [hg] at this
      exact ⟨b, rfl, ih k a ha b (lookup_mem gs k b hg) this⟩

mutual
theorem isEqual_of_content : ∀ (a b : Val), a.wf = true → b.wf = true → a.data = true →
    content a = content b → a.isEqual b = true
  | .null, b, _, _, _, h => by cases b <;> simp [content] at h; simp [Val.isEqual]
  | .int _, b, _, _, _, h => by cases b <;> simp [content] at h; simp [Val.isEqual, h]
  | .flt _, b, _, _, _, h => by cases b <;> simp [content] at h; simp [Val.isEqual, h]
  | .bool _, b, _, _, _, h => by cases b <;> simp [content] at h; simp [Val.isEqual, h]
  | .str _, b, _, _, _, h => by cases b <;> simp [content] at h; simp [Val.isEqual, h]
  | .none, b, _, _, _, h => by cases b <;> simp [content] at h; simp [Val.isEqual]
  | .range .., b, _, _, _, h => by
    cases b <;> simp [content] at h
    simp [Val.isEqual, h.1, h.2.1, h.2.2]
  | .fn, b, _, _, hd, _ => by simp [Val.data] at hd
  | .some a, b, hwa, hwb, hd, h => by
    cases b <;> simp [content] at h
    simp only [Val.wf, Val.data] at hwa hwb hd
    simp [Val.isEqual, isEqual_of_content a _ hwa hwb hd h]
  | .list xs, b, hwa, hwb, hd, h => by
    cases b <;> simp [content] at h
    simp only [Val.wf, Val.data] at hwa hwb hd
    simp [Val.isEqual, contentList_length _ _ h, isEqual_of_content_vals xs _ hwa hwb hd h]
  | .obj fs, b, hwa, hwb, hd, h | .anyobj fs, b, hwa, hwb, hd, h => by
    cases b <;> simp [content] at h
    rename_i gs
    simp only [Val.wf, Val.data, Bool.and_eq_true] at hwa hwb hd
    obtain ⟨h1, h2⟩ := fields_isEqualIn_of_content fs gs hwa.1 hwb.1 h
      (fun k a hm b hb => isEqual_of_content_fields fs hwa.2 hd k a hm b (mem_wf gs hwb.2 k b hb))
    simp [Val.isEqual, h1, h2]
theorem isEqual_of_content_vals : ∀ (xs ys : Vals), xs.wf = true → ys.wf = true → xs.data = true →
    contentList xs = contentList ys → Vals.isEqual xs ys = true
  | .nil, _, _, _, _, _ => by simp [Vals.isEqual]
  | .cons x xs, ys, hwa, hwb, hd, h => by
    cases ys with
    | nil => simp [contentList] at h
    | cons y ys =>
      simp only [contentList, List.cons.injEq, Vals.wf, Vals.data, Bool.and_eq_true] at h hwa hwb hd
      simp [Vals.isEqual, isEqual_of_content x y hwa.1 hwb.1 hd.1 h.1, isEqual_of_content_vals xs ys hwa.2 hwb.2 hd.2 h.2]
theorem isEqual_of_content_fields : ∀ (as : Fields), as.wf = true → as.data = true → ∀ k a, (k, a) ∈ as.toList →
    ∀ b, b.wf = true → content a = content b → a.isEqual b = true
  | .nil, _, _, k, a, hm => by simp [Fields.toList] at hm
  | .cons k' a' as, hw, hd, k, a, hm => by
    simp only [Fields.wf, Fields.data, Bool.and_eq_true] at hw hd
    rcases mem_toList_cons hm with rfl | hm
    · exact fun b hb => isEqual_of_content a' b hw.1 hb hd.1
    · exact isEqual_of_content_fields as hw.2 hd.2 k a hm
end

end HmsProofs.Lemmas.ValContent

/-! A value has its own content, so reflexivity is a corollary of the characterisation above; it stands here,
under the namespace of the other laws of `isEqual`. -/
namespace HmsProofs.Lemmas.ValEq
open Hms.Value HmsProofs.Lemmas.ValContent

theorem isEqual_refl (v : Val) (hw : v.wf = true) (hd : v.data = true) : v.isEqual v = true :=
  isEqual_of_content v v hw hw hd rfl

theorem isEqual_refl_vals : ∀ (xs : Vals), xs.wf = true → xs.data = true → Vals.isEqual xs xs = true :=
  fun xs hw hd => isEqual_of_content_vals xs xs hw hw hd rfl

theorem isEqualIn_refl : ∀ (as : Fields), as.wf = true → as.data = true → nodupKeys as.keys = true →
    ∀ (gs : Fields), (∀ q, q ∈ as.keys → gs.lookup q = as.lookup q) → Fields.isEqualIn as gs = true :=
  fun as hw hd hn gs hl => (isEqualIn_iff as gs).mpr fun k a hm =>
    ⟨a, by rw [hl k (mem_keys_of_mem as k a hm)]; exact lookup_of_mem_nodup as k a hn hm,
      isEqual_refl a (mem_wf as hw k a hm) (mem_data as hd k a hm)⟩

end HmsProofs.Lemmas.ValEq
