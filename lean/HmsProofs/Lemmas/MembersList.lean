import HmsProofs.Lemmas.MembersIndex
/-! Lemmas for C18: the list and string members of the model compute what the rule says. -/
namespace HmsProofs.Lemmas.Members
open Hms.Members

theorem set_take_succ {α} (xs : List α) (k : Nat) (h : k < xs.length) (v : α) (ys : List α) :
    ((xs.take (k + 1)) ++ ys).set k v = xs.take k ++ v :: ys := by
  induction xs generalizing k with
  | nil => simp at h
  | cons x xs ih =>
    cases k with
    | zero => simp
    | succ k =>
      have h' : k < xs.length := by simpa using h
      simp [ih k h']

theorem listInsert_spec (xs : List MVal) (i : I64) (v : MVal) (hl : xs.length < 2 ^ 63) :
    (∀ k, wrapSpecIns i.toInt xs.length = Option.some k →
      listInsert xs i v = .ok .null (.list (xs.take k ++ v :: xs.drop k))) ∧
    (wrapSpecIns i.toInt xs.length = Option.none → listInsert xs i v
      = .fatal "IndexOutOfBounds" (oobMsgMember xs.length (wrapIdx i (goLen xs)))) := by
  unfold listInsert
  refine ⟨fun k hs => ?_, fun hs => if_pos (wrapIns_out xs i hl hs)⟩
  have p := wrapIns_pos xs i hl hs
  simp only [p.nonneg, p.len_slt, (Pos.len hl).beq p]
  by_cases he : xs.length = k
  · subst he; simp
  · have hlt : k < xs.length := Nat.lt_of_le_of_ne p.le (Ne.symm he)
    simp only [he, (p.succ hlt).sliceTo, p.sliceFrom]
    rw [p.set _ (by simp; omega), set_take_succ xs k hlt]
    simp

theorem listRemove_spec (xs : List MVal) (i : I64) (hl : xs.length < 2 ^ 63) :
    (∀ k, wrapSpec i.toInt xs.length = Option.some k → listRemove xs i = .ok .null (.list (xs.eraseIdx k))) ∧
    (wrapSpec i.toInt xs.length = Option.none → listRemove xs i
      = .fatal "IndexOutOfBounds" (oobMsgMember xs.length (wrapIdx i (goLen xs)))) := by
  unfold listRemove
  refine ⟨fun k hs => ?_, fun hs => if_pos (wrap_out xs i hl hs)⟩
  obtain ⟨p, hk⟩ := wrap_pos xs i hl hs
  simp only [p.nonneg, p.slt (.len hl), decide_eq_true hk, p.sliceTo, (p.succ hk).sliceFrom,
    List.eraseIdx_eq_take_drop_succ]
  simp

theorem Pos.last {α} {x : α} {xs : List α} (hl : (x :: xs).length < 2 ^ 63) :
    Pos (x :: xs) (goLen (x :: xs) - 1) xs.length :=
  (Pos.len hl).pred

theorem listPop_spec (xs : List MVal) (hl : xs.length < 2 ^ 63) :
    listPop xs = match xs.getLast? with
      | Option.none => .ok .none (.list xs)
      | Option.some v => .ok (.some v) (.list xs.dropLast) := by
  unfold listPop
  simp only [(Pos.len hl).beq (.zero hl)]
  cases xs with
  | nil => simp
  | cons x xs =>
    simp only [(Pos.last hl).idx, (Pos.last hl).sliceTo, List.getLast?_eq_getElem?, List.dropLast_eq_take]
    simp

theorem listLast_spec (xs : List MVal) (hl : xs.length < 2 ^ 63) :
    listLast xs = match xs.getLast? with
      | Option.none => .ok .none (.list xs)
      | Option.some v => .ok (.some v) (.list xs) := by
  unfold listLast
  simp only [(Pos.len hl).beq (.zero hl)]
  cases xs with
  | nil => simp
  | cons x xs =>
    simp only [(Pos.last hl).idx, List.getLast?_eq_getElem?]
    simp

theorem listPopFront_spec (xs : List MVal) (hl : xs.length < 2 ^ 63) :
    listPopFront xs = match xs with
      | [] => .ok .none (.list xs)
      | v :: rest => .ok (.some v) (.list rest) := by
  unfold listPopFront
  simp only [(Pos.len hl).beq (.zero hl)]
  cases xs with
  | nil => simp
  | cons x xs =>
    have one : Pos (x :: xs) 1 1 := (Pos.zero hl).succ (Nat.succ_pos _)
    simp only [(Pos.zero hl).idx, one.sliceFrom]
    simp

theorem strSubstring_spec (cs : List Char) (u : I64) (hl : cs.length < 2 ^ 63) :
    strSubstring cs u =
      if 0 ≤ u.toInt ∧ u.toInt < cs.length then .ok (.str (cs.take u.toInt.toNat)) (.str cs)
      else .throw "index out of range" := by
  unfold strSubstring
  by_cases h : 0 ≤ u.toInt ∧ u.toInt < cs.length
  · have p : Pos cs u u.toInt.toNat := .of_toInt hl (by omega) (by omega)
    rw [p.nonneg, p.slt (.len hl), p.sliceTo, if_pos h]
    simp [show u.toInt.toNat < cs.length by omega]
  · rw [if_neg h, slt_zero, BitVec.slt_eq_decide, (Pos.len hl).toInt]
    by_cases a : u.toInt < 0
    · simp [a]
    · have : ¬ u.toInt < cs.length := by omega
      simp [a, this]

theorem strRepeat_spec (cs : List Char) (n : I64) :
    strRepeat cs n =
      if n.toInt < 0 then .throw "negative repeat count"
      else if 0 < byteLen cs ∧ n.toInt > (maxInt : Int) / (byteLen cs : Int) then .throw "repeat output length overflow"
      else .ok (.str (List.replicate n.toNat cs).flatten) (.str cs) := by
  unfold strRepeat
  -- Past the two guards `goRepeat` cannot take its panic branch (`hfit`): for a string of positive byte length
  -- `¬ n > maxInt / len` is `len * n ≤ maxInt`, and a string of byte length 0 makes the product 0.
  rw [slt_zero]
  by_cases hneg : n.toInt < 0
  · simp [hneg]
  · simp only [hneg, decide_false, Bool.false_eq_true, if_false]
    by_cases hov : 0 < byteLen cs ∧ n.toInt > (maxInt : Int) / (byteLen cs : Int)
    · simp [hov]
    · rw [if_neg hov]
      have hcond : (decide (byteLen cs > 0) && decide (n.toInt > (maxInt : Int) / (byteLen cs : Int))) = false := by
        simp only [Bool.and_eq_false_iff, decide_eq_false_iff_not]
        by_cases hb : byteLen cs > 0
        · right; intro hc; exact hov ⟨hb, hc⟩
        · left; exact hb
      simp only [hcond, Bool.false_eq_true, if_false]
      have hnn : (n.toNat : Int) = n.toInt := by
        rw [toNat_of_nonneg n (by omega)]; omega
      have hfit : ¬ byteLen cs * n.toNat > maxInt := by
        by_cases hb : byteLen cs > 0
        · have hle : ¬ n.toInt > (maxInt : Int) / (byteLen cs : Int) := fun hc => hov ⟨hb, hc⟩
          have hdiv : ((maxInt / byteLen cs : Nat) : Int) = (maxInt : Int) / (byteLen cs : Int) := by
            simp
          have : n.toNat ≤ maxInt / byteLen cs := by omega
          have := (Nat.le_div_iff_mul_le hb).mp this
          rw [Nat.mul_comm]; omega
        · have : byteLen cs = 0 := by omega
          simp [this]
      unfold goRepeat
      cases cs with
      | nil => simp [hfit]
      | cons c cs => simp [hfit]

end HmsProofs.Lemmas.Members
