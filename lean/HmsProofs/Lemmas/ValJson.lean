import Hms.Value.Json
import Hms.Value.Display
import HmsProofs.Lemmas.ValCast
/-! Lemmas for C13: the two renderers agree; the typed JSON round trip. -/
namespace HmsProofs.Lemmas.ValJson
open Hms.Value HmsProofs.Lemmas.ValEq HmsProofs.Lemmas.ValCast

mutual
theorem display_agree : ∀ (v : Val), displayVM v = displayTree v
  | .null | .int _ | .flt _ | .bool _ | .str _ | .none | .range .. | .fn => by simp [displayVM, displayTree]
  | .some v => by simp [displayVM, displayTree, display_agree v]
  | .list xs => by simp [displayVM, displayTree, display_agree_list xs]
  | .obj fs => by simp [displayVM, displayTree, display_agree_fields fs]
  | .anyobj fs => by simp [displayVM, displayTree, display_agree_fields fs]
theorem display_agree_list : ∀ (xs : Vals), displayVMList xs = displayTreeList xs
  | .nil => by simp [displayVMList, displayTreeList]
  | .cons v vs => by simp [displayVMList, displayTreeList, display_agree v, display_agree_list vs]
theorem display_agree_fields : ∀ (fs : Fields), displayVMFields fs = displayTreeFields fs
  | .nil => by simp [displayVMFields, displayTreeFields]
  | .cons k v fs => by simp [displayVMFields, displayTreeFields, display_agree v, display_agree_fields fs]
end

theorem roundTo53_small (n : Nat) (h : n < 2 ^ 53) : roundTo53 n = n := by
  unfold roundTo53
  have : Nat.log2 n + 1 ≤ 53 := by
    by_cases h0 : n = 0
    · subst h0; decide
    · have := (Nat.log2_lt h0).mpr h; omega
  simp [this]

theorem intToFlt_small (i : BitVec 64) (h : intFitsFloat i = true) : intToFlt i = Dy.ofInt i.toInt := by
  simp only [intFitsFloat, decide_eq_true_eq] at h
  unfold intToFlt
  simp only [roundTo53_small _ h]
  congr 1
  split <;> omega

theorem fltToInt_ofInt (i : BitVec 64) : fltToInt (Dy.ofInt i.toInt) = i := by
  simp [fltToInt, Dy.ofInt, Dy.trunc]

theorem isNull_eq {j : J} (h : j.isNull = true) : j = .null := by
  cases j <;> simp [J.isNull] at h; rfl

theorem marshal_plain (fi : Dy → Bool) {x : Val} {j : J} (hp : isPlain x = true)
    (hm : marshalWith fi x = .some j) : j.isNull = false := by
  cases x <;> first | cases hp | skip
  all_goals simp only [marshalWith, Option.map_eq_some_iff, Option.some.injEq, reduceCtorEq] at hm
  all_goals first | (subst hm; rfl) | (obtain ⟨_, _, rfl⟩ := hm; rfl)

theorem jsonRepr_plain {t : Ty} {x : Val} (hr : jsonRepr t x = true) (hn : t.nullish = false) :
    isPlain x = true := by
  cases t <;> first
    | exact (Bool.false_ne_true hn.symm).elim
    | (cases x <;> first | rfl | exact (Bool.false_ne_true hr).elim)

theorem marshalFields_lookup (fi : Dy → Bool) : ∀ (fs : Fields) (jfs : JFields),
    marshalFields fi fs = .some jfs → ∀ k x, fs.lookup k = .some x →
    ∃ j, marshalWith fi x = .some j ∧ jfs.lookup k = .some j
  | .nil, _, _, k, x, hl => by simp [Fields.lookup] at hl
  | .cons k' v fs, jfs, h, k, x, hl => by
    simp only [marshalFields] at h
    split at h
    · rename_i j js hj hjs
      cases h
      simp only [Fields.lookup] at hl
      by_cases e : k' = k
      · subst e
        simp at hl; subst hl
        exact ⟨j, hj, by simp [JFields.lookup]⟩
      · simp [e] at hl
        obtain ⟨j', h1, h2⟩ := marshalFields_lookup fi fs js hjs k x hl
        exact ⟨j', h1, by simp [JFields.lookup, e, h2]⟩
    · cases h

theorem marshalFields_some (fi : Dy → Bool) : ∀ (fs : Fields),
    (∀ k x, (k, x) ∈ fs.toList → ∃ j, marshalWith fi x = .some j) → ∃ jfs, marshalFields fi fs = .some jfs
  | .nil, _ => ⟨.nil, by simp [marshalFields]⟩
  | .cons k v fs, h => by
    obtain ⟨j, hj⟩ := h k v (by simp [Fields.toList])
    obtain ⟨js, hjs⟩ := marshalFields_some fi fs (fun k' x hm => h k' x (by simp [Fields.toList, hm]))
    simp [marshalFields, hj, hjs]

/-- The typed round trip of one value. `fi` is the flag function of `marshalWith` (is this float written as an
integer literal); it stays a variable throughout, since both unmarshallers ignore the flag. -/
def RT (fi : Dy → Bool) (t : Ty) (x : Val) : Prop :=
  ∃ j v', marshalWith fi x = .some j ∧ unmarshalTyped t j = .some v' ∧ v'.isEqual x = true

theorem rt_list (fi : Dy → Bool) (t : Ty) : ∀ (xs : Vals), (∀ i x, xs.get? i = .some x → RT fi t x) →
    ∃ js vs', marshalList fi xs = .some js ∧ unmarshalTypedList (fun j => unmarshalTyped t j) js = .some vs'
      ∧ Vals.isEqual vs' xs = true ∧ vs'.length = xs.length
  | .nil, _ => ⟨.nil, .nil, by simp [marshalList, unmarshalTypedList, Vals.isEqual, Vals.length]⟩
  | .cons x xs, h => by
    obtain ⟨j, v', h1, h2, h3⟩ := h 0 x (by simp [Vals.get?])
    obtain ⟨js, vs', g1, g2, g3, g4⟩ := rt_list fi t xs (fun i y hy => h (i + 1) y (by simpa [Vals.get?] using hy))
    exact ⟨.cons j js, .cons v' vs', by simp [marshalList, h1, g1], by simp [unmarshalTypedList, h2, g2],
      by simp [Vals.isEqual, h3, g3], by simp [Vals.length, g4]⟩

theorem rt_assemble (fs : Fields) (jfs : JFields) : ∀ (tfs : TyFields),
    (∀ k t, (k, t) ∈ tfs.toList → ∃ x v', fs.lookup k = .some x ∧
        unmarshalTyped t ((jfs.lookup k).getD .null) = .some v' ∧ v'.isEqual x = true) →
    ∃ out, unmarshalTypedFields tfs jfs = .some out ∧ out.keys = tfs.keys ∧ Fields.isEqualIn out fs = true
  | .nil, _ => ⟨.nil, by simp [unmarshalTypedFields, Fields.keys, TyFields.keys, Fields.isEqualIn]⟩
  | .cons k t rest, h => by
    obtain ⟨x, v', h1, h2, h3⟩ := h k t (by simp [TyFields.toList])
    obtain ⟨out, g1, g2, g3⟩ := rt_assemble fs jfs rest (fun k' t' hm => h k' t' (by simp [TyFields.toList, hm]))
    exact ⟨.cons k v' out, by simp [unmarshalTypedFields, h2, g1], by simp [Fields.keys, TyFields.keys, g2],
      by simp [Fields.isEqualIn, h1, h3, g3]⟩

theorem rt_typed (fi : Dy → Bool) : ∀ (T : Ty), T.wf = true → ∀ (v : Val), v.wf = true →
    jsonRepr T v = true → RT fi T v :=
  Ty.subInduct fun T ih hT v hw hr => by
    cases T with
    | int =>
      cases v with
      | int i =>
        simp [jsonRepr] at hr
        exact ⟨.int i, .int i, by simp [marshalWith],
          by simp [unmarshalTyped, intToFlt_small i hr, fltToInt_ofInt], by simp [Val.isEqual]⟩
      | _ => simp [jsonRepr] at hr
    | float =>
      cases v with
      | flt d => exact ⟨.num d (fi d), .flt d, by simp [marshalWith], by simp [unmarshalTyped], by simp [Val.isEqual]⟩
      | _ => simp [jsonRepr] at hr
    | bool =>
      cases v with
      | bool b => exact ⟨.bool b, .bool b, by simp [marshalWith], by simp [unmarshalTyped], by simp [Val.isEqual]⟩
      | _ => simp [jsonRepr] at hr
    | str =>
      cases v with
      | str z => exact ⟨.str z, .str z, by simp [marshalWith], by simp [unmarshalTyped], by simp [Val.isEqual]⟩
      | _ => simp [jsonRepr] at hr
    | any | null | range | anyobj | fn => simp [jsonRepr] at hr
    | opt t =>
      simp only [Ty.wf] at hT
      simp only [jsonRepr, Bool.and_eq_true, Bool.not_eq_true'] at hr
      cases v <;> simp at hr
      · exact ⟨.null, .none, by simp [marshalWith], by simp [unmarshalTyped, J.isNull], by simp [Val.isEqual]⟩
      · rename_i x
        simp only [Val.wf] at hw
        obtain ⟨j, v', h1, h2, h3⟩ := ih t .opt hT x hw hr.2
        have hnn := marshal_plain fi (jsonRepr_plain hr.2 hr.1) h1
        exact ⟨j, .some v', by simp [marshalWith, h1], by simp [unmarshalTyped, hnn, h2], by simp [Val.isEqual, h3]⟩
    | list t =>
      simp only [Ty.wf] at hT
      cases v <;> simp [jsonRepr] at hr
      rename_i xs
      simp only [Val.wf] at hw
      obtain ⟨js, vs', g1, g2, g3, g4⟩ := rt_list fi t xs (fun i x hx =>
        ih t .list hT x (vals_wf_get xs hw i x hx) (all_get xs hr i x hx))
      exact ⟨.arr js, .list vs', by simp [marshalWith, g1], by simp [unmarshalTyped, g2], by simp [Val.isEqual, g3, g4]⟩
    | obj tfs =>
      simp only [Ty.wf, Bool.and_eq_true] at hT
      cases v <;> simp [jsonRepr] at hr
      rename_i fs
      simp only [Val.wf, Bool.and_eq_true] at hw
      have hdecl : ∀ k t, (k, t) ∈ tfs.toList → ∃ x, fs.lookup k = .some x ∧ RT fi t x := fun k t ht => by
        obtain ⟨x, hl, hx⟩ := declared_mem (P := jsonRepr) (fun _ _ _ _ => rfl) tfs fs hr.1 k t ht
        exact ⟨x, hl, ih t (.field ht) (ty_mem_wf tfs hT.2 k t ht) x (mem_wf fs hw.2 k x (lookup_mem fs k x hl)) hx⟩
      have hsub1 : ∀ k ∈ fs.keys, k ∈ tfs.keys := by
        intro k hk; simpa [TyFields.hasKey] using hr.2 k hk
      have hsub2 := declared_keys (P := jsonRepr) (fun _ _ _ _ => rfl) tfs fs hr.1
      obtain ⟨jfs, hjfs⟩ := marshalFields_some fi fs (by
        intro k x hm
        obtain ⟨t, ht⟩ := ty_mem_of_mem_keys tfs k (hsub1 k (mem_keys_of_mem fs k x hm))
        obtain ⟨x0, h1, j, v', h2, _, _⟩ := hdecl k t ht
        have := lookup_of_mem_nodup fs k x hw.1 hm
        rw [this] at h1; cases h1
        exact ⟨j, h2⟩)
      obtain ⟨out, g1, g2, g3⟩ := rt_assemble fs jfs tfs (by
        intro k t ht
        obtain ⟨x, h1, j, v', h2, h3, h4⟩ := hdecl k t ht
        obtain ⟨j', e1, e2⟩ := marshalFields_lookup fi fs jfs hjfs k x h1
        rw [h2] at e1; cases e1
        exact ⟨x, v', h1, by simp [e2, h3], h4⟩)
      exact ⟨.obj jfs, .obj out, by simp [marshalWith, hjfs], by simp [unmarshalTyped, g1],
        obj_isEqual_of_declared g2 hT.1 hw.1 hsub1 hsub2 g3⟩

/-- The round trip of one value on the route a program takes: `parse_json` reads the tree untyped, then the cast
without scalar conversions (annotated `let`). From any path, because the cast of an element or a field runs at the
path extended by it: the induction hypothesis is used at other paths than the one of the conclusion. -/
def RTP (fi : Dy → Bool) (t : Ty) (x : Val) : Prop :=
  ∀ p : Path, ∃ j v', marshalWith fi x = .some j ∧ castAll false t (unmarshalUntyped j) p = .ok v' ∧ v'.isEqual x = true

theorem isIntegral_ofInt (z : Int) : (Dy.ofInt z).isIntegral = true := by
  by_cases hz : z = 0 <;> simp [Dy.isIntegral, Dy.ofInt, Dy.norm, hz, Dy.normAux]

theorem untyped_plain (j : J) (h : j.isNull = false) : isPlain (unmarshalUntyped j) = true := by
  cases j <;> simp [J.isNull] at h <;> simp [unmarshalUntyped, isPlain]

theorem castAll_opt_plain {t : Ty} {u : Val} {p : Path} (h : isPlain u = true) :
    castAll false (.opt t) u p = (castAll false t u p).map .some := by
  cases u <;> simp [isPlain] at h <;> simp [castAll]

theorem untypedFields_lookup : ∀ (jfs : JFields) (k : String),
    (unmarshalUntypedFields jfs).lookup k = (jfs.lookup k).map unmarshalUntyped
  | .nil, k => by simp [unmarshalUntypedFields, Fields.lookup, JFields.lookup]
  | .cons k' j jfs, k => by
    simp only [unmarshalUntypedFields, Fields.lookup, JFields.lookup]
    split
    · simp
    · exact untypedFields_lookup jfs k

theorem untypedFields_keys : ∀ (fi : Dy → Bool) (fs : Fields) (jfs : JFields), marshalFields fi fs = .some jfs →
    (unmarshalUntypedFields jfs).keys = fs.keys
  | fi, .nil, jfs, h => by simp [marshalFields] at h; subst h; simp [unmarshalUntypedFields, Fields.keys]
  | fi, .cons k v fs, jfs, h => by
    simp only [marshalFields] at h
    split at h
    · rename_i j js hj hjs
      cases h
      simp [unmarshalUntypedFields, Fields.keys, untypedFields_keys fi fs js hjs]
    · cases h

theorem noIntFloat_get : ∀ (xs : Vals), noIntegralFloatList xs = true → ∀ i x, xs.get? i = .some x → noIntegralFloat x = true :=
  vals_all_get fun _ _ => rfl

theorem noIntFloat_mem : ∀ (fs : Fields), noIntegralFloatFields fs = true → ∀ k a, (k, a) ∈ fs.toList → noIntegralFloat a = true :=
  fields_all_mem fun _ _ _ => rfl

theorem rtp_list (fi : Dy → Bool) (t : Ty) (p : Path) : ∀ (xs : Vals), (∀ i x, xs.get? i = .some x → RTP fi t x) → ∀ n : Nat,
    ∃ js vs', marshalList fi xs = .some js ∧
      castVals (fun i x => castAll false t x (p ++ [.index i])) n (unmarshalUntypedList js) = .ok vs'
      ∧ Vals.isEqual vs' xs = true ∧ vs'.length = xs.length
  | .nil, _, n => ⟨.nil, .nil, by simp [marshalList, unmarshalUntypedList, castVals, Vals.isEqual, Vals.length]⟩
  | .cons x xs, h, n => by
    obtain ⟨j, v', h1, h2, h3⟩ := h 0 x (by simp [Vals.get?]) (p ++ [.index n])
    obtain ⟨js, vs', g1, g2, g3, g4⟩ := rtp_list fi t p xs (fun i y hy => h (i + 1) y (by simpa [Vals.get?] using hy)) (n + 1)
    exact ⟨.cons j js, .cons v' vs', by simp [marshalList, h1, g1], by simp [unmarshalUntypedList, castVals, h2, g2],
      by simp [Vals.isEqual, h3, g3], by simp [Vals.length, g4]⟩

theorem jsonReprProg_plain {t : Ty} {x : Val} (hr : jsonReprProg t x = true) (hn : t.nullish = false) :
    isPlain x = true := by
  cases t <;> first
    | exact (Bool.false_ne_true hn.symm).elim
    | (cases x <;> first | rfl | exact (Bool.false_ne_true hr).elim)

theorem rtp_prog (fi : Dy → Bool) : ∀ (T : Ty), T.wf = true → ∀ (v : Val), v.wf = true →
    jsonReprProg T v = true → RTP fi T v :=
  Ty.subInduct fun T ih hT v hw hr p => by
    cases T with
    | int =>
      cases v with
      | int i => exact ⟨.int i, .int i, by simp [marshalWith], by simp [unmarshalUntyped, castAll], by simp [Val.isEqual]⟩
      | _ => simp [jsonReprProg] at hr
    | float =>
      cases v with
      | flt d => exact ⟨.num d (fi d), .flt d, by simp [marshalWith], by simp [unmarshalUntyped, castAll], by simp [Val.isEqual]⟩
      | _ => simp [jsonReprProg] at hr
    | bool =>
      cases v with
      | bool b => exact ⟨.bool b, .bool b, by simp [marshalWith], by simp [unmarshalUntyped, castAll], by simp [Val.isEqual]⟩
      | _ => simp [jsonReprProg] at hr
    | str =>
      cases v with
      | str z => exact ⟨.str z, .str z, by simp [marshalWith], by simp [unmarshalUntyped, castAll], by simp [Val.isEqual]⟩
      | _ => simp [jsonReprProg] at hr
    | any | null | range | anyobj | fn => simp [jsonReprProg] at hr
    | opt t =>
      simp only [Ty.wf] at hT
      simp only [jsonReprProg, Bool.and_eq_true, Bool.not_eq_true'] at hr
      cases v <;> simp at hr
      · exact ⟨.null, .none, by simp [marshalWith], by simp [unmarshalUntyped, castAll], by simp [Val.isEqual]⟩
      · rename_i x
        simp only [Val.wf] at hw
        obtain ⟨j, v', h1, h2, h3⟩ := ih t .opt hT x hw hr.2 p
        have hnn := marshal_plain fi (jsonReprProg_plain hr.2 hr.1) h1
        exact ⟨j, .some v', by simp [marshalWith, h1],
          by rw [castAll_opt_plain (untyped_plain j hnn), h2]; rfl, by simp [Val.isEqual, h3]⟩
    | list t =>
      simp only [Ty.wf] at hT
      cases v <;> simp [jsonReprProg] at hr
      rename_i xs
      simp only [Val.wf] at hw
      obtain ⟨js, vs', g1, g2, g3, g4⟩ := rtp_list fi t p xs (fun i x hx =>
        ih t .list hT x (vals_wf_get xs hw i x hx) (all_get xs hr i x hx)) 0
      exact ⟨.arr js, .list vs', by simp [marshalWith, g1], by simp [unmarshalUntyped, castAll, g2, Except.map],
        by simp [Val.isEqual, g3, g4]⟩
    | obj tfs =>
      simp only [Ty.wf, Bool.and_eq_true] at hT
      cases v <;> simp [jsonReprProg] at hr
      rename_i fs
      simp only [Val.wf, Bool.and_eq_true] at hw
      have hdecl : ∀ k t, (k, t) ∈ tfs.toList → ∃ x, fs.lookup k = .some x ∧ RTP fi t x := fun k t ht => by
        obtain ⟨x, hl, hx⟩ := declared_mem (P := jsonReprProg) (fun _ _ _ _ => rfl) tfs fs hr.1 k t ht
        exact ⟨x, hl, ih t (.field ht) (ty_mem_wf tfs hT.2 k t ht) x (mem_wf fs hw.2 k x (lookup_mem fs k x hl)) hx⟩
      have hsub1 : ∀ k ∈ fs.keys, k ∈ tfs.keys := by
        intro k hk; simpa [TyFields.hasKey] using hr.2 k hk
      have hsub2 := declared_keys (P := jsonReprProg) (fun _ _ _ _ => rfl) tfs fs hr.1
      obtain ⟨jfs, hjfs⟩ := marshalFields_some fi fs (by
        intro k x hm
        obtain ⟨t, ht⟩ := ty_mem_of_mem_keys tfs k (hsub1 k (mem_keys_of_mem fs k x hm))
        obtain ⟨x0, h1, h2⟩ := hdecl k t ht
        have := lookup_of_mem_nodup fs k x hw.1 hm
        rw [this] at h1; cases h1
        obtain ⟨j, _, hj, _⟩ := h2 []
        exact ⟨j, hj⟩)
      have hkeys := untypedFields_keys fi fs jfs hjfs
      obtain ⟨g1, g2, g3, g4⟩ := castFields_all_ok false fs (unmarshalUntypedFields jfs) p tfs (by
        intro k t ht
        obtain ⟨x, h1, h2⟩ := hdecl k t ht
        obtain ⟨j, v', e1, e2, e3⟩ := h2 (p ++ [.field k])
        obtain ⟨j', f1, f2⟩ := marshalFields_lookup fi fs jfs hjfs k x h1
        rw [e1] at f1; cases f1
        exact ⟨x, unmarshalUntyped j, v', h1, by simp [untypedFields_lookup, f2], e2, e3⟩)
      have hun : List.filter (fun k => !tfs.hasKey k) (unmarshalUntypedFields jfs).keys = [] := by
        rw [hkeys]; simp only [List.filter_eq_nil_iff]; intro k hk'; simp [hr.2 k hk']
      exact ⟨.obj jfs, .obj (castFields false tfs (unmarshalUntypedFields jfs) p).out, by simp [marshalWith, hjfs],
        by simp [unmarshalUntyped, castAll, g1, g2, hun], obj_isEqual_of_declared g3 hT.1 hw.1 hsub1 hsub2 g4⟩

theorem rtp_declared (fi : Dy → Bool) : ∀ (tfs : TyFields), tfs.wf = true → ∀ (fs : Fields), fs.wf = true →
    jsonReprProgFields tfs fs = true → ∀ k t, (k, t) ∈ tfs.toList →
    ∃ x, fs.lookup k = .some x ∧ RTP fi t x := fun tfs hT fs hw hr k t ht => by
  obtain ⟨x, hl, hx⟩ := declared_mem (P := jsonReprProg) (fun _ _ _ _ => rfl) tfs fs hr k t ht
  exact ⟨x, hl, rtp_prog fi t (ty_mem_wf tfs hT k t ht) x (mem_wf fs hw k x (lookup_mem fs k x hl)) hx⟩

end HmsProofs.Lemmas.ValJson
