import HmsProofs.Lemmas.SimHStatic
/-!
# The code of a statement depends on the loop stack only through its head, and only if a `break`
or `continue` may refer to it
-/
namespace HmsProofs.Sim
open Hms.Core

def LoopsIrrel {α : Type} (il : Bool) (f : List (String × String) → CEnv → α)
    (w : List (String × String) → CEnv → Bool) : Prop :=
  ∀ (loops loops' : List (String × String)) (env : CEnv), (il = true → loops.head? = loops'.head?) →
    f loops env = f loops' env ∧ w loops env = w loops' env

/-- A block of the fragment is `.mk _ _ ss none`; the fact is stated for the block and for its statement list `ss`,
because the `catch` block is compiled in the scope of its variable, not in a scope of its own. -/
theorem cg_loops_irrel (mod fn : String) (φ : String → Option String) :
    (∀ (fr il rt : Bool) (st : Stmt), Frag.okFS fr il rt st = true →
      LoopsIrrel il (cgS mod fn φ · st) (Frag.wsGS mod fn φ · st)) ∧
    (∀ (fr il rt : Bool) (ss : List Stmt), Frag.okFSs fr il rt ss = true →
      LoopsIrrel il (cgSs mod fn φ · ss) (Frag.wsGSs mod fn φ · ss)) ∧
    (∀ (fr il rt : Bool) (arms : List (List Expr × Expr)), Frag.okFArmsS fr il rt arms = true →
      ∀ (loops loops' : List (String × String)) (env : CEnv), (il = true → loops.head? = loops'.head?) →
      (∀ sp after nms, cgArmsS mod fn φ loops sp after arms nms env = cgArmsS mod fn φ loops' sp after arms nms env) ∧
      Frag.wsGArmsS mod fn φ loops arms env = Frag.wsGArmsS mod fn φ loops' arms env) ∧
    (∀ (fr il rt : Bool) (b : Block), Frag.okFBS fr il rt b = true →
      LoopsIrrel il (cgBS mod fn φ · b) (Frag.wsGBS mod fn φ · b) ∧
      ∃ sp ty ss, b = .mk sp ty ss none ∧ LoopsIrrel il (cgSs mod fn φ · ss) (Frag.wsGSs mod fn φ · ss)) := by
  refine Frag.okFS.mutual_induct_unfolding
    (motive_1 := fun _ il _ st ok => ok = true → LoopsIrrel il (cgS mod fn φ · st) (Frag.wsGS mod fn φ · st))
    (motive_2 := fun _ il _ ss ok => ok = true → LoopsIrrel il (cgSs mod fn φ · ss) (Frag.wsGSs mod fn φ · ss))
    (motive_3 := fun _ il _ arms ok => ok = true →
      ∀ (loops loops' : List (String × String)) (env : CEnv), (il = true → loops.head? = loops'.head?) →
      (∀ sp after nms, cgArmsS mod fn φ loops sp after arms nms env = cgArmsS mod fn φ loops' sp after arms nms env) ∧
      Frag.wsGArmsS mod fn φ loops arms env = Frag.wsGArmsS mod fn φ loops' arms env)
    (motive_4 := fun _ il _ b ok => ok = true →
      LoopsIrrel il (cgBS mod fn φ · b) (Frag.wsGBS mod fn φ · b) ∧
      ∃ sp ty ss, b = .mk sp ty ss none ∧ LoopsIrrel il (cgSs mod fn φ · ss) (Frag.wsGSs mod fn φ · ss))
    ?letS ?assign ?opAssign ?idxAssign ?memAssign ?ifElse ?ifThen ?tryCatch ?matchS ?push ?throw ?println ?call
    ?whileS ?loopS ?forS ?brk ?cont ?ret ?other ?block ?blockOther ?armsNil ?armsCons ?armsOther ?stmtsNil ?stmtsCons
  case block =>
    intro fr il rt sp ty ss ih hok
    refine ⟨fun loops loops' env hh => ?_, sp, ty, ss, rfl, ih hok⟩
    have h := fun env' => ih hok loops loops' env' hh
    simp only [cgBS, Frag.wsGBS, (h _).1, (h _).2, and_self]
  case stmtsNil => intros; exact fun _ _ _ _ => ⟨rfl, rfl⟩
  case stmtsCons =>
    intro fr il rt s ss ihs ihss hok loops loops' env hh
    rw [Bool.and_eq_true] at hok
    have h1 := ihs hok.1 loops loops' env hh
    have h2 := fun env' => ihss hok.2 loops loops' env' hh
    simp only [cgSs, Frag.wsGSs, h1.1, h1.2, (h2 _).1, (h2 _).2, and_self]
  case armsNil => intros; exact ⟨fun _ _ _ => rfl, rfl⟩
  case armsCons =>
    intro fr il rt lits b rest ihb ihr hok loops loops' env hh
    simp only [Bool.and_eq_true] at hok
    have h1 := fun env' => (ihb hok.1.2).1 loops loops' env' hh
    have h2 := fun env' => ihr hok.2 loops loops' env' hh
    refine ⟨fun sp after nms => ?_, ?_⟩
    · cases nms with
      | nil => rfl
      | cons nm nms => simp only [cgArmsS, (h1 _).1, (h2 _).1]
    · simp only [Frag.wsGArmsS, (h1 _).1, (h1 _).2, (h2 _).2]
  case blockOther | armsOther | other => intros; contradiction
  case letS =>
    intro fr il rt sp name vty nc oty e hok loops loops' env hh
    cases nc <;> exact ⟨rfl, rfl⟩
  case assign | opAssign | push | ret | throw | println | call => intros; exact fun _ _ _ _ => ⟨rfl, rfl⟩
  case idxAssign | memAssign =>
    intros; intro _ _ _ _
    simp only [cgS_idxAssign, cgS_memAssign, wsGS_idxAssign, wsGS_memAssign, and_self]
  case brk | cont =>
    intro fr il rt sp hok loops loops' env hh
    have := hh hok
    cases loops <;> cases loops' <;> simp at this
    · exact ⟨rfl, rfl⟩
    · rename_i p _ q _
      obtain ⟨b, c⟩ := p; obtain ⟨b', c'⟩ := q
      simp only [Prod.mk.injEq] at this
      obtain ⟨rfl, rfl⟩ := this
      exact ⟨rfl, rfl⟩
  case ifElse =>
    intro fr il rt sp isp ty c t eb iht ihe hok loops loops' env hh
    simp only [Bool.and_eq_true] at hok
    have h1 := fun env' => (iht hok.1.2).1 loops loops' env' hh
    have h2 := fun env' => (ihe hok.2).1 loops loops' env' hh
    simp only [cgS, Frag.wsGS, (h1 _).1, (h1 _).2, (h2 _).1, (h2 _).2, and_self]
  case ifThen =>
    intro fr il rt sp isp ty c t iht hok loops loops' env hh
    simp only [Bool.and_eq_true] at hok
    have h1 := fun env' => (iht hok.2).1 loops loops' env' hh
    simp only [cgS, Frag.wsGS, (h1 _).1, (h1 _).2, and_self]
  case tryCatch =>
    intro fr il rt sp tsp ty t ci c _ ihc hok loops loops' env hh
    simp only [Bool.and_eq_true] at hok
    obtain ⟨_, _, cs, rfl, hc⟩ := (ihc hok.2).2
    have h2 := fun env' => hc loops loops' env' hh
    simp only [cgS, Frag.wsGS, (h2 _).1, (h2 _).2, and_self]
  case matchS =>
    intro fr il rt sp msp ty c arms db iha ihd hok loops loops' env hh
    simp only [Bool.and_eq_true] at hok
    have h1 := fun env' => iha hok.1.2 loops loops' env' hh
    have h2 := fun env' => (ihd hok.2).1 loops loops' env' hh
    simp only [cgS, Frag.wsGS, (h1 _).1, (h1 _).2, (h2 _).1, (h2 _).2, and_self]
  case whileS =>
    intro fr il rt sp c body ihb hok loops loops' env hh
    simp only [Bool.and_eq_true] at hok
    have h := fun (p : String × String) env' => (ihb hok.2).1 (p :: loops) (p :: loops') env' (fun _ => rfl)
    simp only [cgS, Frag.wsGS, (h _ _).1, (h _ _).2, and_self]
  case loopS =>
    intro fr il rt sp body ihb hok loops loops' env hh
    have h := fun (p : String × String) env' => (ihb hok).1 (p :: loops) (p :: loops') env' (fun _ => rfl)
    simp only [cgS, Frag.wsGS, (h _ _).1, (h _ _).2, and_self]
  case forS =>
    intro fr il rt sp name vty rsp a b incl bsp bty stmts ihs hok loops loops' env hh
    simp only [Bool.and_eq_true] at hok
    have h := fun (p : String × String) env' => ihs hok.2 (p :: loops) (p :: loops') env' (fun _ => rfl)
    simp only [cgS, Frag.wsGS, (h _ _).1, (h _ _).2, and_self]

theorem cgBS_loops_irrel {fr : Bool} (mod fn : String) (φ : String → Option String) (rt : Bool) (loops : List (String × String))
    (b : Block) (env : CEnv) (h : Frag.okFBS fr false rt b = true) :
    cgBS mod fn φ loops b env = cgBS mod fn φ [] b env ∧
    Frag.wsGBS mod fn φ loops b env = Frag.wsGBS mod fn φ [] b env :=
  ((cg_loops_irrel mod fn φ).2.2.2 fr false rt b h).1 loops [] env nofun

end HmsProofs.Sim
