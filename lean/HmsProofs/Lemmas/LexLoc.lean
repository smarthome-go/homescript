import Hms.Lex.Spec
/-! Position lemmas for the lexer model: `Loc.advanceBy` computes `Spec.locAt`. -/
namespace HmsProofs.Lemmas.LexLoc
open Hms.Lex

/-- The position reached after reading the prefix `pre` (independent description). -/
def locOf (pre : List Char) : Loc :=
  ⟨1 + pre.count '\n', 1 + (pre.reverse.takeWhile (· != '\n')).length, pre.length⟩

theorem locOf_nil : locOf [] = Loc.start := rfl

theorem locOf_snoc (pre : List Char) (c : Char) : locOf (pre ++ [c]) = (locOf pre).advance c := by
  unfold locOf Loc.advance
  by_cases h : c = '\n'
  · subst h; simp; omega
  · simp [h, List.count_append]
    omega

theorem advanceBy_append (l : Loc) (a b : List Char) :
    l.advanceBy (a ++ b) = (l.advanceBy a).advanceBy b := by
  induction a generalizing l with
  | nil => rfl
  | cons c a ih => simp [Loc.advanceBy, ih]

theorem locOf_advanceBy (pre s : List Char) : (locOf pre).advanceBy s = locOf (pre ++ s) := by
  induction s generalizing pre with
  | nil => simp [Loc.advanceBy]
  | cons c s ih =>
    simp only [Loc.advanceBy]
    rw [← locOf_snoc, ih]
    simp

theorem start_advanceBy (s : List Char) : Loc.start.advanceBy s = locOf s := by
  rw [← locOf_nil, locOf_advanceBy]; simp

theorem locAt_eq_locOf (src : List Char) (i : Nat) (h : i ≤ src.length) :
    Spec.locAt src i = locOf (src.take i) := by
  unfold Spec.locAt locOf
  simp [Nat.min_eq_left h]

theorem locAt_append_length (pre rest : List Char) :
    Spec.locAt (pre ++ rest) pre.length = locOf pre := by
  rw [locAt_eq_locOf _ _ (by simp)]; simp

theorem locOf_idx (pre : List Char) : (locOf pre).idx = pre.length := rfl

theorem advanceBy_idx (l : Loc) (s : List Char) : (l.advanceBy s).idx = l.idx + s.length := by
  induction s generalizing l with
  | nil => rfl
  | cons c s ih =>
    simp only [Loc.advanceBy, ih, List.length_cons]
    unfold Loc.advance; split <;> simp <;> omega

end HmsProofs.Lemmas.LexLoc
