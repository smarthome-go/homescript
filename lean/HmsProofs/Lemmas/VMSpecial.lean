import HmsProofs.Lemmas.VMStep
/-!
What `step` answers on each instruction that is not "simple": an equation where there is one answer, else a total
case split with each panic under its exact message, so that a caller `rcases` it and rewrites the panic branches
away. The namespace is that of the module `VMStep`, which this one continues.
-/
namespace HmsProofs.Lemmas.VMStep
open Hms.Core Hms.Core.VM Hms.Core.BcCheck

section
variable {s s' : VMState} {p q : Nat}

/-- `SimpleSpec` for an instruction that takes its `p` operands off first: completing shows that they
were there, and an interrupt leaves exactly `p` fewer. -/
def StrictSpec (s : VMState) (p q : Nat) : StepRes → Prop :=
  Answer (fun s' => p ≤ s.stack.length ∧ s'.stack.length + p = s.stack.length + q ∧ s'.calls = advCalls s.calls
            ∧ Keeps s s')
       (fun _ s' => Moved s p 0 s')
       (Benign (s.stack.length < p))

namespace StrictSpec

theorem simple {r : StepRes} (h : StrictSpec s p q r) : SimpleSpec s p q r :=
  h.mono (fun _ h => h.2) (fun _ _ h => ⟨h.le, by have := h.1; omega, by have := h.1; omega, h.2⟩) fun _ h => h

theorem next (h : Moved s p q s') (hp : p ≤ s.stack.length) : StrictSpec s p q (.next (advance s')) :=
  ⟨hp, by rw [advance_stack]; exact h.1, by rw [advance_calls, h.2.1], h.2.2.advance⟩

theorem ctl (h : Moved s p 0 s') (c : Ctl) : StrictSpec s p q (ctlToRes c s') :=
  Answer.ctl c s' (fun _ => h) fun _ h => h.mono False.elim

end StrictSpec

end

variable (code : Code) (lim : Limits) (s : VMState)

theorem step_label (l : Nat) (sp : Span) : step code lim s (.label l) sp = .panic "label at run time" s := rfl

theorem step_spawn (f : String) (sp : Span) :
    step code lim s (.spawn f) sp = .panic "spawn is outside the single-core model" s := rfl

theorem step_copyPush_int (v : Int) (sp : Span) :
    step code lim s (.copyPush (.int v)) sp = .next (advance (push1 s (.int (I64.ofInt v)))) := by
  simp [step, pvalToVal]

theorem step_jump {code : Code} {lim : Limits} {s : VMState} {l : Nat} {sp : Span} {f : Frame}
    {rest : List Frame} (h : s.calls = f :: rest) :
    step code lim s (.jump l) sp = .next { s with calls := { f with ip := l } :: rest } := by
  simp [step, h]

theorem step_callImm (f : String) (sp : Span) :
    step code lim s (.callImm f) sp
      = .next { advance s with calls := ⟨f, 0⟩ :: advCalls s.calls } := by
  simp [step]

theorem step_ret (sp : Span) :
    step code lim s .ret sp = .next { s with calls := s.calls.tail } := rfl

theorem step_setTry (fn : String) (l : Nat) (sp : Span) :
    step code lim s (.setTry fn l) sp
      = .next (advance { s with handlers := ⟨⟨fn, l⟩, s.calls.length, s.stack.length, s.mp⟩ :: s.handlers }) := rfl

theorem step_popTry {code : Code} {lim : Limits} {s : VMState} {sp : Span} {h : Handler} {rest : List Handler}
    (hh : s.handlers = h :: rest) :
    step code lim s .popTry sp = .next (advance { s with handlers := rest }) := by
  simp [step, hh]

theorem step_popTry_nil {code : Code} {lim : Limits} {s : VMState} {sp : Span} (hh : s.handlers = []) :
    step code lim s .popTry sp = .panic "handler stack underflow" s := by
  simp [step, hh]

theorem step_addMp (n : Int) (sp : Span) :
    (s.mp + n < (lim.memory : Int) ∧ step code lim s (.addMp n) sp = .next (advance { s with mp := s.mp + n }))
    ∨ ((lim.memory : Int) ≤ s.mp + n ∧ ∃ msg, step code lim s (.addMp n) sp
        = .intr (.fatal "OutOfMemoryError" msg sp) { s with mp := s.mp + n }) := by
  by_cases h : s.mp + n ≥ (lim.memory : Int)
  · right; refine ⟨h, ?_⟩; simp only [step, if_pos h]; exact ⟨_, rfl⟩
  · left; exact ⟨by omega, by simp [step, h]⟩

theorem step_getVar (k : Nat) (sp : Span) :
    (¬ (0 ≤ s.mp - (k : Int) ∧ s.mp - (k : Int) < (lim.memory : Int))
        ∧ step code lim s (.getVar k) sp = .panic "memory index" s)
    ∨ ((0 ≤ s.mp - (k : Int) ∧ s.mp - (k : Int) < (lim.memory : Int)) ∧
        ((∃ v, memGet s (s.mp - (k : Int)) = some v ∧ step code lim s (.getVar k) sp = .next (advance (push1 s v)))
        ∨ (memGet s (s.mp - (k : Int)) = none
            ∧ step code lim s (.getVar k) sp = .panic "read of an unset memory cell" s))) := by
  by_cases h : s.mp - (k : Int) < 0 ∨ s.mp - (k : Int) ≥ (lim.memory : Int)
  · left; exact ⟨by omega, by simp [step, h]⟩
  · right
    refine ⟨by omega, ?_⟩
    cases hm : memGet s (s.mp - (k : Int)) with
    | none => right; simp [step, h, hm]
    | some v => left; exact ⟨v, rfl, by simp [step, h, hm]⟩

theorem step_setVar (k : Nat) (sp : Span) :
    (s.stack = [] ∧ step code lim s (.setVar k) sp = .panic "stack underflow" s)
    ∨ (∃ x rest, s.stack = x :: rest ∧
        ((¬ (0 ≤ s.mp - (k : Int) ∧ s.mp - (k : Int) < (lim.memory : Int))
            ∧ step code lim s (.setVar k) sp = .panic "memory index" s)
        ∨ ((0 ≤ s.mp - (k : Int) ∧ s.mp - (k : Int) < (lim.memory : Int))
            ∧ step code lim s (.setVar k) sp
              = .next (advance (memSet { s with stack := rest } (s.mp - (k : Int)) x.v))))) := by
  rcases hs : s.stack with _ | ⟨x, rest⟩
  · left; simp [step, pop1, hs]
  · right
    refine ⟨x, rest, rfl, ?_⟩
    by_cases h : s.mp - (k : Int) < 0 ∨ s.mp - (k : Int) ≥ (lim.memory : Int)
    · left; exact ⟨by omega, by simp [step, pop1, hs, h]⟩
    · right; exact ⟨by omega, by simp [step, pop1, hs, h]⟩

theorem step_jumpIfFalse (l : Nat) (sp : Span) :
    (s.stack = [] ∧ step code lim s (.jumpIfFalse l) sp = .panic "stack underflow" s)
    ∨ ∃ x rest, s.stack = x :: rest ∧
        Answer (fun s' => s'.stack = rest ∧ Keeps s s' ∧
                (s'.calls = advCalls s.calls ∨ ∃ f fr, s.calls = f :: fr ∧ s'.calls = { f with ip := l } :: fr))
             (fun _ _ => False)
             (Benign False)
          (step code lim s (.jumpIfFalse l) sp) := by
  simp only [step]
  split
  · obtain ⟨_, h2, h3⟩ := Moved.pop1 ‹_›
    refine .inr ⟨_, _, (pop1_some ‹_›).1, ?_⟩
    split
    · exact ⟨advance_stack _, h3.advance, Or.inl (by rw [advance_calls, h2])⟩
    · split
      · exact ⟨rfl, h3, Or.inr ⟨_, _, h2.symm.trans ‹_›, rfl⟩⟩
      · exact .panic
  · exact .inr ⟨_, _, (pop1_some ‹_›).1, .panic⟩
  · exact .inl ⟨pop1_none ‹_›, rfl⟩

theorem step_throw (sp : Span) :
    (s.stack = [] ∧ step code lim s .throw sp = .panic "stack underflow" s)
    ∨ ∃ x rest, s.stack = x :: rest ∧
        Answer (fun _ => False)
             (fun _ s' => s'.stack = rest ∧ Keeps s s' ∧ (s'.calls = advCalls s.calls ∨ s'.calls = s.calls))
             (Benign False)
          (step code lim s .throw sp) := by
  simp only [step]
  split
  · have hm := Moved.pop1 ‹_›
    refine .inr ⟨_, _, (pop1_some ‹_›).1, ?_⟩
    split
    · rename_i hr
      obtain ⟨_, h2, h3⟩ := hm.runM hr
      exact ⟨by rw [advance_stack, runM_eq hr], h3.advance, Or.inl (by rw [advance_calls, h2])⟩
    · rename_i hr
      obtain ⟨_, h2, h3⟩ := hm.runM hr
      exact Answer.ctl _ _ (fun _ => ⟨by rw [runM_eq hr], h3, Or.inr h2⟩) fun _ h => h
  · exact .inl ⟨pop1_none ‹_›, rfl⟩

theorem step_hostCall (name : String) (sp : Span) :
    (∃ argc o rest, s.stack = ⟨.int argc, o⟩ :: rest ∧
        StrictSpec s (1 + argc.toNat) (hostResults name) (step code lim s (.hostCall name) sp))
      ∨ ((∀ argc o rest, s.stack ≠ ⟨.int argc, o⟩ :: rest) ∧
          step code lim s (.hostCall name) sp = .panic "hostcall operands" s) := by
  simp only [step]
  split
  · rename_i argc o rest hs
    refine Or.inl ⟨argc, o, rest, hs, ?_⟩
    have h0 : Moved s 1 0 { s with stack := rest } := .stack (by rw [hs]; rfl)
    split
    · have hm := h0.trans (Moved.popN ‹_›)
      unfold hostResults
      by_cases hn : (name == "__internal_list_push") = true
      · rw [if_pos hn, if_pos hn]
        split
        · split
          · exact .next (.push1 hm _ _) hm.le
          · exact .panic
        · exact .panic
      · rw [if_neg hn, if_neg hn]
        split
        · split
          · split
            · have h1 := hm.runM ‹_›
              exact .next h1 hm.le
            · exact .ctl (hm.runM ‹_›) _
          · exact .panic
        · exact .panic
    · have := popN_none ‹_›
      exact Benign.underflow (by rw [hs]; simp only [List.length_cons] at this ⊢; omega)
  · exact Or.inr ⟨‹_›, rfl⟩

/-- `q ≤ 1`: a builtin or a bound member pushes its result unless that is `null`. -/
theorem step_callVal (sp : Span) :
    (∃ argc o m name o' rest, s.stack = ⟨.int argc, o⟩ :: ⟨.fn m name, o'⟩ :: rest ∧
        step code lim s .callVal sp
          = .next { advance { s with stack := rest } with calls := ⟨name, 0⟩ :: advCalls s.calls })
      ∨ (∃ argc o f o' rest, s.stack = ⟨.int argc, o⟩ :: ⟨f, o'⟩ :: rest ∧
          ((∃ n, f = .builtin n) ∨ ∃ r n, f = .bound r n) ∧
          ∃ q, q ≤ 1 ∧ StrictSpec s (2 + argc.toNat) q (step code lim s .callVal sp))
      ∨ ((∀ argc o f o' rest, s.stack ≠ ⟨.int argc, o⟩ :: ⟨f, o'⟩ :: rest) ∧
          step code lim s .callVal sp = .panic "call operands" s)
      ∨ ((∃ argc o f o' rest, s.stack = ⟨.int argc, o⟩ :: ⟨f, o'⟩ :: rest ∧
            (∀ m n, f ≠ .fn m n) ∧ (∀ n, f ≠ .builtin n) ∧ ∀ r n, f ≠ .bound r n) ∧
          step code lim s .callVal sp = .panic "call of a non-function" s) := by
  simp only [step]
  split
  · rename_i argc o f o' rest hs
    have h0 := Moved.drop2 hs
    split
    case h_1 => exact Or.inl ⟨argc, o, _, _, o', rest, hs, by simp⟩
    case h_4 => exact Or.inr (Or.inr (Or.inr ⟨⟨argc, o, f, o', rest, hs, ‹_›, ‹_›, ‹_›⟩, rfl⟩))
    -- a builtin and a bound member are called alike
    all_goals
      refine Or.inr (Or.inl ⟨argc, o, _, o', rest, hs, by simp, ?_⟩)
      split
      · have hm := h0.trans (Moved.popN ‹_›)
        split
        · exact ⟨0, Nat.zero_le 1, .next (hm.runM ‹_›) hm.le⟩
        · exact ⟨1, Nat.le_refl 1, .next (.push1 (hm.runM ‹_›) _ _) hm.le⟩
        · exact ⟨0, Nat.zero_le 1, .ctl (hm.runM ‹_›) _⟩
      · have := popN_none ‹_›
        exact ⟨0, Nat.zero_le 1, Benign.underflow (by rw [hs]; simp only [List.length_cons] at this ⊢; omega)⟩
  · exact Or.inr (Or.inr (Or.inl ⟨‹_›, rfl⟩))

end HmsProofs.Lemmas.VMStep
