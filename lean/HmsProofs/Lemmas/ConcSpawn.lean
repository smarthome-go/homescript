import Hms.Conc.Spawn
import HmsProofs.Lemmas.ConcProtocol
import HmsProofs.Lemmas.ConcInvoke
/-! The arguments pushed by the spawning core and popped by `Opcode_Spawn` arrive reversed, that is as the
host's `invert args`; from there the hand-over is the host's (`popN_prePush_invert`). Every step of the
scheduler model is a transition (or none) of the protocol, so runs of the model are reachable states. -/
namespace Hms.Conc

theorem callPush_eq_append {V : Type} (st args : List V) : callPush st args = args ++ st := by
  rw [callPush, foldl_push, List.reverse_reverse]

theorem spawnPop_append {V : Type} (args st acc : List V) :
    spawnPop args.length (args ++ st) acc = (args.reverse ++ acc, st) := by
  induction args generalizing acc with
  | nil => rfl
  | cons a as ih => simp [spawnPop, ih]

/-- The spawned core's callee binds parameter `i` to argument `i`, and the spawning core's stack
is what it was before the arguments were pushed. -/
theorem spawn_binds_args {V : Type} (st args : List V) :
    let popped := spawnPop args.length (callPush st args) []
    popN args.length (prePush popped.1) = (args, []) ∧ popped.2 = st := by
  simp only [callPush_eq_append, spawnPop_append, List.append_nil]
  exact ⟨popN_prePush_invert args, trivial⟩

theorem coreStep_reach {s s' : Sys} {c : Nat} (hr : Reach Cfg.fixed s.proto)
    (h : coreStep Cfg.fixed s c = some s') : Reach Cfg.fixed s'.proto := by
  revert h
  -- the cases are numbered in the order of the branches of `coreStep`: blocked or gone, protocol state unchanged, then
  -- one `Step` each
  fun_cases coreStep Cfg.fixed s c with
  | case5 | case7 | case9 | case15 => nofun
  | case3 | case11 => rintro ⟨⟩; exact hr
  | case1 hc hcan => rintro ⟨⟩; exact .step _ _ hr (.coreFinish _ c (some .terminate) hc fun _ => hcan)
  | case2 hc => rintro ⟨⟩; exact .step _ _ hr (.coreFinish _ c none hc nofun)
  | case10 hc => rintro ⟨⟩; exact .step _ _ hr (.coreFinish _ c (some .fatal) hc nofun)
  | case4 hc _ _ _ _ hf => rintro ⟨⟩; exact .step _ _ hr (.coreSpawn _ c hc hf)
  | case6 hc _ _ _ hg =>
    rintro ⟨⟩
    simp only [Bool.and_eq_true, Option.isNone_iff_eq_none, List.all_eq_true, List.mem_range,
      Bool.not_eq_eq_eq_not, Bool.not_true] at hg
    refine .step _ _ hr (.gLock _ c hc hg.1 fun d => ?_)
    -- the model's check runs over the cores that exist; beyond them nobody reads (invariant)
    by_cases hd : d < s.proto.n
    · exact hg.2 d hd
    · have hi := reach_inv hr
      refine Bool.eq_false_iff.mpr fun hgr => ?_
      have h1 := (hi.mutex.rd_iff d).mpr hgr
      rw [(hi.cores.absent_iff d).mpr (by omega)] at h1; cases h1
  | case8 hc _ _ _ hg => rintro ⟨⟩; exact .step _ _ hr (.gRLock _ c hc (Option.isNone_iff_eq_none.mp hg))
  | case12 hc => rintro ⟨⟩; exact .step _ _ hr (.gWrite _ c hc)
  | case13 hc => rintro ⟨⟩; exact .step _ _ hr (.gUnlock _ c hc)
  | case14 hc => rintro ⟨⟩; exact .step _ _ hr (.gRUnlock _ c hc)

theorem sysStep_reach {s s' : Sys} {k : Nat} (hr : Reach Cfg.fixed s.proto)
    (h : sysStep Cfg.fixed s k = some s') : Reach Cfg.fixed s'.proto := by
  revert h
  fun_cases sysStep Cfg.fixed s k with
  | case1 => nofun
  | case2 =>
    cases hw : waitStep Cfg.fixed s.proto with
    | none => nofun
    | some p => rintro ⟨⟩; exact .step _ _ hr (.wait _ _ hw)
  | case3 => exact coreStep_reach hr

theorem start_reach (progs : List (List Act)) : Reach Cfg.fixed (Sys.start progs).proto := by
  have r0 : Reach Cfg.fixed PState.init.spawn := .step _ _ .init (.hostSpawn _ (by decide))
  exact .step _ _ r0 (Step.waitStart _ (by simp [PState.spawn, PState.init, WaitPc.active]))

theorem runSys_reach (ks : List Nat) (s : Sys) (h : Reach Cfg.fixed s.proto) :
    Reach Cfg.fixed (runSys Cfg.fixed ks s).proto := by
  fun_induction runSys Cfg.fixed ks s with
  | case1 | case2 | case4 => exact h
  | case3 _ _ _ _ hs _ ih => exact ih (sysStep_reach h hs)

end Hms.Conc
