import Hms.Lex.Spec
import HmsProofs.Lemmas.ListAux
/-! The scanners of the lexer model against the lexical specification: comments, and for each token
class (strings with their escapes, numbers, names, operators) that what is read is a token as the
specification wants it (`TokOK`). `LexPiece` puts them together for `nextPiece`. -/
namespace HmsProofs.Lemmas.LexStep
open Hms Hms.Lex

/-- The derived `BEq` on token kinds compares constructor indices; it is lawful. -/
theorem tok_beq_iff (a b : TokKind) : (a == b) = true ↔ a = b := by
  constructor
  · intro h
    have h' : a.ctorIdx = b.ctorIdx := by
      simpa [BEq.beq, instBEqTokKind.beq] using h
    rw [← TokKind.ofNat_ctorIdx a, ← TokKind.ofNat_ctorIdx b, h']
  · rintro rfl
    simp [BEq.beq, instBEqTokKind.beq]

instance : LawfulBEq TokKind where
  eq_of_beq h := (tok_beq_iff _ _).1 h
  rfl := (tok_beq_iff _ _).2 rfl

/-- The maximality condition of `Spec.tokenizes.go`, as a function of the next character. -/
def maxOK (k : TokKind) (lx : List Char) (next : Option Char) : Bool :=
  match next with
  | some c =>
    if Spec.isOperatorKind k then !(Spec.extendable lx c)
    else if k == .identifier || Spec.isKeywordKind k then !(isLetter c || isDigit c)
    else if k == .int then !(isDigit c || c == '_' || c == 'f')
    else true
  | none => true

def TokOK (k : TokKind) (lx v rest input : List Char) : Prop :=
  lx ++ rest = input ∧ lx ≠ [] ∧ Spec.lexemeOK k lx v = true ∧ maxOK k lx rest.head? = true

/-- Strings, numbers and identifiers are in neither table: `Spec.lexemeOK` and `maxOK` judge them by shape. -/
theorem untabled : ∀ k ∈ [TokKind.string, .int, .float, .identifier],
    Spec.isOperatorKind k = false ∧ Spec.isKeywordKind k = false := by decide

theorem spanWhile_spec {p : Char → Bool} {l a b : List Char} (h : spanWhile p l = (a, b)) :
    a ++ b = l ∧ (∀ x ∈ a, p x = true) ∧ (∀ x, b.head? = some x → p x = false) := by
  fun_induction spanWhile p l generalizing a b
  case case1 => cases h; simp
  case case2 c cs hc a' b' hab ih =>
    cases h
    obtain ⟨h1, h2, h3⟩ := ih hab
    exact ⟨congrArg (c :: ·) h1, List.forall_mem_cons.2 ⟨hc, h2⟩, h3⟩
  case case3 c cs hc => cases h; simp [hc]

theorem lineBody_spec (l : List Char) :
    (lineBody l).1 ++ (lineBody l).2 = l ∧
      (((lineBody l).1.getLast? = some '\n' ∧ '\n' ∉ (lineBody l).1.dropLast)
        ∨ ((lineBody l).2 = [] ∧ '\n' ∉ (lineBody l).1)) := by
  fun_induction lineBody l
  case case1 => simp
  case case2 => simp
  case case3 c cs h a b hab ih =>
    rw [hab] at ih
    obtain ⟨h1, h2⟩ := ih
    refine ⟨congrArg (c :: ·) h1, ?_⟩
    rcases h2 with ⟨h2, h3⟩ | ⟨h2, h3⟩
    · left
      obtain ⟨x, xs, rfl⟩ := List.exists_cons_of_ne_nil (fun h0 : a = [] => by simp [h0] at h2)
      exact ⟨by simpa using h2, by simpa [Ne.symm h] using h3⟩
    · right
      exact ⟨h2, by simp [h3, Ne.symm h]⟩

theorem blockBody_append (l : List Char) : (blockBody l).1 ++ (blockBody l).2 = l := by
  fun_induction blockBody l with
  | case1 => rfl
  | case2 cs => rfl
  | case3 c cs hne a b hab ih => 
    rw [hab] at ih; simp at ih ⊢; exact ih

/-- The first alternative is what `Spec.triviaOK` asks of a closed comment: `*/` does not occur in the body
without its last character (`a' ++ ['*']`), i.e. the body ends at its first `*/`. In case 3 both branches end
on `hne`: at `c :: cs` the pattern `'*' :: '/' :: _` was not taken. -/
theorem blockBody_spec (l : List Char) :
      ((∃ a', (blockBody l).1 = a' ++ ['*', '/'] ∧ Spec.containsSeq ['*', '/'] (a' ++ ['*']) = false)
        ∨ ((blockBody l).2 = [] ∧ Spec.containsSeq ['*', '/'] (blockBody l).1 = false)) := by
  fun_induction blockBody l with
  | case1 => right; simp [Spec.containsSeq]
  | case2 cs => left; exact ⟨[], by simp, by decide⟩
  | case3 c cs hne a b hab ih => 
    have happ := blockBody_append cs
    rw [hab] at ih happ
    simp only at ih happ ⊢
    rcases ih with ⟨a', ha, hc⟩ | ⟨hb, hc⟩
    · left
      refine ⟨c :: a', by simp [ha], ?_⟩
      simp only [List.cons_append, Spec.containsSeq, hc, Bool.or_false]
      cases a' with
      | nil => simp [List.isPrefixOf]
      | cons x xs =>
        simp only [List.cons_append, List.isPrefixOf, Bool.and_eq_false_imp]
        intro h1 
        simp at h1 ⊢
        intro h2
        subst h1; subst h2
        exact hne (xs ++ ['*', '/'] ++ b) rfl (by rw [← happ, ha]; simp)
    · right
      refine ⟨hb, ?_⟩
      simp only [Spec.containsSeq, hc, Bool.or_false]
      subst hb
      simp at happ
      subst happ
      cases a with
      | nil => simp [List.isPrefixOf]
      | cons x xs => 
        simp only [List.isPrefixOf]
        simp
        intro h1 h2
        exact hne xs h1.symm (by rw [h2])

theorem blockComment_ok (l : List Char) :
    Spec.triviaOK (.blockComment ('/' :: '*' :: (blockBody l).1)) (blockBody l).2.isEmpty = true := by
  unfold Spec.triviaOK
  rcases blockBody_spec l with ⟨a', ha, hc⟩ | ⟨hb, hc⟩
  · rw [ha]
    have : (a' ++ ['*', '/']).dropLast = a' ++ ['*'] := by
      rw [List.dropLast_append_cons]; rfl
    simp [Spec.startsWith, List.isPrefixOf, this, hc]
  · simp [Spec.startsWith, List.isPrefixOf, hb, hc]

theorem lineComment_ok (l : List Char) :
    Spec.triviaOK (.lineComment ('/' :: '/' :: (lineBody l).1)) (lineBody l).2.isEmpty = true := by
  unfold Spec.triviaOK
  rcases (lineBody_spec l).2 with ⟨ha, hc⟩ | ⟨hb, hc⟩
  · simp [Spec.startsWith, List.isPrefixOf, ha, hc]
  · simp [Spec.startsWith, List.isPrefixOf, hb, hc]

theorem takeDigits_spec {p : Char → Bool} {n : Nat} {l ds r : List Char}
    (h : takeDigits p n l = some (ds, r)) :
    ds ++ r = l ∧ ds.length = n ∧ ds.all p = true := by
  fun_induction takeDigits p n l generalizing ds r
  case case1 => cases h; simp
  case case2 => cases h
  case case3 n c cs hc ih =>
    simp only [Option.map_eq_some_iff, Prod.exists, Prod.mk.injEq] at h
    obtain ⟨a, b, hab, rfl, rfl⟩ := h
    obtain ⟨h1, h2, h3⟩ := ih hab
    simp [h1, h2, h3, hc]
  case case4 => cases h

theorem countDigits_prefix (p : Char → Bool) (n : Nat) (l : List Char) :
    ∃ r, countDigits p n l ++ r = l := by
  fun_induction countDigits p n l
  case case3 n c cs hc ih => obtain ⟨r, hr⟩ := ih; exact ⟨r, congrArg (c :: ·) hr⟩
  all_goals exact ⟨_, rfl⟩

/-- How `escape` and `Spec.decodeBody` read the character after the backslash: both as a simple
escape, both as `n` digits of some radix, or not at all. -/
theorem escape_cases (e : Char) (rest0 : List Char) :
    (∃ r, escape (e :: rest0) = .ok r [e] rest0 ∧ ∀ q f t, q ≠ '\\' →
        Spec.decodeBody q (f + 1) ('\\' :: e :: t) = (Spec.decodeBody q f t).map (r :: ·))
    ∨ (∃ pre p radix n,
        escape (e :: rest0) = (match takeDigits p n rest0 with
          | some (ds, rest') => .ok (decodeRune (min (digitsVal radix (pre ++ ds)) (2 ^ 31 - 1))) (e :: ds) rest'
          | none => .invalid (e :: countDigits p n rest0)) ∧
        ∀ q f t, q ≠ '\\' → Spec.decodeBody q (f + 1) ('\\' :: e :: t) =
          if t.length ≥ n ∧ (t.take n).all p = true then
            (Spec.decodeBody q f (t.drop n)).map
              (decodeRune (min (digitsVal radix (pre ++ t.take n)) (2 ^ 31 - 1)) :: ·)
          else none)
    ∨ escape (e :: rest0) = .invalid [] := by
  by_cases hs : e ∈ ['\\', '\'', '"', 'b', 'n', 'r', 't']
  · simp only [List.mem_cons, List.not_mem_nil, or_false] at hs
    rcases hs with rfl | rfl | rfl | rfl | rfl | rfl | rfl <;>
      exact .inl ⟨_, rfl, fun q f t hq => by simp [Spec.decodeBody, hq.symm]⟩
  by_cases hc : e ∈ ['x', 'u', 'U']
  · simp only [List.mem_cons, List.not_mem_nil, or_false] at hc
    rcases hc with rfl | rfl | rfl <;>
      exact .inr (.inl ⟨[], isHex, 16, _, rfl, fun q f t hq => by simp [Spec.decodeBody, hq.symm]⟩)
  simp only [List.mem_cons, List.not_mem_nil, or_false, not_or] at hs hc
  by_cases ho : isOctal e = true
  · exact .inr (.inl ⟨[e], isOctal, 8, 2, by simp [escape, *]; rfl,
      fun q f t hq => by simp [Spec.decodeBody, hq.symm, *]⟩)
  · exact .inr (.inr (by simp [escape, *]))

theorem escape_ok {cs : List Char} {r : Char} {consumed rest' : List Char}
    (h : escape cs = .ok r consumed rest') :
    consumed ++ rest' = cs ∧ consumed ≠ [] ∧
      ∀ (q : Char) (f : Nat) (b : List Char), q ≠ '\\' →
        Spec.decodeBody q (f + 1) ('\\' :: consumed ++ b) = (Spec.decodeBody q f b).map (r :: ·) := by
  cases cs with
  | nil => simp [escape] at h
  | cons e rest0 =>
    rcases escape_cases e rest0 with ⟨r0, he, hd⟩ | ⟨pre, p, radix, n, he, hd⟩ | he
    · rw [he] at h
      cases h
      exact ⟨rfl, List.cons_ne_nil _ _, hd⟩
    · rw [he] at h
      cases hd' : takeDigits p n rest0 with
      | none => rw [hd'] at h; cases h
      | some dr =>
        obtain ⟨ds, r'⟩ := dr
        rw [hd'] at h
        cases h
        obtain ⟨h1, h2, h3⟩ := takeDigits_spec hd'
        refine ⟨congrArg (e :: ·) h1, List.cons_ne_nil _ _, fun q f b hq => ?_⟩
        rw [List.cons_append, List.cons_append, hd q f (ds ++ b) hq]
        simp [← h2, h3]
    · rw [he] at h
      cases h

theorem escape_invalid {cs consumed : List Char} (h : escape cs = .invalid consumed) :
    ∃ r, consumed ++ r = cs := by
  cases cs with
  | nil => simp [escape] at h
  | cons e rest0 =>
    rcases escape_cases e rest0 with ⟨r0, he, _⟩ | ⟨pre, p, radix, n, he, _⟩ | he
    · rw [he] at h
      cases h
    · rw [he] at h
      cases hd' : takeDigits p n rest0 with
      | some dr => rw [hd'] at h; cases h
      | none =>
        rw [hd'] at h
        cases h
        obtain ⟨r, hr⟩ := countDigits_prefix p n rest0
        exact ⟨r, congrArg (e :: ·) hr⟩
    · rw [he] at h
      cases h
      exact ⟨_, rfl⟩

def StrOK (q : Char) (cs : List Char) : StrRes → Prop
  | .ok v body rest => body ++ q :: rest = cs ∧ ∀ f, body.length + 1 ≤ f → Spec.decodeBody q f body = some v
  | .neverClosed consumed => ∃ r, consumed ++ r = cs
  | .badEscape _ before cons => ∃ r, before ++ cons ++ r = cs

theorem stringBody_spec (q : Char) : ∀ (fuel : Nat) (cs : List Char), StrOK q cs (stringBody q fuel cs)
  | 0, cs => ⟨cs, rfl⟩
  | _ + 1, [] => ⟨[], rfl⟩
  | fuel + 1, c :: rest0 => by
    -- the result for `c :: rest0` from the result `x` for the input `rest1` after the `pre`fix read
    have lift : ∀ (pre rest1 : List Char) (x : StrRes) (r : Char), pre ++ rest1 = rest0 →
        (∀ f b, Spec.decodeBody q (f + 1) (c :: pre ++ b) = (Spec.decodeBody q f b).map (r :: ·)) →
        StrOK q rest1 x →
        StrOK q (c :: rest0) (match x with
          | .ok v b r' => .ok (r :: v) (c :: pre ++ b) r'
          | .neverClosed cons => .neverClosed (c :: pre ++ cons)
          | .badEscape k before cons => .badEscape k (c :: pre ++ before) cons) := by
      rintro pre rest1 x r rfl hd hx
      cases x with
      | ok v b r' =>
        obtain ⟨rfl, h2⟩ := hx
        refine ⟨by simp, fun f hf => ?_⟩
        obtain ⟨f, rfl⟩ : ∃ f', f = f' + 1 := ⟨f - 1, by simp at hf; omega⟩
        rw [hd, h2 f (by simp at hf; omega)]
        rfl
      | neverClosed cons => obtain ⟨t, rfl⟩ := hx; exact ⟨t, by simp⟩
      | badEscape k before cons => obtain ⟨t, rfl⟩ := hx; exact ⟨t, by simp⟩
    rw [stringBody]
    by_cases hc : c = q
    · rw [if_pos hc]
      refine ⟨by rw [hc]; rfl, fun f hf => ?_⟩
      obtain ⟨f, rfl⟩ : ∃ f', f = f' + 1 := ⟨f - 1, by omega⟩
      rfl
    rw [if_neg hc]
    by_cases hb : c = '\\'
    · rw [if_pos hb]
      cases hesc : escape rest0 with
      | ok r consumed rest' =>
        obtain ⟨e1, -, e3⟩ := escape_ok hesc
        -- the decoder's equation asks for `q ≠ '\\'`: here `c` is a backslash and not the quote
        exact lift consumed rest' _ r e1 (fun f b => hb ▸ e3 q f b fun hq => hc (hb.trans hq.symm))
          (stringBody_spec q fuel rest')
      | unfinished => exact ⟨rest0, rfl⟩
      | invalid consumed =>
        obtain ⟨t, rfl⟩ := escape_invalid hesc
        exact ⟨t, by simp⟩
    · rw [if_neg hb]
      refine lift [] rest0 _ c rfl (fun f b => ?_) (stringBody_spec q fuel rest0)
      simp only [List.cons_append, List.nil_append, Spec.decodeBody, hc, hb, if_false]

theorem maxOK_string (lx : List Char) (next : Option Char) : maxOK .string lx next = true := by
  obtain ⟨hk1, hk2⟩ := untabled .string (by simp)
  cases next with
  | none => rfl
  | some c => simp [maxOK, hk1, hk2, (by decide : (TokKind.string == .identifier) = false),
      (by decide : (TokKind.string == .int) = false)]

theorem string_tok (q : Char) (hq : q = '\'' ∨ q = '"') {cs v body rest : List Char}
    (h : StrOK q cs (.ok v body rest)) : TokOK .string (q :: body ++ [q]) v rest (q :: cs) := by
  obtain ⟨h1, h2⟩ := h
  obtain ⟨hk1, hk2⟩ := untabled .string (by simp)
  refine ⟨by simp [← h1], List.cons_ne_nil _ _, ?_, maxOK_string _ _⟩
  have hq' : (q == '"' || q == '\'') = true := by rcases hq with rfl | rfl <;> decide
  simp only [Spec.lexemeOK, hk1, hk2, Bool.false_eq_true, if_false, List.cons_append, hq', Bool.true_and]
  rw [List.getLast?_concat, List.dropLast_concat, h2 _ (by simp)]
  simp

theorem splitAtChar_none (c : Char) (l : List Char) (h : ∀ x ∈ l, x ≠ c) :
    Spec.splitAtChar c l = (l, none) := by
  induction l with
  | nil => rfl
  | cons x xs ih =>
    simp only [Spec.splitAtChar]
    rw [if_neg (h x (by simp)), ih (fun y hy => h y (by simp [hy]))]

theorem splitAtChar_some (c : Char) (a b : List Char) (h : ∀ x ∈ a, x ≠ c) :
    Spec.splitAtChar c (a ++ c :: b) = (a, some b) := by
  induction a with
  | nil => simp [Spec.splitAtChar]
  | cons x xs ih =>
    simp only [List.cons_append, Spec.splitAtChar]
    rw [if_neg (h x (by simp)), ih (fun y hy => h y (by simp [hy]))]

/-- The predicate `number` scans with (definitionally its `fun c => isDigit c || c == '_'`). -/
def numCh (c : Char) : Bool := isDigit c || c == '_'

theorem numCh_ne_dot {x : Char} (h : numCh x = true) : x ≠ '.' := by
  rintro rfl; revert h; decide
theorem numCh_ne_f {x : Char} (h : numCh x = true) : x ≠ 'f' := by
  rintro rfl; revert h; decide
theorem isDigit_numCh {x : Char} (h : isDigit x = true) : numCh x = true := by simp [numCh, h]

theorem digitsShaped_of (d : Char) (l : List Char) (hd : isDigit d = true) (hl : ∀ x ∈ l, numCh x = true) :
    Spec.digitsShaped (d :: l) = true := by
  simp only [Spec.digitsShaped, hd, Bool.true_and, List.all_eq_true]
  exact hl

theorem lexemeOK_int {lx v : List Char} (h1 : Spec.numberShaped lx = some .int)
    (h2 : v = lx.filter (· != '_')) : Spec.lexemeOK .int lx v = true := by
  obtain ⟨hk1, hk2⟩ := untabled .int (by simp)
  have hk3 : (some TokKind.int == some TokKind.int) = true := by decide
  subst h2
  simp only [Spec.lexemeOK, hk1, hk2, Bool.false_eq_true, if_false, h1, hk3, Bool.true_and, beq_self_eq_true]

theorem lexemeOK_float {lx v : List Char} (h1 : Spec.numberShaped lx = some .float)
    (h2 : v = lx.filter (fun c => c != '_' && c != 'f')) : Spec.lexemeOK .float lx v = true := by
  obtain ⟨hk1, hk2⟩ := untabled .float (by simp)
  have hk3 : (some TokKind.float == some TokKind.float) = true := by decide
  subst h2
  simp only [Spec.lexemeOK, hk1, hk2, Bool.false_eq_true, if_false, h1, hk3, Bool.true_and, beq_self_eq_true]

theorem maxOK_int {lx : List Char} {next : Option Char}
    (h : ∀ c, next = some c → numCh c = false ∧ c ≠ 'f') : maxOK .int lx next = true := by
  obtain ⟨hk1, hk2⟩ := untabled .int (by simp)
  have hk3 : (TokKind.int == TokKind.identifier) = false := by decide
  cases next with
  | none => rfl
  | some c =>
    obtain ⟨h1, h2⟩ := h c rfl
    simp only [numCh, Bool.or_eq_false_iff] at h1
    simp [maxOK, hk1, hk2, hk3, h1.1, h2]
    simpa using h1.2

theorem maxOK_float {lx : List Char} {next : Option Char} : maxOK .float lx next = true := by
  obtain ⟨hk1, hk2⟩ := untabled .float (by simp)
  have hk3 : (TokKind.float == TokKind.identifier) = false := by decide
  have hk4 : (TokKind.float == TokKind.int) = false := by decide
  cases next with
  | none => rfl
  | some c => simp [maxOK, hk1, hk2, hk3, hk4]

theorem number_spec (d : Char) (cs : List Char) (hd : isDigit d = true) :
    TokOK (number d cs).1 (number d cs).2.1 (numberValue (number d cs).2.1) (number d cs).2.2 (d :: cs) := by
  have hall : ∀ {a : List Char}, (∀ x ∈ a, numCh x = true) → ∀ x ∈ d :: a, numCh x = true := by
    intro a h x hx
    rcases List.mem_cons.mp hx with rfl | hx
    · exact isDigit_numCh hd
    · exact h x hx
  have hint : ∀ {a : List Char}, (∀ x ∈ a, numCh x = true) →
      Spec.lexemeOK .int (d :: a) (numberValue (d :: a)) = true := by
    intro a s2
    apply lexemeOK_int
    · simp only [Spec.numberShaped]
      rw [splitAtChar_none _ _ (fun x hx => numCh_ne_dot (hall s2 x hx))]
      simp only [digitsShaped_of d _ hd s2, if_true]
    · unfold numberValue
      apply List.filter_congr
      intro x hx
      have := numCh_ne_f (hall s2 x hx)
      simp [this]
  -- cases of `number`: 1 fraction, 2 `.` not followed by a digit, 3 suffix `f`, 4 integer
  fun_cases number d cs
  case case1 intPart d2 r2 hd2 frac r3 hfrac hsp =>
    obtain ⟨s1, s2, -⟩ := spanWhile_spec hsp
    obtain ⟨t1, t2, -⟩ := spanWhile_spec hfrac
    obtain ⟨fr, rfl⟩ : ∃ fr, frac = d2 :: fr := by
      simp only [spanWhile, hd2, Bool.true_or, if_true, Prod.mk.injEq] at hfrac
      exact ⟨_, hfrac.1.symm⟩
    refine ⟨by simp [← s1, ← t1], by simp, ?_, maxOK_float⟩
    apply lexemeOK_float _ rfl
    simp only [Spec.numberShaped]
    have := splitAtChar_some '.' (d :: intPart) (d2 :: fr) (fun x hx => numCh_ne_dot (hall s2 x hx))
    rw [List.cons_append] at this
    simp only [List.cons_append]
    rw [this]
    simp only [digitsShaped_of d _ hd s2, digitsShaped_of d2 fr hd2 (fun x hx => t2 x (by simp [hx])),
      Bool.and_self, if_true]
  case case2 intPart d2 r2 hd2 hsp =>
    obtain ⟨s1, s2, -⟩ := spanWhile_spec hsp
    refine ⟨by simp [← s1], by simp, hint s2, maxOK_int fun c hc => ?_⟩
    cases hc
    exact ⟨by decide, by decide⟩
  case case3 intPart r2 hsp =>
    obtain ⟨s1, s2, -⟩ := spanWhile_spec hsp
    refine ⟨by simp [← s1], by simp, ?_, maxOK_float⟩
    apply lexemeOK_float _ rfl
    simp only [Spec.numberShaped]
    have hnd : ∀ x ∈ d :: intPart ++ ['f'], x ≠ '.' := by
      intro x hx
      simp only [List.cons_append, List.mem_cons, List.mem_append, List.not_mem_nil, or_false] at hx
      rcases hx with rfl | hx | rfl
      · exact numCh_ne_dot (isDigit_numCh hd)
      · exact numCh_ne_dot (s2 _ hx)
      · decide
    rw [splitAtChar_none _ _ hnd]
    have h1 : Spec.digitsShaped (d :: intPart ++ ['f']) = false := by
      simp [Spec.digitsShaped]
      intro _ _; decide
    have h2 : (d :: intPart ++ ['f']).getLast? = some 'f' := List.getLast?_concat
    have h3 : (d :: intPart ++ ['f']).dropLast = d :: intPart := List.dropLast_concat
    simp only [h1, h2, h3, digitsShaped_of d _ hd s2]
    decide
  case case4 intPart r1 hsp hnd hnf =>
    obtain ⟨s1, s2, s3⟩ := spanWhile_spec hsp
    refine ⟨by simp [← s1], by simp, hint s2, maxOK_int fun c hc => ⟨s3 c hc, ?_⟩⟩
    rintro rfl
    obtain ⟨xs, rfl⟩ := List.head?_eq_some_iff.mp hc
    exact hnf xs rfl

/-- What `Spec.lexemeOK` and `Spec.isOperatorKind`/`Spec.isKeywordKind` ask of a table entry. -/
theorem table_mem {tbl : List (String × TokKind)} {e : String × TokKind} (h : e ∈ tbl) :
    tbl.contains e = true ∧ (tbl.any fun x => x.2 == e.2) = true :=
  ⟨List.elem_eq_true_of_mem h, List.any_eq_true.2 ⟨e, h, BEq.rfl⟩⟩

theorem keywords_not_operators : ∀ e ∈ Spec.keywords, Spec.isOperatorKind e.2 = false := by
  decide +kernel

theorem keywordKind_eq_lookup (w : String) : keywordKind w = Spec.keywords.lookup w := by
  unfold keywordKind
  -- one case per keyword, closed by evaluating the lookup; in the default case `w` differs from all 33 keys
  split
  all_goals first | rfl | skip
  unfold Spec.keywords
  repeat rw [List.lookup_cons_ne (by assumption)]
  rfl

theorem name_spec (c : Char) (tail rest : List Char) (hc : isLetter c = true)
    (htail : ∀ x ∈ tail, (isDigit x || isLetter x) = true)
    (hrest : ∀ x, rest.head? = some x → (isDigit x || isLetter x) = false) :
    TokOK ((keywordKind (String.ofList (c :: tail))).getD .identifier) (c :: tail) (c :: tail) rest
      (c :: (tail ++ rest)) := by
  refine ⟨rfl, List.cons_ne_nil _ _, ?_⟩
  have hshape : Spec.identShaped (c :: tail) = true := by
    simp only [Spec.identShaped, hc, Bool.true_and, List.all_eq_true]
    exact fun x hx => Bool.or_comm _ _ ▸ htail x hx
  have hnext : ∀ x, rest.head? = some x → (isLetter x || isDigit x) = false :=
    fun x hx => Bool.or_comm _ _ ▸ hrest x hx
  rw [keywordKind_eq_lookup]
  cases hl : Spec.keywords.lookup (String.ofList (c :: tail)) with
  | none =>
    obtain ⟨hk1, hk2⟩ := untabled .identifier (by simp)
    constructor
    · simp only [Option.getD_none, Spec.lexemeOK, hk1, hk2, Bool.false_eq_true, if_false, hshape,
        List.any_fst_beq_eq_lookup_isSome, hl, Option.isSome_none, Bool.not_false, BEq.rfl, Bool.and_self]
    · cases hr : rest.head? with
      | none => rfl
      | some x =>
        simp only [Option.getD_none, maxOK, hk1, BEq.rfl, Bool.false_eq_true, if_false, Bool.true_or, if_true,
          hnext x hr, Bool.not_false]
  | some k =>
    have hmem := List.mem_of_lookup_eq_some hl
    have hk1 := keywords_not_operators _ hmem
    have hk2 : Spec.isKeywordKind k = true := (table_mem hmem).2
    constructor
    · simp only [Option.getD_some, Spec.lexemeOK, hk1, hk2, Bool.false_eq_true, if_false, if_true,
        (table_mem hmem).1, BEq.rfl, Bool.and_self]
    · cases hr : rest.head? with
      | none => rfl
      | some x =>
        simp only [Option.getD_some, maxOK, hk1, hk2, Bool.false_eq_true, if_false, Bool.or_true, if_true,
          hnext x hr, Bool.not_false]

/-- The characters that extend the operator of kind `k` to a longer operator. -/
def nextChars : TokKind → List Char
  | .dot => ['.']
  | .assign => ['>', '=']
  | .bitOr => ['|', '=']
  | .bitAnd => ['&', '=']
  | .lessThan => ['<', '=']
  | .greaterThan => ['>', '=']
  | .minus => ['=', '>']
  | .multiply => ['=', '*']
  | .bitXor | .not_ | .plus | .divide | .modulo | .shiftLeft | .shiftRight | .power => ['=']
  | _ => []

theorem nextChars_spec : ∀ e' ∈ Spec.operators, ∀ e ∈ Spec.operators,
    e'.1.toList.dropLast = e.1.toList → ∀ x ∈ e'.1.toList.getLast?, x ∈ nextChars e.2 := by
  decide +kernel

theorem lexemeOK_op {k : TokKind} {lx : String} (h : (lx, k) ∈ Spec.operators) :
    Spec.lexemeOK k lx.toList lx.toList = true := by
  simp only [Spec.lexemeOK, Spec.isOperatorKind, (table_mem h).2, if_true, String.ofList_toList,
    (table_mem h).1, BEq.rfl, Bool.and_self]

theorem maxOK_op {k : TokKind} {lx : String} {next : Option Char} (hm : (lx, k) ∈ Spec.operators)
    (h : ∀ c, next = some c → c ∉ nextChars k) : maxOK k lx.toList next = true := by
  cases next with
  | none => rfl
  | some c =>
    simp only [maxOK, Spec.isOperatorKind, (table_mem hm).2, if_true, Bool.not_eq_true']
    cases he : Spec.extendable lx.toList c with
    | false => rfl
    | true =>
      simp only [Spec.extendable, List.any_eq_true, beq_iff_eq] at he
      obtain ⟨e', he', heq⟩ := he
      exact absurd (nextChars_spec e' he' _ hm (by simp [heq]) c (by simp [heq])) (h c rfl)

/-- Kinds are unique in the operator table, so an entry is found by its kind (which, unlike a search by
lexeme, evaluates without comparing strings). -/
theorem mem_operators {k : TokKind} {lx : String}
    (h : Spec.operators.find? (·.2 == k) = some (lx, k)) : (lx, k) ∈ Spec.operators :=
  List.mem_of_find?_eq_some h

/-- The longest operator of the table that is a prefix of the input: each branch of `matchOp`'s decision tree is taken
only when the branches for the longer operators were not. -/
theorem matchOp_spec (c : Char) (cs : List Char) (k : TokKind) (lx : String)
    (h : matchOp c cs = some (k, lx)) :
    TokOK k lx.toList lx.toList ((c :: cs).drop lx.length) (c :: cs) := by
  suffices (lx, k) ∈ Spec.operators ∧ lx.toList ≠ [] ∧
      lx.toList ++ (c :: cs).drop lx.toList.length = c :: cs ∧
      ∀ x, ((c :: cs).drop lx.toList.length).head? = some x → x ∉ nextChars k by
    obtain ⟨m0, m1, m2, m3⟩ := this
    rw [String.length_toList] at m2 m3
    exact ⟨m2, m1, lexemeOK_op m0, maxOK_op m0 m3⟩
  -- the hypothesis has the shape in which `fun_cases matchOp` records the patterns that did not match
  have head?_not_mem {r ys : List Char} (h : ∀ y ∈ ys, ∀ t, r = y :: t → False) :
      ∀ x, r.head? = some x → x ∉ ys :=
    fun x hx hm => h x hm _ (List.head?_eq_some_iff.mp hx).choose_spec
  revert h
  fun_cases matchOp c cs <;> intro h
  rotate_right
  · cases h
  all_goals
    cases h
    refine ⟨mem_operators rfl, ?_⟩
    simp only [String.reduceToList, nextChars]
    refine ⟨List.cons_ne_nil _ _, rfl, ?_⟩
    simp only [List.length_cons, List.length_nil, List.drop_succ_cons, List.drop_zero, List.not_mem_nil,
      not_false_eq_true, implies_true]
  -- left: the branches whose operator can be extended; the earlier patterns exclude just that
  all_goals
    refine head?_not_mem ?_
    simp only [List.forall_mem_cons, List.not_mem_nil, false_imp_iff, implies_true, and_true]
    repeat' apply And.intro
    all_goals assumption

end HmsProofs.Lemmas.LexStep
