import Hms.Pos.ImportGraph
import HmsProofs.Lemmas.ListAux
/-!
What the proofs about the two models of the import graph share (`Hms/Pos/ImportGraph.lean` for
C05, `Hms/Mod/Graph.lean` for C15): the measure that bounds both cycle checks and the module
recursion, `Hms.Pos.Imports.white u vis`: the names of `u` not yet in `vis`.
-/

namespace Hms.Pos.Imports

theorem white_mono (u : List String) {vis vis' : List String} (h : ∀ x, x ∈ vis → x ∈ vis') :
    white u vis' ≤ white u vis := by
  unfold white
  rw [← List.countP_eq_length_filter, ← List.countP_eq_length_filter]
  refine List.countP_mono_left fun x _ hx => ?_
  simp only [Bool.not_eq_true', List.contains_eq_mem, decide_eq_false_iff_not] at hx ⊢
  exact fun hm => hx (h x hm)

/-- `u` is `a` plus the rest, and `a` does not count once it is marked. -/
theorem white_lt (u : List String) {a : String} {vis : List String} (hu : a ∈ u) (ha : a ∉ vis) :
    white u (a :: vis) < white u vis := by
  have hrest := white_mono (u.erase a) (vis := vis) (vis' := a :: vis) fun x hx => List.mem_cons_of_mem _ hx
  have hp := List.perm_cons_erase hu
  unfold white at hrest ⊢
  rw [(hp.filter _).length_eq, (hp.filter _).length_eq, List.filter_cons_of_neg (by simp),
    List.filter_cons_of_pos (by simpa using ha), List.length_cons]
  exact Nat.lt_succ_of_le hrest

theorem white_le (u vis : List String) : white u vis ≤ u.length := by
  unfold white; exact List.length_filter_le _ _

theorem white_keys_le {β} (l : List (String × β)) (vis : List String) :
    white (l.map Prod.fst) vis ≤ l.length := by
  have := white_le (l.map Prod.fst) vis
  rwa [List.length_map] at this

end Hms.Pos.Imports
