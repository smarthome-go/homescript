import Hms.Pos.Span
import HmsProofs.Lemmas.Lexer
/-! Lemmas for C08: the spans of a lexed token stream are real, ordered and increasing. -/
namespace HmsProofs.Lemmas.PosSpans
open Hms.Lex Hms.Pos

/-- What `Spec.tokenizes` says about a token that lies in the rune range `[lo, hi)`. -/
def TokFacts (src : List Char) (lo hi : Nat) (t : Tok) : Prop :=
  lo ≤ t.start.idx ∧ t.start.idx ≤ t.stop.idx ∧ t.stop.idx < hi
    ∧ t.start = Spec.locAt src t.start.idx ∧ t.stop = Spec.locAt src t.stop.idx

theorem TokFacts.widen {src : List Char} {lo hi lo' hi' : Nat} {t : Tok} (h : TokFacts src lo hi t)
    (h1 : lo' ≤ lo) (h2 : hi ≤ hi') : TokFacts src lo' hi' t := by
  obtain ⟨a, b, c, d, e⟩ := h
  exact ⟨Nat.le_trans h1 a, b, Nat.lt_of_lt_of_le c h2, d, e⟩

theorem tokFacts_from (src : List Char) (ps : List Piece) (off : Nat)
    (h : Spec.tokenizes.go src off ps = true) :
    (∀ t ∈ tokensOf ps, TokFacts src off (off + (ps.flatMap Piece.chars).length) t)
      ∧ (tokensOf ps).Pairwise (fun a b => a.stop.idx < b.start.idx) := by
  induction ps generalizing off with
  | nil => simp [tokensOf]
  | cons p rest ih =>
    simp only [Spec.tokenizes.go, Bool.and_eq_true] at h
    obtain ⟨hp, hrest⟩ := h
    obtain ⟨ih1, ih2⟩ := ih _ hrest
    rw [List.flatMap_cons, List.length_append, ← Nat.add_assoc]
    have hafter : ∀ t' ∈ tokensOf rest,
        TokFacts src off (off + p.chars.length + (rest.flatMap Piece.chars).length) t' :=
      fun t' hm => (ih1 t' hm).widen (Nat.le_add_right _ _) (Nat.le_refl _)
    cases p with
    | token t lx =>
      simp only [Bool.and_eq_true, beq_iff_eq, Bool.not_eq_true'] at hp
      obtain ⟨⟨⟨⟨hne, _⟩, hst⟩, hen⟩, _⟩ := hp
      have hlx : 1 ≤ lx.length := List.length_pos_iff.mpr fun e => by simp [e] at hne
      have hsi : t.start.idx = off := by rw [hst]; rfl
      have hei : t.stop.idx = off + lx.length - 1 := by rw [hen]; rfl
      have hthis : TokFacts src off (off + lx.length) t :=
        ⟨by omega, by omega, by omega, by rw [hsi]; exact hst, by rw [hei]; exact hen⟩
      refine ⟨fun t' ht' => ?_, List.pairwise_cons.mpr ⟨fun t' hm => ?_, ih2⟩⟩
      · rcases List.mem_cons.mp ht' with rfl | hm
        · exact hthis.widen (Nat.le_refl _) (Nat.le_add_right _ _)
        · exact hafter t' hm
      · have : off + lx.length ≤ t'.start.idx := (ih1 t' hm).1
        omega
    | space c | lineComment c | blockComment c => exact ⟨hafter, ih2⟩

theorem tokenizes_facts (src : List Char) (ps : List Piece) (h : Spec.tokenizes src ps = true) :
    (∀ t ∈ tokensOf ps, TokFacts src 0 src.length t)
      ∧ (tokensOf ps).Pairwise (fun a b => a.stop.idx < b.start.idx) := by
  simp only [Spec.tokenizes, Bool.and_eq_true, beq_iff_eq] at h
  obtain ⟨hflat, hgo⟩ := h
  obtain ⟨h1, h2⟩ := tokFacts_from src ps 0 hgo
  rw [hflat] at h1
  simpa using And.intro h1 h2

/-- Every token span is a well-formed span of the text — for pieces that meet the specification;
`C08.tok_span_wf` is this for the pieces the lexer returns. -/
theorem tok_span_wf (src : List Char) (ps : List Piece) (h : Spec.tokenizes src ps = true) :
    ∀ t ∈ tokensOf ps, InText src ⟨t.start, t.stop⟩ ∧ Ordered ⟨t.start, t.stop⟩ := by
  intro t ht
  obtain ⟨_, b, c, d, e⟩ := (tokenizes_facts src ps h).1 t ht
  exact ⟨⟨Nat.le_trans b (Nat.le_of_lt c), Nat.le_of_lt c, d, e⟩, b⟩

/-- `start_i.Until(end_j)` for tokens `i ≤ j` of one stream (`C08.until_wf`: of the lexer's stream). -/
theorem until_wf (src : List Char) (ps : List Piece) (h : Spec.tokenizes src ps = true)
    (i j : Nat) (hij : i ≤ j) (hj : j < (tokensOf ps).length) :
    InText src (spanUntil ((tokensOf ps)[i]'(by omega)).start ((tokensOf ps)[j]'hj).stop)
      ∧ Ordered (spanUntil ((tokensOf ps)[i]'(by omega)).start ((tokensOf ps)[j]'hj).stop) := by
  obtain ⟨h1, h2⟩ := tokenizes_facts src ps h
  have hi : i < (tokensOf ps).length := Nat.lt_of_le_of_lt hij hj
  obtain ⟨_, a2, _, a4, _⟩ := h1 _ (List.getElem_mem hi)
  obtain ⟨_, b2, b3, _, b5⟩ := h1 _ (List.getElem_mem hj)
  -- start of token i ≤ its end < start of token j ≤ its end
  have hord : ((tokensOf ps)[i]'hi).start.idx ≤ ((tokensOf ps)[j]'hj).stop.idx := by
    rcases Nat.eq_or_lt_of_le hij with rfl | hlt
    · exact a2
    · exact Nat.le_trans a2
        (Nat.le_trans (Nat.le_of_lt (List.pairwise_iff_getElem.mp h2 i j hi hj hlt)) b2)
  exact ⟨⟨Nat.le_trans hord (Nat.le_of_lt b3), Nat.le_of_lt b3, a4, b5⟩, hord⟩

end HmsProofs.Lemmas.PosSpans
