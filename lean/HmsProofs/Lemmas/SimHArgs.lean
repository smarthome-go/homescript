import HmsProofs.Lemmas.SimHExpr
namespace HmsProofs.Sim
open Hms.Core Hms.Core.VM

def allAtoms (args : List (String × Expr)) : Bool := args.all fun a => Frag.atomE a.2

def varsArgs : List (String × Expr) → List String
  | [] => []
  | a :: as => Frag.varsE a.2 ++ varsArgs as

theorem oneNonAtom_tail (a : String × Expr) (as : List (String × Expr)) (h : Frag.oneNonAtom (a :: as) = true) :
    Frag.oneNonAtom as = true := by
  simp only [Frag.oneNonAtom, decide_eq_true_eq] at h ⊢
  have := (List.Sublist.filter (fun a => !Frag.atomE a.2) (List.sublist_cons_self a as)).length_le
  omega

theorem allAtoms_of_oneNonAtom (a : String × Expr) (as : List (String × Expr))
    (h : Frag.oneNonAtom (a :: as) = true) (ha : Frag.atomE a.2 = false) : allAtoms as = true := by
  simp only [Frag.oneNonAtom, decide_eq_true_eq] at h
  rw [List.filter_cons] at h
  simp only [ha, Bool.not_false, if_true, List.length_cons] at h
  have h0 : (as.filter fun a => !Frag.atomE a.2).length = 0 := by omega
  have hnil := List.length_eq_zero_iff.mp h0
  rw [List.filter_eq_nil_iff] at hnil
  simp only [allAtoms, List.all_eq_true]
  intro x hx
  have := hnil x hx
  simpa using this

theorem varsG_atoms : ∀ (as : List (String × Expr)), allAtoms as = true →
    Frag.varsGArgs as = varsArgs as ∧ Frag.callsGArgs as = [] := by
  intro as
  induction as with
  | nil => intro _; exact ⟨rfl, rfl⟩
  | cons a as ih =>
    intro h
    simp only [allAtoms, List.all_cons, Bool.and_eq_true] at h
    obtain ⟨h1, h2⟩ := ih h.2
    have hp := varsG_pure.1 a.2 (atom_pure _ h.1)
    simp only [Frag.varsGArgs, varsArgs, Frag.callsGArgs, h1, h2, hp.1, hp.2, List.append_nil, and_self]

/-- The VM pushes the last argument first, so that the first ends up on top. -/
theorem atoms_run (G : GCtx) (A : Act) (hA : A.OK G) (st : St) (mem : Mem) (scopes : CScopes)
    (vm : List (String × Nat))
    (hrel : StRel G.mod A.T A.N A.σ G.lim A.mp scopes vm st.scopes mem) :
    ∀ (args : List (String × Expr)) (ip : Nat) (stk : List SVal) (lm : LM),
      allAtoms args = true → Frag.resolved scopes (varsArgs args) = true → (∀ x ∈ varsArgs args, x ∈ A.T) →
      Placed A.lab A.σ A.c ip (cgArgs G.mod (ρS scopes) A.φ args lm).1 →
      ∃ vals : List Val,
        (∀ st2 : St, st2.scopes = st.scopes → ∀ fuel,
          evalList G.cfg fuel (args.map (·.2)) st2 = (.error .timeout, st2) ∨
          evalList G.cfg fuel (args.map (·.2)) st2 = (.ok vals, st2)) ∧
        ∀ out, Runs G.fr G.code G.lim G.s A.fn A.rest A.mp ip stk mem out
          (ip + nI (cgArgs G.mod (ρS scopes) A.φ args lm).1) (vals.map (⟨·, none⟩) ++ stk) mem out := by
  intro args
  induction args with
  | nil =>
    intro ip stk lm _ _ _ _
    exact ⟨[], fun st2 _ fuel => evalList_nil_same G.cfg fuel st2,
      fun out => (Runs.refl ip stk mem out).cast (by simp [cgArgs])⟩
  | cons a as ih =>
    intro ip stk lm hat hres hT hpl
    simp only [allAtoms, List.all_cons, Bool.and_eq_true] at hat
    simp only [varsArgs, resolved_append] at hres hT
    simp only [cgArgs] at hpl ⊢
    obtain ⟨hpl1, hpl2⟩ := hpl.append
    obtain ⟨vs, hvs1, hvs2⟩ := ih ip stk lm hat.2 hres.2 (fun x hx => hT x (List.mem_append.mpr (Or.inr hx))) hpl1
    rw [cgE_of_pure _ _ _ _ _ (atom_pure _ hat.1)] at hpl2 ⊢
    obtain ⟨v, _, hv, hrun⟩ := atom_sim G A hA a.2 st (ip + nI (cgArgs G.mod (ρS scopes) A.φ as lm).1) mem _ scopes vm
      hat.1 hres.1 (fun x hx => hT x (List.mem_append.mpr (Or.inl hx))) hpl2 hrel
    exact ⟨v :: vs, fun st2 hsc => evalList_cons_same (hv st2 hsc) (hvs1 st2 hsc),
      fun out => ((hvs2 out).trans (hrun _ out)).cast (by rw [nI_append]; omega)⟩

/-- Not a chain: the VM evaluates the arguments right to left, so the atoms pushed before the one argument that is not an
atom must have the values the specification computes after it. That needs the scopes unchanged across that argument,
which the frame equation of `SimGE` says and the ok-clause of a `SimM` at an arbitrary level (`L.frame` only) does not; so
the parts are read as `SimGE` and `SimArgs` (`PE.simGE`, `PArgs.simArgs`) and the result re-enters with `of_simArgs`. -/
theorem pargs_step (G : GCtx) (n : Nat) (hPE : PE G n) (hPArgs : PArgs G n) : PArgs G (n + 1) := by
  intro A hA L I scopes vm hI args lm hok hone hws hT ip pre stk0 mem st
  refine .of_simArgs fun hpl hi => ?_
  obtain ⟨hrel, hsp⟩ := hI hi
  generalize pre ++ stk0 = stk
  show SimArgs G A ip _ stk mem st (evalList G.cfg (n + 1) (args.map (·.2)) st)
  cases args with
  | nil =>
    rw [List.map_nil, evalList_nil]
    exact ⟨rfl, mem, [], rfl, fun _ => rfl, (Runs.refl ip stk mem st.world).cast (by simp [cgArgs]), MemLe.refl _ _ _⟩
  | cons a as =>
    simp only [Frag.okEArgs, Bool.and_eq_true] at hok
    obtain ⟨hoka, hokas⟩ := hok
    have hone' := oneNonAtom_tail a as hone
    simp only [Frag.wsGArgs, Frag.varsGArgs, Frag.callsGArgs, Bool.and_eq_true, resolved_append, callsOK_append] at hws
    obtain ⟨⟨hresa, hresas⟩, ⟨hcalla, hcallas⟩⟩ := hws
    simp only [Frag.namesGArgs, Frag.varsGArgs, Frag.callsGArgs, List.mem_append] at hT
    have hwsas : Frag.wsGArgs scopes A.φ as = true := by simp [Frag.wsGArgs, hresas, hcallas]
    have hTas : ∀ x ∈ Frag.namesGArgs as, x ∈ A.T := by
      intro x hx; simp only [Frag.namesGArgs, List.mem_append] at hx
      rcases hx with hx | hx
      · exact hT x (Or.inl (Or.inr hx))
      · exact hT x (Or.inr (Or.inr hx))
    have hwsa : Frag.wsGE scopes A.φ a.2 = true := by simp [Frag.wsGE, hresa, hcalla]
    have hTa : ∀ x ∈ Frag.namesGE a.2, x ∈ A.T := by
      intro x hx; simp only [Frag.namesGE, List.mem_append] at hx
      rcases hx with hx | hx
      · exact hT x (Or.inl (Or.inl hx))
      · exact hT x (Or.inr (Or.inl hx))
    simp only [cgArgs] at hpl ⊢
    generalize hCS : cgArgs G.mod (ρS scopes) A.φ as lm = CS at hpl ⊢
    generalize hCA : cgE G.mod (ρS scopes) A.φ a.2 CS.2 = CA at hpl ⊢
    obtain ⟨hplS, hplA⟩ := hpl.append
    rw [List.map_cons, evalList_cons]
    cases hat : Frag.atomE a.2 with
    | true =>
      -- the specification evaluates the atom first, the VM last: its value depends on the scopes only
      have hpa := atom_pure _ hat
      have hva := varsGE_pure a.2 hpa
      rw [cgE_of_pure _ _ _ _ _ hpa] at hCA
      have hatom := fun (st' : St) (mem' : Mem) (hrel' : StRel G.mod A.T A.N A.σ G.lim A.mp scopes vm st'.scopes mem') =>
        atom_sim G A hA a.2 st' (ip + nI CS.1) mem' CS.2 scopes vm hat (by rw [← hva]; exact hresa)
          (fun x hx => hT x (Or.inl (Or.inl (by rw [hva]; exact hx)))) (by rw [hCA]; exact hplA) hrel'
      have h1 := hPArgs.simArgs A hA as st ip stk mem lm scopes vm hokas hone' hwsas hTas (hCS ▸ hplS) hrel hsp
      rw [hCS] at h1
      rcases hes : evalList G.cfg n (List.map (fun x => x.snd) as) st with ⟨r1, st1⟩
      rw [hes] at h1
      cases r1 with
      | error c1 =>
        obtain ⟨va, _, hev, _⟩ := hatom st mem hrel
        rcases hev st rfl n with h | h <;> rw [h]
        · exact True.intro
        · simp only []
          rw [hes]
          cases c1 <;> exact h1
      | ok vs =>
        obtain ⟨hfr1, mem1, svs, hsv, hsv0, hrun1, hml1⟩ := h1
        obtain ⟨va, _, hev, hrunA⟩ := hatom st1 mem1 (hrel.afterExpr hsp hfr1 hml1 hrun1.inv).1
        rw [hCA] at hrunA
        rcases hev st (by rw [hfr1]) n with h | h <;> rw [h]
        · exact True.intro
        · simp only []
          rw [hes]
          exact ⟨hfr1, mem1, ⟨va, none⟩ :: svs, by simp [hsv], fun h => by rw [hsv0 h]; rfl,
            (hrun1.trans (hrunA (svs ++ stk) st1.world)).cast (by rw [nI_append]; omega), hml1⟩
    | false =>
      -- the only non-atom: the VM pushes the atoms after it first
      have hall := allAtoms_of_oneNonAtom a as hone hat
      obtain ⟨hvs, hcs⟩ := varsG_atoms as hall
      obtain ⟨vs, hvs1, hvs2⟩ := atoms_run G A hA st mem scopes vm hrel as ip stk lm hall
        (by rw [← hvs]; exact hresas) (fun x hx => hT x (Or.inl (Or.inr (by rw [hvs]; exact hx))))
        (hCS ▸ hplS)
      rw [hCS] at hvs2
      have h1 := hPE.simGE A hA a.2 st (ip + nI CS.1) (vs.map (⟨·, none⟩) ++ stk) mem CS.2 scopes vm hoka hwsa hTa
        (hCA ▸ hplA) hrel hsp
      rw [hCA] at h1
      rcases hea : evalExpr G.cfg n a.2 st with ⟨r1, st1⟩
      rw [hea] at h1
      cases r1 with
      | error c1 =>
        cases c1
        case throw =>
          obtain ⟨hfr1, mem1, hT1, hml1⟩ := h1
          exact ⟨hfr1, mem1, Runs.throw (vs.map (⟨·, none⟩)) (hvs2 st.world) hT1, hml1⟩
        case fatal => exact fun hk => (hvs2 st.world).fatal (h1 hk)
        all_goals exact h1
      | ok va =>
        obtain ⟨hfr1, mem1, ov1, hov1, hrun1, hml1⟩ := h1
        simp only []
        have hsc : st1.scopes = st.scopes := by rw [hfr1]
        rcases hvs1 st1 hsc n with h | h
        · rw [h]; exact True.intro
        · rw [h]
          exact ⟨hfr1, mem1, ⟨va, ov1⟩ :: vs.map (⟨·, none⟩), by simp [Function.comp_def],
            fun h => by rw [hov1 h]; rfl,
            ((hvs2 st.world).trans hrun1).cast (by rw [nI_append]; omega), hml1⟩

theorem pargs_zero (G : GCtx) : PArgs G 0 := by
  intro A _ L I sc vm _ args lm _ _ _ _ ip pre stk mem st
  exact .timeout (st' := st) (by rw [evalList]; rfl)

end HmsProofs.Sim
