import Hms.Fuzz.Rules
import HmsProofs.Lemmas.SemStep
/-! `stmtCCL s = false` (the model of `!stmtCanControlLoop(s)`) implies that evaluating `s` never ends in `break` or
`continue`, at any fuel and in any state. `NE m` says so of a computation `m`; it is kept by `>>=`, `if`, `match`,
`mapM`, `for … in` and `inScope`, so it holds of every function of the library layer by going through its body
(`ne_struct`). In the evaluator the two exits originate from `break;` / `continue;` only, which the guard excludes, and
are consumed by the nearest enclosing loop (`NE_round`) or function activation (`callBody`): one induction on the fuel
over all functions of the mutual evaluator (`CCLAt`, `cclAt_succ`). -/
namespace HmsProofs.Lemmas.Fuzz
open Hms.Core Hms.Fuzz

def NoExit {α : Type} (r : Except Ctl α) : Prop := r ≠ .error .brk ∧ r ≠ .error .cont

structure NE {α : Type} (m : M α) : Prop where
  h : ∀ st, NoExit (m st).1

theorem NE.noExit {α : Type} {m : M α} (hm : NE m) (st : St) : NoExit (m st).1 := hm.h st

theorem noExit_ok {α : Type} (a : α) : NoExit (.ok a : Except Ctl α) := ⟨nofun, nofun⟩

theorem noExit_error {α : Type} {c : Ctl} (h₁ : c ≠ .brk) (h₂ : c ≠ .cont) :
    NoExit (.error c : Except Ctl α) :=
  ⟨fun e => h₁ (by cases e; rfl), fun e => h₂ (by cases e; rfl)⟩

theorem NE_pure {α : Type} (a : α) : NE (pure a : M α) := ⟨fun _ => noExit_ok a⟩

theorem NE_throw {α : Type} {c : Ctl} (h₁ : c ≠ .brk) (h₂ : c ≠ .cont) : NE (throwCtl c : M α) :=
  ⟨fun _ => noExit_error h₁ h₂⟩

theorem NE_get : NE (get : M St) := ⟨fun _ => noExit_ok _⟩
theorem NE_set (s : St) : NE (set s : M Unit) := ⟨fun _ => noExit_ok _⟩
theorem NE_modify (f : St → St) : NE (modify f : M Unit) := ⟨fun _ => noExit_ok _⟩

theorem NE_bind {α β : Type} {m : M α} {f : α → M β} (hm : NE m) (hf : ∀ a, NE (f a)) : NE (m >>= f) := by
  constructor; intro st
  rw [Sim.M_bind]
  cases h : m st with
  | mk r s1 =>
    cases r with
    | ok a => exact (hf a).noExit s1
    | error c =>
      have := hm.noExit st
      rw [h] at this
      exact noExit_error (fun e => this.1 (by rw [e])) (fun e => this.2 (by rw [e]))

theorem NE_map {α β : Type} (g : α → β) (m : M α) (hm : NE m) : NE (g <$> m) :=
  NE_bind hm fun _ => NE_pure _

theorem NE_ite {α : Type} {c : Prop} [Decidable c] {a b : M α} (ha : NE a) (hb : NE b) :
    NE (if c then a else b) := by
  cases ‹Decidable c› <;> assumption

theorem NE_mapM {α β : Type} (f : α → M β) (hf : ∀ a, NE (f a)) : ∀ xs : List α, NE (xs.mapM f)
  | [] => by simp only [List.mapM_nil]; exact NE_pure _
  | x :: xs => by
    simp only [List.mapM_cons]
    exact NE_bind (hf x) fun _ => NE_bind (NE_mapM f hf xs) fun _ => NE_pure _

theorem NE_forIn {α β : Type} (f : α → β → M (ForInStep β)) (hf : ∀ a b, NE (f a b)) :
    ∀ (xs : List α) (init : β), NE (forIn xs init f)
  | [], init => by simp only [List.forIn_nil]; exact NE_pure _
  | x :: xs, init => by
    simp only [List.forIn_cons]
    refine NE_bind (hf x init) ?_
    intro r
    cases r with
    | done b => exact NE_pure _
    | yield b => exact NE_forIn f hf xs b

theorem NE_inScope {α : Type} {m : M α} (hm : NE m) : NE (inScope m) :=
  ⟨(NE_bind (m := pushScope) (NE_modify _) fun _ => hm).noExit⟩

/-- Takes a goal `NE e` apart along the syntax of `e` and closes `pure`, the accesses to the state and `throwCtl` of an
error that is not an exit. What it leaves are the goals `NE (f …)` for the functions `e` calls; each call site closes
them by naming the lemmas of these functions. The rules run with reducible unfolding, so that one which does not fit the
head of the goal fails at once; `if` stands before `split`, which is slow on a test of string equality. -/
macro "ne_struct" : tactic =>
  `(tactic| repeat' first
    | with_reducible exact NE_pure _
    | (with_reducible apply NE_throw) <;> nofun
    | with_reducible first
      | apply NE_bind | intro _ | apply NE_ite | split | exact NE_get | exact NE_set _ | exact NE_modify _
      | apply NE_mapM | apply NE_forIn | apply NE_inScope)

theorem NE_alloc (c : Cell) : NE (alloc c) := by unfold alloc; ne_struct
theorem NE_readCell (a : Nat) : NE (readCell a) := by unfold readCell; ne_struct
theorem NE_writeCell (a : Nat) (c : Cell) : NE (writeCell a c) := NE_modify _
theorem NE_declare (n : String) (v : Val) : NE (declare n v) := NE_modify _
theorem NE_displayM (v : Val) : NE (displayM v) := by unfold displayM; ne_struct
theorem NE_eqM (a b : Val) : NE (eqM a b) := by unfold eqM; ne_struct

theorem NE_binOp (op : InfixOp) (a b : Val) (sp : Span) : NE (binOp op a b sp) := by
  unfold binOp intOp floatOp boolOp; ne_struct <;> exact NE_eqM _ _

theorem NE_readPlace (pl : Place) : NE (readPlace pl) := by
  unfold readPlace; ne_struct; exact NE_readCell _
theorem NE_writePlace (pl : Place) (v : Val) : NE (writePlace pl v) := by
  unfold writePlace; ne_struct <;> simp only [NE_readCell, NE_writeCell]
theorem NE_indexVal (b i : Val) (sp : Span) : NE (indexVal b i sp) := by
  unfold indexVal; ne_struct <;> exact NE_readCell _
theorem NE_memberVal (b : Val) (n : String) (op : MemberOp) (sp : Span) : NE (memberVal b n op sp) := by
  unfold memberVal; ne_struct <;> exact NE_readCell _
theorem NE_iterElems (v : Val) : NE (iterElems v) := by
  unfold iterElems; ne_struct; exact NE_readCell _
theorem NE_callBuiltin (n : String) (vs : List Val) (sp : Span) : NE (callBuiltin n vs sp) := by
  unfold callBuiltin emit; ne_struct <;> exact NE_displayM _

theorem NE_floatToIntM (f : Float) : NE (floatToIntM f) := by unfold floatToIntM; ne_struct

theorem NE_jsonUnmodelled {α : Type} : NE (jsonUnmodelled : M α) := NE_throw nofun nofun

structure ParseJsonNE (n : Nat) : Prop where
  val : ∀ cs, NE (pjValue n cs)
  elems : ∀ cs acc, NE (pjElems n cs acc)
  members : ∀ cs acc, NE (pjMembers n cs acc)

theorem parseJsonNE : ∀ n, ParseJsonNE n
  | 0 => by constructor <;> intros <;> exact NE_jsonUnmodelled
  | n + 1 => by
    have ih := parseJsonNE n
    constructor <;> intros <;> simp only [pjValue, pjElems, pjMembers] <;> ne_struct <;>
      simp only [ih.val, ih.elems, ih.members, NE_alloc, NE_jsonUnmodelled]

theorem NE_strconvErr {α : Type} (fn s why : String) (sp : Span) : NE (strconvErr fn s why sp : M α) := by
  unfold strconvErr; ne_struct

theorem NE_strMember (s : String) (n : String) (vs : List Val) (sp : Span) : NE (strMember s n vs sp) := by
  unfold strMember strSubstring strReplace strSplit strToUpper strToLower strParseInt strParseBool
    strParseFloat strParseJson strCompareLev
  ne_struct <;> simp only [NE_alloc, (parseJsonNE _).val, NE_jsonUnmodelled, NE_strconvErr]

theorem NE_toJsonM (indent : Bool) (v : Val) : NE (toJsonM indent v) := by unfold toJsonM; ne_struct
theorem NE_listSort (a : Nat) (xs : List Val) : NE (listSort a xs) := by
  unfold listSort; ne_struct <;> exact NE_writeCell _ _
theorem NE_kindNameM (v : Val) : NE (kindNameM v) := by unfold kindNameM; ne_struct; exact NE_readCell _
theorem NE_typeKindNameM (v : Val) : NE (typeKindNameM v) := by
  unfold typeKindNameM; ne_struct; exact NE_readCell _

theorem NE_callMember (recv : Val) (n : String) (vs : List Val) (sp : Span) : NE (callMember recv n vs sp) := by
  unfold callMember floatMember floatIsIntM
  ne_struct <;>
    simp only [NE_displayM, NE_floatToIntM, NE_strMember, NE_readCell, NE_writeCell, NE_eqM, NE_alloc,
      NE_listSort, NE_typeKindNameM, NE_toJsonM]

theorem NE_castIncompat {α : Type} (v : Val) (t : Ty) (path : String) (sp : Span) :
    NE (castIncompat v t path sp : M α) := by
  unfold castIncompat; ne_struct; exact NE_kindNameM _

structure CloneNE (n : Nat) : Prop where
  val : ∀ v, NE (deepClone n v)
  list : ∀ xs, NE (deepCloneList n xs)
  fields : ∀ fs, NE (deepCloneFields n fs)

theorem cloneNE : ∀ n, CloneNE n
  | 0 => by constructor <;> intros <;> exact NE_throw nofun nofun
  | n + 1 => by
    have ih := cloneNE n
    constructor <;> intro x <;> cases x <;> simp only [deepClone, deepCloneList, deepCloneFields] <;> ne_struct <;>
      simp only [ih.val, ih.list, ih.fields, NE_readCell, NE_alloc]

structure CastNE (n : Nat) : Prop where
  val : ∀ v t allow path sp, NE (castVal n v t allow path sp)
  list : ∀ xs t allow path idx sp, NE (castList n xs t allow path idx sp)
  fields : ∀ fs tfs allow path sp, NE (castFields n fs tfs allow path sp)

theorem castNE : ∀ n, CastNE n
  | 0 => by constructor <;> intros <;> exact NE_throw nofun nofun
  | n + 1 => by
    have ih := castNE n
    refine ⟨?_, ?_, ?_⟩
    · intro v t allow path sp
      simp only [castVal]; ne_struct <;>
        simp only [ih.val, ih.list, ih.fields, NE_castIncompat, NE_floatToIntM, (cloneNE _).fields,
          NE_readCell, NE_alloc]
    · intro xs t allow path idx sp
      cases xs <;> simp only [castList] <;> ne_struct <;> simp only [ih.val, ih.list]
    · intro fs tfs allow path sp
      cases fs <;> simp only [castFields] <;> ne_struct <;> simp only [ih.val, ih.fields]

theorem listCCL_map_snd (as : List (String × Expr)) : listCCL (as.map (·.2)) = argsCCL as := by
  induction as with
  | nil => rfl
  | cons a as ih => simp only [List.map_cons, listCCL, argsCCL, ih]

structure CCLAt (cfg : Cfg) (n : Nat) : Prop where
  expr : ∀ e, exprCCL e = false → NE (evalExpr cfg n e)
  list : ∀ es, listCCL es = false → NE (evalList cfg n es)
  fields : ∀ fs, fieldsCCL fs = false → NE (evalFields cfg n fs)
  arms : ∀ v as d, armsCCL as = false → optExprCCL d = false →
    NE (evalArms cfg n v as d)
  anyLit : ∀ v ls, listCCL ls = false → NE (anyLit cfg n v ls)
  place : ∀ e, exprCCL e = false → NE (evalPlace cfg n e)
  call : ∀ sp b as, exprCCL b = false → argsCCL as = false → NE (evalCall cfg n sp b as)
  apply : ∀ sp f vs, NE (applyFn cfg n sp f vs)
  body : ∀ sp m ps b vs, NE (callBody cfg n sp m ps b vs)
  block : ∀ b, blockCCL b = false → NE (evalBlock cfg n b)
  stmts : ∀ ss, stmtsCCL ss = false → NE (evalStmts cfg n ss)
  stmt : ∀ s, stmtCCL s = false → NE (evalStmt cfg n s)
  loop : ∀ c b, optExprCCL c = false → NE (loopRun cfg n c b)
  for_ : ∀ nm xs b, NE (forRun cfg n nm xs b)

/-- One round of a loop. The body is an `M Val` so that the `match` here is the very one of `loopRun` and `forRun`. -/
theorem NE_round {body : M Val} {next : M Unit} (hn : NE next) :
    NE (fun s => match body s with
      | (.error .brk, s') => (.ok (), s')
      | (.error .cont, s') => next s'
      | (.ok _, s') => next s'
      | (.error c, s') => (.error c, s')) := by
  constructor; intro st; split
  · exact noExit_ok _
  · exact hn.noExit _
  · exact hn.noExit _
  · next h₁ h₂ _ => exact noExit_error (fun e => h₁ (e ▸ rfl)) (fun e => h₂ (e ▸ rfl))

/-- Every function is taken apart by `ne_struct` after the equation of the evaluator for the case at hand; what is left
are calls of the library layer and recursive calls, which `ih` covers under the guard `h` of the parts. -/
theorem cclAt_succ {cfg : Cfg} {n : Nat} (ih : CCLAt cfg n) : CCLAt cfg (n + 1) where
  list es h := by
    cases es <;> simp only [listCCL, Bool.or_eq_false_iff] at h <;> simp only [evalList] <;> ne_struct <;>
      simp only [ih.expr, ih.list, h]
  fields fs h := by
    cases fs <;> simp only [fieldsCCL, Bool.or_eq_false_iff] at h <;> simp only [evalFields] <;> ne_struct <;>
      simp only [ih.expr, ih.fields, h]
  stmts ss h := by
    cases ss <;> simp only [stmtsCCL, Bool.or_eq_false_iff] at h <;> simp only [evalStmts] <;> ne_struct <;>
      simp only [ih.stmt, ih.stmts, h]
  block b h := by
    obtain ⟨sp, ty, ss, e⟩ := b
    cases e <;> simp only [blockCCL, optExprCCL, Bool.or_eq_false_iff] at h <;> simp only [evalBlock] <;>
      ne_struct <;> simp only [ih.stmts, ih.expr, h]
  arms v as d h hd := by
    cases as with
    | nil => cases d <;> simp only [evalArms] <;> ne_struct; exact ih.expr _ hd
    | cons a as =>
      simp only [armsCCL, Bool.or_eq_false_iff] at h
      simp only [evalArms]; ne_struct <;> simp only [ih.anyLit, ih.expr, ih.arms, h, hd]
  anyLit v ls h := by
    cases ls <;> simp only [listCCL, Bool.or_eq_false_iff] at h <;> simp only [anyLit] <;> ne_struct <;>
      simp only [ih.expr, ih.anyLit, NE_eqM, h]
  call sp b as h1 h2 := by
    simp only [evalCall]; ne_struct <;> simp only [ih.expr, ih.list, ih.apply, listCCL_map_snd, h1, h2]
  apply sp f vs := by
    cases f <;> simp only [applyFn] <;> ne_struct <;> simp only [NE_callBuiltin, NE_callMember, ih.body]
  body sp m ps b vs := by
    constructor; intro st
    simp only [callBody]
    -- the checks of depth, arity and singleton parameters answer `fatal` / `unsupported`
    split; · exact noExit_error nofun nofun
    split; · exact noExit_error nofun nofun
    split; · exact noExit_error nofun nofun
    -- the result of the body: `return v` becomes `v`, a loop exit `unsupported`, the rest passes
    split; split
    · exact noExit_ok _
    · exact noExit_error nofun nofun
    · exact noExit_error nofun nofun
    · next h₁ h₂ => exact ⟨h₁, h₂⟩
  place e h := by
    simp only [evalPlace]; ne_struct <;>
      (simp only [exprCCL, Bool.or_eq_false_iff] at h
       simp only [ih.place, ih.expr, NE_readCell, h])
  stmt s h := by
    cases s with
    | brk | cont => cases h
    | ret _ e => cases e <;> simp only [evalStmt] <;> ne_struct; exact ih.expr _ h
    | loopS => simp only [evalStmt]; exact ih.loop _ _ rfl
    | whileS _ c b => simp only [evalStmt]; exact ih.loop (some c) b h
    | _ =>
      simp only [stmtCCL] at h
      simp only [evalStmt]; ne_struct <;>
        simp only [ih.list, ih.expr, ih.for_, NE_displayM, NE_declare, (castNE _).val, NE_iterElems, listCCL_map_snd, h]
  loop c b h := by
    simp only [loopRun]; ne_struct
    any_goals exact NE_round (ih.loop _ _ h)
    exact ih.expr _ h
  for_ nm xs b := by
    cases xs <;> simp only [forRun] <;> ne_struct
    exact NE_round (ih.for_ _ _ _)
  expr e h := by
    cases e with
    | tryE _ _ t id c =>
      simp only [exprCCL, Bool.or_eq_false_iff] at h
      simp only [evalExpr]
      constructor; intro st; split
      · refine (NE_inScope ?_).noExit _
        ne_struct <;> simp only [NE_alloc, NE_declare, ih.block, h]
      · exact (NE_inScope (ih.block t h.1)).noExit st
    | _ =>
      simp only [evalExpr]; ne_struct <;>
        (simp only [exprCCL, optBlockCCL, Bool.or_eq_false_iff] at h
         simp only [ih.expr, ih.list, ih.fields, ih.place, ih.call, ih.block, ih.arms, NE_alloc, NE_binOp,
           NE_readPlace, NE_writePlace, NE_indexVal, NE_memberVal, (castNE _).val, h])

theorem ccl_all (cfg : Cfg) : ∀ n, CCLAt cfg n
  | 0 => by constructor <;> intros <;> exact NE_throw nofun nofun
  | n + 1 => cclAt_succ (ccl_all cfg n)

end HmsProofs.Lemmas.Fuzz
