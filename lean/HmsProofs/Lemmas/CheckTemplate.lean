import Hms.Check.Template
/-! `templateCheck t i = [] ↔ TemplateOK t i` and `triggerCheck c = [] ↔ TriggerOK c` (decision-table models of the
impl/template and the trigger rules). -/
namespace HmsProofs.Lemmas.Check
open Hms.Check

theorem paramErrs_nil_iff : ∀ (rs gs : List (String × Ty)), rs.length = gs.length →
    (paramErrs rs gs = [] ↔ ParamsOK rs gs)
  | [], [], _ => by simp [paramErrs]; exact ParamsOK.nil
  | [], _ :: _, h => by simp at h
  | _ :: _, [], h => by simp at h
  | (rn, rt) :: rs, (gn, gt) :: gs, h => by
    have ih := paramErrs_nil_iff rs gs (by simpa using h)
    simp only [paramErrs]
    by_cases hn : rn = gn
    · subst hn
      simp only [bne_self_eq_false, Bool.false_eq_true, ↓reduceIte]
      cases htc : typeCheck true gt rt with
      | some m =>
        simp only [reduceCtorEq, false_iff]
        intro hp; cases hp with | cons h1 _ => simp [htc] at h1
      | none =>
        simp only [ih]
        constructor
        · intro hp; exact ParamsOK.cons htc hp
        · intro hp; cases hp with | cons _ h2 => exact h2
    · simp only [bne_iff_ne.mpr hn, ↓reduceIte, reduceCtorEq, false_iff]
      intro hp; cases hp; exact hn rfl

theorem paramsOK_length {rs gs : List (String × Ty)} (h : ParamsOK rs gs) : rs.length = gs.length := by
  induction h with
  | nil => rfl
  | cons _ _ ih => simp [ih]

theorem methodErrs_nil_iff (req : TMethod) (m : IMethod) : methodErrs req m = [] ↔ MethodOK req m := by
  unfold methodErrs
  by_cases hl : req.params.length = m.params.length
  · simp only [bne_eq_false_iff_eq.mpr hl, Bool.false_eq_true, ↓reduceIte, List.append_eq_nil_iff]
    constructor
    · intro ⟨⟨⟨hp, he⟩, hr⟩, hm⟩
      have hret : typeCheck true m.ret req.ret = none := by
        cases htc : typeCheck true m.ret req.ret <;> simp_all
      exact ⟨(paramErrs_nil_iff _ _ hl).mp hp, hret, by simpa using hm, by simpa [hp] using he⟩
    · intro ⟨hp, hr, hm, hx⟩
      have := (paramErrs_nil_iff _ _ hl).mpr hp
      simp [this, hr, hm, hx]
  · simp only [bne_iff_ne.mpr hl, ↓reduceIte, reduceCtorEq, false_iff]
    intro h; exact hl (paramsOK_length h.params)

theorem requiredErrs_nil_iff (ms : List IMethod) (req : TMethod) :
    requiredErrs ms req = [] ↔ ∃ m, ms.find? (·.name == req.name) = some m ∧ MethodOK req m := by
  unfold requiredErrs
  cases hf : ms.find? (·.name == req.name) with
  | none => simp
  | some m => simp [methodErrs_nil_iff]

theorem conflict_find_none_iff (sel : List TCap) (c : TCap) :
    c.conflicts.find? (fun n => sel.any (·.name == n)) = none ↔ conflicting sel c = false := by
  simp [conflicting, List.find?_eq_none, List.any_eq_false]

/-- Nothing is reported iff every conflicting capability of `todo` counts as reported from the other side already
(`rep` never grows on the way to an empty answer); the check itself starts from `rep = []`. -/
theorem conflictErrs_nil_iff (sel : List TCap) : ∀ (todo : List TCap) (rep : List String),
    conflictErrs sel todo rep = [] ↔ ∀ c ∈ todo, conflicting sel c = true → c.name ∈ rep
  | [], _ => by simp [conflictErrs]
  | c :: rest, rep => by
    rw [List.forall_mem_cons, ← conflictErrs_nil_iff sel rest rep]
    cases hf : c.conflicts.find? (fun n => sel.any (·.name == n)) with
    | none => simp [conflictErrs, hf, (conflict_find_none_iff sel c).mp hf]
    | some other =>
      have hc : conflicting sel c = true := by
        cases h : conflicting sel c
        · rw [← conflict_find_none_iff, hf] at h; cases h
        · rfl
      by_cases hr : c.name ∈ rep <;> simp [conflictErrs, hf, hc, hr]

theorem template_decision (t : Template) (i : Impl) : templateCheck t i = [] ↔ TemplateOK t i := by
  unfold templateCheck
  /- `templateCheck` answers early, and with a diagnostic, when two selected capabilities conflict; `noConflict` fails
  exactly then (`conflictErrs_nil_iff`). Otherwise the answer is three lists, each empty iff one of the other three
  fields of `TemplateOK` holds. -/
  constructor
  · intro h
    by_cases he2 : conflictErrs (selectedCaps t i) (selectedCaps t i) [] = []
    · simp only [he2, List.isEmpty_nil, Bool.not_true, Bool.false_eq_true, ↓reduceIte, List.append_eq_nil_iff,
        List.map_eq_nil_iff, List.flatMap_eq_nil_iff, List.filter_eq_nil_iff] at h
      obtain ⟨⟨h1, h3⟩, h4⟩ := h
      refine ⟨?_, fun c hc => by simpa using (conflictErrs_nil_iff _ _ _).mp he2 c hc, ?_, ?_⟩
      · intro c hc
        have : c ∉ unknownCaps t i := by rw [h1]; simp
        simp only [unknownCaps, List.mem_filter, hc, true_and] at this
        cases hh : findCap t c <;> simp_all
      · intro r hr; exact (requiredErrs_nil_iff _ _).mp (h3 r hr)
      · intro m hm
        have := h4 m hm
        simpa using this
    · simp only at h
      split at h
      · exact absurd (List.append_eq_nil_iff.mp h).2 he2
      · rename_i hne; exact absurd (by simpa using hne) he2
  · intro ⟨h1, h2, h3, h4⟩
    have he2 : conflictErrs (selectedCaps t i) (selectedCaps t i) [] = [] :=
      (conflictErrs_nil_iff ..).mpr fun c hc => by simp [h2 c hc]
    simp only [he2, List.isEmpty_nil, Bool.not_true, Bool.false_eq_true, ↓reduceIte, List.append_eq_nil_iff,
      List.map_eq_nil_iff, List.flatMap_eq_nil_iff, List.filter_eq_nil_iff]
    refine ⟨⟨?_, ?_⟩, ?_⟩
    · simp only [unknownCaps, List.filter_eq_nil_iff]
      intro c hc; have := h1 c hc; cases hh : findCap t c <;> simp_all
    · intro r hr; exact (requiredErrs_nil_iff _ _).mpr (h3 r hr)
    · intro m hm; simp [h4 m hm]

theorem trigArgErrs_nil_iff : ∀ (ps as : List Ty), ps.length = as.length → (trigArgErrs ps as = [] ↔ TrigArgsOK ps as)
  | [], [], _ => by simp [trigArgErrs]; exact TrigArgsOK.nil
  | [], _ :: _, h => by simp at h
  | _ :: _, [], h => by simp at h
  | p :: ps, a :: as, h => by
    have ih := trigArgErrs_nil_iff ps as (by simpa using h)
    simp only [trigArgErrs, List.append_eq_nil_iff, ih]
    constructor
    · intro ⟨h1, h2⟩
      have hk : a.kind ≠ Kind.null := by
        intro hk; simp [hk] at h1
      simp only [beq_eq_false_iff_ne.mpr hk, Bool.false_eq_true, ↓reduceIte] at h1
      have htc : typeCheck true a p = none := by
        cases hh : typeCheck true a p <;> simp_all
      exact TrigArgsOK.cons hk htc h2
    · intro hok
      cases hok with
      | cons hk htc hr =>
        simp [hk, htc, hr]

theorem trigArgsOK_length {ps as : List Ty} (h : TrigArgsOK ps as) : ps.length = as.length := by
  induction h with
  | nil => rfl
  | cons _ _ _ ih => simp [ih]

theorem trigger_decision (c : TrigCase) : triggerCheck c = [] ↔ TriggerOK c := by
  unfold triggerCheck
  constructor
  · intro h
    cases hcb : c.callbackKnown with
    | false => simp [hcb] at h
    | true =>
      simp only [hcb, Bool.not_true, Bool.false_eq_true, ↓reduceIte, List.append_eq_nil_iff] at h
      obtain ⟨⟨⟨h1, h2⟩, h3⟩, h4⟩ := h
      have ht : c.triggerKnown = true := by simpa using h1
      have hf : c.fromItself = false := by simpa using h2
      have hm : c.modifier = 2 := by simpa using h3
      simp only [ht, Bool.not_true, Bool.false_eq_true, ↓reduceIte, List.append_eq_nil_iff] at h4
      have hs : callbackShapeErr c = none := by cases hh : callbackShapeErr c <;> simp_all
      obtain ⟨_, h4⟩ := h4
      split at h4
      · cases h4
      · rename_i hlen
        have hlen : c.trigParams.length = c.argTys.length := Eq.symm (by simpa using hlen)
        exact ⟨ht, hcb, hf, hm, hs, (trigArgErrs_nil_iff _ _ hlen).mp h4⟩
  · intro ⟨ht, hcb, hf, hm, hs, ha⟩
    have hlen := trigArgsOK_length ha
    simp [ht, hcb, hf, hm, hs, hlen, (trigArgErrs_nil_iff _ _ hlen).mpr ha]

end HmsProofs.Lemmas.Check
