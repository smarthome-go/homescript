import HmsProofs.Lemmas.SimHRead
/-! Casts `e as T` to a scalar type. Both sides run the same function `castVal castFuel v T true "" sp`
(`value.DeepCast`); for a scalar target (`Frag.castTyOK`) it reads the heap only — to name the kind of a container in the
error message — so the `Cast` instruction either replaces the top of the stack or raises the catchable cast exception. -/
namespace HmsProofs.Sim
open Hms.Core Hms.Core.Comp Hms.Core.VM

def CastErr (c : Ctl) : Prop := (∃ msg sp, c = .throw msg sp) ∨ ∃ w, c = .unsupported w

theorem kindNameM_reads (v : Val) : Reads (fun c => ∃ w, c = .unsupported w) (kindNameM v) := by
  cases v
  case ref a =>
    refine (Reads.readCell a ⟨_, rfl⟩).bind fun c => ?_
    cases c <;> exact .ok _
  all_goals first | exact .ok _ | exact .error ⟨_, rfl⟩

/-- An error of `kindNameM` is `unsupported`: a dangling reference, or a value that has no kind name. -/
theorem kindNameM_err (v : Val) (st : St) (c : Ctl) (st' : St) (h : kindNameM v st = (.error c, st')) :
    ∃ w, c = .unsupported w := (kindNameM_reads v).errs st c st' h

theorem castIncompat_reads {α} (v : Val) (t : Ty) (path : String) (sp : Span) :
    Reads CastErr (castIncompat v t path sp : M α) := by
  refine ((kindNameM_reads v).mono fun _ => Or.inr).bind fun k => ?_
  cases tyText t
  · exact .error (Or.inr ⟨_, rfl⟩)
  · exact .error (Or.inl ⟨_, _, rfl⟩)

theorem castIncompat_err {α} (v : Val) (t : Ty) (path : String) (sp : Span) (st : St) (r : Except Ctl α) (st' : St)
    (h : (castIncompat v t path sp : M α) st = (r, st')) : ∃ c, r = .error c ∧ CastErr c := by
  cases r with
  | error c => exact ⟨c, rfl, (castIncompat_reads v t path sp).errs st c st' h⟩
  | ok a =>
    unfold castIncompat at h
    rw [M_bind] at h
    generalize kindNameM v st = rk at h
    obtain ⟨rk, st1⟩ := rk
    cases rk with
    | error c => cases h
    | ok k =>
      simp only [] at h
      cases ht : tyText t <;> rw [ht] at h <;> cases h

theorem floatToIntM_reads (f : Float) : Reads CastErr (floatToIntM f) := by
  unfold floatToIntM
  cases floatToI64? f
  · exact .error (Or.inr ⟨_, rfl⟩)
  · exact .ok _

/-- For a scalar target every branch of `castVal` is a value, a conversion that may be refused (`allow`), `castIncompat`,
or — for a reference — a look at the cell followed by `castIncompat`: none of the allocating branches is reached. -/
theorem castVal_scalar_reads (n : Nat) (v : Val) (t : Ty) (ht : Frag.castTyOK t = true) (allow : Bool)
    (path : String) (sp : Span) : Reads CastErr (castVal (n + 1) v t allow path sp) := by
  cases t <;> simp only [Frag.castTyOK, Bool.false_eq_true] at ht
  all_goals unfold castVal
  case any => exact .ok _
  all_goals
    cases v
    case null | str | range => first | exact castIncompat_reads _ _ _ _ | exact .ok _
    case bool | int =>
      first | exact castIncompat_reads _ _ _ _ | exact .ok _ | exact .ite (.ok _) (castIncompat_reads _ _ _ _)
    case float =>
      first
        | exact castIncompat_reads _ _ _ _
        | exact .ok _
        | exact .ite (.ok _) (castIncompat_reads _ _ _ _)
        | exact .ite (floatToIntM_reads _) (castIncompat_reads _ _ _ _)
    case opt => exact castIncompat_reads _ _ _ _
    case ref a =>
      refine (Reads.readCell a (Or.inr ⟨_, rfl⟩)).bind fun c => ?_
      cases c <;> exact castIncompat_reads _ _ _ _
    all_goals exact .error (Or.inr ⟨_, rfl⟩)

theorem castFuel_succ : castFuel = 999999 + 1 := rfl

theorem castVal_scalar (v : Val) (t : Ty) (ht : Frag.castTyOK t = true) (sp : Span) :
    Reads CastErr (castVal castFuel v t true "" sp) := by
  rw [castFuel_succ]
  exact castVal_scalar_reads _ v t ht true "" sp

section
variable {code : Code} {lim : Limits} {s : VMState} {fn : String} {ip : Nat} {rest : List Frame} {mp : Int}
variable {k : Nat} {stk : List SVal} {mem : List (Int × Val)} {out : World} {c : List (RInstr × Span)}
variable (hf : findCode code fn = some c)
include hf

theorem mkS_cast_ok (sp : Span) (ty : Ty) (allow : Bool) (v v' : Val)
    (o : Option Org) (hx : c[ip]? = some (.cast ty allow, sp))
    (hr : castVal castFuel v ty allow "" sp { s.st with heap := out.heap, out := out.out } =
      (.ok v', { s.st with heap := out.heap, out := out.out })) :
    exec1 code lim (mkS s (⟨fn, ip⟩ :: rest) mp k (⟨v, o⟩ :: stk) mem out) =
      .next (mkS s (⟨fn, ip + 1⟩ :: rest) mp (k + 1) (⟨v', none⟩ :: stk) mem out) := by
  rw [exec1_mkS hf hx]
  simp only [step, mkS, pop1, runM, hr, advance, push1]

theorem mkS_cast_throw (sp : Span) (ty : Ty) (allow : Bool) (v : Val)
    (o : Option Org) (msg : String) (tsp : Span) (hx : c[ip]? = some (.cast ty allow, sp))
    (hr : castVal castFuel v ty allow "" sp { s.st with heap := out.heap, out := out.out } =
      (.error (.throw msg tsp), { s.st with heap := out.heap, out := out.out })) :
    exec1 code lim (mkS s (⟨fn, ip⟩ :: rest) mp k (⟨v, o⟩ :: stk) mem out) =
      .intr (.throw msg tsp) (mkS s (⟨fn, ip⟩ :: rest) mp (k + 1) stk mem out) := by
  rw [exec1_mkS hf hx]
  simp only [step, mkS, pop1, runM, hr, ctlToRes]
end

section
variable {G : GCtx} {A : Act} {L : Lvl G A} {I : Stable L} {sc : CScopes} {ip : Nat} {pre stk : List SVal} {mem : Mem} {st : St}

theorem SimM.cast (hA : A.OK G) (sp : Span) (ty : Ty) (hty : Frag.castTyOK ty = true) (a : Val) (oa : Option Org) :
    SimM L I [((Instr.cast ty true : SInstr), sp)] ip (⟨a, oa⟩ :: pre) stk mem st (castVal castFuel a ty true "" sp)
      (fun v _ _ ys => ys = ⟨v, none⟩ :: pre) := by
  obtain ⟨hHO, hErr⟩ := castVal_scalar a ty hty sp
  refine .prim (hHO.state st) fun hpl => ?_
  have icast := (hpl.instr (i := .cast ty true) rfl).1
  have hst := hHO.state st
  rcases hr : castVal castFuel a ty true "" sp st with ⟨r, st2⟩
  rw [hr] at hst
  obtain rfl : st2 = st := hst
  cases r with
  | ok v =>
    exact ⟨_, rfl, hA.step mem id fun _ _ => mkS_cast_ok hA.code sp ty true a v oa icast (hHO.eq_of_heap hr rfl)⟩
  | error c =>
    rcases hErr st2 c st2 hr with ⟨msg, tsp, rfl⟩ | ⟨w, rfl⟩
    · exact fun k => ⟨ip, pre, mkS_cast_throw hA.code sp ty true a oa msg tsp icast (hHO.eq_of_heap hr rfl)⟩
    · trivial

theorem cast_step (hA : A.OK G) (n : Nat) (sp : Span) (ty : Ty) (e : Expr) (hty : Frag.castTyOK ty = true) (lm : LM)
    (he : ∀ ip pre mem st, SimM L I (cgE G.mod (ρS sc) A.φ e lm).1 ip pre stk mem st (evalExpr G.cfg n e) (QOE pre)) :
    SimM L I (cgE G.mod (ρS sc) A.φ (.cast sp ty e) lm).1 ip pre stk mem st
      (evalExpr G.cfg (n + 1) (.cast sp ty e)) (QGE G pre) := by
  rw [cgE, evalExpr]
  exact (he _ _ _ _).seq fun a _ _ _ ⟨oa, e⟩ => e ▸ (SimM.cast hA sp ty hty a oa).mono fun _ _ _ _ _ e => ⟨_, OrgOK.none _, e⟩
end

end HmsProofs.Sim
