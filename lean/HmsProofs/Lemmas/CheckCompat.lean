import Hms.Check.Compat
/-! `typeCheck a got exp = none ↔ Compatible a got exp`: the model of `Analyzer.TypeCheck`
decides exactly the declarative compatibility relation (C03).

Both sides hold if one of the two types is `any`, `unknown` or `never`, fail if the kinds differ, and descend into
the components otherwise: `typeCheck_head` and `compatible_head` settle every pair of types of different kinds at
once (`typeCheck_iff_of_kind_ne`). -/
namespace HmsProofs.Lemmas.Check
open Hms.Check

section
variable {a : Bool} {g e : Ty}

theorem typeCheck_head (h : typeCheck a g e = none) :
    g.kind = e.kind ∨ e = .any ∨ e = .unknown ∨ e = .never ∨ g = .unknown ∨ g = .never ∨ g = .any := by
  unfold typeCheck at h
  /- the alternatives of `typeCheck`: a pattern that names `any`/`unknown`/`never` or two types of one kind; the last
  one, which compares the kinds; a function value where none is expected, which is always an error -/
  split at h <;> first
    | (simp [Ty.kind]; done)
    | exact .inl (by simpa using h)
    | (cases a <;> cases h)

theorem compatible_head (h : Compatible a g e) :
    g.kind = e.kind ∨ e = .any ∨ e = .unknown ∨ e = .never ∨ g = .unknown ∨ g = .never ∨ g = .any := by
  cases h <;> simp [Ty.kind]

theorem typeCheck_unknown : typeCheck a .unknown e = none := by unfold typeCheck; cases e <;> rfl
theorem typeCheck_never : typeCheck a .never e = none := by unfold typeCheck; cases e <;> rfl
theorem typeCheck_any : typeCheck a .any e = none := by unfold typeCheck; cases e <;> rfl

theorem typeCheck_iff_of_kind_ne (hk : g.kind ≠ e.kind) : typeCheck a g e = none ↔ Compatible a g e := by
  constructor
  · intro h
    rcases typeCheck_head h with h | rfl | rfl | rfl | rfl | rfl | rfl
    · exact absurd h hk
    · exact .toAny
    · exact .toUnknown
    · exact .toNever
    · exact .fromUnknown
    · exact .fromNever
    · exact .fromAny
  · intro h
    rcases compatible_head h with h | rfl | rfl | rfl | rfl | rfl | rfl
    · exact absurd h hk
    · simp only [typeCheck]
    · simp only [typeCheck]
    · simp only [typeCheck]
    · exact typeCheck_unknown
    · exact typeCheck_never
    · exact typeCheck_any

theorem eq_of_kind_eq_atom : ∀ {e : Ty}, e.isAtom = true → g.kind = e.kind → g = e
  | .null, _, hk | .int, _, hk | .float, _, hk | .bool, _, hk | .str, _, hk | .range, _, hk | .anyobj, _, hk => by
    cases g <;> first | rfl | cases hk
  | .unknown, he, _ | .never, he, _ | .any, he, _ | .list _, he, _ | .opt _, he, _ | .obj _, he, _ | .fn .., he, _
  | .fnvar .., he, _ => nomatch he

theorem typeCheck_iff_of_atom (he : e.isAtom = true) : typeCheck a g e = none ↔ Compatible a g e := by
  by_cases hk : g.kind = e.kind
  · obtain rfl := eq_of_kind_eq_atom he hk
    refine ⟨fun _ => .atom he, fun _ => ?_⟩
    unfold typeCheck
    cases g <;> first | rfl | nomatch he
  · exact typeCheck_iff_of_kind_ne hk

theorem typeCheck_obj {gf ef : List (String × Ty)} :
    typeCheck a (.obj gf) (.obj ef) = none ↔ tcFields a gf ef = none ∧ hasExcessField gf ef = false := by
  simp only [typeCheck]
  cases tcFields a gf ef <;> simp

theorem typeCheck_fn {gp ep : List (String × Ty)} {gr er : Ty} :
    typeCheck a (.fn gp gr) (.fn ep er) = none ↔
      a = true ∧ typeCheck true gr er = none ∧ ep.length = gp.length ∧ tcParams true gp ep = none := by
  simp only [typeCheck]
  cases a
  · simp
  · cases typeCheck true gr er <;> by_cases hl : ep.length = gp.length <;> simp [hl]

theorem typeCheck_fnvar {gp ep : List Ty} {grest gr erest er : Ty} :
    typeCheck a (.fnvar gp grest gr) (.fnvar ep erest er) = none ↔
      a = true ∧ typeCheck true gr er = none ∧ ep.length = gp.length ∧ tcTys true gp ep = none ∧
        typeCheck true grest erest = none := by
  simp only [typeCheck]
  cases a
  · simp
  · cases typeCheck true gr er <;> cases tcTys true gp ep <;> by_cases hl : ep.length = gp.length <;> simp [hl]

/-- a function type and a variadic one are of one kind and never compatible -/
theorem typeCheck_fn_fnvar {gp : List (String × Ty)} {ep : List Ty} {gr erest er : Ty} :
    typeCheck a (.fn gp gr) (.fnvar ep erest er) ≠ none := by
  simp only [typeCheck]
  cases a
  · simp
  · cases typeCheck true gr er <;> simp

theorem typeCheck_fnvar_fn {gp : List Ty} {ep : List (String × Ty)} {grest gr er : Ty} :
    typeCheck a (.fnvar gp grest gr) (.fn ep er) ≠ none := by
  simp only [typeCheck]
  cases a
  · simp
  · cases typeCheck true gr er <;> simp

theorem compatible_list : Compatible a (.list g) (.list e) ↔ Compatible a g e :=
  ⟨(fun | .list h => h | .atom hh => nomatch hh), .list⟩

theorem compatible_opt : Compatible a (.opt g) (.opt e) ↔ Compatible true g e :=
  ⟨(fun | .opt h => h | .atom hh => nomatch hh), .opt⟩

theorem compatible_obj {gf ef : List (String × Ty)} :
    Compatible a (.obj gf) (.obj ef) ↔ FieldsCompatible a gf ef ∧ hasExcessField gf ef = false :=
  ⟨(fun | .obj hf hx => ⟨hf, hx⟩ | .atom hh => nomatch hh), fun ⟨hf, hx⟩ => .obj hf hx⟩

theorem compatible_fn {gp ep : List (String × Ty)} {gr er : Ty} :
    Compatible a (.fn gp gr) (.fn ep er) ↔
      a = true ∧ Compatible true gr er ∧ ep.length = gp.length ∧ ParamsCompatible gp ep :=
  ⟨(fun | .fn hr hl hp => ⟨rfl, hr, hl, hp⟩ | .atom hh => nomatch hh), fun ⟨ha, hr, hl, hp⟩ => ha ▸ .fn hr hl hp⟩

theorem compatible_fnvar {gp ep : List Ty} {grest gr erest er : Ty} :
    Compatible a (.fnvar gp grest gr) (.fnvar ep erest er) ↔
      a = true ∧ Compatible true gr er ∧ ep.length = gp.length ∧ TysCompatible gp ep ∧ Compatible true grest erest :=
  ⟨(fun | .fnvar hr hl hp hs => ⟨rfl, hr, hl, hp, hs⟩ | .atom hh => nomatch hh),
   fun ⟨ha, hr, hl, hp, hs⟩ => ha ▸ .fnvar hr hl hp hs⟩
end

/- `termination_by structural` is spelt out: Lean's fallback to well-founded recursion is slow to check. -/
mutual
theorem typeCheck_iff : (e : Ty) → ∀ (a : Bool) (g : Ty), typeCheck a g e = none ↔ Compatible a g e
  | .any, a, g => ⟨fun _ => .toAny, fun _ => by simp only [typeCheck]⟩
  | .unknown, a, g => ⟨fun _ => .toUnknown, fun _ => by simp only [typeCheck]⟩
  | .never, a, g => ⟨fun _ => .toNever, fun _ => by simp only [typeCheck]⟩
  | .null, a, g | .int, a, g | .float, a, g | .bool, a, g | .str, a, g | .range, a, g | .anyobj, a, g =>
    typeCheck_iff_of_atom rfl
  | .list e, a, g => by
    cases g
    case list g => simp only [typeCheck, compatible_list, typeCheck_iff e a g]
    all_goals exact typeCheck_iff_of_kind_ne nofun
  | .opt e, a, g => by
    cases g
    case opt g => simp only [typeCheck, compatible_opt, typeCheck_iff e true g]
    all_goals exact typeCheck_iff_of_kind_ne nofun
  | .obj ef, a, g => by
    cases g
    case obj gf => rw [typeCheck_obj, compatible_obj, tcFields_iff ef a gf]
    all_goals exact typeCheck_iff_of_kind_ne nofun
  | .fn ep er, a, g => by
    cases g
    case fn gp gr =>
      rw [typeCheck_fn, compatible_fn, typeCheck_iff er true gr]
      exact and_congr_right fun _ => and_congr_right fun _ => and_congr_right fun hl => tcParams_iff ep gp hl
    case fnvar => exact iff_of_false typeCheck_fnvar_fn nofun
    all_goals exact typeCheck_iff_of_kind_ne nofun
  | .fnvar ep erest er, a, g => by
    cases g
    case fnvar gp grest gr =>
      rw [typeCheck_fnvar, compatible_fnvar, typeCheck_iff er true gr, typeCheck_iff erest true grest, tcTys_iff ep gp]
    case fn => exact iff_of_false typeCheck_fn_fnvar nofun
    all_goals exact typeCheck_iff_of_kind_ne nofun
termination_by structural e => e
theorem tcFields_iff : (ef : List (String × Ty)) → ∀ (a : Bool) (gf : List (String × Ty)),
    tcFields a gf ef = none ↔ FieldsCompatible a gf ef
  | [], a, gf => ⟨fun _ => .nil, fun _ => by rw [tcFields]⟩
  | (n, e) :: rest, a, gf => by
    constructor
    · intro h
      rw [tcFields] at h
      cases hl : lookupTy n gf with
      | none => simp [hl] at h
      | some g =>
        cases htc : typeCheck a g e with
        | some m => simp [hl, htc] at h
        | none => exact .cons hl ((typeCheck_iff e a g).mp htc) ((tcFields_iff rest a gf).mp (by simpa [hl, htc] using h))
    · intro
      | .cons hl hc hr => simp [tcFields, hl, (typeCheck_iff e a _).mpr hc, (tcFields_iff rest a gf).mpr hr]
termination_by structural ef => ef
theorem tcParams_iff : (ep : List (String × Ty)) → ∀ (gp : List (String × Ty)), ep.length = gp.length →
    (tcParams true gp ep = none ↔ ParamsCompatible gp ep)
  | [], [], _ => ⟨fun _ => .nil, fun _ => by unfold tcParams; rfl⟩
  | (n, e) :: rest, (gn, g) :: gs, hl => by
    have ihr := tcParams_iff rest gs (Nat.succ.inj hl)
    constructor
    · intro h
      rw [tcParams] at h
      by_cases hn : gn = n
      · subst hn
        cases htc : typeCheck true g e with
        | some m => simp [htc] at h
        | none => exact .cons ((typeCheck_iff e true g).mp htc) (ihr.mp (by simpa [htc] using h))
      · simp [hn] at h
    · intro
      | .cons hc hr => simp [tcParams, (typeCheck_iff e true g).mpr hc, ihr.mpr hr]
termination_by structural ep => ep
/- No length hypothesis, unlike `tcParams_iff`: `TysCompatible` follows `tcTys` and holds as soon as one of the two lists
ends (`nilL`, `nilR`), `ParamsCompatible` relates lists of one length only. Both are used under the equal-length premise
of `Compatible.fn` / `.fnvar`. -/
theorem tcTys_iff : (es : List Ty) → ∀ (gs : List Ty), tcTys true gs es = none ↔ TysCompatible gs es
  | [], gs => ⟨fun _ => .nilR, fun _ => by unfold tcTys; cases gs <;> rfl⟩
  | e :: es, [] => ⟨fun _ => .nilL, fun _ => by unfold tcTys; rfl⟩
  | e :: es, g :: gs => by
    constructor
    · intro h
      rw [tcTys] at h
      cases htc : typeCheck true g e with
      | some m => simp [htc] at h
      | none => exact .cons ((typeCheck_iff e true g).mp htc) ((tcTys_iff es gs).mp (by simpa [htc] using h))
    · intro
      | .cons hc hr => simp [tcTys, (typeCheck_iff e true g).mpr hc, (tcTys_iff es gs).mpr hr]
termination_by structural es => es
end

end HmsProofs.Lemmas.Check
