import HmsProofs.Lemmas.SimStmtExec
import HmsProofs.Lemmas.SimSlots
import HmsProofs.Lemmas.SimHExecH
/-! `fn_body_correct`: the code `compileFn` produces for a parameterless function whose body is a statement block of the
fragment — prologue `addMp n`, statements, epilogue `addMp (-n); ret` — run from its first instruction, simulates the
specification's execution of the statements in a fresh activation and returns to the caller with stack, memory
pointer, heap and output restored. `fn_run` reads the result on the VM's own driver `run`. -/
namespace HmsProofs.Sim
open Hms.Core Hms.Core.Comp Hms.Core.VM

theorem exec1_addMp (code : Code) (lim : Limits) (t : VMState) (f : Frame) (rest : List Frame) (n : Int)
    (sp : Span) (hc : t.calls = f :: rest) (hf : fetch code t = some (.addMp n, sp))
    (hlim : t.mp + n < (lim.memory : Int)) :
    exec1 code lim t = .next { t with mp := t.mp + n, steps := t.steps + 1,
                                      calls := { f with ip := f.ip + 1 } :: rest } := by
  obtain ⟨stack, calls, mem, mp, handlers, iters, nextIter, globals, vst, polls, steps⟩ := t
  simp only at hc hlim
  subst hc
  unfold exec1
  rw [hf]
  simp only [step]
  rw [if_neg (by omega)]
  rfl

theorem exec1_ret (code : Code) (lim : Limits) (t : VMState) (sp : Span)
    (hf : fetch code t = some (.ret, sp)) :
    exec1 code lim t = .next { t with steps := t.steps + 1, calls := t.calls.tail } := by
  unfold exec1
  rw [hf]
  rfl

theorem cleanupLabel_not_in_body (cs : CState) (fd : FnDef) (stmts : List Stmt) (hs : Frag.okSs stmts = true) :
    ∀ l ∈ definedLabels (cSs cs.currModule stmts (fnEnv cs fd.name)).1,
      l ∉ definedLabels [((Instr.label (freshLabel cs.currModule cs.labelMangle "cleanup").1 : SInstr), fd.sp),
        (.addMp (-((cSs cs.currModule stmts (fnEnv cs fd.name)).2.nv : Int)), fd.sp), (.ret, fd.sp)] := by
  have h1 := LblInv.single cs.currModule cs.labelMangle "cleanup" (by decide)
  have h2 := (cSs_static cs.currModule stmts (fnEnv cs fd.name) hs).1
  have hnd := (h1.append h2).nodup
  intro l hl hmem
  have : l = (freshLabel cs.currModule cs.labelMangle "cleanup").1 := by
    simpa [definedLabels, labelOf?] using hmem
  subst this
  exact (List.nodup_append.mp hnd).2.2 _ (by simp) _ hl rfl

/-- A call of the function against one result `r` of the specification's run of the body: as `SimS`, the body changes
only the scopes and never ends in `break`/`continue`/`return`/`throw`; `unsupported` and `timeout` claim nothing. -/
def SimFn (code : Code) (lim : Limits) (s0 : VMState) (rest : List Frame) (spec : St)
    (r : Except Ctl Unit × St) : Prop :=
  match r with
  | (.ok _, spec') =>
    spec' = { spec with scopes := spec'.scopes } ∧
      ∃ k s', execN code lim k s0 = .next s' ∧ s'.calls = rest ∧ s'.mp = s0.mp ∧ s'.stack = s0.stack ∧
        s'.st = s0.st ∧ s'.globals = s0.globals ∧ s'.handlers = s0.handlers
  | (.error (.fatal kd m sp), _) =>
    ∃ k s', execN code lim k s0 = .intr (.fatal kd m sp) s' ∧ s'.st = s0.st ∧ s'.globals = s0.globals ∧
      s'.handlers = s0.handlers
  | (.error (.unsupported _), _) => True
  | (.error .timeout, _) => True
  | _ => False

/-- `hslots`: no slot exceeds the number of variables the body declares, which is what the prologue's `addMp` makes
room for. `fn_body_correct'` below proves it from the other hypotheses (`fn_slots_le`) and is the statement that
`C01VM.fn_body_correct` restates.
`hkey`: `compileFn` keeps the cleanup label in the scope stack, under the pseudo-identifier `cleanup:<module>:<fn>`
(`fnEnv`), so the top compiler scope is not empty at entry; no name is live there only if `T` leaves that key out.
`fd.name` enters through this key alone; `fname` is the routine under which `code` holds the result, and no
hypothesis relates the two. -/
theorem fn_body_correct (cfg : Cfg) (code : Code) (lim : Limits) (T : List String) (fuel : Nat)
    (cs : CState) (fd : FnDef) (stmts : List Stmt) (r : NCode) (spec : St) (s0 : VMState) (fname : String)
    (rest : List Frame)
    (hs : Frag.okSs stmts = true) (hT : ∀ x ∈ Frag.identsSs stmts, x ∈ T)
    (hws : Frag.wsSs cs.currModule stmts (fnEnv cs fd.name) = true)
    (hkey : cleanupKey cs.currModule fd.name ∉ T)
    (houter : ∀ sc ∈ cs.scopes, ∀ x ∈ T, sc.lookup x = none)
    (hrel : relocate (fnCode cs fd stmts) = some r)
    (hcalls : s0.calls = ⟨fname, 0⟩ :: rest) (hfn : findCode code fname = some (renameVars r))
    (hmp0 : 0 ≤ s0.mp)
    (hmem : s0.mp + ((cSs cs.currModule stmts (fnEnv cs fd.name)).2.nv : Int) < (lim.memory : Int))
    (hslots : ∀ m ∈ varNames r, slotFn r m ≤ (cSs cs.currModule stmts (fnEnv cs fd.name)).2.nv)
    (hspec : spec.scopes = [[]]) (hheap : s0.st.heap = spec.heap) :
    SimFn code lim s0 rest spec (evalStmts cfg fuel stmts spec) := by
  generalize hR : cSs cs.currModule stmts (fnEnv cs fd.name) = R at *
  have hfc : fnCode cs fd stmts =
      [((Instr.addMp (R.2.nv : Int) : SInstr), fd.sp)] ++ R.1 ++
        [(.label (freshLabel cs.currModule cs.labelMangle "cleanup").1, fd.sp), (.addMp (-(R.2.nv : Int)), fd.sp),
         (.ret, fd.sp)] := by
    unfold fnCode; rw [hR]
  rw [hfc] at hrel
  have hpro := (codeAt_of_compiled [] [((Instr.addMp (R.2.nv : Int) : SInstr), fd.sp)]
    (R.1 ++ [(.label (freshLabel cs.currModule cs.labelMangle "cleanup").1, fd.sp), (.addMp (-(R.2.nv : Int)), fd.sp),
         (.ret, fd.sp)]) r (by simpa using hrel)).head
  have hepi := placed_of_relocate ([((Instr.addMp (R.2.nv : Int) : SInstr), fd.sp)] ++ R.1)
    [(.label (freshLabel cs.currModule cs.labelMangle "cleanup").1, fd.sp), (.addMp (-(R.2.nv : Int)), fd.sp),
      (.ret, fd.sp)] [] r (by simpa using hrel) (by simp [definedLabels, labelOf?]) (by simp [definedLabels])
  unplace at hepi
  obtain ⟨_, hc1, hc2⟩ := hepi
  let s1 : VMState := { s0 with mp := s0.mp + (R.2.nv : Int), steps := s0.steps + 1,
                                calls := ⟨fname, 1⟩ :: rest }
  have hstep1 : exec1 code lim s0 = .next s1 :=
    exec1_addMp code lim s0 ⟨fname, 0⟩ rest _ fd.sp hcalls
      (fetch_of code s0 ⟨fname, 0⟩ rest _ _ hcalls hfn (by simpa [stripLabels, isLabel, lower, mapLV] using hpro)) hmem
  have hcalls1 : s1.calls = ⟨fname, 1⟩ :: rest := rfl
  have hframe : ∀ m ∈ varNames r, 0 ≤ s1.mp - (slotFn r m : Int) ∧ s1.mp - (slotFn r m : Int) < (lim.memory : Int) := by
    intro m hm
    have := hslots m hm
    show 0 ≤ s0.mp + (R.2.nv : Int) - (slotFn r m : Int) ∧ s0.mp + (R.2.nv : Int) - (slotFn r m : Int) < _
    omega
  have hst : StRel cs.currModule T (· ∈ varNames r) (slotFn r) lim s1.mp (fnEnv cs fd.name).scopes (fnEnv cs fd.name).vm
      [[]] s1.mem := StRel.unbound (fnEnv_unbound T cs fd.name hkey houter)
  have hbody := compiled_stmts_correct cfg code lim cs.currModule T fuel stmts (fnEnv cs fd.name) spec s1
    ⟨fname, 1⟩ rest [((Instr.addMp (R.2.nv : Int) : SInstr), fd.sp)]
    [(.label (freshLabel cs.currModule cs.labelMangle "cleanup").1, fd.sp), (.addMp (-(R.2.nv : Int)), fd.sp),
      (.ret, fd.sp)] r s1.stack s1.mem hs hT hws (by rw [hR]; exact hrel)
    (by have := cleanupLabel_not_in_body cs fd stmts hs; rw [hR] at this; rw [hR]; exact this) hcalls1 hfn hframe
    (by rw [hspec]; exact hst) hheap
  rw [hR] at hbody
  have hnpre : nI [((Instr.addMp (R.2.nv : Int) : SInstr), fd.sp)] = 1 := rfl
  rw [hnpre] at hbody
  rcases hev : evalStmts cfg fuel stmts spec with ⟨res, spec'⟩
  rw [hev] at hbody
  cases res with
  | error ce =>
    cases ce <;> first | trivial | exact hbody.elim | skip
    obtain ⟨k, s', hk, h1, _, h3, h4⟩ := hbody.from_state (f := ⟨fname, 1⟩) hcalls1
    refine ⟨1 + k, s', ?_, h1, h3, h4⟩
    rw [execN_add, execN_one, hstep1]
    exact hk
  | ok u =>
    obtain ⟨hfr, mem', hrun, _⟩ := hbody
    obtain ⟨k, hk⟩ := hrun.from_state (f := ⟨fname, 1⟩) hcalls1
    let t := reach s1 (1 + nI R.1) k s1.stack mem'
    have hct : t.calls = ⟨fname, 1 + nI R.1⟩ :: rest := rfl
    have hmp0' : t.mp + (-(R.2.nv : Int)) < (lim.memory : Int) := by
      show s0.mp + (R.2.nv : Int) + (-(R.2.nv : Int)) < _
      omega
    have hstep3 := exec1_addMp code lim t ⟨fname, 1 + nI R.1⟩ rest _ fd.sp hct
      (fetch_of code t _ rest _ _ hct hfn hc1) hmp0'
    let t2 : VMState :=
      { t with mp := t.mp + (-(R.2.nv : Int)), steps := t.steps + 1, calls := ⟨fname, 1 + nI R.1 + 1⟩ :: rest }
    have hstep4 := exec1_ret code lim t2 fd.sp
      (fetch_of code t2 ⟨fname, 1 + nI R.1 + 1⟩ rest _ _ rfl hfn hc2)
    refine ⟨hfr, 1 + (k + (1 + 1)), { t2 with steps := t2.steps + 1, calls := t2.calls.tail }, ?_, rfl, ?_,
      rfl, rfl, rfl, rfl⟩
    · rw [execN_add, execN_one, hstep1]
      simp only []
      rw [execN_add, hk]
      simp only []
      rw [execN_add, execN_one, hstep3]
      simp only []
      rw [execN_one, hstep4]
    · show s0.mp + (R.2.nv : Int) + (-(R.2.nv : Int)) = s0.mp
      omega

theorem fn_body_correct' (cfg : Cfg) (code : Code) (lim : Limits) (T : List String) (fuel : Nat)
    (cs : CState) (fd : FnDef) (stmts : List Stmt) (r : NCode) (spec : St) (s0 : VMState) (fname : String)
    (rest : List Frame)
    (hs : Frag.okSs stmts = true) (hT : ∀ x ∈ Frag.identsSs stmts, x ∈ T)
    (hws : Frag.wsSs cs.currModule stmts (fnEnv cs fd.name) = true)
    (hkey : cleanupKey cs.currModule fd.name ∉ T)
    (houter : ∀ sc ∈ cs.scopes, ∀ x ∈ T, sc.lookup x = none)
    (hrel : relocate (fnCode cs fd stmts) = some r)
    (hcalls : s0.calls = ⟨fname, 0⟩ :: rest) (hfn : findCode code fname = some (renameVars r))
    (hmp0 : 0 ≤ s0.mp)
    (hmem : s0.mp + ((cSs cs.currModule stmts (fnEnv cs fd.name)).2.nv : Int) < (lim.memory : Int))
    (hspec : spec.scopes = [[]]) (hheap : s0.st.heap = spec.heap) :
    SimFn code lim s0 rest spec (evalStmts cfg fuel stmts spec) :=
  fn_body_correct cfg code lim T fuel cs fd stmts r spec s0 fname rest hs hT hws hkey houter hrel hcalls hfn
    hmp0 hmem (fn_slots_le T cs fd stmts r hT hws hkey houter hrel) hspec hheap

/-- `Core.Run` (`runtime/core.go`) on a top-level call: no caller frame, the operand stack within its limit. For every
quantum from `K` on — `K` at least the number of instructions of the call, so that no poll interrupts it — the driver
`run` (poll, then `runQuantum`) ends with outcome `ok` in a state with heap/output, memory pointer and stack as at
the call when the specification completes the body, and with the specification's fatal error when it ends in one. -/
theorem fn_run (cfg : Cfg) (code : Code) (lim : Limits) (T : List String) (fuel : Nat)
    (cs : CState) (fd : FnDef) (stmts : List Stmt) (r : NCode) (spec : St) (s0 : VMState) (fname : String)
    (hs : Frag.okSs stmts = true) (hT : ∀ x ∈ Frag.identsSs stmts, x ∈ T)
    (hws : Frag.wsSs cs.currModule stmts (fnEnv cs fd.name) = true)
    (hkey : cleanupKey cs.currModule fd.name ∉ T)
    (houter : ∀ sc ∈ cs.scopes, ∀ x ∈ T, sc.lookup x = none)
    (hrel : relocate (fnCode cs fd stmts) = some r)
    (hcalls : s0.calls = [⟨fname, 0⟩]) (hfn : findCode code fname = some (renameVars r))
    (hmp0 : 0 ≤ s0.mp)
    (hmem : s0.mp + ((cSs cs.currModule stmts (fnEnv cs fd.name)).2.nv : Int) < (lim.memory : Int))
    (hstack : s0.stack.length ≤ lim.stack) (hcallLim : 1 ≤ lim.callStack)
    (hspec : spec.scopes = [[]]) (hheap : s0.st.heap = spec.heap) :
    match evalStmts cfg fuel stmts spec with
    | (.ok _, _) =>
      ∃ K, ∀ quantum, K ≤ quantum → ∀ vfuel, ∃ s', run code lim quantum none (vfuel + 1) s0 = .ok s' ∧
        s'.st = s0.st ∧ s'.mp = s0.mp ∧ s'.stack = s0.stack
    | (.error (.fatal kd m sp), _) =>
      ∃ K, ∀ quantum, K ≤ quantum → ∀ vfuel, ∃ s', run code lim quantum none (vfuel + 1) s0 = .fatal kd m sp s' ∧
        s'.st = s0.st
    | _ => True := by
  have h := fn_body_correct' cfg code lim T fuel cs fd stmts r spec { s0 with polls := s0.polls + 1 } fname []
    hs hT hws hkey houter hrel hcalls hfn hmp0 hmem hspec hheap
  have hp : HmsProofs.Lemmas.VMRun.PollPass lim none s0 :=
    ⟨by simp [hcalls], rfl, hstack, by simp only [hcalls, List.length_singleton]; exact hcallLim⟩
  rcases hev : evalStmts cfg fuel stmts spec with ⟨res, spec'⟩
  rw [hev] at h
  cases res with
  | error ce =>
    cases ce <;> try trivial
    obtain ⟨k, s', hk, h1, _⟩ := h
    exact ⟨k, fun quantum hq vfuel => ⟨s', (run_of_execHN hp).2 _ s'
      (execHN_of_execN code lim k _ _ (by intro _ _ _ h; cases h) hk) quantum hq vfuel, h1⟩⟩
  | ok u =>
    obtain ⟨_, k, s', hk, h1, h2, h3, h4, _⟩ := h
    exact ⟨k + 1, fun quantum hq vfuel => ⟨s', (run_of_execHN hp).1 s'
      (execHN_of_execN code lim k _ _ (fun _ _ _ => StepRes.noConfusion) hk) h1 quantum hq vfuel, h4, h2, h3⟩⟩

end HmsProofs.Sim
