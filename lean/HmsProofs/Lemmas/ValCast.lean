import Hms.Value.Cast
import HmsProofs.Lemmas.ValContent
/-! Lemmas for C12 about `castAll`. The eight types whose cast looks at the root only are one evaluated table
(`castAll_leaf`); options, lists and objects go by induction on the type. -/
namespace HmsProofs.Lemmas.ValCast
open Hms.Value HmsProofs.Lemmas.ValEq

theorem except_map_ok {ε α β} {f : α → β} {x : Except ε α} {y : β} (h : x.map f = .ok y) :
    ∃ a, x = .ok a ∧ y = f a := by
  cases x with
  | error e => simp [Except.map] at h
  | ok a => simp [Except.map] at h; exact ⟨a, rfl, h.symm⟩

theorem except_map_err {ε α β} {f : α → β} {x : Except ε α} {e : ε} (h : x.map f = .error e) :
    x = .error e := by
  cases x with
  | error e' => simp [Except.map] at h; rw [h]
  | ok a => simp [Except.map] at h

def okB {ε α} : Except ε α → Bool
  | .ok _ => true
  | .error _ => false

theorem okB_map {ε α β} (f : α → β) (x : Except ε α) : okB (x.map f) = okB x := by
  cases x <;> rfl

theorem okB_iff {ε α} (x : Except ε α) : okB x = true ↔ ∃ a, x = .ok a := by
  cases x <;> simp [okB]

/-- `F`: `Vals.all P`, `Vals.wf`, `Vals.data`, `noIntegralFloatList`. -/
theorem vals_all_get {F : Vals → Bool} {P : Val → Bool} (hF : ∀ v vs, F (.cons v vs) = (P v && F vs)) :
    ∀ (xs : Vals), F xs = true → ∀ i x, xs.get? i = .some x → P x = true
  | .nil, _, i, x, h => by simp [Vals.get?] at h
  | .cons y ys, ha, i, x, h => by
    rw [hF, Bool.and_eq_true] at ha
    cases i with
    | zero => simp [Vals.get?] at h; subst h; exact ha.1
    | succ i => exact vals_all_get hF ys ha.2 i x (by simpa [Vals.get?] using h)

theorem all_get {p : Val → Bool} : ∀ (xs : Vals), xs.all p = true → ∀ i x, xs.get? i = .some x → p x = true :=
  vals_all_get fun _ _ => rfl

theorem vals_wf_get : ∀ (xs : Vals), xs.wf = true → ∀ i x, xs.get? i = .some x → x.wf = true :=
  vals_all_get fun _ _ => rfl

theorem vals_data_get : ∀ (xs : Vals), xs.data = true → ∀ i x, xs.get? i = .some x → x.data = true :=
  vals_all_get fun _ _ => rfl

/-- A well-formed data value (the standing hypothesis on values in C12). -/
def good (v : Val) : Bool := v.wf && v.data

theorem vals_good : ∀ xs : Vals, (xs.wf && xs.data) = xs.all good
  | .nil => by simp [Vals.wf, Vals.data, Vals.all]
  | .cons x xs => by
    have ih := vals_good xs
    simp only [Vals.wf, Vals.data, Vals.all, good, ← ih]
    cases x.wf <;> cases x.data <;> cases xs.wf <;> cases xs.data <;> rfl

theorem good_list (xs : Vals) : good (.list xs) = xs.all good := by
  simp [good, Val.wf, Val.data, vals_good]

theorem good_get : ∀ (xs : Vals), xs.all good = true → ∀ i x, xs.get? i = .some x → good x = true :=
  fun xs h => all_get xs h

theorem fields_good_mem (fs : Fields) (hw : fs.wf = true) (hd : fs.data = true) (k : String) (x : Val)
    (h : fs.lookup k = .some x) : good x = true := by
  have hm := lookup_mem fs k x h
  simp [good, mem_wf fs hw k x hm, mem_data fs hd k x hm]

theorem ty_lookup_eq_toList : ∀ (tfs : TyFields) (q : String), tfs.lookup q = tfs.toList.lookup q
  | .nil, _ => rfl
  | .cons k t tfs, q => by
    simp only [TyFields.lookup, TyFields.toList, List.lookup_cons, ty_lookup_eq_toList tfs q]
    by_cases e : k = q
    · simp [e]
    · simp [e, beq_false_of_ne (Ne.symm e)]

theorem ty_keys_eq_toList : ∀ (tfs : TyFields), tfs.keys = tfs.toList.map Prod.fst
  | .nil => rfl
  | .cons k t tfs => by simp only [TyFields.keys, TyFields.toList, List.map_cons, ty_keys_eq_toList tfs]

theorem ty_mem_keys_of_mem (tfs : TyFields) (k : String) (t : Ty) (h : (k, t) ∈ tfs.toList) : k ∈ tfs.keys :=
  ty_keys_eq_toList tfs ▸ List.mem_map_of_mem (f := Prod.fst) h

theorem ty_mem_of_mem_keys (tfs : TyFields) (k : String) (h : k ∈ tfs.keys) : ∃ t, (k, t) ∈ tfs.toList := by
  obtain ⟨⟨_, t⟩, hm, rfl⟩ := List.mem_map.mp (ty_keys_eq_toList tfs ▸ h)
  exact ⟨t, hm⟩

theorem ty_lookup_of_mem_nodup (tfs : TyFields) (k : String) (t : Ty) (hn : nodupKeys tfs.keys = true)
    (h : (k, t) ∈ tfs.toList) : tfs.lookup k = .some t := by
  rw [ty_lookup_eq_toList]
  exact (List.lookup_eq_some_iff_mem (ty_keys_eq_toList tfs ▸ nodupKeys_iff_nodup.mp hn)).mpr h

theorem ty_mem_wf : ∀ (tfs : TyFields), tfs.wf = true → ∀ k t, (k, t) ∈ tfs.toList → t.wf = true
  | .nil, _, k, t, h => by simp [TyFields.toList] at h
  | .cons k' t' tfs, hw, k, t, h => by
    simp only [TyFields.wf, Bool.and_eq_true] at hw
    simp only [TyFields.toList, List.mem_cons, Prod.mk.injEq] at h
    rcases h with ⟨rfl, rfl⟩ | h
    · exact hw.1
    · exact ty_mem_wf tfs hw.2 k t h

/-- `t` is an immediate component of `T`. -/
inductive Ty.Sub : Ty → Ty → Prop
  | opt {t} : Ty.Sub t (.opt t)
  | list {t} : Ty.Sub t (.list t)
  | field {k t tfs} : (k, t) ∈ TyFields.toList tfs → Ty.Sub t (.obj tfs)

mutual
/-- Induction on types with the hypothesis for every immediate component, the declared field types of an object
type included, so that a proof by it needs no companion about `TyFields` (`castAll_identity`, the two round trips
of `ValJson`). `castAll_sound_wf`, `castAll_okB` and `castAll_errpath` are mutual inductions all the same: each
needs a statement about what `castFields` has assembled or reported after some of the fields. -/
theorem Ty.subInduct {P : Ty → Prop} (h : ∀ T, (∀ t, Ty.Sub t T → P t) → P T) : ∀ T, P T
  | .opt t => h _ fun _ s => by cases s; exact Ty.subInduct h t
  | .list t => h _ fun _ s => by cases s; exact Ty.subInduct h t
  | .obj tfs => h _ fun _ s => by cases s with | field hm => exact Ty.subInduct_fields h tfs _ _ hm
  | .any => h _ nofun | .null => h _ nofun | .int => h _ nofun | .float => h _ nofun | .bool => h _ nofun
  | .str => h _ nofun | .range => h _ nofun | .anyobj => h _ nofun | .fn => h _ nofun
theorem Ty.subInduct_fields {P : Ty → Prop} (h : ∀ T, (∀ t, Ty.Sub t T → P t) → P T) :
    ∀ (tfs : TyFields) k t, (k, t) ∈ tfs.toList → P t
  | .nil, _, _, hm => by simp [TyFields.toList] at hm
  | .cons k' t' rest, k, t, hm => by
    simp only [TyFields.toList, List.mem_cons, Prod.mk.injEq] at hm
    rcases hm with ⟨_, ht⟩ | hm
    · exact ht ▸ Ty.subInduct h t'
    · exact Ty.subInduct_fields h rest k t hm
end

/-- `F`: a walk over the declared fields that demands each of them in the value (`conformsFields`,
`jsonReprFields`, `jsonReprProgFields`). -/
theorem declared_mem {F : TyFields → Fields → Bool} {P : Ty → Val → Bool}
    (hF : ∀ k t rest fs, F (.cons k t rest) fs =
      ((match fs.lookup k with | .some x => P t x | .none => false) && F rest fs)) :
    ∀ (tfs : TyFields) (fs : Fields), F tfs fs = true → ∀ k t, (k, t) ∈ tfs.toList →
      ∃ x, fs.lookup k = .some x ∧ P t x = true
  | .nil, _, _, k, t, hm => by simp [TyFields.toList] at hm
  | .cons k' t' rest, fs, h, k, t, hm => by
    rw [hF, Bool.and_eq_true] at h
    simp only [TyFields.toList, List.mem_cons, Prod.mk.injEq] at hm
    rcases hm with ⟨rfl, rfl⟩ | hm
    · cases hl : fs.lookup k with
      | none => simp [hl] at h
      | some x => exact ⟨x, rfl, by simpa [hl] using h.1⟩
    · exact declared_mem hF rest fs h.2 k t hm

theorem declared_keys {F : TyFields → Fields → Bool} {P : Ty → Val → Bool}
    (hF : ∀ k t rest fs, F (.cons k t rest) fs =
      ((match fs.lookup k with | .some x => P t x | .none => false) && F rest fs))
    (tfs : TyFields) (fs : Fields) (h : F tfs fs = true) (k : String) (hk : k ∈ tfs.keys) : k ∈ fs.keys := by
  obtain ⟨t, ht⟩ := ty_mem_of_mem_keys tfs k hk
  obtain ⟨x, hl, _⟩ := declared_mem hF tfs fs h k t ht
  exact mem_keys_of_mem fs k x (lookup_mem fs k x hl)

def isLeaf : Ty → Bool
  | .null | .str | .range | .fn | .bool | .int | .float | .anyobj => true
  | _ => false

/-- The table (8 types × 12 kinds of value × the flag), each entry by evaluation. -/
theorem castAll_leaf {T : Ty} (hT : isLeaf T = true) (allow : Bool) (v : Val) (p : Path) :
    (castAll allow T v p = incompatible p ∧ rootFits allow T v = false ∧ convertible allow T v = false ∧
      conforms T v = false) ∨
    ∃ v', castAll allow T v p = .ok v' ∧ rootFits allow T v = true ∧ convertible allow T v = true ∧
      conforms T v' = true ∧ (conforms T v = true → v' = v) ∧ (good v = true → good v' = true) := by
  cases T <;> cases hT <;> cases v <;> cases allow <;>
    first
    | exact .inl ⟨rfl, rfl, rfl, rfl⟩                                                  -- refused
    | exact .inr ⟨_, rfl, rfl, rfl, rfl, fun _ => rfl, id⟩                              -- admitted as it is
    | exact .inr ⟨_, rfl, rfl, rfl, rfl, fun h => (Bool.false_ne_true h).elim, fun _ => rfl⟩  -- a scalar converted
    | exact .inr ⟨_, rfl, rfl, rfl, rfl, fun h => (Bool.false_ne_true h).elim, id⟩      -- an object as any-object

theorem castAll_leaf_err {T : Ty} (hT : isLeaf T = true) {allow v p es} (e : castAll allow T v p = .error es) :
    es = [⟨.incompatible, p⟩] ∧ rootFits allow T v = false := by
  rcases castAll_leaf hT allow v p with ⟨h, hr, _⟩ | ⟨v', h, _⟩ <;> rw [h] at e <;> cases e
  exact ⟨rfl, hr⟩

theorem castAll_leaf_ok {T : Ty} (hT : isLeaf T = true) {allow v p v'} (e : castAll allow T v p = .ok v') :
    conforms T v' = true ∧ (conforms T v = true → v' = v) ∧ (good v = true → good v' = true) := by
  rcases castAll_leaf hT allow v p with ⟨h, _⟩ | ⟨w, h, _, _, hc⟩ <;> rw [h] at e <;> cases e
  exact hc

theorem castAll_leaf_conf {T : Ty} (hT : isLeaf T = true) {allow v p} (hc : conforms T v = true) :
    castAll allow T v p = .ok v := by
  rcases castAll_leaf hT allow v p with ⟨_, _, _, h⟩ | ⟨v', h, _, _, _, he, _⟩
  · rw [hc] at h; cases h
  · rw [h, he hc]

theorem castAll_leaf_okB {T : Ty} (hT : isLeaf T = true) {allow v p} :
    okB (castAll allow T v p) = convertible allow T v := by
  rcases castAll_leaf hT allow v p with ⟨h, _, hc, _⟩ | ⟨v', h, _, hc, _⟩ <;> rw [h, hc] <;> rfl

theorem peel_leaf {T : Ty} (hT : isLeaf T = true) (v : Val) : peel v T = T := by
  have : T.stripOpt = T := by cases T <;> first | rfl | cases hT
  cases v <;> simp [peel, this]

theorem castVals_err {f : Nat → Val → CastRes} (xs : Vals) (n : Nat) (es : List CastErr)
    (e : castVals f n xs = .error es) : ∃ i x, n ≤ i ∧ xs.get? (i - n) = .some x ∧ f i x = .error es := by
  fun_induction castVals f n xs with
  | case1 | case4 => cases e
  | case2 n x xs es' hx => cases e; exact ⟨n, x, Nat.le_refl _, by simp [Vals.get?], hx⟩
  | case3 n x xs x' hx es' hys ih =>
    cases e
    obtain ⟨i, y, hi, hg, hf⟩ := ih hys
    refine ⟨i, y, by omega, ?_, hf⟩
    have : i - n = (i - (n + 1)) + 1 := by omega
    rw [this]; simpa [Vals.get?] using hg

theorem castAll_err_ne (allow : Bool) : ∀ (T : Ty) (v : Val) (p : Path) (es : List CastErr),
    castAll allow T v p = .error es → es ≠ []
  | .any, v, p, es, e => by simp [castAll] at e
  | .opt t, v, p, es, e => by
    cases v <;> simp only [castAll] at e <;>
      first
      | cases e
      | exact castAll_err_ne allow t _ _ _ (except_map_err e)
  | .null, v, p, es, e | .str, v, p, es, e | .range, v, p, es, e | .fn, v, p, es, e
  | .bool, v, p, es, e | .int, v, p, es, e | .float, v, p, es, e | .anyobj, v, p, es, e => by
    rw [(castAll_leaf_err rfl e).1]; simp
  | .list t, v, p, es, e => by
    cases v <;> simp only [castAll, incompatible] at e <;> try (cases e; simp)
    obtain ⟨i, x, _, _, hf⟩ := castVals_err _ _ _ (except_map_err e)
    exact castAll_err_ne allow t _ _ _ hf
  | .obj tfs, v, p, es, e => by
    cases v <;> simp only [castAll, incompatible] at e <;> try (cases e; simp)
    split at e
    · cases e
    · cases e; simp
    · -- third alternative of the `match` in `castAll`: `h1`, `h2` say that the pair matched on is neither
      -- `([], none)` nor `([], some k)`, the first two; so the list it reports is not `[]`
      rename_i h1 h2
      cases e
      intro h
      cases hm : (castFields allow tfs _ p).missing with
      | none => exact h1 h hm
      | some k => exact h2 k h hm

/-- Below `P` is "has the element type" and `Q`, `R` are `good`. -/
theorem castVals_ok_all {f : Nat → Val → CastRes} {P Q R : Val → Bool}
    (h : ∀ i x x', f i x = .ok x' → P x' = true ∧ (Q x = true → R x' = true))
    (xs : Vals) (n : Nat) (xs' : Vals) (e : castVals f n xs = .ok xs') :
    xs'.all P = true ∧ (xs.all Q = true → xs'.all R = true) := by
  fun_induction castVals f n xs generalizing xs' with
  | case1 => cases e; simp [Vals.all]
  | case2 | case3 => cases e
  | case4 n x xs x' hx ys hys ih =>
    cases e
    obtain ⟨h1, h2⟩ := h n x x' hx
    obtain ⟨g1, g2⟩ := ih ys hys
    simp only [Vals.all, Bool.and_eq_true]
    exact ⟨⟨h1, g1⟩, fun hq => ⟨h2 hq.1, g2 hq.2⟩⟩

theorem lookup_cons_ne {k q : String} {v : Val} {fs : Fields} (h : k ≠ q) :
    (Fields.cons k v fs).lookup q = fs.lookup q := by
  simp [Fields.lookup, h]

theorem conformsFields_cons_skip (k : String) (x : Val) (o : Fields) :
    ∀ (tfs : TyFields), tfs.keys.contains k = false → conformsFields tfs (.cons k x o) = conformsFields tfs o
  | .nil, _ => by simp [conformsFields]
  | .cons k' t rest, h => by
    simp [TyFields.keys] at h
    have hne : k ≠ k' := h.1
    simp only [conformsFields, lookup_cons_ne hne]
    rw [conformsFields_cons_skip k x o rest (by simpa using h.2)]

theorem castFields_cons_none {allow k t rest fs p} (h : Fields.lookup fs k = .none) :
    castFields allow (.cons k t rest) fs p =
      ⟨(castFields allow rest fs p).errs, (castFields allow rest fs p).out, .some k⟩ := by
  simp only [castFields, h]

theorem castFields_cons_ok {allow k t rest fs p x x'} (h : Fields.lookup fs k = .some x)
    (h2 : castAll allow t x (p ++ [.field k]) = .ok x') :
    castFields allow (.cons k t rest) fs p =
      ⟨(castFields allow rest fs p).errs, .cons k x' (castFields allow rest fs p).out,
        (castFields allow rest fs p).missing⟩ := by
  simp only [castFields, h, h2]

theorem castFields_cons_err {allow k t rest fs p x es} (h : Fields.lookup fs k = .some x)
    (h2 : castAll allow t x (p ++ [.field k]) = .error es) :
    castFields allow (.cons k t rest) fs p =
      ⟨es ++ (castFields allow rest fs p).errs, (castFields allow rest fs p).out,
        (castFields allow rest fs p).missing⟩ := by
  simp only [castFields, h, h2]

theorem castFields_out_keys (allow : Bool) : ∀ (tfs : TyFields) (fs : Fields) (p : Path),
    (castFields allow tfs fs p).errs = [] → (castFields allow tfs fs p).missing = .none →
    (castFields allow tfs fs p).out.keys = tfs.keys
  | .nil, fs, p, _, _ => by simp [castFields, Fields.keys, TyFields.keys]
  | .cons k t rest, fs, p, he, hm => by
    cases hl : fs.lookup k with
    | none => rw [castFields_cons_none hl] at hm; cases hm
    | some x =>
      cases hc : castAll allow t x (p ++ [.field k]) with
      | error es =>
        rw [castFields_cons_err hl hc] at he
        exact absurd (List.append_eq_nil_iff.mp he).1 (castAll_err_ne allow t _ _ _ hc)
      | ok x' =>
        rw [castFields_cons_ok hl hc] at he hm ⊢
        simp only [Fields.keys, TyFields.keys, castFields_out_keys allow rest fs p he hm]

/-- What a walk over the declared fields that reports nothing has assembled; `castFields_sound_wf` states the
same inline, with what it needs of the field values beside it. -/
def FieldsGood (tfs : TyFields) (r : FieldsRes) : Prop :=
  r.errs = [] → r.missing = .none → conformsFields tfs r.out = true ∧ r.out.keys = tfs.keys

mutual
theorem castAll_sound_wf (allow : Bool) : ∀ (T : Ty), T.wf = true → ∀ (v : Val) (p : Path) (v' : Val),
    castAll allow T v p = .ok v' → conforms T v' = true ∧ (good v = true → good v' = true)
  | .any, _, v, p, v', e => by
    simp only [castAll, Except.ok.injEq] at e; subst e; exact ⟨rfl, id⟩
  | .opt t, hw, v, p, v', e => by
    simp only [Ty.wf] at hw
    cases v <;> simp only [castAll] at e <;>
      first
      | (cases e; exact ⟨rfl, fun _ => rfl⟩)
      | (obtain ⟨a, ha, rfl⟩ := except_map_ok e
         exact (castAll_sound_wf allow t hw _ _ _ ha :))
  | .null, _, v, p, v', e | .str, _, v, p, v', e | .range, _, v, p, v', e | .fn, _, v, p, v', e
  | .bool, _, v, p, v', e | .int, _, v, p, v', e | .float, _, v, p, v', e | .anyobj, _, v, p, v', e =>
    ⟨(castAll_leaf_ok rfl e).1, (castAll_leaf_ok rfl e).2.2⟩
  | .list t, hw, v, p, v', e => by
    simp only [Ty.wf] at hw
    cases v <;> simp only [castAll, incompatible] at e <;> try cases e
    obtain ⟨a, ha, rfl⟩ := except_map_ok e
    rw [good_list, good_list]
    exact castVals_ok_all (fun i x x' h => castAll_sound_wf allow t hw x _ x' h) _ _ _ ha
  | .obj tfs, hw, v, p, v', e => by
    simp only [Ty.wf, Bool.and_eq_true] at hw
    cases v <;> simp only [castAll, incompatible] at e <;> try cases e
    rename_i fs
    obtain ⟨hg, ho⟩ := castFields_sound_wf allow tfs hw.2 fs p
    split at e
    · rename_i h1 h2
      cases e
      simp only [List.append_eq_nil_iff] at h1
      have hc := hg hw.1 h1.1 h2
      have hk := castFields_out_keys allow tfs fs p h1.1 h2
      refine ⟨?_, fun hgv => ?_⟩
      · simp only [conforms, hc, Bool.true_and, hk]
        simp [TyFields.hasKey]
      · simp only [good, Val.wf, Val.data, Bool.and_eq_true] at hgv
        have := ho hgv.1.2 hgv.2
        simp [good, Val.wf, Val.data, hk, hw.1, this.1, this.2]
    · cases e
    · cases e
theorem castFields_sound_wf (allow : Bool) : ∀ (tfs : TyFields), TyFields.wf tfs = true → ∀ (fs : Fields) (p : Path),
    (nodupKeys tfs.keys = true → (castFields allow tfs fs p).errs = [] → (castFields allow tfs fs p).missing = .none →
      conformsFields tfs (castFields allow tfs fs p).out = true) ∧
    (fs.wf = true → fs.data = true →
      (castFields allow tfs fs p).out.wf = true ∧ (castFields allow tfs fs p).out.data = true)
  | .nil, _, fs, p => by
    simp [castFields, conformsFields, Fields.wf, Fields.data]
  | .cons k t rest, hw, fs, p => by
    simp only [TyFields.wf, Bool.and_eq_true] at hw
    obtain ⟨ih1, ih2⟩ := castFields_sound_wf allow rest hw.2 fs p
    cases hl : fs.lookup k with
    | none =>
      rw [castFields_cons_none hl]
      exact ⟨fun _ _ => nofun, ih2⟩
    | some x =>
      cases hc : castAll allow t x (p ++ [.field k]) with
      | error es =>
        rw [castFields_cons_err hl hc]
        exact ⟨fun _ he _ => absurd (List.append_eq_nil_iff.mp he).1 (castAll_err_ne allow t _ _ _ hc), ih2⟩
      | ok x' =>
        rw [castFields_cons_ok hl hc]
        obtain ⟨hs, hgd⟩ := castAll_sound_wf allow t hw.1 x _ x' hc
        refine ⟨fun hn he hm => ?_, fun hwf hd => ?_⟩
        · simp only [TyFields.keys, nodupKeys, Bool.and_eq_true, Bool.not_eq_true'] at hn
          simp [conformsFields, Fields.lookup, hs, conformsFields_cons_skip k x' _ rest hn.1, ih1 hn.2 he hm]
        · have := hgd (fields_good_mem fs hwf hd k x hl)
          simp only [good, Bool.and_eq_true] at this
          have ih := ih2 hwf hd
          simp [Fields.wf, Fields.data, this.1, this.2, ih.1, ih.2]
end

theorem castFields_good (allow : Bool) : ∀ (tfs : TyFields), TyFields.wf tfs = true → nodupKeys tfs.keys = true →
    ∀ (fs : Fields) (p : Path), FieldsGood tfs (castFields allow tfs fs p) :=
  fun tfs hw hn fs p he hm =>
    ⟨(castFields_sound_wf allow tfs hw fs p).1 hn he hm, castFields_out_keys allow tfs fs p he hm⟩

theorem castFields_good' (allow : Bool) : ∀ (tfs : TyFields), tfs.wf = true → ∀ (fs : Fields) (p : Path),
    fs.wf = true → fs.data = true →
    (castFields allow tfs fs p).out.wf = true ∧ (castFields allow tfs fs p).out.data = true :=
  fun tfs hT fs p => (castFields_sound_wf allow tfs hT fs p).2

theorem castVals_identity {f : Nat → Val → CastRes} {P : Val → Prop} :
    ∀ (xs : Vals) (n : Nat), (∀ i x, P x → ∃ x', f i x = .ok x' ∧ x'.isEqual x = true) →
      (∀ i x, xs.get? i = .some x → P x) →
      ∃ xs', castVals f n xs = .ok xs' ∧ Vals.isEqual xs' xs = true ∧ xs'.length = xs.length
  | .nil, n, _, _ => ⟨.nil, by simp [castVals, Vals.isEqual, Vals.length]⟩
  | .cons x xs, n, hf, hp => by
    obtain ⟨x', hx', he⟩ := hf n x (hp 0 x (by simp [Vals.get?]))
    obtain ⟨xs', hxs', hes, hl⟩ := castVals_identity xs (n + 1) hf (fun i y hy => hp (i + 1) y (by simpa [Vals.get?] using hy))
    exact ⟨.cons x' xs', by simp [castVals, hx', hxs'], by simp [Vals.isEqual, he, hes], by simp [Vals.length, hl]⟩

theorem obj_isEqual_of_declared {out fs : Fields} {tfs : TyFields} (hk : out.keys = tfs.keys)
    (hnT : nodupKeys tfs.keys = true) (hnf : nodupKeys fs.keys = true)
    (h1 : ∀ k ∈ fs.keys, k ∈ tfs.keys) (h2 : ∀ k ∈ tfs.keys, k ∈ fs.keys)
    (h3 : Fields.isEqualIn out fs = true) : (Val.obj out).isEqual (.obj fs) = true := by
  have hlen : out.length = fs.length := by
    rw [← keys_length, ← keys_length, hk]
    exact Nat.le_antisymm (length_le_of_nodup_subset _ _ hnT h2) (length_le_of_nodup_subset _ _ hnf h1)
  simp only [Val.isEqual, Bool.and_eq_true]
  exact ⟨by simp [hlen], h3⟩

/-- `ufs` is `fs` for the cast of a conforming object, and the untyped reading of its JSON text for the round
trip. -/
theorem castFields_all_ok (allow : Bool) (fs ufs : Fields) (p : Path) : ∀ (tfs : TyFields),
    (∀ k t, (k, t) ∈ tfs.toList → ∃ x u v', fs.lookup k = .some x ∧ ufs.lookup k = .some u ∧
        castAll allow t u (p ++ [.field k]) = .ok v' ∧ v'.isEqual x = true) →
    (castFields allow tfs ufs p).errs = [] ∧ (castFields allow tfs ufs p).missing = .none ∧
      (castFields allow tfs ufs p).out.keys = tfs.keys ∧
      Fields.isEqualIn (castFields allow tfs ufs p).out fs = true
  | .nil, _ => by simp [castFields, Fields.keys, TyFields.keys, Fields.isEqualIn]
  | .cons k t rest, h => by
    obtain ⟨x, u, v', h1, h2, h3, h4⟩ := h k t (by simp [TyFields.toList])
    obtain ⟨g1, g2, g3, g4⟩ := castFields_all_ok allow fs ufs p rest (fun k' t' hm => h k' t' (by simp [TyFields.toList, hm]))
    rw [castFields_cons_ok h2 h3]
    exact ⟨g1, g2, by simp [Fields.keys, TyFields.keys, g3], by simp [Fields.isEqualIn, h1, h4, g4]⟩

theorem castAll_identity (allow : Bool) : ∀ (T : Ty) (v : Val) (p : Path), T.wf = true → conforms T v = true →
    v.wf = true → v.data = true → ∃ v', castAll allow T v p = .ok v' ∧ v'.isEqual v = true :=
  Ty.subInduct fun T ih v p hT hc hw hd => by
    cases T with
    | any => exact ⟨v, by simp [castAll], isEqual_refl v hw hd⟩
    | opt t =>
      simp only [Ty.wf] at hT
      cases v <;> simp [conforms] at hc
      · exact ⟨.none, by simp [castAll], by simp [Val.isEqual]⟩
      · rename_i x
        simp only [Val.wf, Val.data] at hw hd
        obtain ⟨x', hx', he⟩ := ih t .opt x (p ++ [.optInner]) hT hc hw hd
        exact ⟨.some x', by simp [castAll, hx', Except.map], by simp [Val.isEqual, he]⟩
    | null | str | range | fn | bool | int | float | anyobj =>
      exact ⟨v, castAll_leaf_conf rfl hc, isEqual_refl v hw hd⟩
    | list t =>
      simp only [Ty.wf] at hT
      cases v <;> simp [conforms] at hc
      rename_i xs
      simp only [Val.wf, Val.data] at hw hd
      obtain ⟨xs', h1, h2, h3⟩ := castVals_identity (f := fun i x => castAll allow t x (p ++ [.index i]))
        (P := fun x => conforms t x = true ∧ x.wf = true ∧ x.data = true) xs 0
        (fun i x hx => ih t .list x _ hT hx.1 hx.2.1 hx.2.2)
        (fun i x hx => ⟨all_get xs hc i x hx, vals_wf_get xs hw i x hx, vals_data_get xs hd i x hx⟩)
      exact ⟨.list xs', by simp [castAll, h1, Except.map], by simp [Val.isEqual, h2, h3]⟩
    | obj tfs =>
      simp only [Ty.wf, Bool.and_eq_true] at hT
      cases v <;> simp [conforms] at hc
      rename_i fs
      simp only [Val.wf, Val.data, Bool.and_eq_true] at hw hd
      obtain ⟨h1, h2, hk, h3⟩ := castFields_all_ok allow fs fs p tfs fun k t hm => by
        obtain ⟨x, hl, hx⟩ := declared_mem (P := conforms) (fun _ _ _ _ => rfl) tfs fs hc.1 k t hm
        have hm' := lookup_mem fs k x hl
        obtain ⟨x', hx', he⟩ := ih t (.field hm) x (p ++ [.field k]) (ty_mem_wf tfs hT.2 k t hm) hx
          (mem_wf fs hw.2 k x hm') (mem_data fs hd k x hm')
        exact ⟨x, x, x', hl, hl, hx', he⟩
      have hun : List.filter (fun k => !tfs.hasKey k) fs.keys = [] := by
        simp only [List.filter_eq_nil_iff]; intro k hk'; simp [hc.2 k hk']
      have hsub1 : ∀ k ∈ fs.keys, k ∈ tfs.keys := by
        intro k hk'; simpa [TyFields.hasKey] using hc.2 k hk'
      have hsub2 := declared_keys (P := conforms) (fun _ _ _ _ => rfl) tfs fs hc.1
      exact ⟨.obj (castFields allow tfs fs p).out, by simp [castAll, h1, h2, hun],
        obj_isEqual_of_declared hk hT.1 hw.1 hsub1 hsub2 h3⟩

theorem castVals_okB {f : Nat → Val → CastRes} {P : Val → Bool} (h : ∀ i x, okB (f i x) = P x) :
    ∀ (xs : Vals) (n : Nat), okB (castVals f n xs) = xs.all P
  | .nil, n => by simp [castVals, okB, Vals.all]
  | .cons x xs, n => by
    rw [Vals.all, ← h n x, ← castVals_okB h xs (n + 1), castVals]
    cases f n x with
    | error es => rfl
    | ok x' => cases castVals f (n + 1) xs <;> rfl

def fieldsClean (r : FieldsRes) : Bool := r.errs.isEmpty && r.missing.isNone

mutual
theorem castAll_okB (allow : Bool) : ∀ (T : Ty) (v : Val) (p : Path),
    okB (castAll allow T v p) = convertible allow T v
  | .any, v, p => by simp [castAll, okB, convertible]
  | .opt t, v, p => by
    cases v <;> simp only [castAll, convertible, okB_map] <;>
      first | rfl | exact castAll_okB allow t _ _
  | .null, v, p | .str, v, p | .range, v, p | .fn, v, p
  | .bool, v, p | .int, v, p | .float, v, p | .anyobj, v, p => by
    exact castAll_leaf_okB rfl
  | .list t, v, p => by
    cases v <;> simp only [castAll, incompatible, convertible, okB_map] <;>
      first | rfl | exact castVals_okB (fun i x => castAll_okB allow t x _) _ _
  | .obj tfs, v, p => by
    cases v <;> simp only [castAll, incompatible, convertible] <;> try rfl
    rename_i fs
    rw [← castFields_clean allow tfs fs p]
    generalize castFields allow tfs fs p = r
    have hun : (List.map (fun k => CastErr.mk (.unexpectedField k) p)
        (List.filter (fun k => !tfs.hasKey k) fs.keys)).isEmpty = fs.keys.all (fun k => tfs.hasKey k) := by
      rw [Bool.eq_iff_iff]; simp [List.filter_eq_nil_iff]
    rcases r with ⟨errs, out, missing⟩
    rw [← hun]
    generalize List.map (fun k => CastErr.mk (.unexpectedField k) p) (List.filter (fun k => !tfs.hasKey k) fs.keys) = un
    -- `castAll` answers `ok` exactly when all three are empty: the table of the eight combinations
    cases errs <;> cases un <;> cases missing <;> simp [fieldsClean, okB]
theorem castFields_clean (allow : Bool) : ∀ (tfs : TyFields) (fs : Fields) (p : Path),
    fieldsClean (castFields allow tfs fs p) = convertibleFields allow tfs fs
  | .nil, fs, p => by simp [castFields, fieldsClean, convertibleFields]
  | .cons k t rest, fs, p => by
    have ih := castFields_clean allow rest fs p
    cases hl : fs.lookup k with
    | none => rw [castFields_cons_none hl]; simp [fieldsClean, convertibleFields, hl]
    | some x =>
      have hx := castAll_okB allow t x (p ++ [.field k])
      cases hc : castAll allow t x (p ++ [.field k]) with
      | error es =>
        rw [castFields_cons_err hl hc]
        rw [hc] at hx
        simp only [okB] at hx
        have : (es ++ (castFields allow rest fs p).errs).isEmpty = false := by
          cases es with
          | nil => exact absurd rfl (castAll_err_ne allow t _ _ _ hc)
          | cons => rfl
        simp [fieldsClean, convertibleFields, hl, ← hx, this]
      | ok x' =>
        rw [castFields_cons_ok hl hc]
        rw [hc] at hx
        simp [okB] at hx
        simp only [fieldsClean] at ih
        simp [fieldsClean, convertibleFields, hl, ← hx, ih]
end

/-- The error `e`, reported by a cast of `v` to `T` started at path `p`, addresses a real offence: its path
is `p` followed by a path `q` that leads from `(v, T)` to a sub-value and sub-type which offend in the way
`e.cls` says. -/
def ErrAt (allow : Bool) (p : Path) (v : Val) (T : Ty) (e : CastErr) : Prop :=
  ∃ q vs Ts, e.path = p ++ q ∧ subAt q v T = .some (vs, Ts) ∧ offends allow e.cls vs Ts = true

/-- Not an option and not `null`: the values for which casting to `?T` is casting to `T` and wrapping
(no path component is added). -/
def isPlain : Val → Bool
  | .some _ | .none | .null => false
  | _ => true

theorem peel_opt_plain {v : Val} (h : isPlain v = true) (t : Ty) : peel v (.opt t) = peel v t := by
  cases v <;> simp [isPlain] at h <;> simp [peel, Ty.stripOpt]

theorem subAt_opt_plain {v : Val} (h : isPlain v = true) (t : Ty) : ∀ q, subAt q v (.opt t) = subAt q v t
  | [] => by simp [subAt, peel_opt_plain h]
  | c :: rest => by simp [subAt, peel_opt_plain h]

theorem errAt_opt_plain {allow p v t e} (h : isPlain v = true) (he : ErrAt allow p v t e) :
    ErrAt allow p v (.opt t) e := by
  obtain ⟨q, vs, Ts, h1, h2, h3⟩ := he
  exact ⟨q, vs, Ts, h1, by rw [subAt_opt_plain h]; exact h2, h3⟩

theorem errAt_here {allow p v T c} (h : offends allow c v (peel v T) = true) :
    ErrAt allow p v T ⟨c, p⟩ :=
  ⟨[], v, peel v T, by simp, by simp [subAt], h⟩

def FieldsErrs (allow : Bool) (tfs : TyFields) (fs : Fields) (p : Path) (r : FieldsRes) : Prop :=
  (∀ e ∈ r.errs, ∃ k t x, (k, t) ∈ tfs.toList ∧ fs.lookup k = .some x ∧ ErrAt allow (p ++ [.field k]) x t e) ∧
  (∀ k, r.missing = .some k → k ∈ tfs.keys ∧ fs.lookup k = .none)

mutual
theorem castAll_errpath (allow : Bool) : ∀ (T : Ty), T.wf = true → ∀ (v : Val) (p : Path) (es : List CastErr),
    castAll allow T v p = .error es → ∀ e ∈ es, ErrAt allow p v T e
  | .any, _, v, p, es, h => by simp [castAll] at h
  | .opt t, hT, v, p, es, h => by
    simp only [Ty.wf] at hT
    intro e he
    cases v with
    | none | null => simp only [castAll] at h; cases h
    | some x =>
      simp only [castAll] at h
      obtain ⟨q, vs, Ts, h1, h2, h3⟩ := castAll_errpath allow t hT _ _ _ (except_map_err h) e he
      exact ⟨.optInner :: q, vs, Ts, by simp [h1], by simp [subAt, peel, h2], h3⟩
    | _ =>
      simp only [castAll] at h
      exact errAt_opt_plain rfl (castAll_errpath allow t hT _ _ _ (except_map_err h) e he)
  | .null, _, v, p, es, h | .str, _, v, p, es, h | .range, _, v, p, es, h | .fn, _, v, p, es, h
  | .bool, _, v, p, es, h | .int, _, v, p, es, h | .float, _, v, p, es, h | .anyobj, _, v, p, es, h => by
    obtain ⟨rfl, hr⟩ := castAll_leaf_err rfl h
    intro e he
    rw [List.mem_singleton.mp he]
    exact errAt_here (by rw [peel_leaf rfl]; simp [offends, hr])
  | .list t, hT, v, p, es, h => by
    simp only [Ty.wf] at hT
    intro e he
    cases v with
    | list xs =>
      simp only [castAll] at h
      obtain ⟨i, x, _, hg, hf⟩ := castVals_err _ _ _ (except_map_err h)
      obtain ⟨q, vs, Ts, h1, h2, h3⟩ := castAll_errpath allow t hT _ _ _ hf e he
      have hg' : xs.get? i = .some x := by simpa using hg
      exact ⟨.index i :: q, vs, Ts, by simp [h1], by simp [subAt, peel, Ty.stripOpt, hg', h2], h3⟩
    | _ =>
      simp only [castAll, incompatible] at h
      cases h; simp at he; subst he; exact errAt_here (by simp [offends, rootFits, peel, Ty.stripOpt])
  | .obj tfs, hT, v, p, es, h => by
    simp only [Ty.wf, Bool.and_eq_true] at hT
    intro e he
    cases v with
    | obj fs =>
      simp only [castAll] at h
      obtain ⟨hE, hM⟩ := castFields_errpath allow tfs hT.2 fs p
      have hnested : ∀ e ∈ (castFields allow tfs fs p).errs, ErrAt allow p (.obj fs) (.obj tfs) e := by
        intro e he
        obtain ⟨k, t, x, h1, h2, q, vs, Ts, h3, h4, h5⟩ := hE e he
        have hl := ty_lookup_of_mem_nodup tfs k t hT.1 h1
        exact ⟨.field k :: q, vs, Ts, by simp [h3], by simp [subAt, peel, Ty.stripOpt, h2, hl, h4], h5⟩
      have hunexp : ∀ e ∈ List.map (fun k => CastErr.mk (.unexpectedField k) p)
          (List.filter (fun k => !tfs.hasKey k) fs.keys), ErrAt allow p (.obj fs) (.obj tfs) e := by
        intro e he
        simp only [List.mem_map, List.mem_filter] at he
        obtain ⟨k, ⟨hk1, hk2⟩, rfl⟩ := he
        exact errAt_here (by simp [offends, peel, Ty.stripOpt, Fields.hasKey, hk1] ; simpa using hk2)
      split at h
      · cases h
      · rename_i k _ hm
        cases h
        simp at he; subst he
        obtain ⟨h1, h2⟩ := hM k hm
        have : k ∉ fs.keys := fun hk => by
          obtain ⟨a, ha⟩ := lookup_of_mem_keys fs k hk
          rw [h2] at ha; cases ha
        exact errAt_here (by simp [offends, peel, Ty.stripOpt, TyFields.hasKey, Fields.hasKey, h1, this])
      · cases h
        simp only [List.mem_append] at he
        rcases he with he | he
        · exact hnested e he
        · exact hunexp e he
    | _ =>
      simp only [castAll, incompatible] at h
      cases h; simp at he; subst he; exact errAt_here (by simp [offends, rootFits, peel, Ty.stripOpt])
theorem castFields_errpath (allow : Bool) : ∀ (tfs : TyFields), tfs.wf = true → ∀ (fs : Fields) (p : Path),
    FieldsErrs allow tfs fs p (castFields allow tfs fs p)
  | .nil, _, fs, p => by simp [FieldsErrs, castFields]
  | .cons k t rest, hT, fs, p => by
    simp only [TyFields.wf, Bool.and_eq_true] at hT
    obtain ⟨hE, hM⟩ := castFields_errpath allow rest hT.2 fs p
    have hE' : ∀ e ∈ (castFields allow rest fs p).errs, ∃ k' t' x, (k', t') ∈ (TyFields.cons k t rest).toList ∧
        fs.lookup k' = .some x ∧ ErrAt allow (p ++ [.field k']) x t' e := by
      intro e he
      obtain ⟨k', t', x, h1, h2, h3⟩ := hE e he
      exact ⟨k', t', x, by simp [TyFields.toList, h1], h2, h3⟩
    have hM' : ∀ k', (castFields allow rest fs p).missing = .some k' →
        k' ∈ (TyFields.cons k t rest).keys ∧ fs.lookup k' = .none := by
      intro k' hk'
      obtain ⟨h1, h2⟩ := hM k' hk'
      exact ⟨by simp [TyFields.keys, h1], h2⟩
    cases hl : fs.lookup k with
    | none =>
      rw [castFields_cons_none hl]
      refine ⟨hE', ?_⟩
      intro k' hk'
      simp at hk'; subst hk'
      exact ⟨by simp [TyFields.keys], hl⟩
    | some x =>
      cases hc : castAll allow t x (p ++ [.field k]) with
      | error es =>
        rw [castFields_cons_err hl hc]
        refine ⟨?_, hM'⟩
        intro e he
        simp only [List.mem_append] at he
        rcases he with he | he
        · exact ⟨k, t, x, by simp [TyFields.toList], hl, castAll_errpath allow t hT.1 _ _ _ hc e he⟩
        · exact hE' e he
      | ok x' =>
        rw [castFields_cons_ok hl hc]
        exact ⟨hE', hM'⟩
end

theorem stripOpt_idem : ∀ (T : Ty), T.stripOpt.stripOpt = T.stripOpt
  | .opt t => by simp [Ty.stripOpt, stripOpt_idem t]
  | .any | .null | .int | .float | .bool | .str | .range | .anyobj | .fn | .list _ | .obj _ => by
    simp [Ty.stripOpt]

theorem peel_idem (v : Val) (T : Ty) : peel v (peel v T) = peel v T := by
  cases v <;> simp [peel, stripOpt_idem]

theorem subAt_peeled : ∀ (q : Path) (v : Val) (T : Ty) (vs : Val) (Ts : Ty),
    subAt q v T = .some (vs, Ts) → peel vs Ts = Ts
  | [], v, T, vs, Ts, h => by
    simp [subAt] at h; obtain ⟨rfl, rfl⟩ := h; exact peel_idem _ _
  | c :: rest, v, T, vs, Ts, h => by
    simp only [subAt] at h
    split at h
    · exact subAt_peeled rest _ _ vs Ts h
    · rename_i i xs t _
      cases hg : xs.get? i with
      | none => simp [hg] at h
      | some x => simp [hg] at h; exact subAt_peeled rest _ _ vs Ts h
    · split at h
      · exact subAt_peeled rest _ _ vs Ts h
      · cases h
    · cases h

theorem convertibleFields_missing : ∀ (allow : Bool) (tfs : TyFields) (fs : Fields) (k : String),
    k ∈ tfs.keys → fs.lookup k = .none → convertibleFields allow tfs fs = false
  | allow, .nil, fs, k, hk, _ => by simp [TyFields.keys] at hk
  | allow, .cons k' t rest, fs, k, hk, hl => by
    simp only [TyFields.keys, List.mem_cons] at hk
    rcases hk with rfl | hk
    · simp [convertibleFields, hl]
    · simp [convertibleFields, convertibleFields_missing allow rest fs k hk hl]

theorem stripOpt_ne_opt : ∀ (T : Ty) (t : Ty), T.stripOpt ≠ .opt t
  | .opt t', t => by simpa [Ty.stripOpt] using stripOpt_ne_opt t' t
  | .any, _ | .null, _ | .int, _ | .float, _ | .bool, _ | .str, _ | .range, _ | .anyobj, _ | .fn, _
  | .list _, _ | .obj _, _ => by simp [Ty.stripOpt]

theorem rootFits_of_convertible {allow : Bool} {T : Ty} {v : Val} (hp : peel v T = T)
    (h : convertible allow T v = true) : rootFits allow T v = true := by
  by_cases hT : isLeaf T = true
  · rcases castAll_leaf hT allow v [] with ⟨_, _, hc, _⟩ | ⟨_, _, hr, _⟩
    · rw [h] at hc; cases hc
    · exact hr
  · cases T with
    | any => rfl
    | list | obj => cases v <;> first | rfl | exact (Bool.false_ne_true h).elim
    | opt => cases v <;> first | rfl | exact absurd hp (stripOpt_ne_opt _ _)
    | _ => exact absurd rfl hT

theorem offends_not_convertible (allow : Bool) (c : ErrClass) (vs : Val) (Ts : Ty)
    (hp : peel vs Ts = Ts) (h : offends allow c vs Ts = true) : convertible allow Ts vs = false := by
  cases c with
  | incompatible =>
    simp only [offends, Bool.not_eq_true'] at h
    cases hc : convertible allow Ts vs with
    | false => rfl
    | true => rw [rootFits_of_convertible hp hc] at h; cases h
  | unexpectedField k =>
    cases vs <;> try exact (Bool.false_ne_true h).elim
    cases Ts <;> try exact (Bool.false_ne_true h).elim
    rename_i fs tfs
    simp only [offends, Bool.and_eq_true, Bool.not_eq_true'] at h
    simp only [convertible, Bool.and_eq_false_iff]
    right
    simp only [List.all_eq_false]
    exact ⟨k, by simpa [Fields.hasKey] using h.1, by simp [h.2]⟩
  | missingField k =>
    cases vs <;> try exact (Bool.false_ne_true h).elim
    cases Ts <;> try exact (Bool.false_ne_true h).elim
    rename_i fs tfs
    simp only [offends, Bool.and_eq_true, Bool.not_eq_true'] at h
    simp only [convertible, Bool.and_eq_false_iff]
    left
    have hk : k ∈ tfs.keys := by simpa [TyFields.hasKey] using h.1
    have hn : k ∉ fs.keys := by simpa [Fields.hasKey] using h.2
    exact convertibleFields_missing allow tfs fs k hk (lookup_none_of_not_mem fs k hn)

end HmsProofs.Lemmas.ValCast
