import Hms.Conc.Invoke
import HmsProofs.Lemmas.ConcProtocol
/-! A host call is validated, runs the callee on a fresh core, and waits for it. On a quiescent VM (no core
listed, cores lock free, `Wait` not running) the protocol part is one fixed run of `Wait` over a single
core (`wait_single`), so a valid call computes `invokeSpec`; single calls are read off `invoke_cases`,
histories off `runHistory_invariant`. -/
namespace Hms.Conc

/- `prog`, `s`, `c` are explicit arguments, in this order, of every lemma below whose statement
mentions them. -/
variable {V G : Type} (prog : Prog V G) (s : VMState V G) (c : Call V)

theorem foldl_push (ys acc : List V) : ys.foldl push acc = ys.reverse ++ acc :=
  (List.foldl_flip_cons_eq_append (f := id)).trans (by rw [List.map_id])

theorem prePush_eq_reverse (xs : List V) : prePush xs = xs.reverse := by
  rw [prePush, foldl_push, List.append_nil]

theorem popN_append (xs rest : List V) : popN xs.length (xs ++ rest) = (xs, rest) := by
  induction xs with
  | nil => rfl
  | cons x xs ih => simp [popN, ih]

theorem popN_prePush_invert (args : List V) :
    popN args.length (prePush (invert args)) = (args, []) := by
  simpa [prePush_eq_reverse, invert] using popN_append args []

/-- The state in which `Wait` returns during a host call on a quiescent VM. -/
def syncEnd (p : PState) (sg : Sig) : PState :=
  let core' := upd p.core p.n (.received sg)
  match sg with
  | none => { p with n := p.n + 1, core := core', listed := [], wait := .returned none }
  | some i =>
    { p with n := p.n + 1, core := core', listed := [], wait := .returned (some (p.n, i)),
             cancelled := true, dropped := true, leaked := 0 }

/-- By evaluation. From `.top`: start the scan of `[n]`, receive the signal; then for `none` (Go's `nil`) remove the
core, take the read lock again, return from the empty scan (five steps), for an interrupt cancel and return (three).
`waitFuel` grants eight: `3·|listed| + 2` (`top_returns` in `ConcWait.lean`) and three to spare. -/
theorem wait_single (p : PState) (sg : Sig) (hl : p.listed = []) (hk : p.leaked = 0) :
    waitRun Cfg.fixed (waitFuel (syncStart Cfg.fixed p sg)) (syncStart Cfg.fixed p sg) = syncEnd p sg := by
  cases sg <;>
    simp [syncStart, syncEnd, waitFuel, PState.spawn, hl, hk, waitRun, waitStep, sent, Cfg.fixed, upd_upd]

theorem quiescent_lockFree {s : VMState V G} (hq : s.quiescent) : s.proto.lockFree = true :=
  PState.lockFree_iff.mpr ⟨WaitPc.holdsR_of_inactive hq.2.2, hq.2.1⟩

/-- What a valid call on a quiescent VM computes (fixed protocol). -/
def invokeSpec (sg : FnSig) :
    VMState V G × Result V × String :=
  let r := runCore prog s.proto.cancelled c.fn sg.params (prePush (invert c.args)) s.globals
  ({ proto := syncEnd s.proto r.sig, globals := r.globals, last := some r.core },
   (match r.sig with
    | none => handleTermination prog c.fn sg r.core
    | some i => .exc s.proto.n i r.kind r.msg),
   r.out)

/-- On a VM that is not cancelled, a valid call is the callee's body on the host's arguments (reversal,
pre-push and the callee's pops cancel out) and the current globals. -/
theorem invokeSpec_live (sg : FnSig) (hlen : c.args.length = sg.params) (hc : s.proto.cancelled = false) :
    invokeSpec prog s c sg =
      let o := prog.body c.fn c.args s.globals
      match o.res with
      | .ret v => (⟨syncEnd s.proto none, o.globals, some ⟨v.toList, 0⟩⟩,
          handleTermination prog c.fn sg ⟨v.toList, 0⟩, o.out)
      | .fail i kind msg => (⟨syncEnd s.proto (some i), o.globals, some ⟨[], 1⟩⟩, .exc s.proto.n i kind msg, o.out) := by
  simp only [invokeSpec, runCore, hc, ← hlen, popN_prePush_invert]
  cases (prog.body c.fn c.args s.globals).res with
  | ret v => cases v <;> rfl
  | fail => rfl

theorem invoke_quiescent (sg : FnSig)
    (hsig : prog.sig c.fn = some sg) (hlen : c.args.length = sg.params) (hq : s.quiescent) :
    invoke Cfg.fixed prog s c = invokeSpec prog s c sg := by
  have hf := quiescent_lockFree hq
  obtain ⟨hl, hk, _⟩ := hq
  unfold invoke invokeSpec
  simp only [hsig, hlen, hf]
  simp only [ne_eq, not_true_eq_false, ↓reduceIte, Bool.not_true, Bool.false_eq_true]
  generalize runCore prog s.proto.cancelled c.fn sg.params (prePush (invert c.args)) s.globals = r
  rw [wait_single s.proto r.sig hl hk]
  cases hs : r.sig <;> simp [syncEnd, PState.waitResult]

theorem invoke_cases :
    (∃ why, (∀ sg, prog.sig c.fn = some sg → c.args.length ≠ sg.params) ∧
        ∀ s, invoke Cfg.fixed prog s c = (s, .hostPanic why, "")) ∨
      ∃ sg, prog.sig c.fn = some sg ∧ c.args.length = sg.params ∧
        ∀ s, s.quiescent → invoke Cfg.fixed prog s c = invokeSpec prog s c sg := by
  cases hsig : prog.sig c.fn with
  | none => exact .inl ⟨_, nofun, fun s => by rw [invoke, hsig]⟩
  | some sg =>
    by_cases hlen : c.args.length = sg.params
    · exact .inr ⟨sg, rfl, hlen, fun s => invoke_quiescent prog s c sg hsig hlen⟩
    · exact .inl ⟨_, fun _ e => Option.some.inj e ▸ hlen, fun s => by rw [invoke, hsig]; exact if_pos hlen⟩

theorem syncEnd_quiescent (p : PState) (sg : Sig) (hk : p.leaked = 0) :
    (syncEnd p sg).listed = [] ∧ (syncEnd p sg).leaked = 0 ∧ (syncEnd p sg).wait.active = false := by
  cases sg <;> simp [syncEnd, hk, WaitPc.active]

theorem syncEnd_cancelled (p : PState) (sg : Sig) :
    (syncEnd p sg).cancelled = (p.cancelled || sg.isSome) := by
  cases sg <;> simp [syncEnd]

theorem invokeSpec_answer (sg : FnSig) :
    (∃ v, (invokeSpec prog s c sg).2.1 = .ret v) ∨ (∃ why, (invokeSpec prog s c sg).2.1 = .hostPanic why) ∨
      ((invokeSpec prog s c sg).2.1.isFailure = true ∧ (invokeSpec prog s c sg).1.proto.cancelled = true) := by
  simp only [invokeSpec, syncEnd_cancelled]
  split
  · -- the four branches of `handleTermination`: panic, value, panic, `nil`
    fun_cases handleTermination prog c.fn sg _ with
    | case1 | case3 => exact .inr (.inl ⟨_, rfl⟩)
    | case2 | case4 => exact .inl ⟨_, rfl⟩
  · rename_i h; exact .inr (.inr ⟨rfl, by rw [h]; exact Bool.or_true _⟩)

theorem invoke_preserves_quiescent (hq : s.quiescent) : (invoke Cfg.fixed prog s c).1.quiescent := by
  rcases invoke_cases prog c with ⟨_, _, e⟩ | ⟨sg, _, _, e⟩
  · rw [e]; exact hq
  · rw [e s hq]; exact syncEnd_quiescent _ _ hq.2.1

theorem invoke_not_blocked (hq : s.quiescent) : (invoke Cfg.fixed prog s c).2.1 ≠ .blocked := by
  rcases invoke_cases prog c with ⟨_, _, e⟩ | ⟨sg, _, _, e⟩
  · rw [e]; nofun
  · rw [e s hq]
    rcases invokeSpec_answer prog s c sg with ⟨_, h⟩ | ⟨_, h⟩ | ⟨h, _⟩
    · rw [h]; nofun
    · rw [h]; nofun
    · intro hb; rw [hb] at h; cases h

theorem invoke_cancelled_mono (hq : s.quiescent) (hc : s.proto.cancelled = true) :
    (invoke Cfg.fixed prog s c).1.proto.cancelled = true := by
  rcases invoke_cases prog c with ⟨_, _, e⟩ | ⟨sg, _, _, e⟩
  · rw [e]; exact hc
  · rw [e s hq]; simp only [invokeSpec, syncEnd_cancelled, hc, Bool.true_or]

theorem invoke_failure_cancels (hq : s.quiescent) (hf : (invoke Cfg.fixed prog s c).2.1.isFailure = true) :
    (invoke Cfg.fixed prog s c).1.proto.cancelled = true := by
  rcases invoke_cases prog c with ⟨_, _, e⟩ | ⟨sg, _, _, e⟩
  · rw [e] at hf; cases hf
  · rw [e s hq] at hf ⊢
    rcases invokeSpec_answer prog s c sg with ⟨_, h⟩ | ⟨_, h⟩ | ⟨_, h⟩
    · rw [h] at hf; cases hf
    · rw [h] at hf; cases hf
    · exact h

theorem invoke_return_live (sg : FnSig) (hsig : prog.sig c.fn = some sg) (hlen : c.args.length = sg.params)
    (hq : s.quiescent) (hc : s.proto.cancelled = false) (v : Option V)
    (hb : (prog.body c.fn c.args s.globals).res = .ret v) :
    (invoke Cfg.fixed prog s c).1.proto.cancelled = false := by
  rw [invoke_quiescent prog s c sg hsig hlen hq, invokeSpec_live prog s c sg hlen hc]
  simp only [hb, syncEnd_cancelled, hc]; rfl

theorem invoke_on_cancelled (sg : FnSig) (hsig : prog.sig c.fn = some sg) (hlen : c.args.length = sg.params)
    (hq : s.quiescent) (hc : s.proto.cancelled = true) :
    (invoke Cfg.fixed prog s c).2.1 = .exc s.proto.n .terminate "-" "context canceled"
      ∧ (invoke Cfg.fixed prog s c).1.globals = s.globals := by
  rw [invoke_quiescent prog s c sg hsig hlen hq]
  simp [invokeSpec, runCore, hc]

theorem runCore_terminate (cancelled : Bool) (fn : String) (np : Nat)
    (st : List V) (g : G) (hterm : ∀ f a g k m, (prog.body f a g).res ≠ .fail .terminate k m) :
    (runCore prog cancelled fn np st g).sig = some .terminate → cancelled = true := by
  -- the branches of `runCore`: cancelled, the body returns, the body fails
  fun_cases runCore prog cancelled fn np st g with
  | case1 hc => exact fun _ => hc
  | case2 => nofun
  | case3 _ _ _ i kind msg hres => rintro ⟨⟩; exact absurd hres (hterm _ _ _ _ _)

/-- `spawnCore` (`hostSpawn`), the core's signal (`coreFinish`), the host entering `Wait`
(`waitStart`) and `Wait`'s own steps are transitions of the protocol. -/
theorem syncStart_reach {cfg : Cfg} {p : PState} (sg : Sig) (k : Nat) (hr : Reach cfg p)
    (hf : p.lockFree = true) (ha : p.wait.active = false) (hsg : sg = some .terminate → p.cancelled = true) :
    Reach cfg (waitRun cfg k (syncStart cfg p sg)) :=
  waitRun_reach k _ <| .step _ _
    (.step _ _ (.step _ _ hr (.hostSpawn _ hf)) (.coreFinish p.spawn p.n sg (upd_same ..) hsg))
    (.waitStart _ ha)

/-- The protocol part of a host invocation is a run of the transition system.
(A callee cannot fabricate a termination interrupt: `hterm`.) -/
theorem invoke_reach {cfg : Cfg}
    (hterm : ∀ f a g k m, (prog.body f a g).res ≠ .fail .terminate k m)
    (hr : Reach cfg s.proto) (ha : s.proto.wait.active = false) :
    Reach cfg (invoke cfg prog s c).1.proto := by
  -- the branches of `invoke`: three refusals that leave the VM as it is, then the three answers of `Wait`
  fun_cases invoke cfg prog s c with
  | case1 | case2 | case3 => exact hr
  | case4 _ _ _ hf | case5 _ _ _ hf | case6 _ _ _ hf =>
    exact syncStart_reach _ _ hr (by simpa using hf) ha (runCore_terminate _ _ _ _ _ _ hterm)

theorem runHistory_invariant {cfg : Cfg} {P : VMState V G → Prop}
    {Q : Result V × String → Prop}
    (hstep : ∀ s c, P s → P (invoke cfg prog s c).1 ∧ Q (invoke cfg prog s c).2) :
    ∀ (cs : List (Call V)) (s : VMState V G), P s →
      P (runHistory cfg prog s cs).1 ∧ ∀ r ∈ (runHistory cfg prog s cs).2, Q r := by
  intro cs
  induction cs with
  | nil => exact fun _ h => ⟨h, nofun⟩
  | cons c cs ih =>
    intro s h
    obtain ⟨hp, hq⟩ := hstep s c h
    obtain ⟨hp', hq'⟩ := ih _ hp
    rw [runHistory]
    exact ⟨hp', List.forall_mem_cons.mpr ⟨hq, hq'⟩⟩

theorem history_quiescent (cs : List (Call V)) (hq : s.quiescent) :
    (runHistory Cfg.fixed prog s cs).1.quiescent ∧ ∀ r ∈ (runHistory Cfg.fixed prog s cs).2, r.1 ≠ .blocked :=
  runHistory_invariant prog (fun s c h => ⟨invoke_preserves_quiescent prog s c h, invoke_not_blocked prog s c h⟩) cs s hq

end Hms.Conc
