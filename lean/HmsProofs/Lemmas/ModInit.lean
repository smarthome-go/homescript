import Hms.Mod.Link
import HmsProofs.Lemmas.ModLink
/-! The `@init` functions: every module is initialised exactly once (and finding V31). -/
namespace Hms.Mod

theorem count_map_of_injective {α β} [BEq α] [LawfulBEq α] [BEq β] [LawfulBEq β] {f : α → β}
    (hf : ∀ a b, f a = f b → a = b) (l : List α) (x : α) : (l.map f).count (f x) = l.count x := by
  rw [List.count, List.countP_map, List.count]
  exact List.countP_congr fun a _ => by
    simp only [Function.comp_apply, beq_iff_eq]
    exact ⟨hf a x, congrArg f⟩

theorem nodup_names_of_perm {ms ord : Modules} (hd : namesDistinct ms = true) (ho : ord.Perm ms) :
    (ord.map (·.name)).Nodup := by
  unfold namesDistinct at hd
  exact (ho.map _).nodup_iff.2 (by simpa using hd)

theorem count_otherNames (ord : Modules) (entry : String) (hn : (ord.map (·.name)).Nodup)
    (m : Module) (hm : m ∈ ord) :
    ((ord.filter (·.name != entry)).map (·.name)).count m.name = if m.name = entry then 0 else 1 := by
  have e : (ord.filter (·.name != entry)).map (·.name) = (ord.map (·.name)).filter (· != entry) := by
    rw [List.filter_map]; rfl
  rw [e]
  split
  · next h =>
    exact List.count_eq_zero_of_not_mem fun hmem => by simpa [h] using (List.mem_filter.1 hmem).2
  · next h =>
    rw [List.count_filter (by simpa using h), hn.count, if_pos (List.mem_map_of_mem hm)]

/-- every `@init` ends with `Return` and is therefore never empty (finding V31) -/
theorem init_nonempty (ord : Modules) (entry : String) (m : Module) : (initOf ord entry m).getLast? = some .ret := by
  unfold initOf
  exact List.getLast?_concat

theorem initOf_entry (ord : Modules) (e : Module) :
    initOf ord e.name e = (globalsOf e).map (.setGlob e.name) ++
      ((ord.filter (·.name != e.name)).map (·.name)).map .callInit ++ [.ret] := by
  rw [initOf, if_pos (beq_self_eq_true _), List.map_map]
  rfl

set_option linter.unusedVariables false in -- `he` belongs to the statement of the property; the proof does not need it
/-- in the entry `@init` every other module's `@init` is called exactly once (`C15.init_calls_once`
adds that every `@init` ends with `Return`) -/
theorem init_calls_once (ms ord : Modules) (entry : String) (hd : namesDistinct ms = true) (ho : ord.Perm ms)
    (e : Module) (he : e ∈ ms) (hn : e.name = entry) (m : Module) (hm : m ∈ ms) :
    (initOf ord entry e).count (.callInit m.name) = if m.name = entry then 0 else 1 := by
  subst hn
  have h0 : ((globalsOf e).map (InitInstr.setGlob e.name)).count (.callInit m.name) = 0 :=
    List.count_eq_zero_of_not_mem fun hmem => by simp at hmem
  rw [initOf_entry, List.count_append, List.count_append, h0,
    count_map_of_injective (fun _ _ => InitInstr.callInit.inj),
    count_otherNames ord e.name (nodup_names_of_perm hd ho) m (ho.mem_iff.2 hm)]
  simp

/-- with fuel 1 an `@init` contributes exactly its own event (callees call nobody) -/
theorem initEvents_one (code : List (String × List InitInstr)) (o : String) :
    initEvents code 1 o = [.init o] := by
  simp only [initEvents, List.cons.injEq, true_and, List.flatMap_eq_nil_iff]
  intro i _
  cases i <;> rfl

theorem lookup_map_name (g : Module → List InitInstr) (entry : String) :
    ∀ (l : Modules) (e : Module), e ∈ l → e.name = entry →
      ∃ e' ∈ l, e'.name = entry ∧ (l.map fun m => (m.name, g m)).lookup entry = some (g e') := by
  intro l e he hn
  have hs : ((l.map fun m => (m.name, g m)).lookup entry).isSome :=
    List.lookup_isSome_iff.mpr ⟨_, List.mem_map_of_mem (f := fun m => (m.name, g m)) he, beq_iff_eq.mpr hn.symm⟩
  obtain ⟨c, hc⟩ := Option.isSome_iff_exists.mp hs
  obtain ⟨e', he', h⟩ := List.mem_map.mp (List.mem_of_lookup_eq_some hc)
  exact ⟨e', he', (Prod.mk.inj h).1, by rw [hc, ← (Prod.mk.inj h).2]⟩

theorem initEvents_entry (ord : Modules) (e : Module) (he : e ∈ ord) :
    initEvents (initCode ord e.name) 2 e.name =
      .init e.name :: ((ord.filter (·.name != e.name)).map (·.name)).map .init := by
  obtain ⟨e', _, hn', hl⟩ := lookup_map_name (initOf ord e.name) e.name ord e he rfl
  rw [initEvents, initCode, hl, Option.getD_some, ← hn', initOf_entry, hn']
  simp only [List.flatMap_append, List.flatMap_map, List.flatMap_cons, List.flatMap_nil,
    List.append_nil, initEvents_one]
  congr 1
  rw [List.flatMap_eq_nil_iff.mpr fun _ _ => rfl, List.nil_append, List.map_map]
  exact List.map_eq_flatMap.symm

/-- VM start-up: the entry module's `@init` runs every module's initialisation exactly once, then `main` runs. -/
theorem init_once_vm (ms ord : Modules) (entry : String) (hd : namesDistinct ms = true) (ho : ord.Perm ms)
    (he : (findMod ms entry).isSome = true) :
    (∀ m ∈ ms, (startup ord entry).count (.init m.name) = 1) ∧
    (startup ord entry).getLast? = some .main ∧ (startup ord entry).count .main = 1 := by
  obtain ⟨e, hfe⟩ := Option.isSome_iff_exists.1 he
  obtain ⟨hem, rfl⟩ := findMod_some hfe
  rw [startup, initEvents_entry ord e (ho.mem_iff.2 hem)]
  refine ⟨fun m hm => ?_, List.getLast?_concat, ?_⟩
  · rw [List.count_append, List.count_cons, count_map_of_injective (fun _ _ => Event.init.inj),
      count_otherNames ord e.name (nodup_names_of_perm hd ho) m (ho.mem_iff.2 hm)]
    by_cases h : m.name = e.name
    · simp [h]
    · simp [h, Ne.symm h]
  · rw [List.count_append, List.count_cons, List.count_eq_zero_of_not_mem fun hmem => by simp at hmem]
    rfl

/-- Finding V31: before the fix an imported module without globals has an empty `@init`: the VM panics the host. -/
theorem init_counterexample_V31 :
    ∃ ms : Modules, namesDistinct ms = true ∧ startupPanicsUnfixed ms "main" = true := by
  refine ⟨[{ name := "main", imports := [⟨"a", [⟨"f", .normal⟩]⟩], items := [⟨.fn, "main", false⟩],
             inits := [], bodies := [("main", [.call "f"])] },
           { name := "a", imports := [], items := [⟨.fn, "f", true⟩, ⟨.fn, "main", false⟩],
             inits := [], bodies := [("f", [.say "a.f" []]), ("main", [])] }], ?_, ?_⟩
  · decide +kernel
  · decide +kernel

end Hms.Mod
