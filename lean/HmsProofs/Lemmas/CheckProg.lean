import HmsProofs.Lemmas.CheckSound
import HmsProofs.Lemmas.CheckComplete
/-! Program level of C03: globals, function definitions, `main`, and the bridge between the
diagnostic list `check p` and the error list of `checkProg`. -/

namespace HmsProofs.Lemmas.Check
open Hms.Check

theorem dupFn_nil_iff (fs : List PFn) : ∀ seen, dupFnErrs seen fs = [] ↔ distinctFnNames seen fs = true := by
  induction fs with
  | nil => intro seen; simp [dupFnErrs, distinctFnNames]
  | cons f rest ih =>
    intro seen
    simp only [dupFnErrs, distinctFnNames, List.append_eq_nil_iff, Bool.and_eq_true, ih]
    cases hs : seen.contains f.name <;> simp

theorem fnClash_nil_iff (root : List (String × Ty)) (fs : List PFn) :
    fnClashErrs root fs = [] ↔ fnNamesFree root fs = true := by
  induction fs with
  | nil => simp [fnClashErrs, fnNamesFree]
  | cons f rest ih =>
    simp only [fnNamesFree, List.all_cons, Bool.and_eq_true] at ih ⊢
    simp only [fnClashErrs, List.append_eq_nil_iff, ih]
    cases hs : lookupTy f.name root <;> simp

theorem globalClash_nil_iff (fns : List (String × Ty)) (name : String) :
    globalClashErrs fns name = [] ↔ lookupTy name fns = none := by
  cases hs : lookupTy name fns <;> simp [globalClashErrs, hs]

theorem sound_globals (fns : List (String × Ty)) : (gs : List PGlobal) → ∀ vars, (checkGlobals fns vars gs).errs = [] →
    GlobalsOK fns vars gs (checkGlobals fns vars gs).vars (checkGlobals fns vars gs).tys
  | [], vars => by intro _; simp only [checkGlobals]; exact GlobalsOK.nil
  | g :: rest, vars => by
    intro h
    simp only [checkGlobals, letRule, Bool.true_and, List.append_eq_nil_iff] at h ⊢
    -- the error list is a left-nested `++`: the pattern follows the order in which `letRule` and `checkGlobals` append
    obtain ⟨⟨⟨⟨⟨he, hc⟩, hv⟩, hd⟩, hcl⟩, hr⟩ := h
    have hcst : (checkExpr { vars := vars, fns := fns, ret := none, inLoop := false } false g.e).cst = true := by
      simpa using hc
    have hlk : lookupTy g.name vars = none := by simpa using hd
    simp only [hcst, Bool.not_true, Bool.false_eq_true, ↓reduceIte] at hr ⊢
    have hty := sound_expr g.e _ false he
    rw [hcst] at hty
    exact GlobalsOK.cons hty (letVarTy_sound hv) hlk ((globalClash_nil_iff _ _).mp hcl) (sound_globals fns rest _ hr)

theorem complete_globals (fns : List (String × Ty)) : (gs : List PGlobal) → ∀ vars vars' l,
    GlobalsOK fns vars gs vars' l → checkGlobals fns vars gs = { errs := [], vars := vars', tys := l }
  | [], vars, vars', l => by intro h; cases h; simp only [checkGlobals]
  | g :: rest, vars, vars', l => by
    intro h
    cases h with | cons he hl hlk hcl hr =>
    have e := complete_expr he
    have er := complete_globals fns rest _ _ _ hr
    simp only [checkGlobals, letRule, e, (globalClash_nil_iff _ _).mpr hcl, letVarTy_complete hl, hlk, Bool.true_and, Bool.not_true, Bool.false_eq_true,
      ↓reduceIte, Option.isSome_none, List.append_nil, er, List.cons_append]

/-- `main` may declare no result: `null`, or a type that did not convert (`unknown`) -/
theorem main_ret_iff {k : Kind} : (k != Kind.unknown && k != Kind.null) = false ↔ k = Kind.null ∨ k = Kind.unknown := by
  cases k <;> simp

theorem sound_fn (fns globals : List (String × Ty)) (f : PFn) (h : (checkFn fns globals f).1 = []) :
    FnOK fns globals f (checkFn fns globals f).2 := by
  by_cases hm : f.name = "main"
  · simp only [checkFn, beq_iff_eq.mpr hm, ↓reduceIte, Bool.true_and, List.append_eq_nil_iff] at h ⊢
    obtain ⟨⟨⟨⟨⟨hrt, hp⟩, hret⟩, _⟩, hb⟩, htc⟩ := h
    split at hret
    · cases hret
    · rename_i hk
      simp only [hk] at htc ⊢
      exact FnOK.main hm (by simpa using hp) (Prod.ext hrt rfl) (main_ret_iff.mp (Bool.eq_false_iff.mpr hk))
        (sound_block f.body _ hb) (tcErr_nil_iff.mp htc)
  · simp only [checkFn, beq_eq_false_iff_ne.mpr hm, Bool.false_eq_true, ↓reduceIte, Bool.false_and, List.append_eq_nil_iff] at h ⊢
    obtain ⟨⟨⟨⟨⟨hrt, hdup⟩, _⟩, hps⟩, hb⟩, htc⟩ := h
    exact FnOK.normal hm (Prod.ext hps rfl) ((List.replicate_eq_nil_iff _).mp hdup) (Prod.ext hrt rfl) (sound_block f.body _ hb)
      (tcErr_nil_iff.mp htc)

theorem complete_fn (fns globals : List (String × Ty)) (f : PFn) (l : List Ty) (h : FnOK fns globals f l) :
    checkFn fns globals f = ([], l) := by
  cases h with
  | normal hm hps hdup hrt hb hc =>
    simp only [checkFn, beq_eq_false_iff_ne.mpr hm, Bool.false_eq_true, ↓reduceIte, Bool.false_and, hps, hdup, hrt,
      complete_block hb, tcErr_nil_iff.mpr hc, replicate_zero, List.append_nil]
  | main hm hps hrt hk hb hc =>
    have hb' := complete_block hb
    simp only [checkFn, beq_iff_eq.mpr hm, ↓reduceIte, Bool.true_and, hps, List.length_nil, Nat.lt_irrefl,
      Bool.false_eq_true, hrt, main_ret_iff.mpr hk, paramScope, List.nil_append, hb', tcErr_nil_iff.mpr hc, List.append_nil]

theorem sound_fns (fns globals : List (String × Ty)) : (fs : List PFn) → (checkFns fns globals fs).1 = [] →
    FnsOK fns globals fs (checkFns fns globals fs).2
  | [] => by intro _; simp only [checkFns]; exact FnsOK.nil
  | f :: rest => by
    intro h
    simp only [checkFns, List.append_eq_nil_iff] at h ⊢
    exact FnsOK.cons (sound_fn fns globals f h.1) (sound_fns fns globals rest h.2)

theorem complete_fns (fns globals : List (String × Ty)) : (fs : List PFn) → ∀ l, FnsOK fns globals fs l →
    checkFns fns globals fs = ([], l)
  | [], l => by intro h; cases h; simp only [checkFns]
  | f :: rest, l => by
    intro h
    cases h with | cons hf hr =>
    simp only [checkFns, complete_fn fns globals f _ hf, complete_fns fns globals rest _ hr, List.append_nil]

theorem sound_prog (p : PProg) (h : (checkProg true p).errs = []) : ProgOK p (checkProg true p).tys := by
  simp only [checkProg, List.append_eq_nil_iff, Bool.true_and] at h ⊢
  obtain ⟨⟨⟨⟨hd, hcl⟩, hg⟩, hf⟩, hm⟩ := h
  exact ProgOK.mk ((dupFn_nil_iff _ _).mp hd) ((fnClash_nil_iff _ _).mp hcl) (sound_globals _ _ _ hg) (sound_fns _ _ _ hf)
    (by simpa using hm)

theorem complete_prog (p : PProg) (tys : List Ty) (h : ProgOK p tys) :
    checkProg true p = { errs := [], tys := tys } := by
  cases h with | mk hd hcl hg hf hm =>
  simp only [checkProg, (dupFn_nil_iff _ _).mpr hd, (fnClash_nil_iff _ _).mpr hcl, complete_globals _ _ _ _ _ hg, complete_fns _ _ _ _ hf, hm,
    Bool.not_true, Bool.and_false, Bool.false_eq_true, ↓reduceIte, List.append_nil]

theorem check_all_notError_iff (needMain : Bool) (p : PProg) :
    (checkWith needMain p).all notError = true ↔ (checkProg needMain p).errs = [] := by
  simp only [checkWith, List.all_append, Bool.and_eq_true]
  cases (checkProg needMain p).errs <;> simp [warnings, notError, Diag.ofErr]

end HmsProofs.Lemmas.Check
