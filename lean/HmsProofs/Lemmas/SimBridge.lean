import HmsProofs.Lemmas.SimHComp3
import HmsProofs.Lemmas.SimFrag
/-! The compiler on the small fragments (`Frag.straight`, `Frag.pureE`, `Frag.okS`, parameterless functions of such
statements): instances of `compile_gexpr`, `compile_fstmt` and `compileFn_gfrag_run`, through the bridges
`straight_bridge`, `cgE_pure`, `pure_bridge`, `frag_bridge`. -/
namespace HmsProofs.Sim
open Hms.Core Hms.Core.Comp

theorem compileExpr_pure (fuel : Nat) (e : Expr) (cs : CState)
    (hs : Frag.pureE e = true) (hd : Frag.depthE e ≤ fuel)
    (hv : ∀ x ∈ Frag.varsE e, (ρOf cs x).isSome = true) :
    (compileExpr fuel e).run cs =
      ((), upd cs (cpE cs.currModule (ρOf cs) e cs.labelMangle).1 (cpE cs.currModule (ρOf cs) e cs.labelMangle).2) := by
  have h := ((compile_gexpr false fuel).1 e cs (okE_okGE _ e (pure_bridge.1 e hs).1)
    ((pure_bridge.1 e hs).2 ▸ hd)).toPure hs cs.loops [] (envOf cs)
    (by simp only [Frag.resolved, List.all_eq_true]; exact hv)
  rw [← upd_updS, updS_self] at h
  exact h

theorem straight_bridge (mod : String) (ρ : String → Option String) (e : Expr) (h : Frag.straight e = true) :
    Frag.pureE e = true ∧ Frag.depthE e = Frag.depth e ∧ Frag.varsE e = Frag.vars e ∧
      ∀ lm, cpE mod ρ e lm = (cstraightSp ρ e, lm) := by
  fun_induction Frag.straight e with
  | case1 | case2 | case3 | case4 | case5 => exact ⟨rfl, rfl, rfl, fun _ => rfl⟩
  | case6 sp e ih =>
    obtain ⟨h1, h2, h3, h4⟩ := ih h
    exact ⟨h1, by simp only [Frag.depthE, Frag.depth, h2], h3, fun lm => by rw [cpE, h4, cstraightSp]⟩
  | case7 => exact ⟨h, rfl, rfl, fun _ => rfl⟩
  | case8 sp ty op e ih =>
    obtain ⟨h1, h2, h3, h4⟩ := ih h
    exact ⟨h1, by simp only [Frag.depthE, Frag.depth, h2], h3, fun lm => by rw [cpE, h4, cstraightSp]⟩
  | case9 sp ty op l r ihl ihr =>
    simp only [Bool.and_eq_true, Bool.not_eq_eq_eq_not, Bool.not_true] at h
    obtain ⟨l1, l2, l3, l4⟩ := ihl h.1.2
    obtain ⟨r1, r2, r3, r4⟩ := ihr h.2
    exact ⟨by simp only [Frag.pureE, l1, r1, Bool.and_self], by simp only [Frag.depthE, Frag.depth, l2, r2],
      by simp only [Frag.varsE, Frag.vars, l3, r3],
      fun lm => by rw [cpE_infix _ _ _ _ _ _ _ _ h.1.1, l4, r4, cstraightSp]⟩
  | case10 => contradiction

theorem compileExpr_straight : ∀ (fuel : Nat) (e : Expr) (cs : CState),
    Frag.straight e = true → Frag.depth e ≤ fuel →
    (∀ x ∈ Frag.vars e, (ρOf cs x).isSome = true) →
    (compileExpr fuel e).run cs = ((), appendCode cs (cstraightSp (ρOf cs) e)) := by
  intro fuel e cs hs hd hv
  obtain ⟨h1, h2, h3, h4⟩ := straight_bridge cs.currModule (ρOf cs) e hs
  rw [compileExpr_pure fuel e cs h1 (h2 ▸ hd) (h3 ▸ hv), h4]
  rfl

def CompS (fuel : Nat) (st : Stmt) (cs : CState) : Prop :=
  ∀ (L : List (String × String × Nat)) (c0 : SCode) (env : CEnv), Frag.wsS cs.currModule st env = true →
    (compileStmt fuel st).run (updS cs L c0 env) =
      ((), updS cs L (c0 ++ (cS cs.currModule st env).1) (cS cs.currModule st env).2)

def CompSs (fuel : Nat) (ss : List Stmt) (cs : CState) : Prop :=
  ∀ (L : List (String × String × Nat)) (c0 : SCode) (env : CEnv), Frag.wsSs cs.currModule ss env = true →
    (compileStmts fuel ss).run (updS cs L c0 env) =
      ((), updS cs L (c0 ++ (cSs cs.currModule ss env).1) (cSs cs.currModule ss env).2)

def CompBS (fuel : Nat) (b : Block) (cs : CState) : Prop :=
  ∀ (L : List (String × String × Nat)) (c0 : SCode) (env : CEnv), Frag.wsB cs.currModule b env = true →
    (compileBlock fuel b true).run (updS cs L c0 env) =
      ((), updS cs L (c0 ++ (cB cs.currModule b env).1) (cB cs.currModule b env).2)

theorem compile_stmt : ∀ (fuel : Nat),
    (∀ (st : Stmt) (cs : CState), Frag.okS st = true → Frag.depthS st ≤ fuel → CompS fuel st cs) ∧
    (∀ (ss : List Stmt) (cs : CState), Frag.okSs ss = true → Frag.depthSs ss ≤ fuel → CompSs fuel ss cs) ∧
    (∀ (b : Block) (cs : CState), Frag.okB b = true → Frag.depthBS b ≤ fuel → CompBS fuel b cs) := by
  intro fuel
  refine ⟨fun st cs hok hd L c0 env hws => ?_, fun ss cs hok hd L c0 env hws => ?_, fun b cs hok hd L c0 env hws => ?_⟩
  · obtain ⟨h, d, e⟩ := (frag_bridge cs.currModule cs.currFn (φOf cs)).1 st hok
    obtain ⟨e1, e2⟩ := e (loopsOf L) env
    dsimp only at e1 e2
    rw [← e1]
    exact compile_fstmt.1 false false false st (h _ _ _) fuel cs L nofun nofun (d ▸ hd) c0 env (e2 ▸ hws)
  · obtain ⟨h, d, e⟩ := (frag_bridge cs.currModule cs.currFn (φOf cs)).2.2 ss hok
    obtain ⟨e1, e2⟩ := e (loopsOf L) env
    dsimp only at e1 e2
    rw [← e1]
    exact compile_fstmt.2.1 false false false ss (h _ _ _) fuel cs L nofun nofun (d ▸ hd) c0 env (e2 ▸ hws)
  · obtain ⟨h, d, e⟩ := (frag_bridge cs.currModule cs.currFn (φOf cs)).2.1 b hok
    obtain ⟨e1, e2⟩ := e (loopsOf L) env
    dsimp only at e1 e2
    rw [← e1]
    exact (compile_fstmt.2.2.2 false false false b (h _ _ _)).1 fuel cs L nofun nofun (d ▸ hd) c0 env (e2 ▸ hws)

/-! The function level: the states of `SimFn.lean` are those of `SimHComp3.lean` at the code and environment `cSs`
computes. -/

theorem fnFinal_eq_gFinal (cs : CState) (fd : FnDef) (stmts : List Stmt) :
    fnFinal cs fd stmts = gFinal cs fd (cSs cs.currModule stmts (fnEnv cs fd.name)).1
      (cSs cs.currModule stmts (fnEnv cs fd.name)).2 (freshLabel cs.currModule cs.labelMangle "cleanup").1 := rfl

theorem fnFinal_lookup (cs : CState) (fd : FnDef) (stmts : List Stmt) :
    (fnFinal cs fd stmts).fns.lookup (cs.currModule, fd.name) =
      some { name := mangleFnName cs.currModule fd.name, code := fnCode cs fd stmts,
             cntVars := (cSs cs.currModule stmts (fnEnv cs fd.name)).2.nv } := by
  rw [fnFinal_eq_gFinal, gFinal_lookup]
  simp only [fnCode, List.append_assoc]

theorem fnFinal_lookup_other (cs : CState) (fd : FnDef) (stmts : List Stmt) (k : String × String)
    (hk : k ≠ (cs.currModule, fd.name)) : (fnFinal cs fd stmts).fns.lookup k = cs.fns.lookup k :=
  gFinal_lookup_other cs fd _ _ _ k hk

theorem compileFn_frag_run (f2 : Nat) (fd : FnDef) (cs : CState) (bsp : Span) (bty : Ty) (stmts : List Stmt)
    (hbody : fd.body = .mk bsp bty stmts none) (hparams : fd.params = []) (hann : fd.hasAnnotation = false)
    (hs : Frag.okSs stmts = true) (hd : Frag.depthSs stmts ≤ f2)
    (hws : Frag.wsSs cs.currModule stmts (fnEnv cs fd.name) = true) :
    (compileFn (f2 + 2) fd).run cs = ((), fnFinal cs fd stmts) := by
  obtain ⟨h, d, e⟩ := (frag_bridge cs.currModule fd.name (φOf (fnBase cs fd))).2.2 stmts hs
  have hB : (partsOf cs fd stmts none).envB = fnEnv cs fd.name := by
    simp only [partsOf, fnParts, hparams, cgParams]; rfl
  have hP : (partsOf cs fd stmts none).pcode = [] := by simp only [partsOf, fnParts, hparams, cgParams]
  have hS : ((partsOf cs fd stmts none).scode, (partsOf cs fd stmts none).envE) =
      cSs cs.currModule stmts (fnEnv cs fd.name) := by
    rw [← (e [] (fnEnv cs fd.name)).1, ← hB]; rfl
  have := compileFn_gfrag_run (fr := false) f2 fd cs bsp bty stmts none hbody (by simp [hparams]) hann (h _ _ _)
    nofun (d ▸ hd) nofun (by rw [hB]; exact ((e [] _).2.trans hws)) nofun
  rw [this, fnFinal_eq_gFinal, ← hS, hP]
  have hC : (partsOf cs fd stmts none).cleanup = (freshLabel cs.currModule cs.labelMangle "cleanup").1 := by
    simp only [partsOf, fnParts, hparams, cgParams]
  have hE : (partsOf cs fd stmts none).ecode = [] := rfl
  rw [hC, hE, List.nil_append, List.append_nil]

end HmsProofs.Sim
