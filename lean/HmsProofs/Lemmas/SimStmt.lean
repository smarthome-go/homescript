import HmsProofs.Lemmas.SimFresh
/-! Statement fragment `Frag.okS`: `let x = e;`, `x = e;`, `x op= e;` (local `x`, pure `e`), `if c { … }` with or without
`else { … }` as a statement, and `while c { … }` over such statements. The emitted code is the pure function `cS` of
the statement and of the compile-time environment `CEnv` (scopes, variable and label counters). -/
namespace HmsProofs.Sim
open Hms.Core Hms.Core.Comp

/-- The part of the compiler state that statements change, besides the emitted code. -/
structure CEnv where
  scopes : List (List (String × String))
  vm : List (String × Nat)
  lm : LM
  /-- increment of the current function's `cntVars` -/
  nv : Nat

/-- `getMangled` on a scope stack. -/
def ρS (scopes : List (List (String × String))) (x : String) : Option String :=
  scopes.findSome? fun sc => sc.lookup x

/-- `mangleVar` as a pure function. -/
def freshVar (mod : String) (env : CEnv) (ident : String) : String × CEnv :=
  (mangleName mod ident ((env.vm.lookup ident).getD 0),
   { env with
     vm := if (env.vm.lookup ident).isSome then env.vm.map fun (k, n) => if k == ident then (k, n + 1) else (k, n)
           else env.vm ++ [(ident, 1)],
     scopes := match env.scopes with
       | sc :: rest => ((ident, mangleName mod ident ((env.vm.lookup ident).getD 0)) :: sc.filter (·.1 != ident)) :: rest
       | [] => [[(ident, mangleName mod ident ((env.vm.lookup ident).getD 0))]],
     nv := env.nv + 1 })

abbrev CScopes := List (List (String × String))

theorem cnt_freshVar (mod : String) (env : CEnv) (x k : String) :
    cnt (freshVar mod env x).2.vm k = if k = x then cnt env.vm x + 1 else cnt env.vm k :=
  cnt_fresh "" env.vm x k

theorem freshVar_vm_mono (mod : String) (env : CEnv) (x k : String) : cnt env.vm k ≤ cnt (freshVar mod env x).2.vm k := by
  rw [cnt_freshVar]
  split <;> (try subst_vars) <;> omega

mutual
def cS (mod : String) : Stmt → CEnv → SCode × CEnv
  | .letS sp name _ false _ e, env =>
    let ce := cpE mod (ρS env.scopes) e env.lm
    let fv := freshVar mod { env with lm := ce.2 } name
    (ce.1 ++ [(.setVar fv.1, sp)], { fv.2 with nv := fv.2.nv + 1 })
  | .exprS _ (.assign asp none (.ident _ _ name false _ false) r), env =>
    let cr := cpE mod (ρS env.scopes) r env.lm
    (cr.1 ++ [(.setVar ((ρS env.scopes name).getD name), asp)], { env with lm := cr.2 })
  | .exprS _ (.assign asp (some op) (.ident _ _ name false _ false) r), env =>
    let m := (ρS env.scopes name).getD name
    let cr := cpE mod (ρS env.scopes) r env.lm
    ([(.getVar m, asp)] ++ cr.1 ++ (arithI op).map (·, asp) ++ [(.setVar m, asp)], { env with lm := cr.2 })
  | .exprS _ (.ifE isp _ c t (some eb)), env =>
    let cc := cpE mod (ρS env.scopes) c env.lm
    let after := freshLabel mod cc.2 "if_after"
    let els := freshLabel mod after.2 "else"
    let ct := cB mod t { env with lm := els.2 }
    let ce := cB mod eb ct.2
    (cc.1 ++ [(.jumpIfFalse els.1, isp)] ++ ct.1 ++ [(.jump after.1, isp), (.label els.1, isp)] ++ ce.1 ++
      [(.label after.1, isp)], ce.2)
  | .exprS _ (.ifE isp _ c t none), env =>
    let cc := cpE mod (ρS env.scopes) c env.lm
    let after := freshLabel mod cc.2 "if_after"
    let els := freshLabel mod after.2 "else"
    let ct := cB mod t { env with lm := els.2 }
    (cc.1 ++ [(.jumpIfFalse after.1, isp)] ++ ct.1 ++ [(.jump after.1, isp), (.label after.1, isp)], ct.2)
  | .whileS sp c body, env =>
    let head := freshLabel mod env.lm "loop_head"
    let after := freshLabel mod head.2 "loop_end"
    let cc := cpE mod (ρS env.scopes) c after.2
    let cb := cB mod body { env with lm := cc.2 }
    ([(.label head.1, sp)] ++ cc.1 ++ [(.jumpIfFalse after.1, sp)] ++ cb.1 ++
      [(.jump head.1, sp), (.label after.1, sp)], cb.2)
  | _, env => ([], env)
def cSs (mod : String) : List Stmt → CEnv → SCode × CEnv
  | [], env => ([], env)
  | s :: ss, env => ((cS mod s env).1 ++ (cSs mod ss (cS mod s env).2).1, (cSs mod ss (cS mod s env).2).2)
def cB (mod : String) : Block → CEnv → SCode × CEnv
  | .mk _ _ stmts none, env =>
    ((cSs mod stmts { env with scopes := [] :: env.scopes }).1,
     { (cSs mod stmts { env with scopes := [] :: env.scopes }).2 with
       scopes := (cSs mod stmts { env with scopes := [] :: env.scopes }).2.scopes.tail })
  | _, env => ([], env)
end

namespace Frag
mutual
/-- An assigned identifier must be a plain local (`isGlobal = false` and `isSingleton = false`): globals and singletons
are compiled to `GetGlobImm`/`SetGlobImm`. -/
def okS : Stmt → Bool
  | .letS _ _ _ needsCast _ e => !needsCast && pureE e
  | .exprS _ (.assign _ none (.ident _ _ _ false _ false) r) => pureE r
  | .exprS _ (.assign _ (some op) (.ident _ _ _ false _ false) r) => !isLogical op && pureE r
  | .exprS _ (.ifE _ ty c t (some eb)) => ty.isNull && pureE c && okB t && okB eb
  | .exprS _ (.ifE _ ty c t none) => ty.isNull && pureE c && okB t
  | .whileS _ c body => pureE c && okB body
  | _ => false
def okSs : List Stmt → Bool
  | [] => true
  | s :: ss => okS s && okSs ss
def okB : Block → Bool
  | .mk _ _ stmts none => okSs stmts
  | _ => false
end

mutual
def depthS : Stmt → Nat
  | .letS _ _ _ _ _ e => depthE e + 2
  | .exprS _ (.assign _ _ _ r) => depthE r + 2
  | .exprS _ (.ifE _ _ c t (some eb)) => max (depthE c) (max (depthBS t) (depthBS eb)) + 2
  | .exprS _ (.ifE _ _ c t none) => max (depthE c) (depthBS t) + 2
  | .whileS _ c body => max (depthE c) (depthBS body) + 1
  | _ => 1
def depthSs : List Stmt → Nat
  | [] => 1
  | s :: ss => max (depthS s) (depthSs ss) + 1
def depthBS : Block → Nat
  | .mk _ _ stmts _ => depthSs stmts + 1
end

def resolved (scopes : List (List (String × String))) (xs : List String) : Bool :=
  xs.all fun x => (ρS scopes x).isSome

mutual
/-- Every variable a statement reads is resolved by the scopes at that point, the environment being threaded through the
preceding statements the way `cS` threads it. -/
def wsS (mod : String) : Stmt → CEnv → Bool
  | .letS _ _ _ _ _ e, env => resolved env.scopes (varsE e)
  | .exprS _ (.assign _ _ (.ident _ _ name _ _ _) r), env => resolved env.scopes (name :: varsE r)
  | .exprS _ (.ifE _ _ c t (some eb)), env =>
    resolved env.scopes (varsE c) &&
      wsB mod t { env with lm := (freshLabel mod (freshLabel mod (cpE mod (ρS env.scopes) c env.lm).2 "if_after").2 "else").2 } &&
      wsB mod eb (cB mod t { env with lm :=
        (freshLabel mod (freshLabel mod (cpE mod (ρS env.scopes) c env.lm).2 "if_after").2 "else").2 }).2
  | .exprS _ (.ifE _ _ c t none), env =>
    resolved env.scopes (varsE c) &&
      wsB mod t { env with lm := (freshLabel mod (freshLabel mod (cpE mod (ρS env.scopes) c env.lm).2 "if_after").2 "else").2 }
  | .whileS _ c body, env =>
    resolved env.scopes (varsE c) &&
      wsB mod body { env with lm := (cpE mod (ρS env.scopes) c
        (freshLabel mod (freshLabel mod env.lm "loop_head").2 "loop_end").2).2 }
  | _, _ => true
def wsSs (mod : String) : List Stmt → CEnv → Bool
  | [], _ => true
  | s :: ss, env => wsS mod s env && wsSs mod ss (cS mod s env).2
def wsB (mod : String) : Block → CEnv → Bool
  | .mk _ _ stmts _, env => wsSs mod stmts { env with scopes := [] :: env.scopes }
end
mutual
def identsS : Stmt → List String
  | .letS _ name _ _ _ e => name :: varsE e
  | .exprS _ (.assign _ _ (.ident _ _ name _ _ _) r) => name :: varsE r
  | .exprS _ (.ifE _ _ c t (some eb)) => varsE c ++ (identsB t ++ identsB eb)
  | .exprS _ (.ifE _ _ c t none) => varsE c ++ identsB t
  | .whileS _ c body => varsE c ++ identsB body
  | _ => []
def identsSs : List Stmt → List String
  | [] => []
  | s :: ss => identsS s ++ identsSs ss
def identsB : Block → List String
  | .mk _ _ stmts _ => identsSs stmts
end

end Frag

/-! A compiler state is in normal position when it is written `updS cs L c0 env`: a base state `cs`,
the loop stack, the code emitted so far and the environment. Every primitive of the compiler monad
maps such a state to one of the same shape. -/

def updS (cs : CState) (loops : List (String × String × Nat)) (code : SCode) (env : CEnv) : CState :=
  { cs with
    fns := cs.fns.map fun p =>
      if p.1 == (cs.currModule, cs.currFn) then
        (p.1, { p.2 with code := p.2.code ++ code, cntVars := p.2.cntVars + env.nv })
      else p,
    loops := loops, varMangle := env.vm, labelMangle := env.lm, scopes := env.scopes }

def envOf (cs : CState) : CEnv := ⟨cs.scopes, cs.varMangle, cs.labelMangle, 0⟩

theorem updS_self (cs : CState) : updS cs cs.loops [] (envOf cs) = cs := by
  unfold updS envOf
  have : (cs.fns.map fun p =>
      if p.1 == (cs.currModule, cs.currFn) then
        (p.1, { p.2 with code := p.2.code ++ [], cntVars := p.2.cntVars + 0 })
      else p) = cs.fns := by
    conv => rhs; rw [← List.map_id cs.fns]
    apply List.map_congr_left
    intro ⟨k, fn⟩ _
    simp
  simp only [this]

@[simp] theorem ρOf_updS (cs L c0 env) : ρOf (updS cs L c0 env) = ρS env.scopes := rfl
@[simp] theorem updS_currModule (cs L c0 env) : (updS cs L c0 env).currModule = cs.currModule := rfl
@[simp] theorem updS_labelMangle (cs L c0 env) : (updS cs L c0 env).labelMangle = env.lm := rfl

theorem upd_updS (cs : CState) (L) (c0 code : SCode) (env : CEnv) (lm' : LM) :
    upd (updS cs L c0 env) code lm' = updS cs L (c0 ++ code) { env with lm := lm' } := by
  unfold upd appendCode updS
  simp only [List.map_map]
  congr 1
  apply List.map_congr_left
  intro ⟨k, fn⟩ _
  simp only [Function.comp]
  split <;> simp_all

theorem emit_run_S (i : SInstr) (sp : Span) (cs : CState) (L) (c0 : SCode) (env : CEnv) :
    (Comp.emit i sp).run (updS cs L c0 env) = ((), updS cs L (c0 ++ [(i, sp)]) env) := by
  rw [emit_run, appendCode_eq_upd, upd_updS]; rfl

theorem mangleLabel_run_S (ident : String) (cs : CState) (L) (c0 : SCode) (env : CEnv) :
    (mangleLabel ident).run (updS cs L c0 env) =
      ((freshLabel cs.currModule env.lm ident).1,
       updS cs L c0 { env with lm := (freshLabel cs.currModule env.lm ident).2 }) := by
  rw [mangleLabel_run, upd_updS, List.append_nil]; rfl

theorem arith_run_S (op : InfixOp) (sp : Span) (cs : CState) (L) (c0 : SCode) (env : CEnv)
    (h : Frag.isLogical op = false) :
    (arith op sp).run (updS cs L c0 env) = ((), updS cs L (c0 ++ (arithI op).map (·, sp)) env) := by
  rw [arith_run _ _ _ h, appendCode_eq_upd, upd_updS]; rfl

theorem getMangled_run_S (x : String) (cs : CState) (L) (c0 : SCode) (env : CEnv) :
    (getMangled x).run (updS cs L c0 env) = (ρS env.scopes x, updS cs L c0 env) := rfl

theorem bumpVars_run_S (cs : CState) (L) (c0 : SCode) (env : CEnv) :
    bumpVars.run (updS cs L c0 env) = ((), updS cs L c0 { env with nv := env.nv + 1 }) := by
  show ((), _) = ((), _)
  congr 1
  unfold updS
  simp only [List.map_map]
  congr 1
  apply List.map_congr_left
  intro ⟨k, fn⟩ _
  simp only [Function.comp]
  split <;> simp_all [Nat.add_assoc]

theorem mangleVar_run_S (ident : String) (cs : CState) (L) (c0 : SCode) (env : CEnv) :
    (mangleVar ident).run (updS cs L c0 env) =
      ((freshVar cs.currModule env ident).1, updS cs L c0 (freshVar cs.currModule env ident).2) := by
  unfold mangleVar
  refine bind_run (bumpVars_run_S cs L c0 env) ?_
  cases hsc : env.scopes with
  | nil => simp only [StateT.run_bind]; unfold freshVar; simp only [hsc]; rfl
  | cons sc rest => simp only [StateT.run_bind]; unfold freshVar; simp only [hsc]; rfl

theorem resolved_cons {scopes x xs} (h : Frag.resolved scopes (x :: xs) = true) :
    (ρS scopes x).isSome = true ∧ Frag.resolved scopes xs = true := by
  simpa [Frag.resolved] using h

theorem okS_exprS_inv (sp : Span) (e : Expr) (h : Frag.okS (.exprS sp e) = true) :
    (∃ asp op isp ity name isFn r,
      e = .assign asp op (.ident isp ity name false isFn false) r ∧ Frag.pureE r = true ∧
      (∀ o, op = some o → Frag.isLogical o = false)) ∨
    (∃ isp ty c t eb, e = .ifE isp ty c t (some eb) ∧ ty.isNull = true ∧ Frag.pureE c = true ∧
      Frag.okB t = true ∧ Frag.okB eb = true) ∨
    (∃ isp ty c t, e = .ifE isp ty c t none ∧ ty.isNull = true ∧ Frag.pureE c = true ∧ Frag.okB t = true) := by
  unfold Frag.okS at h
  split at h
  · rename_i heq; cases heq
  · rename_i heq; cases heq
    exact .inl ⟨_, none, _, _, _, _, _, rfl, h, by simp⟩
  · rename_i heq; cases heq
    simp only [Bool.and_eq_true, Bool.not_eq_eq_eq_not, Bool.not_true] at h
    exact .inl ⟨_, some _, _, _, _, _, _, rfl, h.2, by simp [h.1]⟩
  · rename_i heq; cases heq
    simp only [Bool.and_eq_true] at h
    exact .inr (.inl ⟨_, _, _, _, _, rfl, h.1.1.1, h.1.1.2, h.1.2, h.2⟩)
  · rename_i heq; cases heq
    simp only [Bool.and_eq_true] at h
    exact .inr (.inr ⟨_, _, _, _, rfl, h.1.1, h.1.2, h.2⟩)
  · rename_i heq; cases heq
  · cases h

end HmsProofs.Sim
