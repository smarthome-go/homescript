import HmsProofs.Lemmas.CheckProg
/-! Around the rule lemmas of `HmsProofs.C03`: further places where the checker emits an error, how an error travels
from a statement of a function body, the body of a function literal or a global to the program (there is no lemma from
a sub-expression to the expression around it), and, by completeness, that what the checker reports on has no typing
derivation. Most are used by nothing else: like the theorems of `HmsProofs.C03` they are stated for their own sake. -/
namespace HmsProofs.Lemmas.Check
open Hms.Check

theorem wrap_mem {s : Bool} {r : Res} {e : Err} (h : e ∈ r.errs) : e ∈ (wrap s r).errs := by
  unfold wrap; split
  · exact h
  · simp [h]

theorem expr_not_derivable {Γ : Ctx} {s : Bool} {e : PExpr} (h : (checkExpr Γ s e).errs ≠ []) :
    ¬ ∃ t x c l, HasType Γ s e t x c l := by
  intro ⟨t, x, c, l, hd⟩
  rw [complete_expr hd] at h
  exact h rfl

theorem stmt_not_derivable {Γ : Ctx} {st : PStmt} (h : (checkStmt Γ st).errs ≠ []) :
    ¬ ∃ t x l v, StmtOK Γ st t x l v := by
  intro ⟨t, x, l, v, hd⟩
  rw [complete_stmt hd] at h
  exact h rfl

theorem prog_not_welltyped {p : PProg} {e : Err} (h : e ∈ (checkProg true p).errs) : ¬ WellTyped p := by
  intro ⟨tys, hd⟩
  rw [complete_prog p tys hd] at h
  cases h

theorem prefix_operand_mismatch (Γ : Ctx) (s : Bool) (op : PrefixOp) (e : PExpr)
    (h : prefixResult op (checkExpr Γ true e).ty = none) :
    ⟨.prefixOperand, .operandMismatch⟩ ∈ (checkExpr Γ s (.pre op e)).errs := by
  simp only [checkExpr, h]; exact wrap_mem (by simp)

theorem call_args_errors (Γ : Ctx) (s : Bool) (base : PExpr) (args : PExprs) (ps : List (String × Ty)) (ret : Ty) (e : Err)
    (hc : callee (checkExpr Γ true base).ty = .fn ps ret) (hlen : args.length = ps.length)
    (h : e ∈ (checkArgs Γ (ps.map (·.2)) none args).errs) :
    e ∈ (checkExpr Γ s (.call base args)).errs := by
  simp only [checkExpr, hc, hlen, bne_self_eq_false, Bool.false_eq_true, ↓reduceIte]
  exact wrap_mem (by simp [h])

theorem not_callable (Γ : Ctx) (s : Bool) (base : PExpr) (args : PExprs)
    (hc : callee (checkExpr Γ true base).ty = .bad) :
    ⟨.notCallable, .notCallable⟩ ∈ (checkExpr Γ s (.call base args)).errs := by
  simp only [checkExpr, hc]; exact wrap_mem (by simp)

theorem anyOK_null (s : Bool) : anyOK s .null = true := by cases s <;> rfl

theorem wrap_ty_null {s : Bool} {r : Res} (h : r.ty = .null) : (wrap s r).ty = .null := by
  rw [wrap_of_ok (by rw [h]; exact anyOK_null s)]; exact h

theorem callee_bad_ne {t : Ty} {ps ret} (h : callee t = .fn ps ret) : t = .fn ps ret := by
  cases t <;> simp [callee] at h ⊢
  exact h

theorem callee_fn_kind {t : Ty} {ps ret} (h : callee t = .fn ps ret) : t.kind = .fn :=
  callee_bad_ne h ▸ rfl

theorem callee_var_kind {t : Ty} {ps rest ret} (h : callee t = .var ps rest ret) : t.kind = .fn := by
  cases t <;> simp [callee] at h ⊢ <;> rfl

theorem spawn_base_ty (Γ : Ctx) (name : String) (t : Ty) (hl : lookupTy name Γ.vars = some t) (hk : t.kind = .fn) :
    (wrap true (identRes Γ name)).ty = t := by
  have hlk : Γ.lookup name = some t := by simp [Ctx.lookup, hl]
  simp only [identRes, hlk]; rw [wrap_of_ok (by simp [anyOK, hk])]

/-- `spawn` of a variable that holds a function value (a function or a variadic builtin): whatever else goes wrong
the target is reported -/
theorem spawn_of_fn_variable {Γ : Ctx} {s : Bool} {name : String} {args : PExprs} {t : Ty}
    (hl : lookupTy name Γ.vars = some t) (hk : t.kind = .fn) :
    ⟨.spawnNonFunction, .spawnNonFunction⟩ ∈ (checkExpr Γ s (.spawn name args)).errs := by
  simp only [checkExpr, spawn_base_ty Γ name t hl hk]
  cases t <;> first
    | (simp only [callee]; split <;> exact wrap_mem (by simp [spawnTargetErr, hl]))
    | cases hk

theorem spawn_args_errors (Γ : Ctx) (s : Bool) (name : String) (args : PExprs) (ps : List (String × Ty)) (ret : Ty) (e : Err)
    (hc : callee (wrap true (identRes Γ name)).ty = .fn ps ret) (hlen : args.length = ps.length)
    (h : e ∈ (checkSpawnArgs Γ (ps.map (·.2)) none args).errs) :
    e ∈ (checkExpr Γ s (.spawn name args)).errs := by
  simp only [checkExpr, hc, hlen, bne_self_eq_false, Bool.false_eq_true, ↓reduceIte]
  exact wrap_mem (by simp [h])

/-- a `spawn` has no value, whatever is spawned and whatever goes wrong -/
theorem spawn_ty_null (Γ : Ctx) (s : Bool) (name : String) (args : PExprs) :
    (checkExpr Γ s (.spawn name args)).ty = .null := by
  simp only [checkExpr]
  split
  · split <;> exact wrap_ty_null rfl
  · split <;> exact wrap_ty_null rfl
  · exact wrap_ty_null rfl
  · exact wrap_ty_null rfl

/-- … so it has no member either: thread handles (`.join`) do not exist -/
theorem spawn_no_member (Γ : Ctx) (s : Bool) (name : String) (args : PExprs) (m : String) :
    ⟨.unknownMember, .unknownMember⟩ ∈ (checkExpr Γ s (.member (.spawn name args) m .dot)).errs := by
  have hty := spawn_ty_null Γ false name args
  have hr : memberRule (checkExpr Γ false (.spawn name args)).ty m .dot = none := by rw [hty]; rfl
  have hk : ((checkExpr Γ false (.spawn name args)).ty.kind == Kind.any) = false := by rw [hty]; rfl
  simp only [checkExpr] at hr hk ⊢
  simp only [hr, hk, Bool.false_eq_true, ↓reduceIte]; exact wrap_mem (by simp)

theorem return_none_mismatch (Γ : Ctx) (rt : Ty) (m : Msg) (hr : Γ.ret = some rt) (h : typeCheck true .null rt = some m) :
    ⟨m, .returnMismatch⟩ ∈ (checkStmt Γ .retNone).errs := by
  simp [checkStmt, hr, tcErr, h]

theorem condition_not_bool_if_then (Γ : Ctx) (s : Bool) (c : PExpr) (t : PBlock) (m : Msg)
    (h : typeCheck true (checkExpr Γ true c).ty .bool = some m) :
    ⟨m, .conditionNotBool⟩ ∈ (checkExpr Γ s (.ifThen c t)).errs := by
  simp only [checkExpr]
  split <;> exact wrap_mem (by simp [tcErr, h])

theorem try_branch_mismatch (Γ : Ctx) (s : Bool) (t : PBlock) (name : String) (c : PBlock) (m : Msg)
    (h : typeCheck true (checkBlock (Γ.bind name errorTy) c).ty (checkBlock Γ t).ty = some m) :
    ⟨m, .branchMismatch⟩ ∈ (checkExpr Γ s (.tryE t name c)).errs := by
  simp only [checkExpr]; exact wrap_mem (by simp [tcErr, h])

/-- a function literal starts a fresh loop context and its own return type: errors of its
body (e.g. `break` directly in it) reach the literal whatever loop encloses it -/
theorem closure_body_errors (Γ : Ctx) (s : Bool) (params : List (String × PTy)) (ret : PTy) (body : PBlock) (e : Err)
    (h : e ∈ (checkBlock { vars := paramScope [] (convertParamList params).2 ++ Γ.vars, fns := Γ.fns,
                           ret := some (convertType true ret).2, inLoop := false } body).errs) :
    e ∈ (checkExpr Γ s (.lambda params ret body)).errs := by
  simp only [checkExpr]; exact wrap_mem (by simp [h])

theorem unknown_type (name : String) (h : primTy name = none) :
    ⟨.unknownType, .unknownType⟩ ∈ (convertType true (.name name)).1 := by
  simp [convertType, h]

theorem unknown_type_in_cast (Γ : Ctx) (s : Bool) (e : PExpr) (name : String) (h : primTy name = none) :
    ⟨.unknownType, .unknownType⟩ ∈ (checkExpr Γ s (.cast e (.name name))).errs := by
  have := unknown_type name h
  simp only [checkExpr]; exact wrap_mem (by simp [this])

theorem dupFnErrs_mono (f : PFn) (rest : List PFn) (seen : List String) (e : Err) (h : e ∈ dupFnErrs (f.name :: seen) rest) :
    e ∈ dupFnErrs seen (f :: rest) := by
  simp [dupFnErrs, h]

theorem fn_name_clash {root : List (String × Ty)} {fs : List PFn} {f : PFn} (hf : f ∈ fs)
    (h : (lookupTy f.name root).isSome = true) :
    ⟨.nameClash, .duplicateDefinition⟩ ∈ fnClashErrs root fs := by
  induction fs with
  | nil => cases hf
  | cons g rest ih =>
    simp only [fnClashErrs, List.mem_append]
    cases hf with
    | head => left; simp [h]
    | tail _ hr => exact Or.inr (ih hr)

theorem fn_name_clash_prog (p : PProg) (needMain : Bool) (f : PFn) (hf : f ∈ p.fns)
    (h : (lookupTy f.name hostScope).isSome = true) :
    ⟨.nameClash, .duplicateDefinition⟩ ∈ (checkProg needMain p).errs := by
  simp [checkProg, fn_name_clash hf h]

theorem checkGlobals_mono (fns vars : List (String × Ty)) (g : PGlobal) (rest : List PGlobal) (e : Err)
    (h : e ∈ (checkGlobals fns (letRule { vars := vars, fns := fns, ret := none, inLoop := false } g.name g.ann
      (checkExpr { vars := vars, fns := fns, ret := none, inLoop := false } false g.e) true).vars rest).errs) :
    e ∈ (checkGlobals fns vars (g :: rest)).errs := by
  simp [checkGlobals, h]

theorem global_name_clash {fns : List (String × Ty)} {gs : List PGlobal} {g : PGlobal} (hg : g ∈ gs)
    (h : (lookupTy g.name fns).isSome = true) :
    ∀ vars, ⟨.nameClash, .duplicateDefinition⟩ ∈ (checkGlobals fns vars gs).errs := by
  induction gs with
  | nil => cases hg
  | cons g' rest ih =>
    intro vars
    cases hg with
    | head => simp [checkGlobals, globalClashErrs, h]
    | tail _ hr => exact checkGlobals_mono fns vars g' rest _ (ih hr _)

theorem lookupTy_map_isSome {fs : List PFn} {f : PFn} (hf : f ∈ fs) :
    (lookupTy f.name (fs.map fun f => (f.name, fnSig f))).isSome = true := by
  induction fs with
  | nil => cases hf
  | cons g rest ih =>
    simp only [List.map_cons, lookupTy]
    by_cases hn : (g.name == f.name) = true
    · simp [hn]
    · cases hf with
      | head => simp at hn
      | tail _ hr => simp only [hn, Bool.false_eq_true, ↓reduceIte]; exact ih hr

theorem global_errors_reach_program (p : PProg) (needMain : Bool) (e : Err)
    (h : e ∈ (checkGlobals (p.fns.map fun f => (f.name, fnSig f)) hostScope p.globals).errs) :
    e ∈ (checkProg needMain p).errs := by
  simp [checkProg, h]

theorem duplicate_field (Γ : Ctx) (seen : List String) (k : String) (e : PExpr) (rest : PFields)
    (hb : builtinFieldNames.contains k = false) (h : seen.contains k = true) :
    ⟨.duplicateField, .duplicateDefinition⟩ ∈ (checkFields Γ seen (.cons k e rest)).errs := by
  simp only [checkFields, hb, h, Bool.false_eq_true, ↓reduceIte]; simp

theorem fn_errors_reach_program (p : PProg) (needMain : Bool) (e : Err)
    (h : e ∈ (checkFns (p.fns.map fun f => (f.name, fnSig f))
      (checkGlobals (p.fns.map fun f => (f.name, fnSig f)) hostScope p.globals).vars p.fns).1) :
    e ∈ (checkProg needMain p).errs := by
  simp [checkProg, h]

theorem checkFns_mem {fns globals : List (String × Ty)} {fs : List PFn} {f : PFn} {e : Err} (hf : f ∈ fs)
    (h : e ∈ (checkFn fns globals f).1) : e ∈ (checkFns fns globals fs).1 := by
  induction fs with
  | nil => cases hf
  | cons g rest ih =>
    simp only [checkFns, List.mem_append]
    cases hf with
    | head => exact Or.inl h
    | tail _ hr => exact Or.inr (ih hr)

theorem stmts_mem_head (Γ : Ctx) (st : PStmt) (rest : PStmts) (e : Err) (h : e ∈ (checkStmt Γ st).errs) :
    e ∈ (checkStmts Γ (.cons st rest)).errs := by
  simp [checkStmts, h]

theorem stmts_mem_tail (Γ : Ctx) (st : PStmt) (rest : PStmts) (e : Err)
    (h : e ∈ (checkStmts { Γ with vars := (checkStmt Γ st).vars } rest).errs) :
    e ∈ (checkStmts Γ (.cons st rest)).errs := by
  simp [checkStmts, h]

theorem block_mem_stmts (Γ : Ctx) (ss : PStmts) (e : Err) (h : e ∈ (checkStmts Γ ss).errs) :
    e ∈ (checkBlock Γ (.mkNoTail ss)).errs := by
  simp [checkBlock, h]

theorem block_mem_stmts' (Γ : Ctx) (ss : PStmts) (t : PExpr) (e : Err) (h : e ∈ (checkStmts Γ ss).errs) :
    e ∈ (checkBlock Γ (.mk ss t)).errs := by
  simp [checkBlock, h]

theorem fn_mem_body (fns globals : List (String × Ty)) (f : PFn) (e : Err) (hm : f.name ≠ "main")
    (h : e ∈ (checkBlock { vars := paramScope [] (convertParamList f.params).2 ++ globals, fns := fns,
                           ret := some (curRet fns f.name), inLoop := false } f.body).errs) :
    e ∈ (checkFn fns globals f).1 := by
  simp [checkFn, beq_eq_false_iff_ne.mpr hm, h]

theorem main_mem_body (fns globals : List (String × Ty)) (f : PFn) (e : Err) (hm : f.name = "main")
    (h : e ∈ (checkBlock { vars := globals, fns := fns, ret := some (curRet fns f.name), inLoop := false } f.body).errs) :
    e ∈ (checkFn fns globals f).1 := by
  simp only [checkFn, beq_iff_eq.mpr hm, ↓reduceIte, paramScope, List.nil_append]
  simp [h]

end HmsProofs.Lemmas.Check
