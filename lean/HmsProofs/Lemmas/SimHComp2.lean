import HmsProofs.Lemmas.SimHComp
import HmsProofs.Lemmas.SimHIrrel
/-! The compiler on the statements of the general fragment: `compile_fstmt`. -/
namespace HmsProofs.Sim
open Hms.Core Hms.Core.Comp

/-- The (break, continue) labels of the compiler's loop stack. -/
def loopsOf (L : List (String × String × Nat)) : List (String × String) := L.map fun t => (t.1, t.2.1)

theorem cleanupLabel_run_S (cs : CState) (L) (c0 : SCode) (env : CEnv) :
    cleanupLabel.run (updS cs L c0 env) =
      ((ρS env.scopes (cleanupKey cs.currModule cs.currFn)).getD "?cleanup", updS cs L c0 env) := rfl

/-- `CompGE` for a statement and loop stack `L`: the compiler also leaves the environment `cgS` computes. -/
def CompGS (fuel : Nat) (st : Stmt) (cs : CState) (L : List (String × String × Nat)) : Prop :=
  ∀ (c0 : SCode) (env : CEnv), Frag.wsGS cs.currModule cs.currFn (φOf cs) (loopsOf L) st env = true →
    (compileStmt fuel st).run (updS cs L c0 env) =
      ((), updS cs L (c0 ++ (cgS cs.currModule cs.currFn (φOf cs) (loopsOf L) st env).1)
        (cgS cs.currModule cs.currFn (φOf cs) (loopsOf L) st env).2)

def CompGSs (fuel : Nat) (ss : List Stmt) (cs : CState) (L : List (String × String × Nat)) : Prop :=
  ∀ (c0 : SCode) (env : CEnv), Frag.wsGSs cs.currModule cs.currFn (φOf cs) (loopsOf L) ss env = true →
    (compileStmts fuel ss).run (updS cs L c0 env) =
      ((), updS cs L (c0 ++ (cgSs cs.currModule cs.currFn (φOf cs) (loopsOf L) ss env).1)
        (cgSs cs.currModule cs.currFn (φOf cs) (loopsOf L) ss env).2)

def CompGBS (fuel : Nat) (b : Block) (cs : CState) (L : List (String × String × Nat)) : Prop :=
  ∀ (c0 : SCode) (env : CEnv), Frag.wsGBS cs.currModule cs.currFn (φOf cs) (loopsOf L) b env = true →
    (compileBlock fuel b true).run (updS cs L c0 env) =
      ((), updS cs L (c0 ++ (cgBS cs.currModule cs.currFn (φOf cs) (loopsOf L) b env).1)
        (cgBS cs.currModule cs.currFn (φOf cs) (loopsOf L) b env).2)

theorem compileStmt_exprS_null (fuel : Nat) (sp : Span) (e : Expr) (h : (!e.ty.isNull || e.isSpawn) = false) :
    compileStmt (fuel + 1) (.exprS sp e) = compileExpr fuel e := by
  rw [compileStmt]
  simp only [h, Bool.false_eq_true, if_false]
  exact bind_pure _

def CompGArmsS (fuel : Nat) (arms : List (List Expr × Expr)) (cs : CState) (L : List (String × String × Nat)) : Prop :=
  ∀ (sp : Span) (after : String) (nms : List String), arms.length = nms.length → ∀ (c0 : SCode) (env : CEnv),
    Frag.wsGArmsS cs.currModule cs.currFn (φOf cs) (loopsOf L) arms env = true →
    (compileArmBodies fuel sp after (arms.zip nms)).run (updS cs L c0 env) =
      ((), updS cs L (c0 ++ (cgArmsS cs.currModule cs.currFn (φOf cs) (loopsOf L) sp after arms nms env).1)
        (cgArmsS cs.currModule cs.currFn (φOf cs) (loopsOf L) sp after arms nms env).2)

/-- `P` holds with any fuel from `d` on, in every state that fits `il` and `rt`: no `try` is open where `return` is
allowed, and the innermost loop was entered at the present `try` depth where `break`/`continue` are. -/
def AtFuel (il rt : Bool) (d : Nat) (P : Nat → CState → List (String × String × Nat) → Prop) : Prop :=
  ∀ (fuel : Nat) (cs : CState) (L : List (String × String × Nat)), (rt = true → cs.tryDepth = 0) →
    (il = true → ∃ b c rest, L = (b, c, cs.tryDepth) :: rest) → d ≤ fuel → P fuel cs L

/-- The compiler model on the statements of the fragment produces the code `cgS` computes. The fourth conjunct states the
fact for a block and for its statement list, because the `catch` block is compiled in the scope of its variable, not
in a scope of its own (the `tryCatch` case uses the second half). -/
theorem compile_fstmt :
    (∀ (fr il rt : Bool) (st : Stmt), Frag.okFS fr il rt st = true → AtFuel il rt (Frag.cdS st) (CompGS · st)) ∧
    (∀ (fr il rt : Bool) (ss : List Stmt), Frag.okFSs fr il rt ss = true →
      AtFuel il rt (Frag.cdSs ss) (CompGSs · ss)) ∧
    (∀ (fr il rt : Bool) (arms : List (List Expr × Expr)), Frag.okFArmsS fr il rt arms = true →
      AtFuel il rt (Frag.cdArmsS arms + arms.length + 1) (CompGArmsS · arms)) ∧
    (∀ (fr il rt : Bool) (b : Block), Frag.okFBS fr il rt b = true → AtFuel il rt (Frag.cdBS b) (CompGBS · b) ∧
      ∃ sp ty ss, b = .mk sp ty ss none ∧ AtFuel il rt (Frag.cdSs ss) (CompGSs · ss)) := by
  refine Frag.okFS.mutual_induct_unfolding
    (motive_1 := fun _ il rt st ok => ok = true → AtFuel il rt (Frag.cdS st) (CompGS · st))
    (motive_2 := fun _ il rt ss ok => ok = true → AtFuel il rt (Frag.cdSs ss) (CompGSs · ss))
    (motive_3 := fun _ il rt arms ok => ok = true →
      AtFuel il rt (Frag.cdArmsS arms + arms.length + 1) (CompGArmsS · arms))
    (motive_4 := fun _ il rt b ok => ok = true → AtFuel il rt (Frag.cdBS b) (CompGBS · b) ∧
      ∃ sp ty ss, b = .mk sp ty ss none ∧ AtFuel il rt (Frag.cdSs ss) (CompGSs · ss))
    ?letS ?assign ?opAssign ?idxAssign ?memAssign ?ifElse ?ifThen ?tryCatch ?matchS ?push ?throw ?println ?call
    ?whileS ?loopS ?forS ?brk ?cont ?ret ?other ?block ?blockOther ?armsNil ?armsCons ?armsOther ?stmtsNil ?stmtsCons
  case other | blockOther | armsOther => intros; contradiction
  case block =>
    intro fr il rt sp ty ss ih hs
    refine ⟨fun fuel cs L hrt hil hd c0 env hws => ?_, sp, ty, ss, rfl, ih hs⟩
    simp only [Frag.cdBS] at hd
    obtain ⟨f, rfl⟩ := Nat.exists_eq_add_of_le' (show 1 ≤ fuel by omega)
    simp only [Frag.wsGBS] at hws
    rw [compileBlock, cgBS]
    simp only [if_true]
    refine bind_run (cs1 := updS cs L c0 { env with scopes := [] :: env.scopes }) rfl ?_
    refine bind_run (ih hs f cs L hrt hil (by omega) c0 _ hws) ?_
    rfl
  case stmtsNil =>
    intro fr il rt _ fuel cs L _ _ hd c0 env hws
    obtain ⟨f, rfl⟩ := Nat.exists_eq_add_of_le' (show 1 ≤ fuel by simp only [Frag.cdSs] at hd; omega)
    rw [compileStmts, cgSs, List.append_nil]; rfl
  case stmtsCons =>
    intro fr il rt st ss ihS ihSs hs fuel cs L hrt hil hd c0 env hws
    simp only [Bool.and_eq_true] at hs
    simp only [Frag.cdSs] at hd
    obtain ⟨f, rfl⟩ := Nat.exists_eq_add_of_le' (show 1 ≤ fuel by omega)
    simp only [Frag.wsGSs, Bool.and_eq_true] at hws
    rw [compileStmts, cgSs]
    refine bind_run (ihS hs.1 f cs L hrt hil (by omega) c0 env hws.1) ?_
    rw [ihSs hs.2 f cs L hrt hil (by omega) _ _ hws.2, List.append_assoc]
  case armsNil =>
    intro fr il rt _ fl cs L _ _ hfl msp after nms hlen c1 env' _
    obtain ⟨g, rfl⟩ := Nat.exists_eq_add_of_le' (show 1 ≤ fl by omega)
    cases nms with
    | cons _ _ => simp at hlen
    | nil =>
      rw [List.zip_nil_left, compileArmBodies]
      simp [cgArmsS]
      rfl
  case armsCons =>
    intro fr il rt lits b rest ihb iha hoka fl cs L hrt hil hfl msp after nms hlen c1 env' hwsa
    simp only [Bool.and_eq_true] at hoka
    cases nms with
    | nil => simp at hlen
    | cons nm nms =>
      simp only [Frag.cdArmsS, List.length_cons, Nat.add_assoc, max_add_le] at hfl hlen
      simp only [Frag.wsGArmsS, Bool.and_eq_true] at hwsa
      obtain ⟨g, rfl⟩ := Nat.exists_eq_add_of_le' (show 2 ≤ fl by omega)
      rw [List.zip_cons_cons, compileArmBodies]
      refine bind_run (emit_run_S ..) ?_
      refine bind_run (emit_run_S ..) ?_
      have hB := (ihb hoka.1.2).1 g cs L hrt hil (by omega)
        (c1 ++ [(.label nm, msp)] ++ [(.drop, msp)]) env' hwsa.1
      refine bind_run (by rw [compileExpr]; exact hB) ?_
      refine bind_run (emit_run_S ..) ?_
      rw [iha hoka.2 (g + 1) cs L hrt hil (by omega) msp after nms (by omega) _ _ hwsa.2]
      simp only [cgArmsS, List.append_assoc, List.cons_append, List.nil_append]
  case letS =>
    intro fr il rt sp name vty nc oty e hs fuel cs L hrt hil hd c0 env hws
    simp only [Bool.and_eq_true, Bool.not_eq_eq_eq_not, Bool.not_true] at hs
    obtain ⟨rfl, he⟩ := hs
    simp only [Frag.cdS] at hd
    simp only [Frag.wsGS] at hws
    obtain ⟨f', rfl⟩ := Nat.exists_eq_add_of_le' (show 2 ≤ fuel by omega)
    rw [compileStmt, cgS]
    refine bind_run (x := (freshVar cs.currModule
      { env with lm := (cgE cs.currModule (ρS env.scopes) (φOf cs) e env.lm).2 } name).1) ?_ rfl
    rw [compileLet]
    refine bind_run (compile_vexpr fr f' e cs he (by omega) L c0 env hws) ?_
    simp only [Bool.false_eq_true, if_false]
    refine bind_run (mangleVar_run_S ..) ?_
    refine bind_run (emit_run_S ..) ?_
    refine bind_run (bumpVars_run_S ..) ?_
    simp only [List.append_assoc]
    rfl
  case assign =>
    intro fr il rt sp asp isp ity name isFn r hr fuel cs L hrt hil hd c0 env hws
    simp only [Frag.cdS, Frag.cdX] at hd
    obtain ⟨f', rfl⟩ := Nat.exists_eq_add_of_le' (show 2 ≤ fuel by have := cdE_pos r; omega)
    simp only [Frag.wsGS, Bool.and_eq_true] at hws
    obtain ⟨hname, hvr⟩ := hws
    rw [compileStmt_exprS_null _ _ _ (by simp [Expr.ty, Expr.isSpawn, Ty.isNull]), cgS, compileExpr]
    refine bind_run (getMangled_run_S ..) ?_
    simp only [Bool.or_self, Bool.false_eq_true, if_false]
    refine bind_run (compile_vexpr fr f' r cs hr (by omega) L c0 env hvr) ?_
    rw [emit_run_S]
    simp only [List.append_assoc]
  case opAssign =>
    intro fr il rt sp asp o isp ity name isFn r hs fuel cs L hrt hil hd c0 env hws
    simp only [Bool.and_eq_true, Bool.not_eq_eq_eq_not, Bool.not_true] at hs
    obtain ⟨hlog, hr⟩ := hs
    simp only [Frag.cdS, Frag.cdX] at hd
    obtain ⟨f', rfl⟩ := Nat.exists_eq_add_of_le' (show 2 ≤ fuel by have := cdE_pos r; omega)
    simp only [Frag.wsGS, Bool.and_eq_true] at hws
    obtain ⟨hname, hvr⟩ := hws
    rw [compileStmt_exprS_null _ _ _ (by simp [Expr.ty, Expr.isSpawn, Ty.isNull]), cgS, compileExpr]
    refine bind_run (getMangled_run_S ..) ?_
    simp only [Bool.or_self, Bool.false_eq_true, if_false]
    refine bind_run (emit_run_S ..) ?_
    refine bind_run (compile_vexpr fr f' r cs hr (by omega) L _ env hvr) ?_
    refine bind_run (arith_run_S _ _ _ _ _ _ hlog) ?_
    rw [emit_run_S]
    simp only [List.append_assoc, List.cons_append, List.nil_append]
  case idxAssign | memAssign =>
    intro fr il rt sp asp op _ _ _ _ r hs fuel cs L hrt hil hd c0 env hws
    simp only [Bool.and_eq_true] at hs
    obtain ⟨⟨⟨hop, hl⟩, hr⟩, _⟩ := hs
    simp only [Frag.cdS, Frag.cdX, Nat.add_assoc, max_add_le] at hd
    obtain ⟨f', rfl⟩ := Nat.exists_eq_add_of_le' (show 2 ≤ fuel by have := cdE_pos r; omega)
    simp only [wsGS_idxAssign, wsGS_memAssign, Bool.and_eq_true] at hws
    obtain ⟨hwl, hwr⟩ := hws
    rw [compileStmt_exprS_null _ _ _ (by simp [Expr.ty, Expr.isSpawn, Ty.isNull])]
    first | rw [cgS_idxAssign] | rw [cgS_memAssign]
    rw [compileExpr]
    rotate_left
    · intro _ _ _ _ _ _ h; cases h
    refine bind_run (compile_vexpr fr f' _ cs hl (by omega) L c0 env hwl) ?_
    cases op with
    | none =>
      simp only [opPre, opPost]
      refine bind_run (compile_vexpr fr f' r cs hr (by omega) L _ _ hwr) ?_
      rw [emit_run_S]
      simp only [List.append_assoc, List.nil_append]
    | some o =>
      have hlog : Frag.isLogical o = false := by simpa [opOK] using hop
      simp only [opPre, opPost]
      refine bind_run (emit_run_S ..) ?_
      refine bind_run (compile_vexpr fr f' r cs hr (by omega) L _ _ hwr) ?_
      refine bind_run (arith_run_S _ _ _ _ _ _ hlog) ?_
      rw [emit_run_S]
      simp only [List.append_assoc, List.cons_append, List.nil_append]
  case ifElse =>
    intro fr il rt sp isp ty cnd t eb iht ihe hs fuel cs L hrt hil hd c0 env hws
    simp only [Bool.and_eq_true] at hs
    obtain ⟨⟨⟨hty, hcnd⟩, ht⟩, heb⟩ := hs
    simp only [Frag.cdS, Frag.cdX, Nat.add_assoc, max_add_le] at hd
    obtain ⟨f', rfl⟩ := Nat.exists_eq_add_of_le' (show 2 ≤ fuel by have := cdE_pos cnd; omega)
    simp only [Frag.wsGS, Bool.and_eq_true] at hws
    obtain ⟨⟨hvc, hwt⟩, hwe⟩ := hws
    rw [compileStmt_exprS_null _ _ _ (by simp [Expr.ty, Expr.isSpawn, hty]), cgS, compileExpr]
    refine bind_run ((compile_gexpr fr f').1 cnd cs hcnd (by omega) L c0 env hvc) ?_
    refine bind_run (mangleLabel_run_S ..) ?_
    refine bind_run (mangleLabel_run_S ..) ?_
    refine bind_run (emit_run_S ..) ?_
    refine bind_run ((iht ht).1 f' cs L hrt hil (by omega) _ _ hwt) ?_
    refine bind_run (emit_run_S ..) ?_
    simp only []
    refine bind_run (emit_run_S ..) ?_
    refine bind_run ((ihe heb).1 f' cs L hrt hil (by omega) _ _ hwe) ?_
    rw [emit_run_S]
    simp only [List.append_assoc, List.cons_append, List.nil_append, Option.isSome_some, if_true]
  case ifThen =>
    intro fr il rt sp isp ty cnd t iht hs fuel cs L hrt hil hd c0 env hws
    simp only [Bool.and_eq_true] at hs
    obtain ⟨⟨hty, hcnd⟩, ht⟩ := hs
    simp only [Frag.cdS, Frag.cdX, Nat.add_assoc, max_add_le] at hd
    obtain ⟨f', rfl⟩ := Nat.exists_eq_add_of_le' (show 2 ≤ fuel by have := cdE_pos cnd; omega)
    simp only [Frag.wsGS, Bool.and_eq_true] at hws
    obtain ⟨hvc, hwt⟩ := hws
    rw [compileStmt_exprS_null _ _ _ (by simp [Expr.ty, Expr.isSpawn, hty]), cgS, compileExpr]
    refine bind_run ((compile_gexpr fr f').1 cnd cs hcnd (by omega) L c0 env hvc) ?_
    refine bind_run (mangleLabel_run_S ..) ?_
    refine bind_run (mangleLabel_run_S ..) ?_
    refine bind_run (emit_run_S ..) ?_
    refine bind_run ((iht ht).1 f' cs L hrt hil (by omega) _ _ hwt) ?_
    refine bind_run (emit_run_S ..) ?_
    simp only []
    rw [emit_run_S]
    simp only [List.append_assoc, List.cons_append, List.nil_append, Option.isSome_none, Bool.false_eq_true,
      if_false]
  case tryCatch =>
    intro fr il rt sp tsp tty tb ci cb iht ihc hs fuel cs L hrt hil hd c0 env hws
    simp only [Bool.and_eq_true] at hs
    obtain ⟨⟨htty, htb⟩, hcb⟩ := hs
    obtain ⟨cbsp, cbty, cstmts, rfl, hcs⟩ := (ihc hcb).2
    simp only [Frag.cdS, Frag.cdX, Frag.cdBS, Nat.add_assoc, max_add_le] at hd
    obtain ⟨f'', rfl⟩ := Nat.exists_eq_add_of_le' (show 3 ≤ fuel by omega)
    simp only [Frag.wsGS, Bool.and_eq_true] at hws
    obtain ⟨⟨_, hwt⟩, hwc⟩ := hws
    -- the body is compiled one `try` deeper; its code does not depend on the loop stack
    obtain ⟨env1, henv1⟩ : ∃ e : CEnv, e = { env with lm := (freshLabel cs.currModule
      (freshLabel cs.currModule env.lm "exception_label").2 "after_catch_label").2 } := ⟨_, rfl⟩
    rw [← henv1] at hwt hwc
    have hirr := cgBS_loops_irrel cs.currModule cs.currFn (φOf cs) false (loopsOf L) tb env1 htb
    have hwt' : Frag.wsGBS cs.currModule cs.currFn (φOf cs) (loopsOf L) tb env1 = true := by
      rw [hirr.2]; exact hwt
    have hT : ∀ c1, (compileBlock (f'' + 1) tb true).run
          (updS { cs with tryDepth := cs.tryDepth + 1 } L c1 env1) =
        ((), updS { cs with tryDepth := cs.tryDepth + 1 } L
          (c1 ++ (cgBS cs.currModule cs.currFn (φOf cs) (loopsOf L) tb env1).1)
          (cgBS cs.currModule cs.currFn (φOf cs) (loopsOf L) tb env1).2) :=
      fun c1 => (iht htb).1 (f'' + 1) { cs with tryDepth := cs.tryDepth + 1 } L nofun nofun (by omega) c1 env1 hwt'
    rw [hirr.1] at hT
    generalize hCt : cgBS cs.currModule cs.currFn (φOf cs) [] tb env1 = ct at hwc hT
    have hC := hcs f'' cs L hrt hil (by omega)
    rw [compileStmt_exprS_null _ _ _ (by simp [Expr.ty, Expr.isSpawn, htty]), cgS, compileExpr]
    rw [← henv1, hCt]
    refine bind_run (x := updS cs L c0 env) rfl ?_
    refine bind_run (getMangledFn_run_S ..) ?_
    refine bind_run (mangleLabel_run_S ..) ?_
    refine bind_run (mangleLabel_run_S ..) ?_
    refine bind_run (emit_run_S ..) ?_
    refine bind_run (cs1 := updS { cs with tryDepth := cs.tryDepth + 1 } L _ env1) (x := ()) (by rw [henv1]; rfl) ?_
    refine bind_run (hT _) ?_
    refine bind_run (cs1 := updS cs L (c0 ++ [(.setTry ((φOf cs cs.currFn).getD "")
        (freshLabel cs.currModule env.lm "exception_label").1, tsp)] ++ ct.1) ct.2) (x := ()) ?_ ?_
    · show ((), _) = ((), _)
      congr 1
    refine bind_run (emit_run_S ..) ?_
    refine bind_run (emit_run_S ..) ?_
    refine bind_run (emit_run_S ..) ?_
    refine bind_run (cs1 := updS cs L _ { ct.2 with scopes := [] :: ct.2.scopes }) (x := ()) rfl ?_
    refine bind_run (mangleVar_run_S ..) ?_
    refine bind_run (emit_run_S ..) ?_
    refine bind_run (emit_run_S ..) ?_
    have hCB : ∀ c1 envx, Frag.wsGSs cs.currModule cs.currFn (φOf cs) (loopsOf L) cstmts envx = true →
        (compileBlock (f'' + 1) (.mk cbsp cbty cstmts none) false).run (updS cs L c1 envx) =
        ((), updS cs L (c1 ++ (cgSs cs.currModule cs.currFn (φOf cs) (loopsOf L) cstmts envx).1)
          (cgSs cs.currModule cs.currFn (φOf cs) (loopsOf L) cstmts envx).2) := by
      intro c1 envx hw
      rw [compileBlock]
      simp only [Bool.false_eq_true, if_false]
      refine bind_run (hC c1 envx hw) ?_
      rfl
    refine bind_run (hCB _ _ hwc) ?_
    refine bind_run (emit_run_S ..) ?_
    show ((), _) = ((), _)
    congr 1
    simp only [List.append_assoc, List.cons_append, List.nil_append]
    rfl
  case matchS =>
    intro fr il rt sp msp mty mc arms db iha ihd hs fuel cs L hrt hil hd c0 env hws
    simp only [Bool.and_eq_true] at hs
    obtain ⟨⟨⟨hmty, hmc⟩, hmarms⟩, hmdb⟩ := hs
    simp only [Frag.cdS, Frag.cdX, Nat.add_assoc, max_add_le] at hd
    obtain ⟨g', rfl⟩ := Nat.exists_eq_add_of_le' (show 3 ≤ fuel by have := cdE_pos mc; omega)
    simp only [Frag.wsGS, Bool.and_eq_true] at hws
    obtain ⟨⟨hvc, hwa⟩, hwd⟩ := hws
    rw [compileStmt_exprS_null _ _ _ (by simp [Expr.ty, Expr.isSpawn, hmty]), cgS, compileExpr]
    refine bind_run ((compile_gexpr fr (g' + 1)).1 mc cs hmc (by omega) L c0 env hvc) ?_
    refine bind_run (mangleLabel_run_S ..) ?_
    refine bind_run (compileArmTests_run cs msp arms (g' + 1) (okFArmsS_lits fr il rt arms hmarms)
      (by omega) _ _ _) ?_
    refine bind_run (mangleLabel_run_S ..) ?_
    simp only [Option.isSome_some, if_true]
    refine bind_run (emit_run_S ..) ?_
    refine bind_run (iha hmarms (g' + 1) cs L hrt hil (by omega) msp _ _ (armTests_length _ _ _ _).symm
      _ _ hwa) ?_
    refine bind_run (emit_run_S ..) ?_
    refine bind_run (emit_run_S ..) ?_
    refine bind_run (by
      rw [compileExpr]
      exact (ihd hmdb).1 g' cs L hrt hil (by omega) _ _ hwd) ?_
    refine bind_run (emit_run_S ..) ?_
    rw [emit_run_S]
    simp only [List.append_assoc, List.cons_append, List.nil_append]
  case push =>
    intro fr il rt sp csp cty msp' mty' b nm a hs fuel cs L hrt hil hd c0 env hws
    simp only [Bool.and_eq_true] at hs
    obtain ⟨⟨⟨⟨⟨_, _⟩, hnull⟩, hb⟩, hoa⟩, _⟩ := hs
    simp only [Frag.cdS, Frag.cdX, Nat.add_assoc, max_add_le] at hd
    simp only [Frag.cdArgs, List.length_cons, List.length_nil] at hd
    obtain ⟨f', rfl⟩ := Nat.exists_eq_add_of_le' (show 4 ≤ fuel by have := cdE_pos b; have := cdE_pos a.2; omega)
    simp only [Frag.wsGS, Bool.and_eq_true] at hws
    obtain ⟨hwb, hwa⟩ := hws
    have hwa' : Frag.wsGE env.scopes (φOf cs) a.2 = true := by
      simpa [Frag.wsGArgs, Frag.varsGArgs, Frag.callsGArgs, Frag.wsGE] using hwa
    rw [compileStmt_exprS_null _ _ _ (by simp [Expr.ty, Expr.isSpawn, hnull]), cgS, compileExpr]
    simp only [List.reverse_cons, List.reverse_nil, List.nil_append, List.map_cons, List.map_nil]
    have hargs : (compileExprs (f' + 2) [a.2]).run (updS cs L c0 env) =
        ((), updS cs L (c0 ++ (cgE cs.currModule (ρS env.scopes) (φOf cs) a.2 env.lm).1)
          { env with lm := (cgE cs.currModule (ρS env.scopes) (φOf cs) a.2 env.lm).2 }) := by
      rw [compileExprs]
      refine bind_run (compile_vexpr fr (f' + 1) a.2 cs hoa (by omega) L c0 env hwa') ?_
      rw [compileExprs]; rfl
    refine bind_run hargs ?_
    simp only [Bool.false_eq_true, if_false]
    rw [compileExpr]
    have hbase := compile_vexpr fr (f' + 1) b cs hb (by omega) L
      (c0 ++ (cgE cs.currModule (ρS env.scopes) (φOf cs) a.2 env.lm).1)
      { env with lm := (cgE cs.currModule (ρS env.scopes) (φOf cs) a.2 env.lm).2 } hwb
    refine bind_run (bind_run hbase (emit_run_S ..)) ?_
    refine bind_run (emit_run_S ..) ?_
    rw [emit_run_S]
    simp only [List.length_cons, List.length_nil, List.append_assoc, List.cons_append, List.nil_append]
    rfl
  case throw =>
    intro fr il rt sp csp cty isp ity name g f si args sw ht hs fuel cs L hrt hil hd c0 env hws
    cases beq_iff_eq.mp ht
    simp only [Bool.and_eq_true, Bool.not_eq_eq_eq_not, Bool.not_true, decide_eq_true_eq] at hs
    obtain ⟨⟨rfl, hlen⟩, hall⟩ := hs
    obtain ⟨a, rfl⟩ := List.length_eq_one_iff.mp hlen
    have hat : Frag.atomE a.2 = true := by simpa using hall
    simp only [Frag.cdS, Frag.cdX] at hd
    obtain ⟨f', rfl⟩ := Nat.exists_eq_add_of_le' (show 2 ≤ fuel by omega)
    simp only [Frag.wsGS, beq_self_eq_true, if_true, Bool.and_eq_true, Option.isNone_iff_eq_none] at hws
    obtain ⟨⟨hρ, hφ⟩, hwa⟩ := hws
    simp only [Frag.wsGArgs, Bool.and_eq_true] at hwa
    simp only [Frag.cdArgs, List.length_singleton] at hd
    have hargs := compileArgs_run fr cs [a] f' (fun f _ e => (compile_gexpr fr f).1 e cs)
      (by simp only [Frag.okEArgs, okE_okGE fr _ (okGE_of_atom _ hat), Bool.and_self])
      (by simp only [Frag.cdArgs, List.length_singleton]; omega) L c0 env hwa.1 hwa.2
    rw [compileStmt, cgS]
    simp only [beq_self_eq_true, if_true]
    refine bind_run (cs1 := updS cs L (c0 ++ ((cgArgs cs.currModule (ρS env.scopes) (φOf cs) [a] env.lm).1 ++
      [(.throw, csp)])) { env with lm := (cgArgs cs.currModule (ρS env.scopes) (φOf cs) [a] env.lm).2 }) (x := ()) ?_ ?_
    · rw [compileExpr]
      refine bind_run hargs ?_
      simp only [beq_self_eq_true, if_true]
      rw [emit_run_S]
      simp only [List.append_assoc]
    · simp only [Expr.ty]
      by_cases hn : cty.isNull = true
      · simp only [hn, Bool.not_true, Expr.isSpawn, Bool.or_self, Bool.false_eq_true, if_false, if_true, List.append_nil]
        rfl
      · have hn' : cty.isNull = false := by simpa using hn
        simp only [hn', Bool.not_false, Bool.true_or, if_true, Bool.false_eq_true, if_false]
        rw [emit_run_S]
        simp only [List.append_assoc]
  case println =>
    intro fr il rt sp csp cty isp ity name g f si args sw _ hp hs fuel cs L hrt hil hd c0 env hws
    cases beq_iff_eq.mp hp
    simp only [Bool.and_eq_true, Bool.not_eq_eq_eq_not, Bool.not_true, decide_eq_true_eq] at hs
    obtain ⟨⟨⟨⟨hnull, rfl⟩, hoka⟩, hone⟩, hlen⟩ := hs
    simp only [Frag.cdS, Frag.cdX] at hd
    obtain ⟨f', rfl⟩ := Nat.exists_eq_add_of_le' (show 2 ≤ fuel by omega)
    have hpnt : ("println" == "throw") = false := by decide
    simp only [Frag.wsGS, hpnt, Bool.false_eq_true, if_false, beq_self_eq_true, if_true, Bool.and_eq_true,
      Option.isNone_iff_eq_none] at hws
    obtain ⟨⟨hρ, hφ⟩, hwa⟩ := hws
    simp only [Frag.wsGArgs, Bool.and_eq_true] at hwa
    have hargs := compileArgs_run fr cs args f' (fun f _ e => (compile_gexpr fr f).1 e cs) hoka (by omega) L c0 env
      hwa.1 hwa.2
    rw [compileStmt_exprS_null _ _ _ (by simp [Expr.ty, Expr.isSpawn, hnull]), cgS, compileExpr]
    simp only [hpnt, Bool.false_eq_true, if_false, beq_self_eq_true, if_true]
    refine bind_run hargs ?_
    refine bind_run (getMangled_run_S ..) ?_
    rw [hρ]
    simp only []
    refine bind_run (getMangledFn_run_S ..) ?_
    rw [hφ]
    simp only []
    refine bind_run (emit_run_S ..) ?_
    refine bind_run (emit_run_S ..) ?_
    rw [emit_run_S]
    simp only [List.append_assoc, List.cons_append, List.nil_append]
  case call =>
    intro fr il rt sp csp cty isp ity name g f si args sw hnt hnp hs fuel cs L hrt hil hd c0 env hws
    simp only [Bool.and_eq_true, Bool.not_eq_eq_eq_not, Bool.not_true] at hs
    obtain ⟨hnn, hcall⟩ := hs
    simp only [Frag.cdS, Frag.cdX] at hd
    obtain ⟨f', rfl⟩ := Nat.exists_eq_add_of_le' (show 2 ≤ fuel by omega)
    have hne : (name == "println") = false := by simpa using hnp
    have hnt' : (name == "throw") = false := by simpa using hnt
    simp only [Frag.wsGS, hne, hnt', Bool.false_eq_true, if_false, Bool.and_eq_true,
      Option.isNone_iff_eq_none] at hws
    obtain ⟨⟨hρ, hφ⟩, hwa⟩ := hws
    simp only [Frag.wsGArgs, Bool.and_eq_true] at hwa
    have hwsE : Frag.wsGE env.scopes (φOf cs) (.call csp cty (.ident isp ity name g f si) args sw) = true := by
      simp only [Frag.wsGE, Frag.varsGE, Frag.callsGE, Bool.and_eq_true]
      refine ⟨hwa.1, ?_⟩
      show Frag.callsOK env.scopes (φOf cs) ([name] ++ Frag.callsGArgs args) = true
      rw [callsOK_append]
      refine ⟨?_, hwa.2⟩
      simp [Frag.callsOK, hρ, hφ]
    rw [compileStmt, cgS]
    simp only [hne, hnt', Bool.false_eq_true, if_false]
    refine bind_run ((compile_gexpr fr (f' + 1)).1 _ cs hcall
      (by simp only [Frag.cdE]; omega) L c0 env hwsE) ?_
    simp only [Expr.ty, hnn, Bool.not_false, Bool.true_or, if_true]
    rw [emit_run_S]
    simp only [List.append_assoc]
  case whileS =>
    intro fr il rt sp c body ihb hs fuel cs L hrt hil hd c0 env hws
    simp only [Bool.and_eq_true] at hs
    obtain ⟨hc, hb⟩ := hs
    simp only [Frag.cdS, max_add_le] at hd
    obtain ⟨f', rfl⟩ := Nat.exists_eq_add_of_le' (show 1 ≤ fuel by omega)
    simp only [Frag.wsGS, Bool.and_eq_true] at hws
    obtain ⟨hvc, hwb⟩ := hws
    rw [compileStmt, cgS]
    refine bind_run (mangleLabel_run_S ..) ?_
    refine bind_run (mangleLabel_run_S ..) ?_
    refine bind_run (emit_run_S ..) ?_
    refine bind_run ((compile_gexpr fr f').1 c cs hc (by omega) L _ _ hvc) ?_
    refine bind_run (emit_run_S ..) ?_
    refine bind_run (cs1 := updS cs (_ :: L) _ _) rfl ?_
    refine bind_run ((ihb hb).1 f' cs (_ :: L) hrt (fun _ => ⟨_, _, _, rfl⟩) (by omega) _ _ hwb) ?_
    refine bind_run (emit_run_S ..) ?_
    refine bind_run (emit_run_S ..) ?_
    simp only [List.append_assoc, List.cons_append, List.nil_append]
    rfl
  case loopS =>
    intro fr il rt sp body ihb hs fuel cs L hrt hil hd c0 env hws
    simp only [Frag.cdS] at hd
    obtain ⟨f', rfl⟩ := Nat.exists_eq_add_of_le' (show 1 ≤ fuel by omega)
    simp only [Frag.wsGS] at hws
    rw [compileStmt, cgS]
    refine bind_run (mangleLabel_run_S ..) ?_
    refine bind_run (mangleLabel_run_S ..) ?_
    refine bind_run (emit_run_S ..) ?_
    refine bind_run (cs1 := updS cs (_ :: L) _ _) rfl ?_
    refine bind_run ((ihb hs).1 f' cs (_ :: L) hrt (fun _ => ⟨_, _, _, rfl⟩) (by omega) _ _ hws) ?_
    refine bind_run (emit_run_S ..) ?_
    refine bind_run (emit_run_S ..) ?_
    simp only [List.append_assoc, List.cons_append, List.nil_append]
    rfl
  case forS =>
    intro fr il rt sp name vty rsp a b incl bsp bty stmts ihs hs fuel cs L hrt hil hd c0 env hws
    simp only [Bool.and_eq_true] at hs
    obtain ⟨⟨⟨_, hoka⟩, hokb⟩, hoks⟩ := hs
    simp only [Frag.cdS, Nat.add_assoc, max_add_le] at hd
    simp only [Frag.wsGS, Bool.and_eq_true] at hws
    obtain ⟨⟨hwa, hwb⟩, hwS⟩ := hws
    obtain ⟨f', rfl⟩ := Nat.exists_eq_add_of_le' (show 2 ≤ fuel by have := cdE_pos a; omega)
    have hGE : ∀ (e : Expr) (cs : CState), Frag.okE fr e = true → Frag.cdE e ≤ f' → CompGE f' e cs :=
      (compile_gexpr fr f').1
    have hpush : ∀ (e : Expr), Frag.wsGE env.scopes (φOf cs) e = true →
        Frag.wsGE ([] :: env.scopes) (φOf cs) e = true := by
      intro e h
      simp only [Frag.wsGE, Bool.and_eq_true] at h ⊢
      rw [resolved_push, callsOK_push]; exact h
    rw [compileStmt, cgS]
    refine bind_run (mangleLabel_run_S ..) ?_
    refine bind_run (mangleLabel_run_S ..) ?_
    refine bind_run (mangleLabel_run_S ..) ?_
    refine bind_run (cs1 := updS cs L c0 { env with scopes := [] :: env.scopes, lm := _ }) (x := ()) rfl ?_
    refine bind_run (by
      rw [compileExpr]
      refine bind_run (hGE a cs hoka (by omega) L c0 _ (hpush a hwa)) ?_
      refine bind_run (hGE b cs hokb (by omega) L _ _ (hpush b hwb)) ?_
      exact emit_run_S _ _ _ _ _ _) ?_
    refine bind_run (emit_run_S ..) ?_
    refine bind_run (emit_run_S ..) ?_
    refine bind_run (mangleVar_run_S ..) ?_
    refine bind_run (emit_run_S ..) ?_
    refine bind_run (mangleVar_run_S ..) ?_
    refine bind_run (emit_run_S ..) ?_
    refine bind_run (emit_run_S ..) ?_
    refine bind_run (emit_run_S ..) ?_
    refine bind_run (emit_run_S ..) ?_
    refine bind_run (emit_run_S ..) ?_
    refine bind_run (cs1 := updS cs (_ :: L) _ _) rfl ?_
    simp only [ρS_push] at hwS ⊢
    have hC := ihs hoks f' cs (((freshLabel cs.currModule (freshLabel cs.currModule
        (freshLabel cs.currModule env.lm "loop_head").2 "loop_update").2 "loop_end").1,
      (freshLabel cs.currModule (freshLabel cs.currModule env.lm "loop_head").2 "loop_update").1,
      cs.tryDepth) :: L) hrt (fun _ => ⟨_, _, _, rfl⟩) (by omega)
    refine bind_run (by
      rw [compileBlock]
      simp only [Bool.false_eq_true, if_false]
      refine bind_run (hC _ _ hwS) ?_
      rfl) ?_
    refine bind_run (emit_run_S ..) ?_
    refine bind_run (emit_run_S ..) ?_
    refine bind_run (emit_run_S ..) ?_
    refine bind_run (cs1 := updS cs L _ _) rfl ?_
    refine congrArg (Prod.mk ()) ?_
    simp only [List.append_assoc, List.cons_append, List.nil_append]
    rfl
  case brk | cont =>
    intro fr il rt sp hs fuel cs L hrt hil hd c0 env hws
    obtain ⟨f', rfl⟩ := Nat.exists_eq_add_of_le' (show 1 ≤ fuel by simp only [Frag.cdS] at hd; omega)
    cases L with
    | nil => subst hs; obtain ⟨_, _, _, h⟩ := hil rfl; cases h
    | cons t L' =>
      obtain ⟨b, c, td⟩ := t
      have htd : td = cs.tryDepth := by
        subst hs; obtain ⟨_, _, _, h⟩ := hil rfl; cases h; rfl
      have hl : loopsOf ((b, c, td) :: L') = (b, c) :: loopsOf L' := rfl
      rw [hl, compileStmt, cgS]
      refine bind_run (x := updS cs ((b, c, td) :: L') c0 env) rfl ?_
      show (do popTries sp (cs.tryDepth - td); Comp.emit _ sp : C Unit).run _ = _
      rw [htd, Nat.sub_self]
      refine bind_run (x := ()) rfl ?_
      rw [emit_run_S]
  case ret =>
    intro fr il rt sp e hs fuel cs L hrt hil hd c0 env hws
    simp only [Bool.and_eq_true] at hs
    obtain ⟨hrt', hs⟩ := hs
    have htd := hrt hrt'
    simp only [Frag.cdS] at hd
    obtain ⟨f', rfl⟩ := Nat.exists_eq_add_of_le' (show 1 ≤ fuel by omega)
    simp only [Frag.wsGS, Bool.and_eq_true] at hws
    rw [compileStmt, cgS]
    refine bind_run ((compile_gexpr fr f').1 e cs hs (by omega) L c0 env hws.1) ?_
    refine bind_run (x := updS cs L _ _) rfl ?_
    show (do popTries sp cs.tryDepth; Comp.emit (.jump (← cleanupLabel)) sp : C Unit).run _ = _
    rw [htd]
    refine bind_run (x := ()) rfl ?_
    refine bind_run (cleanupLabel_run_S ..) ?_
    rw [emit_run_S]
    simp only [List.append_assoc]

end HmsProofs.Sim
