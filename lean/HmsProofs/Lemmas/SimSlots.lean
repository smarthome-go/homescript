import HmsProofs.Lemmas.SimRename
import HmsProofs.Lemmas.SimLive
import HmsProofs.Lemmas.SimFn
/-! The frame reserved by `addMp` covers every slot of the function.
Every mangled name occurring in the code of a statement block of the small fragment (`cS`) is either live at its start
or generated by one of its `let`s, and the function's variable count grows by at least one per generated name (`GenG`,
`genG_cS`). Hence the slots of a function body compiled from an environment without live names are below the count
`compileFn` puts into `addMp` (`fn_slots_le`). `SimHSlots` does the same for the general fragment.
`GenOK` states the count exactly (a `let` raises it by two); the proofs use `GenG`. -/
namespace HmsProofs.Sim
open Hms.Core Hms.Core.Comp

theorem codeVars_instr (i : SInstr) (sp : Span) (h : var? i = none) : codeVars [(i, sp)] = [] := by
  simp [codeVars, h]

theorem codeVars_cons (i : SInstr) (sp : Span) (r : SCode) :
    codeVars ((i, sp) :: r) = (match var? i with | some v => [v] | none => []) ++ codeVars r := by
  unfold codeVars
  cases h : var? i <;> simp [h]

theorem codeVars_rules :
    (∀ a b : SCode, codeVars (a ++ b) = codeVars a ++ codeVars b) ∧
    (∀ (i : SInstr) (sp : Span) (r : SCode),
      codeVars ((i, sp) :: r) = (match var? i with | some v => [v] | none => []) ++ codeVars r) ∧
    codeVars [] = [] :=
  ⟨codeVars_append, codeVars_cons, rfl⟩

theorem codeVars_arith (op : InfixOp) (sp : Span) : codeVars ((arithI op).map (·, sp)) = [] := by
  cases op <;> rfl

theorem codeVars_preI (op : PrefixOp) (sp : Span) : codeVars [(preI op, sp)] = [] := by cases op <;> rfl

theorem resolves_append {ρ : String → Option String} {xs ys l₁ l₂ : List String}
    (h₁ : ∀ m ∈ l₁, ∃ x ∈ xs, ρ x = some m) (h₂ : ∀ m ∈ l₂, ∃ x ∈ ys, ρ x = some m) :
    ∀ m ∈ l₁ ++ l₂, ∃ x ∈ xs ++ ys, ρ x = some m := by
  intro m hm
  rcases List.mem_append.mp hm with hm | hm
  · obtain ⟨x, hx, h⟩ := h₁ m hm; exact ⟨x, List.mem_append_left _ hx, h⟩
  · obtain ⟨x, hx, h⟩ := h₂ m hm; exact ⟨x, List.mem_append_right _ hx, h⟩

theorem codeVars_cpE (mod : String) (ρ : String → Option String) :
    (∀ (e : Expr) (lm : LM), ∀ m ∈ codeVars (cpE mod ρ e lm).1, ∃ x ∈ Frag.varsE e, ρ x = some m) ∧
    (∀ (b : Block) (lm : LM), ∀ m ∈ codeVars (cpB mod ρ b lm).1, ∃ x ∈ Frag.varsB b, ρ x = some m) := by
  refine cpE.mutual_induct_unfolding mod ρ
    (motive_1 := fun e _ r => ∀ m ∈ codeVars r.1, ∃ x ∈ Frag.varsE e, ρ x = some m)
    (motive_2 := fun b _ r => ∀ m ∈ codeVars r.1, ∃ x ∈ Frag.varsB b, ρ x = some m)
    ?int ?bool ?str ?null ?none ?grouped ?ident ?pre ?or ?and ?arith ?ifE ?other ?block ?blockOther
  case int | bool | str | null | none | other | blockOther => intros; rename_i hm; cases hm
  case grouped | block => intros; rename_i ih m hm; simpa only [Frag.varsE, Frag.varsB] using ih m hm
  case ident =>
    intro sp ty name g f si lm m hm
    cases hρ : ρ name with
    | none => rw [hρ] at hm; cases hm
    | some m' =>
      rw [hρ] at hm
      cases List.mem_singleton.mp hm
      exact ⟨name, List.mem_singleton.mpr rfl, hρ⟩
  case pre =>
    intro sp ty op e lm ih
    simpa only [codeVars_append, codeVars_preI, List.append_nil, Frag.varsE] using ih
  case or | and =>
    intro sp ty l r lm _ af cl cr ihl ihr
    simpa only [codeVars_rules, var?, List.append_nil, Frag.varsE] using resolves_append ihl ihr
  case arith =>
    intro sp ty op l r lm _ _ cl cr ihl ihr
    simpa only [codeVars_append, codeVars_arith, List.append_nil, Frag.varsE] using resolves_append ihl ihr
  case ifE =>
    intro sp ty c t eb lm cc after els ct ce ihc iht ihe
    simpa only [codeVars_rules, var?, List.append_nil, List.nil_append, List.append_assoc, Frag.varsE]
      using resolves_append ihc (resolves_append iht ihe)

theorem codeVars_cpE_live (mod : String) (T : List String) (cs : CScopes) (e : Expr) (lm : LM)
    (hT : ∀ x ∈ Frag.varsE e, x ∈ T) :
    ∀ m ∈ codeVars (cpE mod (ρS cs) e lm).1, m ∈ liveNames T cs := by
  intro m hm
  obtain ⟨x, hx, h⟩ := (codeVars_cpE mod (ρS cs)).1 e lm m hm
  exact ρS_mem_liveNames T cs x m (hT x hx) h

def GenG (T : List String) (env env' : CEnv) (code : SCode) : Prop :=
  ∃ G : List String, env.nv + G.length ≤ env'.nv ∧
    (∀ m ∈ codeVars code, m ∈ G ∨ m ∈ liveNames T env.scopes) ∧
    (∀ m ∈ liveNames T env'.scopes, m ∈ G ∨ m ∈ liveNames T env.scopes)

theorem GenG.nil (T : List String) (env : CEnv) : GenG T env env [] :=
  ⟨[], by simp, by simp [codeVars], fun m hm => Or.inr hm⟩

theorem GenG.trans {T env env1 env2 c1 c2} (h1 : GenG T env env1 c1) (h2 : GenG T env1 env2 c2) :
    GenG T env env2 (c1 ++ c2) := by
  obtain ⟨G1, n1, v1, l1⟩ := h1
  obtain ⟨G2, n2, v2, l2⟩ := h2
  refine ⟨G1 ++ G2, by rw [List.length_append]; omega, ?_, ?_⟩
  · intro m hm
    simp only [codeVars_append, List.mem_append] at hm ⊢
    rcases hm with hm | hm
    · rcases v1 m hm with h | h
      · exact Or.inl (Or.inl h)
      · exact Or.inr h
    · rcases v2 m hm with h | h
      · exact Or.inl (Or.inr h)
      · rcases l1 m h with h | h
        · exact Or.inl (Or.inl h)
        · exact Or.inr h
  · intro m hm
    simp only [List.mem_append]
    rcases l2 m hm with h | h
    · exact Or.inl (Or.inr h)
    · rcases l1 m h with h | h
      · exact Or.inl (Or.inl h)
      · exact Or.inr h

theorem GenG.plain {T : List String} {env env' : CEnv} {code : SCode} (hnv : env'.nv = env.nv)
    (hsc : env'.scopes = env.scopes) (hv : ∀ m ∈ codeVars code, m ∈ liveNames T env.scopes) :
    GenG T env env' code :=
  ⟨[], by simp [hnv], fun m hm => Or.inr (hv m hm), fun m hm => Or.inr (by rw [← hsc]; exact hm)⟩

/-- A declaration: the fresh name is generated; the old binding of the identifier is hidden if the identifier is
tracked, and an untracked one adds no live name. -/
theorem GenG.fresh (mod : String) (T : List String) (env : CEnv) (name : String)
    (env' : CEnv) (hsc : env'.scopes = (freshVar mod env name).2.scopes)
    (hnv : (freshVar mod env name).2.nv ≤ env'.nv) (code : SCode)
    (hv : ∀ m ∈ codeVars code, m = (freshVar mod env name).1 ∨ m ∈ liveNames T env.scopes) :
    GenG T env env' code := by
  refine ⟨[(freshVar mod env name).1], ?_, ?_, ?_⟩
  · have : (freshVar mod env name).2.nv = env.nv + 1 := rfl
    simp only [List.length_singleton]; omega
  · intro m hm
    rcases hv m hm with h | h
    · exact Or.inl (by simp [h])
    · exact Or.inr h
  · intro m hm
    exact (List.mem_cons.mp ((liveNames_freshVar mod T env name).subset (hsc ▸ hm))).imp List.mem_singleton.mpr id

theorem GenG.of_codeVars {T env env' code code'} (h : GenG T env env' code) (he : codeVars code' = codeVars code) :
    GenG T env env' code' := by
  unfold GenG at h ⊢; rw [he]; exact h

theorem GenG.push (T : List String) (env : CEnv) (lm : LM) :
    GenG T env { env with scopes := [] :: env.scopes, lm := lm } [] :=
  ⟨[], Nat.le_refl _, by simp [codeVars], fun m hm => Or.inr (liveNames_cons T [] env.scopes ▸ hm)⟩

theorem GenG.pop (T : List String) (env : CEnv) : GenG T env { env with scopes := env.scopes.tail } [] :=
  ⟨[], Nat.le_refl _, by simp [codeVars], fun m hm => Or.inr ((liveNames_tail T env.scopes).subset hm)⟩

theorem GenG.pure (mod : String) {T : List String} (env : CEnv) (e : Expr) (lm lm' : LM)
    (hT : ∀ x ∈ Frag.varsE e, x ∈ T) : GenG T env { env with lm := lm' } (cpE mod (ρS env.scopes) e lm).1 :=
  GenG.plain rfl rfl (codeVars_cpE_live mod T env.scopes e lm hT)

def GenOK (T : List String) (env env' : CEnv) (code : SCode) : Prop :=
  ∃ G : List String, env'.nv = env.nv + 2 * G.length ∧
    (∀ m ∈ codeVars code, m ∈ G ∨ m ∈ liveNames T env.scopes) ∧
    (∀ m ∈ liveNames T env'.scopes, m ∈ G ∨ m ∈ liveNames T env.scopes)

theorem GenOK.of_eq {T : List String} {env env0 env' : CEnv} {code : SCode}
    (hnv : env0.nv = env.nv) (hsc : env0.scopes = env.scopes) (h : GenOK T env0 env' code) :
    GenOK T env env' code := by
  obtain ⟨G, n, v, l⟩ := h
  exact ⟨G, by rw [n, hnv], fun m hm => by rw [← hsc]; exact v m hm, fun m hm => by rw [← hsc]; exact l m hm⟩

theorem genG_cS (mod : String) (T : List String) :
    (∀ (st : Stmt) (env : CEnv), (∀ x ∈ Frag.identsS st, x ∈ T) →
      Frag.wsS mod st env = true → GenG T env (cS mod st env).2 (cS mod st env).1) ∧
    (∀ (b : Block) (env : CEnv), (∀ x ∈ Frag.identsB b, x ∈ T) →
      Frag.wsB mod b env = true → GenG T env (cB mod b env).2 (cB mod b env).1) ∧
    (∀ (ss : List Stmt) (env : CEnv), (∀ x ∈ Frag.identsSs ss, x ∈ T) →
      Frag.wsSs mod ss env = true → GenG T env (cSs mod ss env).2 (cSs mod ss env).1) := by
  refine cS.mutual_induct_unfolding mod
    (motive_1 := fun st env r => (∀ x ∈ Frag.identsS st, x ∈ T) → Frag.wsS mod st env = true → GenG T env r.2 r.1)
    (motive_2 := fun b env r => (∀ x ∈ Frag.identsB b, x ∈ T) → Frag.wsB mod b env = true → GenG T env r.2 r.1)
    (motive_3 := fun ss env r => (∀ x ∈ Frag.identsSs ss, x ∈ T) → Frag.wsSs mod ss env = true → GenG T env r.2 r.1)
    ?letS ?assign ?opAssign ?ifElse ?ifThen ?whileS ?other ?block ?blockOther ?stmtsNil ?stmtsCons
  case other | blockOther | stmtsNil => intros; exact GenG.nil T _
  case letS =>
    intro sp name vty oty e env ce fv hT hws
    simp only [Frag.identsS, List.mem_cons] at hT
    have hlive := codeVars_cpE_live mod T env.scopes e env.lm fun x hx => hT x (Or.inr hx)
    refine GenG.fresh mod T env name _ ?_ ?_ _ fun m hm => ?_
    · rfl
    · exact Nat.le_succ _
    simp only [codeVars_rules, var?, List.append_nil, List.mem_append, List.mem_singleton] at hm
    exact hm.symm.imp id (hlive m)
  case assign =>
    intro sp asp isp ity name f r env cr hT hws
    simp only [Frag.identsS, List.mem_cons] at hT
    obtain ⟨hname, _⟩ := resolved_cons hws
    obtain ⟨m', hρ⟩ := Option.isSome_iff_exists.mp hname
    refine ((GenG.pure mod env r env.lm cr.2 fun x hx => hT x (Or.inr hx)).trans
      (GenG.plain (code := [(.setVar m', asp)]) rfl rfl fun m hm => ?_)).of_codeVars (by rw [hρ]; rfl)
    cases List.mem_singleton.mp hm
    exact ρS_mem_liveNames T env.scopes name _ (hT name (Or.inl rfl)) hρ
  case opAssign =>
    intro sp asp op isp ity name f r env mn cr hT hws
    simp only [Frag.identsS, List.mem_cons] at hT
    obtain ⟨hname, _⟩ := resolved_cons hws
    obtain ⟨m', hρ⟩ := Option.isSome_iff_exists.mp hname
    have hm' := ρS_mem_liveNames T env.scopes name _ (hT name (Or.inl rfl)) hρ
    have hv : ∀ m ∈ codeVars [((Instr.setVar m' : SInstr), asp)], m ∈ liveNames T env.scopes :=
      fun m hm => by cases List.mem_singleton.mp hm; exact hm'
    refine (((GenG.plain (env' := env) rfl rfl hv).trans
      (GenG.pure mod env r env.lm cr.2 fun x hx => hT x (Or.inr hx))).trans
      (GenG.plain (env' := { env with lm := cr.2 }) rfl rfl hv)).of_codeVars ?_
    simp only [mn, hρ, Option.getD_some, codeVars_rules, codeVars_arith, var?, List.append_nil]
    rfl
  case ifElse =>
    intro sp isp ty c t eb env cc after els ct ce iht ihe hT hws
    simp only [Frag.wsS, Bool.and_eq_true] at hws
    simp only [Frag.identsS, List.mem_append] at hT
    refine (((GenG.pure mod env c env.lm els.2 fun x hx => hT x (Or.inl hx)).trans
      (iht (fun x hx => hT x (Or.inr (Or.inl hx))) hws.1.2)).trans
      (ihe (fun x hx => hT x (Or.inr (Or.inr hx))) hws.2)).of_codeVars ?_
    simp only [codeVars_rules, var?, List.append_nil]
    rfl
  case ifThen =>
    intro sp isp ty c t env cc after els ct iht hT hws
    simp only [Frag.wsS, Bool.and_eq_true] at hws
    simp only [Frag.identsS, List.mem_append] at hT
    refine ((GenG.pure mod env c env.lm els.2 fun x hx => hT x (Or.inl hx)).trans
      (iht (fun x hx => hT x (Or.inr hx)) hws.2)).of_codeVars ?_
    simp only [codeVars_rules, var?, List.append_nil]
    rfl
  case whileS =>
    intro sp c body env head after cc cb ihb hT hws
    simp only [Frag.wsS, Bool.and_eq_true] at hws
    simp only [Frag.identsS, List.mem_append] at hT
    refine ((GenG.pure mod env c after.2 cc.2 fun x hx => hT x (Or.inl hx)).trans
      (ihb (fun x hx => hT x (Or.inr hx)) hws.2)).of_codeVars ?_
    simp only [codeVars_rules, var?, List.append_nil, List.nil_append]
    rfl
  case block =>
    intro sp ty stmts env ih hT hws
    exact (((GenG.push T env env.lm).trans (ih hT hws)).trans (GenG.pop T _)).of_codeVars
      (by simp only [List.nil_append, List.append_nil])
  case stmtsCons =>
    intro s ss env ihs ihss hT hws
    simp only [Frag.wsSs, Bool.and_eq_true] at hws
    simp only [Frag.identsSs, List.mem_append] at hT
    exact (ihs (fun x hx => hT x (Or.inl hx)) hws.1).trans (ihss (fun x hx => hT x (Or.inr hx)) hws.2)

theorem fn_slots_le (T : List String) (cs : CState) (fd : FnDef) (stmts : List Stmt) (r : NCode)
    (hT : ∀ x ∈ Frag.identsSs stmts, x ∈ T)
    (hws : Frag.wsSs cs.currModule stmts (fnEnv cs fd.name) = true)
    (hkey : cleanupKey cs.currModule fd.name ∉ T)
    (houter : ∀ sc ∈ cs.scopes, ∀ x ∈ T, sc.lookup x = none)
    (hrel : relocate (fnCode cs fd stmts) = some r) :
    ∀ m ∈ varNames r, slotFn r m ≤ (cSs cs.currModule stmts (fnEnv cs fd.name)).2.nv := by
  intro m hm
  have hlt := slotFn_lt r m hm
  obtain ⟨G, hnv, hv, _⟩ := (genG_cS cs.currModule T).2.2 stmts (fnEnv cs fd.name) hT hws
  have hlive : liveNames T (fnEnv cs fd.name).scopes = [] :=
    liveNames_of_unbound T _ (fnEnv_unbound T cs fd.name hkey houter)
  have hsub : ∀ a ∈ distinctNames r, a ∈ G := by
    intro a ha
    have ha' : a ∈ varNames r := (mem_distinctNames r a).mp ha
    rw [varNames_relocate _ r hrel] at ha'
    simp only [fnCode, codeVars_append, List.mem_append] at ha'
    rcases ha' with (ha' | ha') | ha'
    · simp [codeVars, var?] at ha'
    · rcases hv a ha' with h | h
      · exact h
      · rw [hlive] at h; simp at h
    · simp [codeVars, var?] at ha'
  have hlen := (distinctNames_nodup r).length_le_of_subset hsub
  have : (fnEnv cs fd.name).nv = 0 := rfl
  omega

end HmsProofs.Sim
