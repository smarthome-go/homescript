import HmsProofs.Lemmas.SimHSlots
import HmsProofs.Lemmas.SimHEntry
/-! From `relocate` / `renameVars` (Go: `relocateLabels`, `renameVariables`) to the hypotheses of the simulation. -/
namespace HmsProofs.Sim
open Hms.Core Hms.Core.Comp Hms.Core.VM

/-- The symbolic code `cgFn …` relocates to `r`, the VM runs `renameVars r`; labels resolve by `labelIndex`, variables by
`slotFn r`. Label hygiene and the slot bound come from `cgFn_labels_nodup` and `cgFn_slots`; the remaining side
conditions (frame size, scoping) are decidable for a given function. -/
theorem FnOK.of_compiled (G : GCtx) (fd : FnDef) (stmts : List Stmt) (e : Expr) (φ : String → Option String)
    (scopes0 : CScopes) (vm0 : List (String × Nat)) (lm0 : LM) (T : List String) (r : NCode)
    (hbody : ∃ bsp bty, fd.body = .mk bsp bty stmts (some e))
    (hparams : ∀ p ∈ fd.params, p.isSingleton = false)
    (hrel : relocate (cgFn G.mod φ fd stmts (some e) scopes0 vm0 lm0) = some r)
    (hcode : findCode G.code (mangleFnName G.mod fd.name) = some (renameVars r))
    (hframe : (fnParts G.mod φ fd stmts (some e) scopes0 vm0 lm0).envE.nv ≤ G.F)
    (okS : Frag.okFSs G.fr false true stmts = true) (okE : Frag.okE G.fr e = true)
    (wsS : Frag.wsGSs G.mod fd.name φ [] stmts (fnParts G.mod φ fd stmts (some e) scopes0 vm0 lm0).envB = true)
    (wsE : Frag.wsGE (fnParts G.mod φ fd stmts (some e) scopes0 vm0 lm0).envS.scopes φ e = true)
    (tParams : ∀ p ∈ fd.params, p.name ∈ T) (tIdents : ∀ x ∈ Frag.identsGSs stmts, x ∈ T)
    (tVars : ∀ x ∈ Frag.namesGE e, x ∈ T) (key : cleanupKey G.mod fd.name ∉ T)
    (outer : ∀ sc ∈ scopes0, ∀ x ∈ T, sc.lookup x = none) (phi : PhiOK G φ) :
    FnOK G fd.name fd
      ⟨renameVars r, slotFn r, labelIndex (cgFn G.mod φ fd stmts (some e) scopes0 vm0 lm0), (· ∈ varNames r), T, φ,
        scopes0, vm0, lm0⟩ stmts e :=
  { name := rfl, body := hbody, params := hparams, code := hcode
    placed := by
      have hpl := placed_of_relocate [] (cgFn G.mod φ fd stmts (some e) scopes0 vm0 lm0) [] r (by simpa using hrel)
        (cgFn_labels_nodup G.mod φ fd stmts (some e) scopes0 vm0 lm0) (by simp [definedLabels])
      simpa only [List.nil_append, List.append_nil, nI_nil] using hpl
    inj := fun a b ha hb h => (slotFn_inj r a b ha hb).mp h
    vars := fun m hm => by
      show m ∈ varNames r
      rw [varNames_relocate _ r hrel]; exact hm
    slot := cgFn_slots G.mod φ fd stmts (some e) scopes0 vm0 lm0 T r tIdents
      (fun e' he' => by cases he'; exact tVars) wsS key outer hrel
    frame := hframe, okS := okS, okE := okE, wsS := wsS, wsE := wsE, tParams := tParams
    tIdents := tIdents, tVars := tVars, key := key, outer := outer, phi := phi }

theorem FnVoidOK.of_compiled (G : GCtx) (fd : FnDef) (stmts : List Stmt) (φ : String → Option String)
    (scopes0 : CScopes) (vm0 : List (String × Nat)) (lm0 : LM) (T : List String) (r : NCode)
    (hbody : ∃ bsp bty, fd.body = .mk bsp bty stmts none)
    (hparams : ∀ p ∈ fd.params, p.isSingleton = false)
    (hrel : relocate (cgFn G.mod φ fd stmts none scopes0 vm0 lm0) = some r)
    (hcode : findCode G.code (mangleFnName G.mod fd.name) = some (renameVars r))
    (hframe : (fnParts G.mod φ fd stmts none scopes0 vm0 lm0).envE.nv ≤ G.F)
    (okS : Frag.okFSs G.fr false true stmts = true)
    (wsS : Frag.wsGSs G.mod fd.name φ [] stmts (fnParts G.mod φ fd stmts none scopes0 vm0 lm0).envB = true)
    (tParams : ∀ p ∈ fd.params, p.name ∈ T) (tIdents : ∀ x ∈ Frag.identsGSs stmts, x ∈ T)
    (key : cleanupKey G.mod fd.name ∉ T)
    (outer : ∀ sc ∈ scopes0, ∀ x ∈ T, sc.lookup x = none) (phi : PhiOK G φ) :
    FnVoidOK G fd.name fd
      ⟨renameVars r, slotFn r, labelIndex (cgFn G.mod φ fd stmts none scopes0 vm0 lm0), (· ∈ varNames r), T, φ,
        scopes0, vm0, lm0⟩ stmts :=
  { name := rfl, body := hbody, params := hparams, code := hcode
    placed := by
      have hpl := placed_of_relocate [] (cgFn G.mod φ fd stmts none scopes0 vm0 lm0) [] r (by simpa using hrel)
        (cgFn_labels_nodup G.mod φ fd stmts none scopes0 vm0 lm0) (by simp [definedLabels])
      simpa only [List.nil_append, List.append_nil, nI_nil] using hpl
    inj := fun a b ha hb h => (slotFn_inj r a b ha hb).mp h
    vars := fun m hm => by
      show m ∈ varNames r
      rw [varNames_relocate _ r hrel]; exact hm
    slot := cgFn_slots G.mod φ fd stmts none scopes0 vm0 lm0 T r tIdents (fun e' he' => by cases he') wsS key outer
      hrel
    frame := hframe, okS := okS, wsS := wsS, tParams := tParams, tIdents := tIdents, key := key, outer := outer
    phi := phi }

end HmsProofs.Sim
