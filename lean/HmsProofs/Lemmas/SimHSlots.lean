import HmsProofs.Lemmas.SimSlots
namespace HmsProofs.Sim
open Hms.Core Hms.Core.Comp

theorem codeVars_litTests (sp : Span) (name : String) :
    ∀ (lits : List Expr), codeVars (litTests sp name lits) = [] := by
  intro lits
  induction lits with
  | nil => rfl
  | cons l ls ih =>
    have hl : codeVars (litCode l) = [] := by cases l <;> rfl
    simp only [litTests, codeVars_append, hl, ih, List.append_nil, List.nil_append]
    rfl

theorem codeVars_armTests (mod : String) (sp : Span) : ∀ (arms : List (List Expr × Expr)) (lm : LM),
    codeVars (armTests mod sp arms lm).1 = [] := by
  intro arms
  induction arms with
  | nil => intro lm; rfl
  | cons a rest ih =>
    intro lm
    simp only [armTests, codeVars_append, codeVars_litTests, ih, List.append_nil]

theorem codeVars_opPre (op : Option InfixOp) (sp : Span) : codeVars (opPre op sp) = [] := by cases op <;> rfl

theorem codeVars_opPost (op : Option InfixOp) (sp : Span) : codeVars (opPost op sp) = [] := by
  cases op <;> first | rfl | exact codeVars_arith _ _

theorem codeVars_cgEls (mod : String) (ρ : String → Option String) (sp : Span) : ∀ (xs : List Expr) (lm : LM),
    ∀ m ∈ codeVars (cgEls mod ρ sp xs lm).1, ∃ x ∈ xs.flatMap Frag.varsE, ρ x = some m := by
  intro xs
  induction xs with
  | nil => intro lm m hm; cases hm
  | cons x xs ih =>
    intro lm
    simp only [cgEls, codeVars_rules, var?, List.append_nil, List.flatMap_cons]
    exact resolves_append ((codeVars_cpE mod ρ).1 x lm) (ih _)

theorem codeVars_cgFields (mod : String) (ρ : String → Option String) (sp : Span) :
    ∀ (fs : List (String × Expr)) (lm : LM),
    ∀ m ∈ codeVars (cgFields mod ρ sp fs lm).1, ∃ x ∈ fs.flatMap (fun f => Frag.varsE f.2), ρ x = some m := by
  intro fs
  induction fs with
  | nil => intro lm m hm; cases hm
  | cons f fs ih =>
    intro lm
    simp only [cgFields, codeVars_rules, var?, List.append_nil, List.nil_append, List.flatMap_cons]
    exact resolves_append ((codeVars_cpE mod ρ).1 f.2 lm) (ih _)

theorem codeVars_cgE (mod : String) (ρ φ : String → Option String) :
    (∀ (e : Expr) (lm : LM), ∀ m ∈ codeVars (cgE mod ρ φ e lm).1, ∃ x ∈ Frag.varsGE e, ρ x = some m) ∧
    (∀ (sp : Span) (after : String) (arms : List (List Expr × Expr)) (nms : List String) (lm : LM),
      ∀ m ∈ codeVars (cgArms mod ρ φ sp after arms nms lm).1, ∃ x ∈ Frag.varsGArms arms, ρ x = some m) ∧
    (∀ (args : List (String × Expr)) (lm : LM),
      ∀ m ∈ codeVars (cgArgs mod ρ φ args lm).1, ∃ x ∈ Frag.varsGArgs args, ρ x = some m) ∧
    (∀ (b : Block) (lm : LM), ∀ m ∈ codeVars (cgB mod ρ φ b lm).1, ∃ x ∈ Frag.varsGB b, ρ x = some m) := by
  refine cgE.mutual_induct_unfolding mod ρ φ
    (motive_1 := fun e _ r => ∀ m ∈ codeVars r.1, ∃ x ∈ Frag.varsGE e, ρ x = some m)
    (motive_2 := fun _ _ arms _ _ r => ∀ m ∈ codeVars r.1, ∃ x ∈ Frag.varsGArms arms, ρ x = some m)
    (motive_3 := fun args _ r => ∀ m ∈ codeVars r.1, ∃ x ∈ Frag.varsGArgs args, ρ x = some m)
    (motive_4 := fun b _ r => ∀ m ∈ codeVars r.1, ∃ x ∈ Frag.varsGB b, ρ x = some m)
    ?int ?bool ?str ?null ?none ?grouped ?ident ?pre ?cast ?or ?and ?arith ?ifE ?call ?matchE ?list ?index ?obj
    ?member ?meth ?other ?block ?blockOther ?argsNil ?argsCons ?armsCons ?armsOther
  case int | bool | str | null | none | other | blockOther | argsNil | armsOther => intros; rename_i hm; cases hm
  case grouped | block => intros; rename_i ih m hm; simpa only [Frag.varsGE, Frag.varsGB] using ih m hm
  case ident =>
    intro sp ty name g f si lm m hm
    cases hρ : ρ name with
    | none => rw [hρ] at hm; cases hm
    | some m' =>
      rw [hρ] at hm
      cases List.mem_singleton.mp hm
      exact ⟨name, List.mem_singleton.mpr rfl, hρ⟩
  case pre =>
    intro sp ty op e lm ih
    simpa only [codeVars_append, codeVars_preI, List.append_nil, Frag.varsGE] using ih
  case cast =>
    intro sp ty e lm ih
    simpa only [codeVars_rules, var?, List.append_nil, Frag.varsGE] using ih
  case member =>
    intro sp ty b name lm ih
    simpa only [codeVars_rules, var?, List.append_nil, Frag.varsGE] using ih
  case meth =>
    intro csp ty msp mty b nm lm ih
    simpa only [codeVars_rules, var?, List.append_nil, Frag.varsGE, Frag.varsGArgs] using ih
  case call =>
    intro sp ty isp ity name g f si args sw lm ih
    simpa only [codeVars_rules, var?, List.append_nil, Frag.varsGE] using ih
  case list =>
    intro sp ty xs lm
    simpa only [codeVars_rules, var?, List.nil_append, Frag.varsGE]
      using codeVars_cgEls mod ρ sp xs lm
  case obj =>
    intro sp ty fs lm
    simpa only [codeVars_rules, var?, List.nil_append, Frag.varsGE]
      using codeVars_cgFields mod ρ sp fs lm
  case or | and =>
    intro sp ty l r lm _ af cl cr ihl ihr
    simpa only [codeVars_rules, var?, List.append_nil, Frag.varsGE]
      using resolves_append ihl ihr
  case arith =>
    intro sp ty op l r lm _ _ cl cr ihl ihr
    simpa only [codeVars_append, codeVars_arith, List.append_nil, Frag.varsGE] using resolves_append ihl ihr
  case index =>
    intro sp ty b i lm cb ci ihb ihi
    simpa only [codeVars_rules, var?, List.append_nil, Frag.varsGE]
      using resolves_append ihb ihi
  case ifE =>
    intro sp ty c t eb lm cc after els ct ce ihc iht ihe
    simpa only [codeVars_rules, var?, List.append_nil, List.nil_append, List.append_assoc, Frag.varsGE]
      using resolves_append ihc (resolves_append iht ihe)
  case matchE =>
    intro sp ty c arms d lm cc after ts dfl bs cd ihc iha ihd
    simpa only [ts, codeVars_rules, codeVars_armTests, var?, List.append_nil, List.nil_append, List.append_assoc,
      Frag.varsGE] using resolves_append ihc (resolves_append iha ihd)
  case argsCons =>
    intro a as lm iha ihe m hm
    obtain ⟨x, hx, h⟩ := resolves_append iha ihe m (by simpa only [codeVars_append] using hm)
    exact ⟨x, by simpa only [Frag.varsGArgs, List.mem_append, or_comm] using hx, h⟩
  case armsCons =>
    intro sp after a rest nm nms lm ihe ihr
    simpa only [codeVars_rules, var?, List.append_nil, List.nil_append, Frag.varsGArms] using resolves_append ihe ihr

theorem codeVars_cgE_live (mod : String) (φ : String → Option String) (T : List String) (cs : CScopes) (e : Expr)
    (lm : LM) (hT : ∀ x ∈ Frag.varsGE e, x ∈ T) :
    ∀ m ∈ codeVars (cgE mod (ρS cs) φ e lm).1, m ∈ liveNames T cs := by
  intro m hm
  obtain ⟨x, hx, h⟩ := (codeVars_cgE mod (ρS cs) φ).1 e lm m hm
  exact ρS_mem_liveNames T cs x m (hT x hx) h

theorem codeVars_cgArgs_live (mod : String) (φ : String → Option String) (T : List String) (cs : CScopes)
    (args : List (String × Expr)) (lm : LM) (hT : ∀ x ∈ Frag.varsGArgs args, x ∈ T) :
    ∀ m ∈ codeVars (cgArgs mod (ρS cs) φ args lm).1, m ∈ liveNames T cs := by
  intro m hm
  obtain ⟨x, hx, h⟩ := (codeVars_cgE mod (ρS cs) φ).2.2.1 args lm m hm
  exact ρS_mem_liveNames T cs x m (hT x hx) h

theorem GenG.expr (mod : String) (φ : String → Option String) {T : List String} (env : CEnv) (e : Expr) (lm lm' : LM)
    (hT : ∀ x ∈ Frag.namesGE e, x ∈ T) : GenG T env { env with lm := lm' } (cgE mod (ρS env.scopes) φ e lm).1 :=
  GenG.plain rfl rfl (codeVars_cgE_live mod φ T env.scopes e lm fun x hx => hT x (List.mem_append_left _ hx))

theorem GenG.bodyEnv (T : List String) (mod fn : String) (env : CEnv) (key : cleanupKey mod fn ∉ T) :
    GenG T env (bodyEnv mod fn env) [] := by
  refine ⟨[], by simp [Sim.bodyEnv], by simp [codeVars], fun m hm => Or.inr ?_⟩
  unfold Sim.bodyEnv at hm
  cases hs : env.scopes with
  | nil => simp [hs, liveNames] at hm
  | cons c rest => simpa [hs, liveNames, levelNames, key] using hm

theorem genG_stmt (mod fn : String) (φ : String → Option String) (T : List String) :
    (∀ (loops : List (String × String)) (st : Stmt) (env : CEnv),
      (∀ x ∈ Frag.identsGS st, x ∈ T) → Frag.wsGS mod fn φ loops st env = true →
      GenG T env (cgS mod fn φ loops st env).2 (cgS mod fn φ loops st env).1) ∧
    (∀ (loops : List (String × String)) (sp : Span) (after : String) (arms : List (List Expr × Expr))
        (nms : List String) (env : CEnv),
      (∀ x ∈ Frag.identsGArmsS arms, x ∈ T) → Frag.wsGArmsS mod fn φ loops arms env = true →
      GenG T env (cgArmsS mod fn φ loops sp after arms nms env).2 (cgArmsS mod fn φ loops sp after arms nms env).1) ∧
    (∀ (loops : List (String × String)) (b : Block) (env : CEnv),
      (∀ x ∈ Frag.identsGBS b, x ∈ T) → Frag.wsGBS mod fn φ loops b env = true →
      GenG T env (cgBS mod fn φ loops b env).2 (cgBS mod fn φ loops b env).1) ∧
    (∀ (loops : List (String × String)) (ss : List Stmt) (env : CEnv),
      (∀ x ∈ Frag.identsGSs ss, x ∈ T) → Frag.wsGSs mod fn φ loops ss env = true →
      GenG T env (cgSs mod fn φ loops ss env).2 (cgSs mod fn φ loops ss env).1) := by
  refine cgS.mutual_induct_unfolding mod fn φ
    (motive_1 := fun loops st env r => (∀ x ∈ Frag.identsGS st, x ∈ T) → Frag.wsGS mod fn φ loops st env = true →
      GenG T env r.2 r.1)
    (motive_2 := fun loops _ _ arms _ env r => (∀ x ∈ Frag.identsGArmsS arms, x ∈ T) →
      Frag.wsGArmsS mod fn φ loops arms env = true → GenG T env r.2 r.1)
    (motive_3 := fun loops b env r => (∀ x ∈ Frag.identsGBS b, x ∈ T) → Frag.wsGBS mod fn φ loops b env = true →
      GenG T env r.2 r.1)
    (motive_4 := fun loops ss env r => (∀ x ∈ Frag.identsGSs ss, x ∈ T) → Frag.wsGSs mod fn φ loops ss env = true →
      GenG T env r.2 r.1)
    ?letS ?assign ?opAssign ?idxAssign ?memAssign ?push ?ifElse ?ifThen ?tryCatch ?matchS ?throw ?println ?call
    ?whileS ?loopS ?forS ?brk ?cont ?ret ?other ?block ?blockOther ?armsBlock ?armsSkip ?armsOther ?stmtsNil ?stmtsCons
  case other | blockOther | armsOther | stmtsNil => intros; exact GenG.nil T _
  case brk | cont =>
    intro loops sp env _ _
    refine (GenG.nil T env).of_codeVars ?_
    rcases loops with _ | ⟨⟨b, c⟩, _⟩ <;> rfl
  case letS =>
    intro loops sp name vty oty e env ce fv hT hws
    simp only [Frag.identsGS, List.mem_cons] at hT
    have hlive := codeVars_cgE_live mod φ T env.scopes e env.lm
      fun x hx => hT x (Or.inr (List.mem_append_left _ hx))
    refine GenG.fresh mod T env name _ ?_ ?_ _ fun m hm => ?_
    · rfl
    · exact Nat.le_succ _
    simp only [codeVars_rules, var?, List.append_nil, List.mem_append, List.mem_singleton] at hm
    exact hm.symm.imp id (hlive m)
  case assign =>
    intro loops sp asp isp ity name f r env cr hT hws
    simp only [Frag.wsGS, Bool.and_eq_true] at hws
    simp only [Frag.identsGS, List.mem_cons] at hT
    obtain ⟨m', hρ⟩ := Option.isSome_iff_exists.mp hws.1
    refine ((GenG.expr mod φ env r env.lm cr.2 fun x hx => hT x (Or.inr hx)).trans
      (GenG.plain (code := [(.setVar m', asp)]) rfl rfl fun m hm => ?_)).of_codeVars (by rw [hρ]; rfl)
    cases List.mem_singleton.mp hm
    exact ρS_mem_liveNames T env.scopes name _ (hT name (Or.inl rfl)) hρ
  case opAssign =>
    intro loops sp asp op isp ity name f r env mn cr hT hws
    simp only [Frag.wsGS, Bool.and_eq_true] at hws
    simp only [Frag.identsGS, List.mem_cons] at hT
    obtain ⟨m', hρ⟩ := Option.isSome_iff_exists.mp hws.1
    have hm' := ρS_mem_liveNames T env.scopes name _ (hT name (Or.inl rfl)) hρ
    have hv : ∀ m ∈ codeVars [((Instr.setVar m' : SInstr), asp)], m ∈ liveNames T env.scopes :=
      fun m hm => by cases List.mem_singleton.mp hm; exact hm'
    refine (((GenG.plain (env' := env) rfl rfl hv).trans
      (GenG.expr mod φ env r env.lm cr.2 fun x hx => hT x (Or.inr hx))).trans
      (GenG.plain (env' := { env with lm := cr.2 }) rfl rfl hv)).of_codeVars ?_
    simp only [mn, hρ, Option.getD_some, codeVars_rules, codeVars_arith, var?, List.append_nil]
    rfl
  case idxAssign | memAssign =>
    intro loops sp asp op _ _ _ _ r env cl cr hT hws
    simp only [identsGS_idxAssign, identsGS_memAssign, List.mem_append] at hT
    refine ((GenG.expr mod φ env _ env.lm cl.2 fun x hx => hT x (Or.inl hx)).trans
      (GenG.expr mod φ { env with lm := cl.2 } r cl.2 cr.2 fun x hx => hT x (Or.inr hx))).of_codeVars ?_
    simp only [codeVars_rules, codeVars_opPre, codeVars_opPost, var?, List.append_nil]
    rfl
  case push =>
    intro loops sp csp cty msp mty b nm a env ca cb hT _
    simp only [Frag.identsGS, List.mem_append] at hT
    refine ((GenG.expr mod φ env a.2 env.lm ca.2 fun x hx => hT x (Or.inr (by
        simpa only [Frag.namesGArgs, Frag.namesGE, Frag.varsGArgs, Frag.callsGArgs, List.append_nil] using hx))).trans
      (GenG.expr mod φ { env with lm := ca.2 } b ca.2 cb.2 fun x hx => hT x (Or.inl hx))).of_codeVars ?_
    simp only [codeVars_rules, var?, List.append_nil]
    rfl
  case throw =>
    intro loops sp csp cty isp ity name g f si args sw env _ ca hT _
    simp only [Frag.identsGS, List.mem_cons] at hT
    refine (GenG.plain (env' := { env with lm := ca.2 }) rfl rfl (codeVars_cgArgs_live mod φ T env.scopes args
      env.lm fun x hx => hT x (Or.inr (List.mem_append_left _ hx)))).of_codeVars ?_
    have hD : codeVars (if cty.isNull = true then ([] : SCode) else [(Instr.drop, sp)]) = [] := by split <;> rfl
    simp only [codeVars_rules, hD, var?, List.append_nil]
    rfl
  case println =>
    intro loops sp csp cty isp ity name g f si args sw env _ _ ca hT _
    simp only [Frag.identsGS, List.mem_cons] at hT
    refine (GenG.plain (env' := { env with lm := ca.2 }) rfl rfl (codeVars_cgArgs_live mod φ T env.scopes args
      env.lm fun x hx => hT x (Or.inr (List.mem_append_left _ hx)))).of_codeVars ?_
    simp only [codeVars_rules, var?, List.append_nil]
    rfl
  case call =>
    intro loops sp csp cty isp ity name g f si args sw env _ _ ce hT _
    simp only [Frag.identsGS, List.mem_cons] at hT
    refine (GenG.plain (env' := { env with lm := ce.2 }) rfl rfl (codeVars_cgArgs_live mod φ T env.scopes args
      env.lm fun x hx => hT x (Or.inr (List.mem_append_left _ hx)))).of_codeVars ?_
    simp only [ce, cgE, codeVars_rules, var?, List.append_nil]
  case ret =>
    intro loops sp e env ce hT _
    refine (GenG.expr mod φ env e env.lm ce.2 hT).of_codeVars ?_
    simp only [codeVars_rules, var?, List.append_nil]
    rfl
  case stmtsCons =>
    intro loops s ss env ihs ihss hT hws
    simp only [Frag.wsGSs, Bool.and_eq_true] at hws
    simp only [Frag.identsGSs, List.mem_append] at hT
    exact (ihs (fun x hx => hT x (Or.inl hx)) hws.1).trans (ihss (fun x hx => hT x (Or.inr hx)) hws.2)
  case block =>
    intro loops sp ty stmts env ih hT hws
    exact (((GenG.push T env env.lm).trans (ih hT hws)).trans (GenG.pop T _)).of_codeVars
      (by simp only [List.nil_append, List.append_nil])
  case armsBlock =>
    intro loops sp after lits b rest nm nms env ihb ihr hT hws
    simp only [Frag.identsGArmsS, List.mem_append] at hT
    simp only [Frag.wsGArmsS, Bool.and_eq_true] at hws
    refine ((ihb (fun x hx => hT x (Or.inl hx)) hws.1).trans (ihr (fun x hx => hT x (Or.inr hx)) hws.2)).of_codeVars ?_
    simp only [codeVars_rules, var?, List.append_nil, List.nil_append]
  case armsSkip =>
    intro loops sp after a rest nm nms env hne ihr hT hws
    obtain ⟨lits, act⟩ := a
    have h : GenG T env (cgArmsS mod fn φ loops sp after rest nms env).2
        (cgArmsS mod fn φ loops sp after rest nms env).1 := by
      cases act <;> first
        | exact (hne _ _ rfl).elim
        | exact ihr (by simpa only [Frag.identsGArmsS] using hT) (by simpa only [Frag.wsGArmsS] using hws)
    exact h.of_codeVars (by simp only [codeVars_rules, var?, List.nil_append])
  case ifElse =>
    intro loops sp isp ty c t eb env cc after els ct ce iht ihe hT hws
    simp only [Frag.wsGS, Bool.and_eq_true] at hws
    simp only [Frag.identsGS, List.mem_append] at hT
    refine (((GenG.expr mod φ env c env.lm els.2 fun x hx => hT x (Or.inl hx)).trans
      (iht (fun x hx => hT x (Or.inr (Or.inl hx))) hws.1.2)).trans
      (ihe (fun x hx => hT x (Or.inr (Or.inr hx))) hws.2)).of_codeVars ?_
    simp only [codeVars_rules, var?, List.append_nil]
    rfl
  case ifThen =>
    intro loops sp isp ty c t env cc after els ct iht hT hws
    simp only [Frag.wsGS, Bool.and_eq_true] at hws
    simp only [Frag.identsGS, List.mem_append] at hT
    refine ((GenG.expr mod φ env c env.lm els.2 fun x hx => hT x (Or.inl hx)).trans
      (iht (fun x hx => hT x (Or.inr hx)) hws.2)).of_codeVars ?_
    simp only [codeVars_rules, var?, List.append_nil]
    rfl
  case whileS =>
    intro loops sp c body env head after cc cb ihb hT hws
    simp only [Frag.wsGS, Bool.and_eq_true] at hws
    simp only [Frag.identsGS, List.mem_append] at hT
    refine ((GenG.expr mod φ env c after.2 cc.2 fun x hx => hT x (Or.inl hx)).trans
      (ihb (fun x hx => hT x (Or.inr hx)) hws.2)).of_codeVars ?_
    simp only [codeVars_rules, var?, List.append_nil, List.nil_append]
    rfl
  case loopS =>
    intro loops sp body env head after cb ihb hT hws
    refine (ihb (by simpa only [Frag.identsGS] using hT) (by simpa only [Frag.wsGS] using hws)).of_codeVars ?_
    simp only [codeVars_rules, var?, List.append_nil, List.nil_append]
    rfl
  case matchS =>
    intro loops sp msp ty c arms db env cc after ts dfl bs cd iha ihd hT hws
    simp only [Frag.wsGS, Bool.and_eq_true] at hws
    simp only [Frag.identsGS, List.mem_append] at hT
    refine (((GenG.expr mod φ env c env.lm dfl.2 fun x hx => hT x (Or.inl hx)).trans
      (iha (fun x hx => hT x (Or.inr (Or.inl hx))) hws.1.2)).trans
      (ihd (fun x hx => hT x (Or.inr (Or.inr hx))) hws.2)).of_codeVars ?_
    simp only [ts, codeVars_rules, codeVars_armTests, var?, List.append_nil]
    rfl
  case tryCatch =>
    intro loops sp tsp ty t ci csp cty cstmts env exc after ct fv cc iht ihc hT hws
    simp only [Frag.wsGS, Bool.and_eq_true] at hws
    simp only [Frag.identsGS, Frag.identsGBS, List.mem_append, List.mem_cons] at hT
    have h4 : GenG T { ct.2 with scopes := [] :: ct.2.scopes } fv.2 [((Instr.setVar fv.1 : SInstr), tsp)] :=
      GenG.fresh mod T _ ci _ rfl (Nat.le_refl _) _ fun m hm =>
        Or.inl (List.mem_singleton.mp hm)
    refine (((((iht (fun x hx => hT x (Or.inl hx)) hws.1.2).trans (GenG.push T ct.2 ct.2.lm)).trans h4).trans
      (ihc (fun x hx => hT x (Or.inr (Or.inr hx))) hws.2)).trans (GenG.pop T cc.2)).of_codeVars ?_
    simp only [codeVars_rules, var?, List.append_nil, List.nil_append]
    rfl
  case forS =>
    intro loops sp name vty rsp a b incl bsp bty stmts env head upd after ca cb fit fhv cbody ih hT hws
    simp only [Frag.wsGS, Bool.and_eq_true] at hws
    simp only [Frag.identsGS, List.mem_cons, List.mem_append] at hT
    have h2 : GenG T { env with scopes := [] :: env.scopes, lm := cb.2 } fit.2
        [((Instr.setVar fit.1 : SInstr), sp), (.getVar fit.1, sp)] :=
      GenG.fresh mod T _ ("$iter_" ++ name) _ rfl (Nat.le_refl _) _ fun m hm => Or.inl (by
        simpa only [codeVars_rules, var?, List.append_nil, List.singleton_append, List.mem_cons, List.not_mem_nil,
          or_false, or_self] using hm)
    have h3 : GenG T fit.2 fhv.2 [((Instr.setVar fhv.1 : SInstr), sp)] :=
      GenG.fresh mod T _ name _ rfl (Nat.le_refl _) _ fun m hm =>
        Or.inl (List.mem_singleton.mp hm)
    refine (((((((GenG.expr mod φ env a after.2 ca.2 fun x hx => hT x (Or.inr (Or.inl hx))).trans
      (GenG.expr mod φ { env with lm := ca.2 } b ca.2 cb.2 fun x hx => hT x (Or.inr (Or.inr (Or.inl hx))))).trans
      (GenG.push T _ cb.2)).trans h2).trans h3).trans
      (ih (fun x hx => hT x (Or.inr (Or.inr (Or.inr hx)))) hws.2)).trans (GenG.pop T cbody.2)).of_codeVars ?_
    simp only [codeVars_rules, var?, List.append_nil, List.nil_append, List.append_assoc, List.cons_append]
    rfl

theorem genG_params (mod : String) (sp : Span) (T : List String) : ∀ (ps : List Param) (env : CEnv),
    GenG T env (cgParams mod sp ps env).2 (cgParams mod sp ps env).1 := by
  intro ps
  induction ps with
  | nil => intro env; exact GenG.nil T env
  | cons p ps ih =>
    intro env
    simp only [cgParams]
    split
    · exact ih env
    · have h1 : GenG T env (freshVar mod env p.name).2 [((Instr.setVar (freshVar mod env p.name).1 : SInstr), sp)] :=
        GenG.fresh mod T env p.name _ rfl (Nat.le_refl _) _ fun m hm => Or.inl (List.mem_singleton.mp hm)
      exact h1.trans (ih _)

/-- In the code of a function of the general fragment every slot is below the variable count of its
`AddMempointer`. -/
theorem cgFn_slots (mod : String) (φ : String → Option String) (fd : FnDef) (stmts : List Stmt)
    (oe : Option Expr) (scopes0 : List (List (String × String))) (vm0 : List (String × Nat)) (lm0 : LM)
    (T : List String) (r : NCode)
    (tIdents : ∀ x ∈ Frag.identsGSs stmts, x ∈ T)
    (tVars : ∀ e, oe = some e → ∀ x ∈ Frag.namesGE e, x ∈ T)
    (wsS : Frag.wsGSs mod fd.name φ [] stmts (fnParts mod φ fd stmts oe scopes0 vm0 lm0).envB = true)
    (key : cleanupKey mod fd.name ∉ T) (outer : ∀ sc ∈ scopes0, ∀ x ∈ T, sc.lookup x = none)
    (hrel : relocate (cgFn mod φ fd stmts oe scopes0 vm0 lm0) = some r) :
    ∀ m ∈ varNames r, slotFn r m < (fnParts mod φ fd stmts oe scopes0 vm0 lm0).envE.nv := by
  intro m hm
  have hlt := slotFn_lt r m hm
  let P := fnParts mod φ fd stmts oe scopes0 vm0 lm0
  let env0 : CEnv := ⟨[] :: scopes0, vm0, lm0, 0⟩
  have h1 : GenG T env0 (cgParams mod fd.sp fd.params env0).2 P.pcode := genG_params mod fd.sp T fd.params env0
  have h2 : GenG T (cgParams mod fd.sp fd.params env0).2 P.envB [] := GenG.bodyEnv T mod fd.name _ key
  have h3 : GenG T P.envB P.envS P.scode := (genG_stmt mod fd.name φ T).2.2.2 [] stmts P.envB tIdents wsS
  have h4 : GenG T P.envS P.envE P.ecode := by
    cases oe with
    | none => exact GenG.nil T _
    | some e => exact GenG.expr mod φ P.envS e _ _ (tVars e rfl)
  obtain ⟨G, hnv, hv, _⟩ := ((h1.trans h2).trans h3).trans h4
  have hlive : liveNames T env0.scopes = [] := by
    apply liveNames_of_unbound
    intro sc hsc
    rcases List.mem_cons.mp hsc with rfl | hsc
    · intro x _; rfl
    · exact outer sc hsc
  have hsub : ∀ a ∈ distinctNames r, a ∈ G := by
    intro a ha
    have ha' : a ∈ varNames r := (mem_distinctNames r a).mp ha
    rw [varNames_relocate _ r hrel] at ha'
    simp only [cgFn, codeVars_append, List.mem_append] at ha'
    have hin : a ∈ codeVars (P.pcode ++ [] ++ P.scode ++ P.ecode) := by
      simp only [codeVars_append, List.mem_append]
      rcases ha' with (((ha' | ha') | ha') | ha') | ha'
      · simp [codeVars, var?] at ha'
      · exact Or.inl (Or.inl (Or.inl ha'))
      · exact Or.inl (Or.inr ha')
      · exact Or.inr ha'
      · simp [codeVars, var?] at ha'
    rcases hv a hin with h | h
    · exact h
    · rw [hlive] at h; simp at h
  have hlen := (distinctNames_nodup r).length_le_of_subset hsub
  show slotFn r m < P.envE.nv
  have : env0.nv = 0 := rfl
  omega

end HmsProofs.Sim
