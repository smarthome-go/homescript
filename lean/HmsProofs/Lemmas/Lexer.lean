import HmsProofs.Lemmas.LexPiece
/-! The lexer model over a whole input: `pieces` meets the specification, `lexPrefix` delivers its tokens. -/
namespace HmsProofs.Lemmas.Lexer
open Hms.Lex HmsProofs.Lemmas.LexLoc HmsProofs.Lemmas.LexPiece

/-- Of an answer of `pieces` started at `loc` on `remaining`. The pieces partition `remaining`, and meet the
specification from its offset on when `loc` is the location of the text `consumed` in front of it (the specification's
positions count from the start of the whole text); an error lies in `remaining`; the fuel runs out only when there was
no more of it than input. -/
def PiecesOK (fuel : Nat) (loc : Loc) (consumed remaining : List Char) : Except LexErr (List Piece) ⊕ Unit → Prop
  | .inl (.ok ps) => ps.flatMap Piece.chars = remaining
      ∧ (loc = locOf consumed → Spec.tokenizes.go (consumed ++ remaining) consumed.length ps = true)
  | .inl (.error e) => ∃ a b r, a ++ b ++ r = remaining ∧ e.start = loc.advanceBy a ∧ e.stop = loc.advanceBy (a ++ b)
  | .inr () => fuel ≤ remaining.length

/-- One step of `Spec.tokenizes.go`: `pieceOK` is what `go` asks of `p` at offset `consumed.length`, once the token's
positions are shown to be `Spec.locAt` of its first and last character. `hemp`: of a piece that is no token the
specification asks whether it is the last *piece*, the step lemma whether the *text* ends after it; a piece list is
empty exactly when its text is. -/
theorem go_step {consumed : List Char} {p : Piece} {rest : List Char} {ps : List Piece}
    (h3 : pieceOK (locOf consumed) p rest) (hflat : ps.flatMap Piece.chars = rest)
    (hemp : ps.isEmpty = rest.isEmpty)
    (hgo : Spec.tokenizes.go (consumed ++ (p.chars ++ rest)) (consumed.length + p.chars.length) ps = true) :
    Spec.tokenizes.go (consumed ++ (p.chars ++ rest)) consumed.length (p :: ps) = true := by
  simp only [Spec.tokenizes.go, hgo, Bool.and_true, hflat]
  cases p with
  | token t lx =>
    obtain ⟨q1, q2, q3, q4, q5⟩ := h3
    simp only [Piece.chars]
    have hlen1 : lx.length ≥ 1 := List.length_pos_iff.mpr q1
    have hstop : Spec.locAt (consumed ++ (lx ++ rest)) (consumed.length + lx.length - 1)
        = locOf (consumed ++ lx.dropLast) := by
      have hsplit : consumed ++ (lx ++ rest)
          = (consumed ++ lx.dropLast) ++ (lx.getLast q1 :: rest) := by
        conv => lhs; rw [← List.dropLast_concat_getLast q1]
        simp
      have hlen : consumed.length + lx.length - 1 = (consumed ++ lx.dropLast).length := by
        simp [List.length_dropLast]; omega
      rw [hsplit, hlen]
      exact locAt_append_length _ _
    have hne : lx.isEmpty = false := by
      cases lx with
      | nil => exact absurd rfl q1
      | cons _ _ => rfl
    simp only [hne, q2, q3, q4, locAt_append_length, hstop, locOf_advanceBy, Bool.not_false, Bool.true_and,
      beq_self_eq_true]
    exact q5
  | space x => rw [hemp]; exact h3
  | lineComment x => rw [hemp]; exact h3
  | blockComment x => rw [hemp]; exact h3

theorem pieces_spec (fuel : Nat) (loc : Loc) (consumed remaining : List Char) :
    PiecesOK fuel loc consumed remaining (pieces fuel loc remaining) := by
  induction fuel generalizing loc consumed remaining with
  | zero => exact Nat.zero_le _
  | succ fuel ih =>
    cases remaining with
    | nil => exact ⟨rfl, fun _ => rfl⟩
    | cons c cs =>
      rw [pieces]
      have hstep := nextPiece_spec loc c cs
      cases hn : nextPiece loc c cs with
      | error e => rw [hn] at hstep; exact hstep
      | ok pr =>
        obtain ⟨p, rest⟩ := pr
        rw [hn] at hstep
        obtain ⟨h1, h2, h3⟩ := hstep
        have hlen : rest.length + 1 ≤ (c :: cs).length := by
          rw [← h1, List.length_append]
          have := List.length_pos_iff.mpr h2
          omega
        have ih' := ih (loc.advanceBy p.chars) (consumed ++ p.chars) rest
        dsimp only
        cases hps : pieces fuel (loc.advanceBy p.chars) rest with
        | inr u => rw [hps] at ih'; exact Nat.le_trans (Nat.succ_le_succ ih') hlen
        | inl res =>
          rw [hps] at ih'
          cases res with
          | error e =>
            obtain ⟨a, b, r, g1, g2, g3⟩ := ih'
            exact ⟨p.chars ++ a, b, r, by simp [← h1, ← g1], by rw [g2, advanceBy_append],
              by rw [g3, List.append_assoc, advanceBy_append loc]⟩
          | ok ps' =>
            obtain ⟨i1, i2⟩ := ih'
            refine ⟨by simp [i1, h1], fun hloc => ?_⟩
            subst hloc
            have hemp : ps'.isEmpty = rest.isEmpty := by
              cases rest with
              | nil =>
                cases fuel with
                | zero => simp [pieces] at hps
                | succ f => simp [pieces] at hps; simp [hps]
              | cons x xs =>
                cases ps' with
                | nil => simp at i1
                | cons _ _ => rfl
            have := go_step h3 i1 hemp
              (by simpa only [List.append_assoc, List.length_append] using i2 (locOf_advanceBy _ _))
            rwa [h1] at this

/-- Fuel never runs out. -/
theorem pieces_total (src : List Char) (loc : Loc) : ∃ r, pieces (src.length + 1) loc src = .inl r := by
  have := pieces_spec (src.length + 1) loc [] src
  cases h : pieces (src.length + 1) loc src with
  | inl r => exact ⟨r, rfl⟩
  | inr u => rw [h] at this; exact absurd this (Nat.not_succ_le_self _)

theorem pieces_start (src : List Char) :
    PiecesOK (src.length + 1) Loc.start [] src (pieces (src.length + 1) Loc.start src) :=
  pieces_spec (src.length + 1) Loc.start [] src

/-- What `NextToken` delivers, from the piece list: its tokens and the end-of-input token, or the error and
no end-of-input token (of the tokens before an error nothing is said). -/
def StreamOK (loc : Loc) (acc : List Tok) (res : LexResult) : Except LexErr (List Piece) ⊕ Unit → Prop
  | .inl (.ok ps) => res =
      ⟨acc.reverse ++ tokensOf ps,
       some ⟨.eof, "EOF".toList, loc.advanceBy (ps.flatMap Piece.chars), loc.advanceBy (ps.flatMap Piece.chars)⟩,
       none⟩
  | .inl (.error e) => res.err = some e ∧ res.eof = none
  | .inr () => True

theorem lexPrefix_spec (fuel : Nat) (loc : Loc) (src : List Char) (acc : List Tok) :
    StreamOK loc acc (lexPrefix fuel loc src acc) (pieces fuel loc src) := by
  induction fuel generalizing loc src acc with
  | zero => trivial
  | succ fuel ih =>
    cases src with
    | nil => simp [StreamOK, pieces, lexPrefix, tokensOf, Loc.advanceBy]
    | cons c cs =>
      rw [pieces, lexPrefix]
      cases hn : nextPiece loc c cs with
      | error e => exact ⟨rfl, rfl⟩
      | ok pr =>
        obtain ⟨p, rest⟩ := pr
        dsimp only
        have ih' := ih (loc.advanceBy p.chars) rest
        cases hps : pieces fuel (loc.advanceBy p.chars) rest with
        | inr u => trivial
        | inl r =>
          rw [hps] at ih'
          cases r with
          | error e => exact ih' _
          | ok ps' =>
            simp only [StreamOK] at ih' ⊢
            rw [ih', List.flatMap_cons, advanceBy_append]
            cases p <;> simp [tokensOf]

theorem lexAll_of_pieces_err (src : List Char) (e : LexErr)
    (h : pieces (src.length + 1) Loc.start src = .inl (.error e)) :
    (lexAll src).err = some e ∧ (lexAll src).eof = none := by
  have := lexPrefix_spec (src.length + 1) Loc.start src []
  rwa [h] at this

end HmsProofs.Lemmas.Lexer
