import HmsProofs.Lemmas.SimHMatch
/-! Heap cells. The VM model runs the specification's own `indexVal`, `memberVal`, `callMember` on its state (same heap,
other scopes), which is sound for computations that only read the heap (`Reads`). A value read from a cell carries the
cell's origin (`idxOrg`, `memOrg`), through which `Assign` writes (`assignHeap`); list literals and slot assignment follow. -/
namespace HmsProofs.Sim
open Hms.Core Hms.Core.Comp Hms.Core.VM

/-- `m` leaves the state as it is, its result depends on the heap only, and its errors are among `P`: what lets the VM
run `m` on its own state (same heap, other scopes) and get the specification's result. -/
structure Reads {α} (P : Ctl → Prop) (m : M α) : Prop where
  heapOnly : HeapOnly m
  errs : ∀ st c st', m st = (.error c, st') → P c

namespace Reads
variable {α β : Type} {P : Ctl → Prop}

theorem ok (a : α) : Reads P (fun st => (.ok a, st) : M α) :=
  ⟨fun _ _ _ => rfl, fun _ _ _ h => by cases h⟩

theorem error {c : Ctl} (h : P c) : Reads P (fun st => (.error c, st) : M α) :=
  ⟨fun _ _ _ => rfl, fun _ _ _ e => by cases e; exact h⟩

theorem ite {p : Prop} [Decidable p] {x y : M α} (hx : Reads P x) (hy : Reads P y) : Reads P (if p then x else y) := by
  split <;> assumption

theorem bind {x : M α} {f : α → M β} (hx : Reads P x) (hf : ∀ a, Reads P (f a)) : Reads P (x >>= f) := by
  refine ⟨fun st st' h => ?_, fun st c st' h => ?_⟩
  · rw [M_bind, M_bind, hx.heapOnly st st' h]
    have hs := hx.heapOnly.state st
    rcases hxs : x st with ⟨r, st1⟩
    rw [hxs] at hs
    cases hs
    cases r with
    | error c => rfl
    | ok a => exact (hf a).heapOnly st1 st' h
  · rw [M_bind] at h
    rcases hxs : x st with ⟨r, st1⟩
    rw [hxs] at h
    cases r with
    | error c1 => cases h; exact hx.errs st _ _ hxs
    | ok a => exact (hf a).errs st1 c st' h

theorem mono {P' : Ctl → Prop} {m : M α} (h : Reads P m) (hp : ∀ c, P c → P' c) : Reads P' m :=
  ⟨h.heapOnly, fun st c st' e => hp c (h.errs st c st' e)⟩

theorem readCell (a : Nat) (h : P (.unsupported "dangling reference")) : Reads P (readCell a) := by
  refine ⟨fun st st' hh => ?_, fun st c st' e => ?_⟩
  · rw [readCell_run, readCell_run, hh]
    cases st.heap[a]? <;> rfl
  · rw [readCell_run] at e
    cases hc : st.heap[a]? <;> rw [hc] at e <;> cases e
    exact h

end Reads

theorem indexVal_reads (b i : Val) (sp : Span) :
    Reads (fun c => (∃ kd m, c = .fatal kd m sp) ∨ ∃ w, c = .unsupported w) (indexVal b i sp) := by
  unfold indexVal
  cases b
  case ref a =>
    cases i
    case int k =>
      refine (Reads.readCell a (Or.inr ⟨_, rfl⟩)).bind fun c => ?_
      cases c
      case list xs =>
        dsimp only
        cases wrapIndex k xs.length
        · exact .error (Or.inl ⟨_, _, rfl⟩)
        · exact .ok _
      all_goals exact .error (Or.inr ⟨_, rfl⟩)
    case str k =>
      refine (Reads.readCell a (Or.inr ⟨_, rfl⟩)).bind fun c => ?_
      cases c
      case list => exact .error (Or.inr ⟨_, rfl⟩)
      all_goals
        rename_i fs
        dsimp only
        cases fs.lookup k
        · exact .error (Or.inl ⟨_, _, rfl⟩)
        · exact .ok _
    all_goals exact .error (Or.inr ⟨_, rfl⟩)
  case str s =>
    cases i
    case int k =>
      dsimp only
      cases wrapIndex k s.length
      · exact .error (Or.inl ⟨_, _, rfl⟩)
      · exact .ok _
    all_goals exact .error (Or.inr ⟨_, rfl⟩)
  all_goals exact .error (Or.inr ⟨_, rfl⟩)

/-- The one error is a dangling reference. -/
theorem memberVal_dot_reads (b : Val) (name : String) (sp : Span) :
    Reads (fun c => ∃ w, c = .unsupported w) (memberVal b name .dot sp) := by
  unfold memberVal
  cases b
  case ref a =>
    refine (Reads.readCell a ⟨_, rfl⟩).bind fun c => ?_
    cases c
    case obj fs => dsimp only; cases fs.lookup name <;> exact .ok _
    all_goals exact .ok _
  case range x y i => exact .ite (.ok _) (.ite (.ok _) (.ok _))
  all_goals exact .ok _

/-- The origin the VM attaches to an indexed value. -/
def idxOrg (heap : Array Cell) (b i : Val) : Option Org :=
  match b, i with
  | .ref a, .int k =>
    match heap[a]? with
    | some (.list xs) => (wrapIndex k xs.length).map (Org.listElem a)
    | _ => none
  | .ref a, .str k => some (.field a k)
  | _, _ => none

/-- The origin the VM attaches to a member read. -/
def memOrg (heap : Array Cell) (b : Val) (name : String) : Option Org :=
  match b with
  | .ref a =>
    match heap[a]? with
    | some (.obj fs) => if (fs.lookup name).isSome then some (.field a name) else none
    | _ => none
  | _ => none

theorem memOrg_field (heap : Array Cell) (a : Nat) (fs : List (String × Val)) (k : String) (v : Val)
    (h : heap[a]? = some (.obj fs)) (hl : fs.lookup k = some v) : memOrg heap (.ref a) k = some (.field a k) := by
  simp only [memOrg, h, hl, Option.isSome_some, if_true]

/-- `Assign` on the heap. -/
def assignHeap (heap : Array Cell) (org : Org) (v : Val) : Option (Array Cell) :=
  match org with
  | .listElem a idx =>
    match heap[a]? with
    | some (.list xs) => some (heap.setIfInBounds a (.list (xs.set idx v)))
    | _ => none
  | .field a name =>
    match heap[a]? with
    | some (.obj fs) => some (heap.setIfInBounds a (.obj (setField fs name v)))
    | some (.anyobj fs) => some (heap.setIfInBounds a (.anyobj (setField fs name v)))
    | _ => none

section Steps
variable {code : Code} {lim : Limits} {s : VMState} {fn : String} {ip : Nat} {rest : List Frame} {mp : Int}
variable {k : Nat} {stk : List SVal} {mem : List (Int × Val)} {out : World} {c : List (RInstr × Span)}
variable (hf : findCode code fn = some c)
include hf

theorem mkS_cloningPush_emptyList (sp : Span)
    (hx : c[ip]? = some (.cloningPush .emptyList, sp)) :
    exec1 code lim (mkS s (⟨fn, ip⟩ :: rest) mp k stk mem out) =
      .next (mkS s (⟨fn, ip + 1⟩ :: rest) mp (k + 1) (⟨.ref out.heap.size, none⟩ :: stk) mem
        ⟨out.heap.push (.list []), out.out⟩) := by
  rw [exec1_mkS hf hx]
  rfl

theorem mkS_listPush (sp : Span) (o1 o2 o3 : Option Org)
    (elem : Val) (a : Nat) (xs : List Val)
    (hx : c[ip]? = some (.hostCall "__internal_list_push", sp)) (hcell : out.heap[a]? = some (.list xs)) :
    exec1 code lim (mkS s (⟨fn, ip⟩ :: rest) mp k (⟨.int (I64.ofInt 2), o1⟩ :: ⟨elem, o2⟩ :: ⟨.ref a, o3⟩ :: stk) mem out) =
      .next (mkS s (⟨fn, ip + 1⟩ :: rest) mp (k + 1) (⟨.ref a, none⟩ :: stk) mem
        ⟨out.heap.setIfInBounds a (.list (xs ++ [elem])), out.out⟩) := by
  rw [exec1_mkS hf hx]
  have h2 : (I64.ofInt 2).toNat = ([⟨elem, o2⟩, ⟨.ref a, o3⟩] : List SVal).length :=
    show (I64.ofInt 2).toNat = 2 by decide
  simp only [step, mkS, h2]
  rw [popN_append _ [⟨elem, o2⟩, ⟨.ref a, o3⟩] stk rfl]
  simp only [List.map_cons, List.map_nil, beq_self_eq_true, if_true, hcell, advance, push1]

theorem mkS_index (sp : Span) (bv iv : Val) (ob oi : Option Org)
    (hx : c[ip]? = some (.index, sp)) :
    exec1 code lim (mkS s (⟨fn, ip⟩ :: rest) mp k (⟨iv, oi⟩ :: ⟨bv, ob⟩ :: stk) mem out) =
      match (indexVal bv iv sp { s.st with heap := out.heap, out := out.out }).1 with
      | .ok v => .next (mkS s (⟨fn, ip + 1⟩ :: rest) mp (k + 1) (⟨v, idxOrg out.heap bv iv⟩ :: stk) mem out)
      | .error e => ctlToRes e (mkS s (⟨fn, ip⟩ :: rest) mp (k + 1) stk mem out) := by
  rw [exec1_mkS hf hx]
  have hst := (indexVal_reads bv iv sp).heapOnly.state { s.st with heap := out.heap, out := out.out }
  simp only [step, mkS, runM]
  rcases hr : indexVal bv iv sp { s.st with heap := out.heap, out := out.out } with ⟨r, st'⟩
  rw [hr] at hst
  obtain rfl : st' = _ := hst
  cases r <;> rfl

theorem mkS_member (sp : Span) (name : String) (bv : Val) (ob : Option Org)
    (hx : c[ip]? = some (.member name, sp)) :
    exec1 code lim (mkS s (⟨fn, ip⟩ :: rest) mp k (⟨bv, ob⟩ :: stk) mem out) =
      match (memberVal bv name .dot sp { s.st with heap := out.heap, out := out.out }).1 with
      | .ok v => .next (mkS s (⟨fn, ip + 1⟩ :: rest) mp (k + 1) (⟨v, memOrg out.heap bv name⟩ :: stk) mem out)
      | .error e => ctlToRes e (mkS s (⟨fn, ip⟩ :: rest) mp (k + 1) stk mem out) := by
  rw [exec1_mkS hf hx]
  have hst := (memberVal_dot_reads bv name sp).heapOnly.state { s.st with heap := out.heap, out := out.out }
  simp only [step, mkS, pop1, runM]
  rcases hr : memberVal bv name .dot sp { s.st with heap := out.heap, out := out.out } with ⟨r, st'⟩
  rw [hr] at hst
  obtain rfl : st' = _ := hst
  cases r <;> rfl

theorem mkS_callVal_bound (sp : Span) (nm : String) (recv : Val)
    (o1 o2 : Option Org) (svs : List SVal) (r : Except Ctl Val) (out' : World)
    (hx : c[ip]? = some (.callVal, sp)) (hn : svs.length < 2 ^ 64)
    (hr : callMember recv nm (svs.map (·.v)) sp { s.st with heap := out.heap, out := out.out } =
      (r, { s.st with heap := out'.heap, out := out'.out })) :
    exec1 code lim (mkS s (⟨fn, ip⟩ :: rest) mp k
        (⟨.int (I64.ofInt (svs.length : Int)), o1⟩ :: ⟨.bound recv nm, o2⟩ :: (svs ++ stk)) mem out) =
      match r with
      | .ok .null => .next (mkS s (⟨fn, ip + 1⟩ :: rest) mp (k + 1) stk mem out')
      | .ok v => .next (mkS s (⟨fn, ip + 1⟩ :: rest) mp (k + 1) (⟨v, none⟩ :: stk) mem out')
      | .error e => ctlToRes e (mkS s (⟨fn, ip⟩ :: rest) mp (k + 1) stk mem out') := by
  have h := mkS_callVal_host (lim := lim) (rest := rest) (mp := mp) (k := k) (stk := stk) (mem := mem) hf sp _ _
    (.inr ⟨_, _, rfl, rfl⟩) o1 o2 svs r out' hx hn hr
  cases r with
  | error e => exact h
  | ok v => cases v <;> exact h

theorem mkS_callVal_value (sp : Span) (nm : String) (recv : Val) (o1 o2 : Option Org) (svs : List SVal) (n : Val)
    (out' : World) (hx : c[ip]? = some (.callVal, sp)) (hl : svs.length < 2 ^ 64)
    (hr : callMember recv nm (svs.map (·.v)) sp { s.st with heap := out.heap, out := out.out } =
      (.ok n, { s.st with heap := out'.heap, out := out'.out })) (hn : n ≠ .null) :
    exec1 code lim (mkS s (⟨fn, ip⟩ :: rest) mp k
        (⟨.int (I64.ofInt (svs.length : Int)), o1⟩ :: ⟨.bound recv nm, o2⟩ :: (svs ++ stk)) mem out) =
      .next (mkS s (⟨fn, ip + 1⟩ :: rest) mp (k + 1) (⟨n, none⟩ :: stk) mem out') := by
  have h := mkS_callVal_bound (lim := lim) (rest := rest) (mp := mp) (k := k) (stk := stk) (mem := mem) hf sp nm recv
    o1 o2 svs _ out' hx hl hr
  cases n <;> first | exact absurd rfl hn | exact h

theorem mkS_callVal_push (sp : Span) (a : Nat) (xs : List Val) (v : Val)
    (o1 o2 o3 : Option Org)
    (hx : c[ip]? = some (.callVal, sp)) (hcell : out.heap[a]? = some (.list xs)) :
    exec1 code lim (mkS s (⟨fn, ip⟩ :: rest) mp k
        (⟨.int (I64.ofInt 1), o1⟩ :: ⟨.bound (.ref a) "push", o2⟩ :: ⟨v, o3⟩ :: stk) mem out) =
      .next (mkS s (⟨fn, ip + 1⟩ :: rest) mp (k + 1) stk mem
        ⟨out.heap.setIfInBounds a (.list (xs ++ [v])), out.out⟩) :=
  mkS_callVal_bound hf sp "push" (.ref a) o1 o2 [⟨v, o3⟩] (.ok .null)
    ⟨out.heap.setIfInBounds a (.list (xs ++ [v])), out.out⟩ hx (show 1 < 2 ^ 64 by decide)
    (by show callMember (.ref a) "push" [v] sp _ = _; rw [callMember_push]; simp only [hcell])

theorem mkS_assign_org (sp : Span) (org : Org) (heap' : Array Cell)
    (dv v : Val) (o : Option Org)
    (hx : c[ip]? = some (.assign, sp)) (hh : assignHeap out.heap org v = some heap') :
    exec1 code lim (mkS s (⟨fn, ip⟩ :: rest) mp k (⟨v, o⟩ :: ⟨dv, some org⟩ :: stk) mem out) =
      .next (mkS s (⟨fn, ip + 1⟩ :: rest) mp (k + 1) stk mem ⟨heap', out.out⟩) := by
  rw [exec1_mkS hf hx]
  cases org with
  | listElem a idx =>
    simp only [assignHeap] at hh
    cases hc : out.heap[a]? with
    | none => simp [hc] at hh
    | some cell =>
      cases cell <;> simp only [hc, reduceCtorEq] at hh
      cases hh
      simp only [step, mkS, hc, advance]
  | field a name =>
    simp only [assignHeap] at hh
    cases hc : out.heap[a]? with
    | none => simp [hc] at hh
    | some cell =>
      cases cell <;> simp only [hc, reduceCtorEq] at hh
      all_goals
        cases hh
        simp only [step, mkS, hc, advance]

theorem mkS_dup (sp : Span) (x : SVal)
    (hx : c[ip]? = some (.dup, sp)) :
    exec1 code lim (mkS s (⟨fn, ip⟩ :: rest) mp k (x :: stk) mem out) =
      .next (mkS s (⟨fn, ip + 1⟩ :: rest) mp (k + 1) (x :: x :: stk) mem out) := by
  rw [exec1_mkS hf hx]
  simp only [step, mkS, advance]
end Steps

theorem mkS_assign_listElem (code : Code) (lim : Limits) (s : VMState) (fn : String) (ip : Nat)
    (rest : List Frame) (mp : Int) (k : Nat) (stk : List SVal) (mem : List (Int × Val)) (out : World)
    (c : List (RInstr × Span)) (hf : findCode code fn = some c) (sp : Span) (a idx : Nat) (xs : List Val)
    (dv v : Val) (o : Option Org)
    (hx : c[ip]? = some (.assign, sp)) (hcell : out.heap[a]? = some (.list xs)) :
    exec1 code lim (mkS s (⟨fn, ip⟩ :: rest) mp k (⟨v, o⟩ :: ⟨dv, some (.listElem a idx)⟩ :: stk) mem out) =
      .next (mkS s (⟨fn, ip + 1⟩ :: rest) mp (k + 1) stk mem
        ⟨out.heap.setIfInBounds a (.list (xs.set idx v)), out.out⟩) :=
  mkS_assign_org hf sp (.listElem a idx) _ dv v o hx
    (by simp only [assignHeap, hcell])

theorem push_set_last (h : Array Cell) (c c' : Cell) : (h.push c).setIfInBounds h.size c' = h.push c' := by
  -- as lists: `(h ++ [c]).set |h| c' = h ++ [c']`
  apply Array.ext'
  simp

theorem cpE_atom_lm (mod : String) (ρ : String → Option String) : ∀ (n : Nat) (e : Expr) (lm : LM),
    Frag.depthE e ≤ n → Frag.atomE e = true → (cpE mod ρ e lm).2 = lm := by
  intro n
  induction n with
  | zero => intro e lm hd; have := depthE_pos e; omega
  | succ n ih =>
    intro e lm hd ha
    cases e <;> simp [Frag.atomE] at ha <;> try rfl
    case grouped sp' e =>
      rw [cpE]
      exact ih e lm (by simp only [Frag.depthE] at hd; omega) ha

theorem listElems_run (G : GCtx) (A : Act) (hA : A.OK G) (st : St) (mem : Mem) (scopes : CScopes)
    (vm : List (String × Nat)) (sp : Span)
    (hrel : StRel G.mod A.T A.N A.σ G.lim A.mp scopes vm st.scopes mem) :
    ∀ (xs : List Expr) (ip : Nat) (stk : List SVal) (lm : LM),
      xs.all Frag.atomE = true → Frag.resolved scopes (xs.flatMap Frag.varsE) = true →
      (∀ x ∈ xs.flatMap Frag.varsE, x ∈ A.T) →
      Placed A.lab A.σ A.c ip (cgEls G.mod (ρS scopes) sp xs lm).1 →
      (cgEls G.mod (ρS scopes) sp xs lm).2 = lm ∧
      ∃ vals : List Val,
        (∀ st2 : St, st2.scopes = st.scopes → ∀ fuel,
          evalList G.cfg fuel xs st2 = (.error .timeout, st2) ∨ evalList G.cfg fuel xs st2 = (.ok vals, st2)) ∧
        ∀ (h0 : Array Cell) (outs : String) (acc : List Val),
          Runs G.fr G.code G.lim G.s A.fn A.rest A.mp ip (⟨.ref h0.size, none⟩ :: stk) mem ⟨h0.push (.list acc), outs⟩
            (ip + nI (cgEls G.mod (ρS scopes) sp xs lm).1) (⟨.ref h0.size, none⟩ :: stk) mem
            ⟨h0.push (.list (acc ++ vals)), outs⟩ := by
  intro xs
  induction xs with
  | nil =>
    intro ip stk lm _ _ _ _
    refine ⟨rfl, [], fun st2 _ fuel => evalList_nil_same G.cfg fuel st2, fun h0 outs acc => ?_⟩
    rw [List.append_nil]
    exact (Runs.refl ip _ mem _).cast (by simp [cgEls])
  | cons x xs ih =>
    intro ip stk lm hat hres hT hpl
    simp only [List.all_cons, Bool.and_eq_true] at hat
    simp only [List.flatMap_cons, resolved_append] at hres hT
    have hlmx : (cpE G.mod (ρS scopes) x lm).2 = lm := cpE_atom_lm _ _ _ x lm (Nat.le_refl _) hat.1
    simp only [cgEls, hlmx] at hpl ⊢
    unplace at hpl
    obtain ⟨hpl1, ipush, ihost, hpl3⟩ := hpl
    obtain ⟨hlm, vs, hvs1, hvs2⟩ := ih _ stk lm hat.2 hres.2
      (fun y hy => hT y (List.mem_append.mpr (Or.inr hy))) hpl3
    obtain ⟨v, _, hv, hrun⟩ := atom_sim G A hA x st ip mem lm scopes vm hat.1 hres.1
      (fun y hy => hT y (List.mem_append.mpr (Or.inl hy))) hpl1 hrel
    refine ⟨hlm, v :: vs, fun st2 hsc => evalList_cons_same (hv st2 hsc) (hvs1 st2 hsc), fun h0 outs acc => ?_⟩
    have hp2 := hA.push (.int (I64.ofInt 2)) ipush (fun _ => rfl)
      (⟨v, none⟩ :: ⟨.ref h0.size, none⟩ :: stk) mem ⟨h0.push (.list acc), outs⟩
    have hhost := hA.step mem (fun hi => hi.set _ _ (fun fs h => by cases h)) fun _ _ =>
      mkS_listPush (stk := stk) (out := ⟨h0.push (.list acc), outs⟩) hA.code sp
      none none none v h0.size acc ihost (by simp)
    rw [push_set_last] at hhost
    have hrest := hvs2 h0 outs (acc ++ [v])
    rw [List.append_assoc, List.singleton_append] at hrest
    exact (((hrun _ _).trans hp2).trans hhost).trans hrest

/-- On `st`, `m'` does what `m` does — same state afterwards, same error, results related by `R` — or is outside
the model. -/
def Refines {α β} (m' : M β) (m : M α) (st : St) (R : β → α → St → Prop) : Prop :=
  match m' st with
  | (.ok b, st') => ∃ a, m st = (.ok a, st') ∧ R b a st'
  | (.error (.unsupported _), _) => True
  | (.error .timeout, _) => True
  | (.error c, st') => m st = (.error c, st')

def orgOf (pl : Place) : Org :=
  match pl.field with
  | none => .listElem pl.addr pl.idx
  | some k => .field pl.addr k

/-- Resolving the slot `b[i]` is reading it: the slot resolved is the origin of the value read. -/
theorem placeOf_shape (b i : Val) (sp : Span) (st : St) :
    Refines (placeOf b i sp) (indexVal b i sp) st fun pl v st' =>
      pl.var = none ∧ idxOrg st'.heap b i = some (orgOf pl) ∧ readPlace pl st' = (.ok v, st') := by
  unfold Refines placeOf
  cases b
  case ref a =>
    cases i
    case int k =>
      simp only [M_bind, readCell_run]
      cases hc : st.heap[a]? with
      | none => trivial
      | some c =>
        cases c
        case list xs =>
          simp only []
          rw [indexVal_list a k sp st xs hc]
          cases hw : wrapIndex k xs.length with
          | none => rfl
          | some n =>
            refine ⟨_, rfl, rfl, ?_, ?_⟩
            · simp only [idxOrg, hc, hw, Option.map_some]; rfl
            · unfold readPlace
              simp only [M_bind, readCell_run, hc]
              rfl
        all_goals trivial
    case str k =>
      simp only [M_bind, readCell_run]
      cases hc : st.heap[a]? with
      | none => trivial
      | some c =>
        cases c
        case list => trivial
        all_goals
          rename_i fs
          simp only []
          cases hl : fs.lookup k with
          | none => simp only [Option.isSome_none, Bool.false_eq_true, if_false]; trivial
          | some v =>
            simp only [Option.isSome_some, if_true]
            refine ⟨v, ?_, rfl, rfl, ?_⟩
            · unfold indexVal
              simp only [M_bind, readCell_run, hc, hl]
              rfl
            · unfold readPlace
              simp only [M_bind, readCell_run, hc, hl]
              rfl
    all_goals trivial
  all_goals trivial

theorem placeOfM_shape (b : Val) (name : String) (sp : Span) (st : St) :
    Refines (placeOfM b name) (memberVal b name .dot sp) st fun pl v st' =>
      pl.var = none ∧ memOrg st'.heap b name = some (orgOf pl) ∧ readPlace pl st' = (.ok v, st') := by
  unfold Refines placeOfM
  cases b <;> try trivial
  case ref a =>
    simp only [M_bind, readCell_run]
    cases hc : st.heap[a]? with
    | none => trivial
    | some c =>
      cases c <;> try trivial
      rename_i fs
      simp only []
      cases hl : fs.lookup name with
      | none => simp only [Option.isSome_none, Bool.false_eq_true, if_false]; trivial
      | some v =>
        simp only [Option.isSome_some, if_true]
        refine ⟨v, ?_, rfl, memOrg_field _ _ _ _ _ hc hl, ?_⟩
        · rw [memberVal_dot]
          simp only [hc, hl]
        · unfold readPlace
          simp only [M_bind, readCell_run, hc, hl]
          rfl

theorem lookup_setField_eq_none (fs : List (String × Val)) (k name : String) (v : Val) :
    ((setField fs name v).lookup k = none) ↔ (fs.lookup k = none) := by
  unfold setField
  induction fs with
  | nil => exact Iff.rfl
  | cons p fs ih =>
    obtain ⟨p1, p2⟩ := p
    have hp : (if (p1 == name) = true then (p1, v) else (p1, p2)) = (p1, if (p1 == name) = true then v else p2) := by
      split <;> rfl
    simp only [List.map_cons, hp, List.lookup_cons]
    cases k == p1
    · exact ih
    · exact ⟨nofun, nofun⟩

theorem HeapInv.assign {h h' : Array Cell} {org : Org} {v : Val} (e : assignHeap h org v = some h') (hi : HeapInv h) :
    HeapInv h' := by
  cases org with
  | listElem a idx =>
    simp only [assignHeap] at e
    cases hc : h[a]? with
    | none => simp [hc] at e
    | some c =>
      cases c <;> simp only [hc, reduceCtorEq] at e
      cases e
      exact hi.set a _ (fun fs hfs => by cases hfs)
  | field a name =>
    simp only [assignHeap] at e
    cases hc : h[a]? with
    | none => simp [hc] at e
    | some c =>
      cases c <;> simp only [hc, reduceCtorEq] at e
      · rename_i fs
        cases e
        refine hi.set a _ (fun fs' hfs => ?_)
        cases hfs
        have := hi a fs hc
        exact fun k hk => (lookup_setField_eq_none fs k name v).mpr (this k hk)
      · cases e
        exact hi.set a _ (fun fs hfs => by cases hfs)

theorem setField_eq (fs : List (String × Val)) (k : String) (v : Val) :
    (fs.map fun (k', old) => if k' == k then (k', v) else (k', old)) = setField fs k v := by
  unfold setField
  apply List.map_congr_left
  intro ⟨a, b⟩ _
  rfl

theorem writePlace_heap (pl : Place) (v : Val) (st : St) (hv : pl.var = none) :
    match writePlace pl v st with
    | (.ok _, st') => ∃ heap', assignHeap st.heap (orgOf pl) v = some heap' ∧ st' = { st with heap := heap' }
    | (.error (.unsupported _), _) => True
    | _ => False := by
  obtain ⟨var, addr, idx, field⟩ := pl
  simp only at hv
  subst hv
  unfold writePlace
  simp only [M_bind, readCell_run]
  cases hc : st.heap[addr]? with
  | none => trivial
  | some c =>
    cases c <;> cases field <;> try trivial
    · rename_i xs
      exact ⟨_, by simp only [assignHeap, orgOf, hc], rfl⟩
    · rename_i fs k
      refine ⟨st.heap.setIfInBounds addr (.obj (setField fs k v)), by simp only [assignHeap, orgOf, hc], ?_⟩
      show _ = _
      simp only [setField_eq]
    · rename_i fs k
      refine ⟨st.heap.setIfInBounds addr (.anyobj (setField fs k v)), by simp only [assignHeap, orgOf, hc], ?_⟩
      show _ = _
      simp only [setField_eq]

end HmsProofs.Sim
