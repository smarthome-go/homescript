import Hms.Value.Val
import HmsProofs.Lemmas.ListAux
/-! Lemmas for C13: `isEqual` is symmetric and transitive (reflexivity: see `ValContent`). Before them, the fields
of an object as an association list: `toList` carries `lookup` and `keys` to `List.lookup` and the first components,
so that the facts about entries and distinct keys are those of lists; `ValContent`, `ValCast` and `ValJson` build on
them as well. -/
namespace HmsProofs.Lemmas.ValEq
open Hms.Value

theorem nodupKeys_cons {k : String} {ks : List String} :
    nodupKeys (k :: ks) = true ↔ k ∉ ks ∧ nodupKeys ks = true := by
  simp [nodupKeys]

theorem nodupKeys_iff_nodup : ∀ {l : List String}, nodupKeys l = true ↔ l.Nodup
  | [] => by simp [nodupKeys]
  | _ :: _ => by rw [nodupKeys_cons, List.nodup_cons, nodupKeys_iff_nodup]

theorem length_le_of_nodup_subset (l1 l2 : List String) (hn : nodupKeys l1 = true) (hs : ∀ x ∈ l1, x ∈ l2) :
    l1.length ≤ l2.length :=
  (nodupKeys_iff_nodup.mp hn).length_le_of_subset hs

theorem subset_of_nodup_length (l1 l2 : List String) (hn : nodupKeys l1 = true) (hs : ∀ x ∈ l1, x ∈ l2)
    (hl : l1.length = l2.length) : ∀ y ∈ l2, y ∈ l1 := by
  intro y hy
  by_cases hy1 : y ∈ l1
  · exact hy1
  · have := length_le_of_nodup_subset (y :: l1) l2 (nodupKeys_cons.mpr ⟨hy1, hn⟩) (by simpa [hy] using hs)
    simp only [List.length_cons] at this
    omega

theorem keys_length : ∀ (fs : Fields), fs.keys.length = fs.length
  | .nil => rfl
  | .cons k v fs => by simp [Fields.keys, Fields.length, keys_length fs]

theorem lookup_eq_toList : ∀ (fs : Fields) (q : String), fs.lookup q = fs.toList.lookup q
  | .nil, _ => rfl
  | .cons k v fs, q => by
    simp only [Fields.lookup, Fields.toList, List.lookup_cons, lookup_eq_toList fs q]
    by_cases e : k = q
    · simp [e]
    · simp [e, beq_false_of_ne (Ne.symm e)]

theorem keys_eq_toList : ∀ (fs : Fields), fs.keys = fs.toList.map Prod.fst
  | .nil => rfl
  | .cons k v fs => by simp only [Fields.keys, Fields.toList, List.map_cons, keys_eq_toList fs]

theorem mem_keys_of_mem (fs : Fields) (k : String) (a : Val) (h : (k, a) ∈ fs.toList) : k ∈ fs.keys :=
  keys_eq_toList fs ▸ List.mem_map_of_mem (f := Prod.fst) h

theorem lookup_mem (fs : Fields) (k : String) (a : Val) (h : fs.lookup k = .some a) : (k, a) ∈ fs.toList :=
  List.mem_of_lookup_eq_some (lookup_eq_toList fs k ▸ h)

theorem mem_keys_iff_lookup (fs : Fields) (q : String) : q ∈ fs.keys ↔ (fs.lookup q).isSome = true := by
  rw [lookup_eq_toList, keys_eq_toList]
  exact List.lookup_isSome_iff_mem_keys.symm

theorem lookup_of_mem_keys (fs : Fields) (k : String) (h : k ∈ fs.keys) : ∃ a, fs.lookup k = .some a :=
  Option.isSome_iff_exists.mp ((mem_keys_iff_lookup fs k).mp h)

theorem lookup_none_of_not_mem (fs : Fields) (k : String) (h : k ∉ fs.keys) : fs.lookup k = .none := by
  rw [lookup_eq_toList]
  exact List.lookup_eq_none_iff_not_mem_keys.mpr (keys_eq_toList fs ▸ h)

theorem lookup_of_mem_nodup (fs : Fields) (k : String) (a : Val) (hn : nodupKeys fs.keys = true)
    (h : (k, a) ∈ fs.toList) : fs.lookup k = .some a := by
  rw [lookup_eq_toList]
  exact (List.lookup_eq_some_iff_mem (keys_eq_toList fs ▸ nodupKeys_iff_nodup.mp hn)).mpr h

theorem mem_toList_cons {k' k : String} {a' a : Val} {as : Fields} (hm : (k, a) ∈ (Fields.cons k' a' as).toList) :
    a' = a ∨ (k, a) ∈ as.toList := by
  simp only [Fields.toList, List.mem_cons, Prod.mk.injEq] at hm
  exact hm.imp (fun h => h.2.symm) id

/-- `F`: `Fields.wf`, `Fields.data`, `noIntegralFloatFields`. -/
theorem fields_all_mem {F : Fields → Bool} {P : Val → Bool} (hF : ∀ k v fs, F (.cons k v fs) = (P v && F fs)) :
    ∀ (fs : Fields), F fs = true → ∀ k a, (k, a) ∈ fs.toList → P a = true
  | .nil, _, k, a, hm => by simp [Fields.toList] at hm
  | .cons k' a' as, hw, k, a, hm => by
    rw [hF, Bool.and_eq_true] at hw
    rcases mem_toList_cons hm with rfl | hm
    · exact hw.1
    · exact fields_all_mem hF as hw.2 k a hm

theorem mem_data : ∀ (fs : Fields), fs.data = true → ∀ k a, (k, a) ∈ fs.toList → a.data = true :=
  fields_all_mem fun _ _ _ => rfl

theorem mem_wf : ∀ (fs : Fields), fs.wf = true → ∀ k a, (k, a) ∈ fs.toList → a.wf = true :=
  fields_all_mem fun _ _ _ => rfl

theorem isEqualIn_iff : ∀ (as gs : Fields), Fields.isEqualIn as gs = true ↔
    ∀ k a, (k, a) ∈ as.toList → ∃ b, gs.lookup k = .some b ∧ Val.isEqual a b = true
  | .nil, gs => by simp [Fields.isEqualIn, Fields.toList]
  | .cons k a as, gs => by
    simp only [Fields.isEqualIn, Bool.and_eq_true, isEqualIn_iff as gs, Fields.toList, List.mem_cons,
      Prod.mk.injEq]
    constructor
    · rintro ⟨h1, h2⟩ k' a' (⟨rfl, rfl⟩ | h)
      · cases hl : gs.lookup k' with
        | none => simp [hl] at h1
        | some b => exact ⟨b, rfl, by simpa [hl] using h1⟩
      · exact h2 k' a' h
    · intro h
      refine ⟨?_, fun k' a' hm => h k' a' (Or.inr hm)⟩
      obtain ⟨b, hb, he⟩ := h k a (Or.inl ⟨rfl, rfl⟩)
      simp [hb, he]

theorem isEqualIn_keys {fs gs : Fields} (h : Fields.isEqualIn fs gs = true) : ∀ x ∈ fs.keys, x ∈ gs.keys := by
  intro x hx
  obtain ⟨a, ha⟩ := lookup_of_mem_keys fs x hx
  obtain ⟨b, hb, _⟩ := (isEqualIn_iff fs gs).mp h x a (lookup_mem fs x a ha)
  exact mem_keys_of_mem gs x b (lookup_mem gs x b hb)

def isAtom : Val → Bool
  | .null | .int _ | .flt _ | .bool _ | .str _ | .none | .range .. => true
  | _ => false

theorem isEqual_atom {a : Val} (ha : isAtom a = true) (b : Val) : a.isEqual b = true ↔ a = b := by
  cases a <;> cases ha <;> cases b <;> simp [Val.isEqual, and_assoc]

theorem isEqual_some_inv {x b : Val} (h : (Val.some x).isEqual b = true) :
    ∃ y, b = .some y ∧ x.isEqual y = true := by
  cases b <;> simp [Val.isEqual] at h
  exact ⟨_, rfl, h⟩

theorem isEqual_list_inv {xs : Vals} {b : Val} (h : (Val.list xs).isEqual b = true) :
    ∃ ys, b = .list ys ∧ xs.length = ys.length ∧ Vals.isEqual xs ys = true := by
  cases b <;> simp [Val.isEqual] at h
  exact ⟨_, rfl, h⟩

theorem isEqual_fields_inv {mk : Fields → Val} (hmk : mk = .obj ∨ mk = .anyobj) {fs : Fields} {b : Val}
    (h : (mk fs).isEqual b = true) :
    ∃ gs, b = mk gs ∧ fs.length = gs.length ∧ Fields.isEqualIn fs gs = true := by
  rcases hmk with rfl | rfl <;> cases b <;> simp [Val.isEqual] at h <;> exact ⟨_, rfl, h⟩

theorem isEqualIn_symm (fs gs : Fields) (hnf : nodupKeys fs.keys = true) (hng : nodupKeys gs.keys = true)
    (hl : fs.length = gs.length) (h : Fields.isEqualIn fs gs = true)
    (ih : ∀ k a, (k, a) ∈ fs.toList → ∀ b, (k, b) ∈ gs.toList → a.isEqual b = true → b.isEqual a = true) :
    Fields.isEqualIn gs fs = true := by
  have hsub := isEqualIn_keys h
  rw [isEqualIn_iff] at h ⊢
  intro k b hb
  have hk : k ∈ fs.keys :=
    subset_of_nodup_length fs.keys gs.keys hnf hsub (by simp [keys_length, hl]) k (mem_keys_of_mem gs k b hb)
  obtain ⟨a, ha⟩ := lookup_of_mem_keys fs k hk
  obtain ⟨b', hb', hab⟩ := h k a (lookup_mem fs k a ha)
  have : b' = b := by
    have := lookup_of_mem_nodup gs k b hng hb
    rw [this] at hb'; cases hb'; rfl
  subst this
  exact ⟨a, ha, ih k a (lookup_mem fs k a ha) b' hb hab⟩

mutual
theorem isEqual_symm : ∀ (a b : Val), a.wf = true → b.wf = true → a.isEqual b = true → b.isEqual a = true
  | .null, b, _, _, h | .int _, b, _, _, h | .flt _, b, _, _, h | .bool _, b, _, _, h | .str _, b, _, _, h
  | .none, b, _, _, h | .range .., b, _, _, h => by
    cases (isEqual_atom rfl b).mp h; exact h
  | .fn, b, _, _, h => (Bool.false_ne_true h).elim
  | .some a, b, hwa, hwb, h => by
    obtain ⟨y, rfl, h⟩ := isEqual_some_inv h
    exact isEqual_symm a y hwa hwb h
  | .list xs, b, hwa, hwb, h => by
    obtain ⟨ys, rfl, hl, h⟩ := isEqual_list_inv h
    simp only [Val.isEqual, Bool.and_eq_true, beq_iff_eq]
    exact ⟨hl.symm, isEqual_symm_vals xs ys hwa hwb hl h⟩
  | .obj fs, b, hwa, hwb, h | .anyobj fs, b, hwa, hwb, h => by
    obtain ⟨gs, rfl, hl, h⟩ := isEqual_fields_inv (by simp) h
    simp only [Val.wf, Bool.and_eq_true] at hwa hwb
    simp only [Val.isEqual, Bool.and_eq_true, beq_iff_eq]
    exact ⟨hl.symm, isEqualIn_symm fs gs hwa.1 hwb.1 hl h
      (fun k a hm b hb => isEqual_symm_fields fs hwa.2 k a hm b (mem_wf gs hwb.2 k b hb))⟩
theorem isEqual_symm_vals : ∀ (xs ys : Vals), xs.wf = true → ys.wf = true → xs.length = ys.length →
    Vals.isEqual xs ys = true → Vals.isEqual ys xs = true
  | .nil, ys, _, _, hl, _ => by
    cases ys with
    | nil => simp [Vals.isEqual]
    | cons y ys => simp [Vals.length] at hl
  | .cons x xs, ys, hwa, hwb, hl, h => by
    cases ys with
    | nil => simp [Vals.isEqual] at h
    | cons y ys =>
      simp only [Vals.isEqual, Bool.and_eq_true, Vals.wf, Vals.length] at h hwa hwb hl ⊢
      exact ⟨isEqual_symm x y hwa.1 hwb.1 h.1, isEqual_symm_vals xs ys hwa.2 hwb.2 (by omega) h.2⟩
theorem isEqual_symm_fields : ∀ (as : Fields), as.wf = true → ∀ k a, (k, a) ∈ as.toList →
    ∀ b, b.wf = true → a.isEqual b = true → b.isEqual a = true
  | .nil, _, k, a, hm => by simp [Fields.toList] at hm
  | .cons k' a' as, hw, k, a, hm => by
    simp only [Fields.wf, Bool.and_eq_true] at hw
    rcases mem_toList_cons hm with rfl | hm
    · exact fun b => isEqual_symm a' b hw.1
    · exact isEqual_symm_fields as hw.2 k a hm
end

theorem isEqualIn_trans (fs gs hs : Fields) (h1 : Fields.isEqualIn fs gs = true) (h2 : Fields.isEqualIn gs hs = true)
    (ih : ∀ k a, (k, a) ∈ fs.toList → ∀ b c, a.isEqual b = true → b.isEqual c = true → a.isEqual c = true) :
    Fields.isEqualIn fs hs = true := by
  rw [isEqualIn_iff] at h1 h2 ⊢
  intro k a ha
  obtain ⟨b, hb, hab⟩ := h1 k a ha
  obtain ⟨c, hc, hbc⟩ := h2 k b (lookup_mem gs k b hb)
  exact ⟨c, hc, ih k a ha b c hab hbc⟩

-- The decreasing argument is named in each member: every member has three arguments of the same type, and
-- the search over their combinations takes several times as long as the proofs.
mutual
theorem isEqual_trans : ∀ (a b c : Val), a.isEqual b = true → b.isEqual c = true → a.isEqual c = true
  | .null, b, c, h1, h2 | .int _, b, c, h1, h2 | .flt _, b, c, h1, h2 | .bool _, b, c, h1, h2 | .str _, b, c, h1, h2
  | .none, b, c, h1, h2 | .range .., b, c, h1, h2 => by
    cases (isEqual_atom rfl b).mp h1; exact h2
  | .fn, b, c, h1, h2 => (Bool.false_ne_true h1).elim
  | .some a, b, c, h1, h2 => by
    obtain ⟨y, rfl, h1⟩ := isEqual_some_inv h1
    obtain ⟨z, rfl, h2⟩ := isEqual_some_inv h2
    exact isEqual_trans a y z h1 h2
  | .list xs, b, c, h1, h2 => by
    obtain ⟨ys, rfl, l1, h1⟩ := isEqual_list_inv h1
    obtain ⟨zs, rfl, l2, h2⟩ := isEqual_list_inv h2
    simp only [Val.isEqual, Bool.and_eq_true, beq_iff_eq]
    exact ⟨l1.trans l2, isEqual_trans_vals xs ys zs h1 h2⟩
  | .obj fs, b, c, h1, h2 | .anyobj fs, b, c, h1, h2 => by
    obtain ⟨gs, rfl, l1, h1⟩ := isEqual_fields_inv (by simp) h1
    obtain ⟨hs, rfl, l2, h2⟩ := isEqual_fields_inv (by simp) h2
    simp only [Val.isEqual, Bool.and_eq_true, beq_iff_eq]
    exact ⟨l1.trans l2, isEqualIn_trans fs gs hs h1 h2 (isEqual_trans_fields fs)⟩
termination_by structural a => a
theorem isEqual_trans_vals : ∀ (xs ys zs : Vals), Vals.isEqual xs ys = true → Vals.isEqual ys zs = true →
    Vals.isEqual xs zs = true
  | .nil, _, _, _, _ => by simp [Vals.isEqual]
  | .cons x xs, ys, zs, h1, h2 => by
    cases ys with
    | nil => simp [Vals.isEqual] at h1
    | cons y ys =>
      cases zs with
      | nil => simp [Vals.isEqual] at h2
      | cons z zs =>
        simp only [Vals.isEqual, Bool.and_eq_true] at h1 h2 ⊢
        exact ⟨isEqual_trans x y z h1.1 h2.1, isEqual_trans_vals xs ys zs h1.2 h2.2⟩
termination_by structural xs => xs
theorem isEqual_trans_fields : ∀ (as : Fields) k a, (k, a) ∈ as.toList →
    ∀ b c, a.isEqual b = true → b.isEqual c = true → a.isEqual c = true
  | .nil, k, a, hm => by simp [Fields.toList] at hm
  | .cons k' a' as, k, a, hm => by
    rcases mem_toList_cons hm with rfl | hm
    · exact isEqual_trans a'
    · exact isEqual_trans_fields as k a hm
termination_by structural as => as
end

end HmsProofs.Lemmas.ValEq
