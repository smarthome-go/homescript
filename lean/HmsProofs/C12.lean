import HmsProofs.Lemmas.ValCast
/-!
# C12 — the dynamic-to-static type boundary is sound

`castAll allow T v path` (Hms/Value/Cast.lean) models `DeepCast`/`deepCastRecursive` of both value
libraries as repaired in /repo by X1, X13a, X21, X22; `allow` is `allowCasts` (`true` for `expr as T`,
`false` for annotated `let`, host arguments and return values). On failure it yields all errors that
some map iteration order of the Go code can report; the error theorems quantify over all of them.

Hypotheses, evaluated by the driver on every generated case: `T.wf`/`v.wf` — object types and values
are finite maps (no field name twice at any depth; Go: `map[string]*Value`, analyzer-checked type
definitions); `v.data` — no function value inside (the boundary refuses functions, and they equal nothing).
-/
namespace HmsProofs.C12
open Hms.Value HmsProofs.Lemmas.ValCast

/-- An admitted value deeply conforms to the target type. -/
theorem cast_sound (allow : Bool) (T : Ty) (hT : T.wf = true) (v v' : Val) (p : Path)
    (h : castAll allow T v p = .ok v') : conforms T v' = true :=
  (castAll_sound_wf allow T hT v p v' h).1

/-- A value that already has type `T` is admitted, and admitted unchanged (`IsEqual`). -/
theorem cast_identity (allow : Bool) (T : Ty) (hT : T.wf = true) (v : Val) (p : Path)
    (hw : v.wf = true) (hd : v.data = true) (hc : conforms T v = true) :
    ∃ v', castAll allow T v p = .ok v' ∧ v'.isEqual v = true :=
  castAll_identity allow T v p hT hc hw hd

/-- The cast admits exactly the pairs related by the permitted conversions (`convertible` is
written from the property statement, independently of `castAll`). -/
theorem cast_admits_iff (allow : Bool) (T : Ty) (v : Val) (p : Path) :
    (∃ v', castAll allow T v p = .ok v') ↔ convertible allow T v = true := by
  rw [← okB_iff, castAll_okB]

/-- A value not convertible to `T` is never let through: the cast fails with at least one error. -/
theorem cast_refuses (allow : Bool) (T : Ty) (v : Val) (p : Path) (h : convertible allow T v = false) :
    ∃ es, castAll allow T v p = .error es ∧ es ≠ [] := by
  cases hc : castAll allow T v p with
  | ok v' => exact absurd ((cast_admits_iff allow T v p).mp ⟨v', hc⟩) (by simp [h])
  | error es => exact ⟨es, rfl, castAll_err_ne allow T v p es hc⟩

/-- Every error the cast can report names a path (below the cast's own `p`) to a sub-value/sub-type
pair that offends — kinds do not fit, field unexpected or missing — and is not convertible. -/
theorem cast_error_path (allow : Bool) (T : Ty) (hT : T.wf = true) (v : Val) (p : Path) (es : List CastErr)
    (h : castAll allow T v p = .error es) :
    ∀ e ∈ es, ∃ q vs Ts, e.path = p ++ q ∧ subAt q v T = .some (vs, Ts)
      ∧ offends allow e.cls vs Ts = true ∧ convertible allow Ts vs = false := by
  intro e he
  obtain ⟨q, vs, Ts, h1, h2, h3⟩ := castAll_errpath allow T hT v p es h e he
  exact ⟨q, vs, Ts, h1, h2, h3, offends_not_convertible allow e.cls vs Ts (subAt_peeled q v T vs Ts h2) h3⟩

/-- `DeepCast` (one error, empty start path): the reported error is one of the above. -/
theorem deepCast_error_path (allow : Bool) (T : Ty) (hT : T.wf = true) (v : Val) (e : CastErr)
    (h : deepCast allow v T = .error e) :
    ∃ vs Ts, subAt e.path v T = .some (vs, Ts) ∧ offends allow e.cls vs Ts = true
      ∧ convertible allow Ts vs = false := by
  unfold deepCast at h
  cases hc : castAll allow T v [] with
  | ok v' => simp [hc] at h
  | error es =>
    simp only [hc] at h
    have hne := castAll_err_ne allow T v [] es hc
    cases es with
    | nil => exact absurd rfl hne
    | cons e0 rest =>
      simp at h; subst h
      obtain ⟨q, vs, Ts, h1, h2, h3, h4⟩ := cast_error_path allow T hT v [] _ hc e0 (by simp)
      simp at h1; subst h1
      exact ⟨vs, Ts, h2, h3, h4⟩

/-- The admitted value is again a well-formed data value. -/
theorem cast_preserves_wf (allow : Bool) (T : Ty) (hT : T.wf = true) (v v' : Val) (p : Path)
    (hw : v.wf = true) (hd : v.data = true) (h : castAll allow T v p = .ok v') :
    v'.wf = true ∧ v'.data = true := by
  have := (castAll_sound_wf allow T hT v p v' h).2 (by simp [good, hw, hd])
  simpa [good] using this

/-- Casting an admitted value again, with either flag and from any path, changes nothing. -/
theorem cast_idempotent (allow allow' : Bool) (T : Ty) (hT : T.wf = true) (v v' : Val) (p p' : Path)
    (hw : v.wf = true) (hd : v.data = true) (h : castAll allow T v p = .ok v') :
    ∃ v'', castAll allow' T v' p' = .ok v'' ∧ v''.isEqual v' = true := by
  obtain ⟨hw', hd'⟩ := cast_preserves_wf allow T hT v v' p hw hd h
  exact cast_identity allow' T hT v' p' hw' hd' (cast_sound allow T hT v v' p h)

/-- Conformance implies convertibility (the scalar conversions are never needed for it). -/
theorem conforms_convertible (allow : Bool) (T : Ty) (hT : T.wf = true) (v : Val)
    (hw : v.wf = true) (hd : v.data = true) (hc : conforms T v = true) : convertible allow T v = true := by
  obtain ⟨v', h, _⟩ := cast_identity allow T hT v [] hw hd hc
  exact (cast_admits_iff allow T v []).mp ⟨v', h⟩

/-! ## Non-vacuity -/

private def errorsOf : CastRes → List CastErr
  | .ok _ => []
  | .error es => es

private def tPerson : Ty := .obj (.cons "name" .str (.cons "tags" (.list (.opt .int)) .nil))
private def vPerson : Val := .obj (.cons "tags" (.list (.cons (.some (.int 1#64)) (.cons .none .nil))) (.cons "name" (.str "a") .nil))

example : tPerson.wf = true ∧ vPerson.wf = true ∧ vPerson.data = true ∧ conforms tPerson vPerson = true := by
  decide

example : ∃ v', castAll false tPerson vPerson [] = .ok v' ∧ v'.isEqual vPerson = true :=
  cast_identity false tPerson (by decide) vPerson [] (by decide) (by decide) (by decide)

/-- X1: the unrepaired code wrapped `"a"` cast to `?int` unchecked. -/
example : errorsOf (castAll false (.opt .int) (.str "a") []) = [⟨.incompatible, []⟩] := by decide

/-- Near miss: one extra field, one wrong element, each reported at its own path. -/
example : errorsOf (castAll false tPerson
    (.obj (.cons "tags" (.list (.cons .none (.cons (.str "x") .nil))) (.cons "name" (.str "a") (.cons "age" (.int 3#64) .nil)))) [])
    = [⟨.incompatible, [.field "tags", .index 1]⟩, ⟨.unexpectedField "age", []⟩] := by decide

end HmsProofs.C12
