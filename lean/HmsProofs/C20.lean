import Hms.Fuzz.Rules
import Hms.GenBridge
import HmsProofs.C07
import HmsProofs.Lemmas.FuzzArith
import HmsProofs.Lemmas.FuzzEval
import HmsProofs.Lemmas.FuzzPratt
import HmsProofs.Lemmas.FuzzGuard
/-!
# C20 — the semantic fuzzer's rewrites preserve behaviour

The rewrite rules of `Hms.Fuzz.Rules` (the model of `fuzzer/{expression,infixExpression,statement}.go`) over
the specification semantics of `Hms.Core.Sem`: integers are `BitVec 64` (wrap-around), comparisons and
equality are the operators `binOp` of the language, `evalExpr` is the evaluator.

What is proved of which rule:
* in the evaluator: `litAddSub`, `litSubAdd` and `notNot` on literals; `eqAsNotNe`, `commute`, `cmpSwap` and
  grouping on any operands of the class;
* on values only: `litMulDiv`, `subAsAddNeg` (and on the operator: `sub_as_add_neg_op`), `mulAsLoop` (about
  the recursion `mulLoop` that mirrors the loop the rule builds);
* that the tree built is normal, so that printing does not change it: `commute`, `subAsAddNeg`, `!(…)` around
  a grouped operand;
* the guard `stmtCanControlLoop` of the statement wrappers.
Nothing is proved here of `litFloat`, `groupBlock`, `castTwice`, `ifInverted`, of the trees of the other
rules, or of the statement wrappers themselves.

The class hypotheses of the property statement:
* "reordered or duplicated sub-expressions are side-effect free": `PureAt cfg e` — evaluating `e` leaves the
  state unchanged and fails at most by running out of fuel;
* "integer multiplications have small non-negative right operands": `b.toNat < 2^63` (sign bit clear), and
  the loop is given `b` rounds;
* "numeric literals far from the overflow boundary": `n.toNat * k.toNat < 2^63`.
-/
namespace HmsProofs.C20
open Hms Hms.Core Hms.Fuzz Hms.Pratt Lemmas.Fuzz

theorem lit_add_sub (n k : I64) : (n + k) - k = n := Lemmas.Fuzz.lit_add_sub n k

theorem lit_sub_add (n k : I64) : (n - k) + k = n := Lemmas.Fuzz.lit_sub_add n k

theorem lit_mul_div (n k : I64) (hk : 0 < k.toNat) (hk' : k.toNat < 2 ^ 63)
    (h : n.toNat * k.toNat < 2 ^ 63) : (n * k).sdiv k = n := Lemmas.Fuzz.lit_mul_div n k hk hk' h

/-- The hypothesis is needed: at the overflow boundary `(2^62 * 4) / 4 = 0`. -/
theorem lit_mul_div_overflow_counterexample :
    ((4611686018427387904 : I64) * 4).sdiv 4 ≠ 4611686018427387904 :=
  Lemmas.Fuzz.lit_mul_div_overflow_counterexample

/-- `n` → `(n + k - k)`: the variant evaluates, in every state, to what the literal evaluates to. -/
theorem eval_lit_add_sub (cfg : Cfg) (fuel : Nat) (sp : Span) (n k : Int) (st : St) :
    evalExpr cfg (fuel + 4) (litAddSub k (.int sp n)) st = evalExpr cfg (fuel + 1) (.int sp n) st := by
  simp only [litAddSub, spOf, evalExpr, binOp, intOp, pure_bind, lit_add_sub]

/-- `n` → `(n - k + k)`, likewise. -/
theorem eval_lit_sub_add (cfg : Cfg) (fuel : Nat) (sp : Span) (n k : Int) (st : St) :
    evalExpr cfg (fuel + 4) (litSubAdd k (.int sp n)) st = evalExpr cfg (fuel + 1) (.int sp n) st := by
  simp only [litSubAdd, spOf, evalExpr, binOp, intOp, pure_bind, lit_sub_add]

/-! The four identities hold on 64-bit integers without side condition, `b = MIN` (where `-b = b`) included. -/

theorem add_comm (a b : I64) : a + b = b + a := Lemmas.Fuzz.add_comm a b
theorem mul_comm (a b : I64) : a * b = b * a := Lemmas.Fuzz.mul_comm a b

theorem sub_as_add_neg (a b : I64) : a - b = a + (-b) := Lemmas.Fuzz.sub_as_add_neg a b
theorem add_as_sub_neg (a b : I64) : a + b = a - (-b) := Lemmas.Fuzz.add_as_sub_neg a b

/-- `a - b` is `a + (-b)` as operators of the language too. -/
theorem sub_as_add_neg_op (x y : I64) (sp : Span) :
    binOp .sub (.int x) (.int y) sp = binOp .add (.int x) (.int (-y)) sp := by
  simp only [binOp, intOp]; rw [sub_as_add_neg x y]

/-- Integer, boolean and string literals are `PureAt`: non-vacuity of the purity hypothesis of `eval_commute`. -/
theorem literals_pure (cfg : Cfg) (sp : Span) (n : Int) (b : Bool) (s : String) :
    PureAt cfg (.int sp n) ∧ PureAt cfg (.bool sp b) ∧ PureAt cfg (.str sp s) :=
  ⟨pureAt_const fun _ => rfl, pureAt_const fun _ => rfl, pureAt_const fun _ => rfl⟩

/-- `a + b` → `(b) + (a)`, `a * b` → `(b) * (a)`: for pure operands of integer value the variant evaluates,
in every state, to the same result or error as the original. -/
theorem eval_commute (cfg : Cfg) (l r : Expr) (hl : PureAt cfg l) (hr : PureAt cfg r)
    (il : IntValued cfg l) (ir : IntValued cfg r) (fuel : Nat) (sp : Span) (ty : Ty) (op : InfixOp)
    (hop : op = .add ∨ op = .mul) (st : St) :
    evalExpr cfg (fuel + 2) (commute (.infix sp ty op l r)) st
      = evalExpr cfg (fuel + 1) (.infix sp ty op l r) st := by
  have h1 : op ≠ .or ∧ op ≠ .and := by rcases hop with rfl | rfl <;> simp
  refine eval_swap_local hl hr fuel sp ty h1 h1 st fun a b ha hb => ?_
  obtain ⟨x, rfl⟩ := il _ _ _ _ ha
  obtain ⟨y, rfl⟩ := ir _ _ _ _ hb
  rcases hop with rfl | rfl
  · exact binOp_add_comm_int x y sp
  · exact binOp_mul_comm_int x y sp

/-- The purity hypothesis is needed: with `x = 1` before, `{ x = 5; x } + x` is 10 but the swapped
`(x) + ({ x = 5; x })` is 6. -/
theorem commute_needs_purity_counterexample :
    intResult (evalExpr { prog := [] } 8 (.infix spZ .int .add effectfulOperand readX) stateX1) = some 10
      ∧ intResult (evalExpr { prog := [] } 8 (commute (.infix spZ .int .add effectfulOperand readX)) stateX1) = some 6 := by
  refine ⟨by decide, by decide⟩

/-- For a non-negative multiplier `b` the loop `while mul_count < b { mul_res += a; mul_count += 1; }`, as
`mulLoop` transcribes it (one round per unit of fuel), leaves `a * b` in `mul_res`, wrap-around included.
The expression `mulAsLoop` builds is not run through `evalExpr` here. -/
theorem mul_as_loop (a b : I64) (hb : b.toNat < 2 ^ 63) (fuel : Nat) (hf : b.toNat ≤ fuel) :
    mulLoop a b fuel 0 0 = a * b := Lemmas.Fuzz.mul_as_loop a b hb fuel hf

/-- For a negative multiplier the loop does not run: the unrepaired rule computes 0 for `2 * -3` (finding
R17; reachable inside the class once an earlier pass has swapped the operands of `(0 - 3) * 2`). -/
theorem mul_as_loop_negative_counterexample :
    (∀ fuel, mulLoop 2 (-3) fuel 0 0 = 0) ∧ (2 : I64) * (-3) ≠ 0 :=
  Lemmas.Fuzz.mul_as_loop_negative_counterexample

theorem not_not (b : Bool) : (!(!b)) = b := Lemmas.Fuzz.not_not b

theorem eval_not_not (cfg : Cfg) (fuel : Nat) (sp : Span) (b : Bool) (st : St) :
    evalExpr cfg (fuel + 4) (notNot (.bool sp b)) st = evalExpr cfg (fuel + 1) (.bool sp b) st := by
  simp only [notNot, evalExpr, pure_bind, Bool.not_not]

/-- `a == b` → `!(a != b)`, `a != b` → `!(a == b)`: for all operands, pure or not (they are evaluated once,
in the original order), the variant gives the same result, error and final state. -/
theorem eq_as_not_ne (cfg : Cfg) (fuel : Nat) (sp : Span) (ty : Ty) (op : InfixOp) (l r : Expr)
    (hop : op = .eq ∨ op = .ne) (st : St) :
    evalExpr cfg (fuel + 3) (eqAsNotNe l r (.infix sp ty op l r)) st
      = evalExpr cfg (fuel + 1) (.infix sp ty op l r) st := by
  rcases hop with rfl | rfl <;>
    simp only [eqAsNotNe, negOp, evalExpr, binOp, bind_assoc, pure_bind, Bool.not_not]

/-- `a < b` ⇄ `b > a`, `a <= b` ⇄ `b >= a` as operators of the language, on every pair of values. -/
theorem cmp_swap (a b : Val) (sp : Span) :
    binOp .lt a b sp = binOp .gt b a sp ∧ binOp .gt a b sp = binOp .lt b a sp
      ∧ binOp .le a b sp = binOp .ge b a sp ∧ binOp .ge a b sp = binOp .le b a sp :=
  ⟨cmp_swap_revOp (.inl rfl) a b sp, cmp_swap_revOp (.inr (.inl rfl)) a b sp,
    cmp_swap_revOp (.inr (.inr (.inl rfl))) a b sp, cmp_swap_revOp (.inr (.inr (.inr rfl))) a b sp⟩

/-- The same in the evaluator, for pure operands. -/
theorem eval_cmp_swap (cfg : Cfg) (l r : Expr) (hl : PureAt cfg l) (hr : PureAt cfg r) (fuel : Nat)
    (sp : Span) (ty : Ty) (op : InfixOp) (hop : op = .lt ∨ op = .gt ∨ op = .le ∨ op = .ge) (st : St) :
    evalExpr cfg (fuel + 1) (cmpSwap l r (.infix sp ty op l r)) st
      = evalExpr cfg (fuel + 1) (.infix sp ty op l r) st :=
  Lemmas.Fuzz.eval_cmp_swap cfg l r hl hr fuel sp ty op hop st

theorem eval_grouped (cfg : Cfg) (fuel : Nat) (sp : Span) (e : Expr) :
    evalExpr cfg (fuel + 1) (.grouped sp e) = evalExpr cfg fuel e := Lemmas.Fuzz.eval_grouped cfg fuel sp e

/-- Swapped operands wrapped in grouped nodes form a normal tree whenever the original was, so the printers,
which add no parentheses, print it to a text that parses back to it (`C19.print_parse`). -/
theorem commute_normal (prec : Prec) (p : Nat) (l r : Tree) (o : TokKind)
    (h : normal prec p (.bin l o r) = true) : normal prec p (.bin (.grp r) o (.grp l)) = true :=
  Lemmas.Fuzz.commute_normal prec p l r o h

/-- `l o r` → `l o' -(r)` (`subAsAddNeg`): normal whenever `l o r` was and `o'` has the binding powers of
`o`. -/
theorem sub_as_add_neg_normal (prec : Prec) (p : Nat) (l r : Tree) (o o' : TokKind)
    (ho' : isInfix o' = true) (hp : prec o' = prec o) (h : normal prec p (.bin l o r) = true) :
    normal prec p (.bin l o' (.pre .minus (.grp r))) = true := by
  obtain ⟨_, hlt, hl, hspine, hr⟩ := normal_bin.1 h
  refine normal_bin.2 ⟨ho', hp ▸ hlt, hl, hp ▸ hspine, ?_⟩
  rw [normal, grouped_normal prec prefixBp _ r hr]; rfl

/-- The side condition of `sub_as_add_neg_normal` for the two operators `subAsAddNeg` exchanges, on the
regenerated table. -/
theorem plus_minus_same_power : Gen.prec .plus = Gen.prec .minus := by decide +kernel

/-- `!(…)` around a grouped operand (`eqAsNotNe`, `ifInverted`, the guard of `whileAsLoop0`). -/
theorem not_grouped_normal (prec : Prec) (p q : Nat) (t : Tree) (h : normal prec q t = true) :
    normal prec p (.pre .not_ (.grp t)) = true := Lemmas.Fuzz.not_grouped_normal prec p q t h

/-- Without the grouped nodes the rule is wrong inside the class (finding R8): the tree the unrepaired
fuzzer builds for `10 - 2 ** 2` → `10 + -2 ** 2` is not normal and its text parses to `10 + (-2) ** 2`;
likewise `7 / 2 * 2` → `2 * 7 / 2`. -/
theorem unparenthesised_variants_counterexample :
    normal Gen.prec 0 (.bin (.atom .int) .plus (.pre .minus (.bin (.atom .int) .power (.atom .int)))) = false
      ∧ parseExpr Gen.prec (flatten (.bin (.atom .int) .plus (.pre .minus (.bin (.atom .int) .power (.atom .int)))))
          = .ok (.bin (.atom .int) .plus (.bin (.pre .minus (.atom .int)) .power (.atom .int)), [])
      ∧ normal Gen.prec 0 (.bin (.atom .int) .multiply (.bin (.atom .int) .divide (.atom .int))) = false
      ∧ parseExpr Gen.prec (flatten (.bin (.atom .int) .multiply (.bin (.atom .int) .divide (.atom .int))))
          = .ok (.bin (.bin (.atom .int) .multiply (.atom .int)) .divide (.atom .int), []) :=
  ⟨by rfl, by rfl, by rfl, by rfl⟩

/-- And they compute other values: `10 - 2 ** 2 = 6` but `10 + (-2) ** 2 = 14`; `7 / 2 * 2 = 6` but
`(2 * 7) / 2 = 7`. -/
theorem unparenthesised_values_counterexample :
    (10 : I64) - powNat 2 2 ≠ 10 + powNat (-2) 2 ∧ ((7 : I64).sdiv 2) * 2 ≠ ((2 : I64) * 7).sdiv 2 := by
  decide

/-- Soundness of `stmtCanControlLoop`: a statement the guard lets pass never ends in `break` or `continue`,
so wrapping it into a one-iteration loop cannot redirect a loop exit. The guard rightly ignores the body of a
loop statement: its exits are consumed by that loop. -/
theorem can_control_loop_sound (cfg : Cfg) (fuel : Nat) (s : Stmt) (st : St) (h : stmtCCL s = false) :
    (evalStmt cfg fuel s st).1 ≠ .error .brk ∧ (evalStmt cfg fuel s st).1 ≠ .error .cont :=
  ((ccl_all cfg fuel).stmt s h).noExit st

theorem expr_can_control_loop_sound (cfg : Cfg) (fuel : Nat) (e : Expr) (st : St) (h : exprCCL e = false) :
    (evalExpr cfg fuel e st).1 ≠ .error .brk ∧ (evalExpr cfg fuel e st).1 ≠ .error .cont :=
  ((ccl_all cfg fuel).expr e h).noExit st

theorem block_can_control_loop_sound (cfg : Cfg) (fuel : Nat) (b : Block) (st : St) (h : blockCCL b = false) :
    (evalBlock cfg fuel b st).1 ≠ .error .brk ∧ (evalBlock cfg fuel b st).1 ≠ .error .cont :=
  ((ccl_all cfg fuel).block b h).noExit st

/-- A function call never lets a loop exit through, whatever the callee does. -/
theorem call_never_exits_loop (cfg : Cfg) (fuel : Nat) (sp : Span) (f : Val) (vs : List Val) (st : St) :
    (applyFn cfg fuel sp f vs st).1 ≠ .error .brk ∧ (applyFn cfg fuel sp f vs st).1 ≠ .error .cont :=
  ((ccl_all cfg fuel).apply sp f vs).noExit st

/-- The guard looks at the default arm of a `match`, which the unrepaired one ignores (finding R9): it
reports `match 0 { _ => { break; } }`. -/
theorem guard_sees_match_default :
    stmtCCL (.exprS ⟨0,0,0,0⟩ (.matchE ⟨0,0,0,0⟩ .never (.int ⟨0,0,0,0⟩ 0) []
      (some (.blockE (.mk ⟨0,0,0,0⟩ .never [.brk ⟨0,0,0,0⟩] none))))) = true := by
  simp [stmtCCL, exprCCL, optExprCCL, armsCCL, blockCCL, stmtsCCL]

end HmsProofs.C20
