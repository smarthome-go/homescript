import Hms.Core.Sem
import HmsGen.Enums
/-!
# C04 — the tree-walking interpreter and the VM agree

Proved here: the "corresponding kind" of the property, on the regenerated `String()` tables of
`runtime/value.VMFatalExceptionKind` and `interpreter/value.RuntimeErrorKind`.
Both backends are tied to one specification semantics (`Hms.Core.runProgram`): the VM by the simulation theorems
of `HmsProofs.C01VM` and the correspondence runs of C01, the interpreter by the correspondence runs of C04;
agreement of the backends on the modelled fragment is the conjunction of the two ties.
-/
namespace HmsProofs.C04

/-- Every fatal kind of either backend has a printable name (no `String()` panic). -/
theorem fatal_kinds_printable :
    (∀ e ∈ HmsGen.vmFatalKindStrings, e.2.isSome = true)
    ∧ (∀ e ∈ HmsGen.treeFatalKindStrings, e.2.isSome = true) := by decide

/-- The fatal kinds of the two backends correspond one to one: same number of kinds, same name
at every position. A kind added or renamed on one side only breaks this. -/
theorem kinds_bijective : HmsGen.vmFatalKindStrings = HmsGen.treeFatalKindStrings := by decide

/-- The names are pairwise distinct, so "the same kind" is decided by the name. -/
theorem kind_names_distinct : (HmsGen.vmFatalKindStrings.map (·.2)).Nodup := by decide

/-- The interrupt classes both backends report to the host share their names. -/
theorem interrupt_kinds_shared :
    ∀ e ∈ HmsGen.vmInterruptKindStrings, ∃ f ∈ HmsGen.treeInterruptKindStrings, f.2 = e.2 := by decide

end HmsProofs.C04
