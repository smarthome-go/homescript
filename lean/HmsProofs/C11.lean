import HmsProofs.Lemmas.SemStep
/-!
# C11 — break, continue, return and throw leave exactly what the source says

Theorems about the specification semantics `Hms.Core`, for any nesting and call depth: they are stated for arbitrary
bodies and states. The VM is tied to this semantics by the correspondence runs of C01/C11 and by `HmsProofs.C01VM`.
-/
namespace HmsProofs.C11
open Hms.Core

/-- `break` in the body ends *this* loop normally: an enclosing loop just sees its body statement complete. -/
theorem break_ends_innermost_loop (cfg : Cfg) (fuel : Nat) (body : Block) (s s' : St)
    (h : (inScope (evalBlock cfg fuel body)) s = (.error .brk, s')) :
    loopRun cfg (fuel + 1) none body s = (.ok (), s') := by
  rw [Sim.loopRun_none_step, h]

/-- `continue` abandons the rest of the body and starts the next round of *this* loop. -/
theorem continue_starts_next_round (cfg : Cfg) (fuel : Nat) (body : Block) (s s' : St)
    (h : (inScope (evalBlock cfg fuel body)) s = (.error .cont, s')) :
    loopRun cfg (fuel + 1) none body s = loopRun cfg fuel none body s' := by
  rw [Sim.loopRun_none_step, h]

/-- The same for `while`, whose condition held: `break` ends the loop normally … -/
theorem while_break (cfg : Cfg) (fuel : Nat) (c : Expr) (body : Block) (s s₁ s' : St)
    (hc : evalExpr cfg fuel c s = (.ok (.bool true), s₁))
    (h : (inScope (evalBlock cfg fuel body)) s₁ = (.error .brk, s')) :
    loopRun cfg (fuel + 1) (some c) body s = (.ok (), s') := by
  simp only [Sim.loopRun_step, hc, h]

/-- … and after `continue` the loop goes on from its head, where the condition is evaluated again. -/
theorem while_continue (cfg : Cfg) (fuel : Nat) (c : Expr) (body : Block) (s s₁ s' : St)
    (hc : evalExpr cfg fuel c s = (.ok (.bool true), s₁))
    (h : (inScope (evalBlock cfg fuel body)) s₁ = (.error .cont, s')) :
    loopRun cfg (fuel + 1) (some c) body s = loopRun cfg fuel (some c) body s' := by
  simp only [Sim.loopRun_step, hc, h]

/-- `for`: `break` ends the loop, `continue` goes on with the next element of the snapshot. -/
theorem for_break (cfg : Cfg) (fuel : Nat) (name : String) (x : Val) (xs : List Val) (body : Block)
    (s s' : St)
    (h : (inScope (do declare name x; evalBlock cfg fuel body)) s = (.error .brk, s')) :
    forRun cfg (fuel + 1) name (x :: xs) body s = (.ok (), s') := by
  simp only [forRun]; rw [h]

theorem for_continue (cfg : Cfg) (fuel : Nat) (name : String) (x : Val) (xs : List Val) (body : Block)
    (s s' : St)
    (h : (inScope (do declare name x; evalBlock cfg fuel body)) s = (.error .cont, s')) :
    forRun cfg (fuel + 1) name (x :: xs) body s = forRun cfg fuel name xs body s' := by
  simp only [forRun]; rw [h]

/-- Any other exit (`return`, a thrown exception, a fatal error) passes through a `loop { … }` unchanged. Stated for
`loopRun … none`; `while` and `for` have the same last clause in `loopRun` and `forRun`. -/
theorem loop_passes_other_exits (cfg : Cfg) (fuel : Nat) (body : Block) (s s' : St) (c : Ctl)
    (hb : c ≠ .brk) (hc : c ≠ .cont)
    (h : (inScope (evalBlock cfg fuel body)) s = (.error c, s')) :
    loopRun cfg (fuel + 1) none body s = (.error c, s') := by
  rw [Sim.loopRun_none_step, h]
  cases c <;> first | rfl | exact absurd rfl hb | exact absurd rfl hc

/-- If a statement exits, in any way, the following statements of the block are not executed: the block ends with
the same exit and with the state the statement left (its side effects). -/
theorem after_exit_skipped (cfg : Cfg) (fuel : Nat) (st : Stmt) (rest : List Stmt) (s s' : St) (c : Ctl)
    (h : evalStmt cfg fuel st s = (.error c, s')) :
    evalStmts cfg (fuel + 1) (st :: rest) s = (.error c, s') := by
  rw [Sim.evalStmts_cons, h]

/-- `return v` anywhere in the body (at any nesting of blocks, loops, `if`, `match`) makes the
call yield `v`; the caller's scopes, module and depth are restored. -/
theorem return_leaves_function (cfg : Cfg) (fuel : Nat) (sp : Span) (m : String) (params : List Param)
    (stmts : List Stmt) (e : Option Expr) (bsp : Span) (bty : Ty) (vals : List Val) (s s₁ : St) (v : Val)
    (hd : ¬ s.depth > cfg.callLimit)
    (hp : ∀ p ∈ params, p.isSingleton = false) (hl : params.length = vals.length)
    (h : evalBlock cfg fuel (.mk ⟨0,0,0,0⟩ .null stmts e)
          { s with scopes := [((params.map (·.name)).zip vals).reverse], module := m, depth := s.depth + 1 }
          = (.error (.ret v), s₁)) :
    callBody cfg (fuel + 1) sp m params (.mk bsp bty stmts e) vals s
      = (.ok v, { s₁ with scopes := s.scopes, module := s.module, depth := s.depth }) := by
  rw [Sim.callBody_step cfg fuel sp m params bsp bty stmts e vals s hp hd hl, h]

/-- A thrown exception is not stopped by a function boundary: it leaves the callee (at any call
depth, by repetition) until a `try` catches it; the caller's scopes are restored on the way. -/
theorem throw_leaves_function (cfg : Cfg) (fuel : Nat) (sp : Span) (m : String) (params : List Param)
    (stmts : List Stmt) (e : Option Expr) (bsp : Span) (bty : Ty) (vals : List Val) (s s₁ : St)
    (msg : String) (tsp : Span)
    (hd : ¬ s.depth > cfg.callLimit)
    (hp : ∀ p ∈ params, p.isSingleton = false) (hl : params.length = vals.length)
    (h : evalBlock cfg fuel (.mk ⟨0,0,0,0⟩ .null stmts e)
          { s with scopes := [((params.map (·.name)).zip vals).reverse], module := m, depth := s.depth + 1 }
          = (.error (.throw msg tsp), s₁)) :
    callBody cfg (fuel + 1) sp m params (.mk bsp bty stmts e) vals s
      = (.error (.throw msg tsp), { s₁ with scopes := s.scopes, module := s.module, depth := s.depth }) := by
  rw [Sim.callBody_step cfg fuel sp m params bsp bty stmts e vals s hp hd hl, h]

/-- If the `try` body throws, the catch block runs in the state the body left (side effects
persist, the scopes of the body are gone), with the error object bound to the catch identifier;
the value of the `try` expression is the value of the catch block. -/
theorem throw_reaches_nearest_handler (cfg : Cfg) (fuel : Nat) (sp : Span) (ty : Ty) (t c : Block)
    (ident : String) (s s' : St) (msg : String) (tsp : Span)
    (h : (inScope (evalBlock cfg fuel t)) s = (.error (.throw msg tsp), s')) :
    evalExpr cfg (fuel + 1) (.tryE sp ty t ident c) s
      = (inScope (do
          let o ← alloc (.obj [("message", .str msg), ("line", .int (I64.ofInt tsp.sl)),
                               ("column", .int (I64.ofInt tsp.sc)), ("filename", .str s'.module)])
          declare ident o
          evalBlock cfg fuel c)) s' := by
  rw [Sim.evalExpr_tryE, h]
  rfl

/-- When the body completes, execution resumes behind the `try` with the body's value. -/
theorem try_without_throw (cfg : Cfg) (fuel : Nat) (sp : Span) (ty : Ty) (t c : Block) (ident : String)
    (s s' : St) (v : Val) (h : (inScope (evalBlock cfg fuel t)) s = (.ok v, s')) :
    evalExpr cfg (fuel + 1) (.tryE sp ty t ident c) s = (.ok v, s') := by
  rw [Sim.evalExpr_tryE, h]

/-- Fatal errors are not intercepted by `catch`. Neither are `break`/`continue`/`return` (`Sim.evalExpr_tryE` passes
everything but `.throw` through), but the statement is about `.fatal`. -/
theorem fatal_not_catchable (cfg : Cfg) (fuel : Nat) (sp : Span) (ty : Ty) (t c : Block) (ident : String)
    (s s' : St) (k msg : String) (fsp : Span)
    (h : (inScope (evalBlock cfg fuel t)) s = (.error (.fatal k msg fsp), s')) :
    evalExpr cfg (fuel + 1) (.tryE sp ty t ident c) s = (.error (.fatal k msg fsp), s') := by
  rw [Sim.evalExpr_tryE, h]

/-- An exception that no handler encloses ends the run as the fatal error `UncaughtThrow`
carrying the thrown message and position, together with everything written before it. -/
theorem uncaught_throw_is_fatal (msg : String) (sp : Span) (s : St) :
    outcomeOf (.error (.throw msg sp), s) = .fatal "UncaughtThrow" msg sp s.out s.trig := rfl

/-- A fatal error is reported with its own kind and message. -/
theorem fatal_is_reported (k msg : String) (sp : Span) (s : St) :
    outcomeOf (.error (.fatal k msg sp), s) = .fatal k msg sp s.out s.trig := rfl

end HmsProofs.C11
