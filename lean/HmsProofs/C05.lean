import Hms.Pos.ImportGraph
import Hms.GenBridge
import HmsGen.Enums
import HmsGen.Inventory
import HmsProofs.C06
import HmsProofs.C07
import HmsProofs.Lemmas.PosImports
/-!
# C05 — lexing, parsing and analysis are total

Proved of the models: the lexer and the expression parser never run out of fuel, and the module recursion of the
analyzer and its cycle check terminate on every finite module map. For the loops of the Go lexer and parser
themselves, what is checked is a syntactic classification of every `for` statement (`HmsGen.parserLoops`, go/ast
extraction on every run; `harness/loops.go` is trusted): a loop that is added or edited so that an iteration can
reach the next one without a *checked* consuming call (the shape of finding P1) is an undischarged obligation.
-/
namespace HmsProofs.C05
open Hms Hms.Lex Hms.Pos.Imports

/-- Lexing always finishes with tokens and EOF or tokens and one error — never "out of fuel",
whatever the code points are. -/
theorem lex_total (src : List Char) : ∃ r, pieces (src.length + 1) Loc.start src = .inl r :=
  C06.lex_total src

/-- What `NextToken` delivers ends in EOF or in exactly one error. -/
theorem lex_stream_ends (src : List Char) :
    ((lexAll src).eof.isSome = true ∧ (lexAll src).err = none)
      ∨ ((lexAll src).eof = none ∧ (lexAll src).err.isSome = true) := by
  obtain ⟨r, hr⟩ := lex_total src
  cases r with
  | ok ps =>
    obtain ⟨_, h2, h3⟩ := C06.lex_stream_ok src ps hr
    exact Or.inl ⟨by rw [h3]; rfl, h2⟩
  | error e =>
    obtain ⟨h1, h2⟩ := Lemmas.Lexer.lexAll_of_pieces_err src e hr
    exact Or.inr ⟨h2, by rw [h1]; rfl⟩

/-- The expression parser never reports "out of fuel", for any token list and any binding-power
table — the fuel of the entry point always suffices. -/
theorem pratt_total (prec : Pratt.Prec) (ts : List TokKind) : Pratt.parseExpr prec ts ≠ .error .fuel :=
  C07.pratt_total prec ts

/-- Accepted ways for a loop to make progress (see harness/loops.go for the exact syntactic rules). -/
def progressOK (l : HmsGen.LoopInfo) : Bool :=
  ((l.progress == "bounded-range" || l.progress == "bounded-counter") && l.eof == "n/a")
    || (l.progress == "advances"
        && (l.eof == "cond-excludes-eof" || l.eof == "guard-exits-on-eof" || l.eof == "prec-of-eof-zero"
            || l.eof == "switch-default-exits" || l.eof == "first-call-rejects-eof"))

/-- Every `for` statement of homescript/lexer and homescript/parser is classified by harness/loops.go as a counting
loop, or as a loop in which every path through the body that reaches the next iteration passes a consuming call whose
error is checked and which is left at end of input. The statement is about the two labels of each entry; what they
mean is in the harness. -/
theorem loops_covered : ∀ l ∈ HmsGen.parserLoops, progressOK l = true := by decide +kernel

/-- The inventory is not empty and covers both packages (guards against an extraction that silently
finds nothing). -/
theorem loops_inventory_nonempty :
    (HmsGen.parserLoops.filter (·.pkg == "lexer")).length ≥ 1
      ∧ (HmsGen.parserLoops.filter (·.pkg == "parser")).length ≥ 1
      ∧ HmsGen.lexerAdvancing.length ≥ 1 ∧ HmsGen.parserAdvancing.contains "expect" = true := by decide

/-- Backs the class `prec-of-eof-zero`: the regenerated `Prec()` table gives EOF no binding power,
so the precedence-climbing loop `for left > prec` stops at end of input. -/
theorem prec_eof_zero : Gen.prec .eof = (0, 0) := by decide

/-- `TokenKind.String()` and `ErrorKind.String()` return for every named constant (regenerated by
calling them under `recover`): formatting a syntax error cannot panic. -/
theorem string_tables_total :
    (∀ e ∈ HmsGen.tokStrings, e.2.isSome = true)
      ∧ HmsGen.tokStrings.map (·.1) = List.range HmsGen.goKindNames.length
      ∧ (∀ e ∈ HmsGen.errorKindStrings, e.2.isSome = true) := by decide +kernel

/-- `analyzeModule` over a finite module map terminates, whatever the modules import (cycles,
self-imports, unknown modules): each module is entered at most once (measure: modules of the host
whose analysis has not started). -/
theorem analyze_terminates (host : Host) (entry : String) : ∃ st, analyze host entry = some st :=
  (Lemmas.PosImports.analyzeModule_total host (host.length + 1) entry {}
    (Nat.lt_succ_of_le (white_keys_le host _))).imp fun _ h => h.1

/-- The general form: any fuel above the number of not yet visited host modules suffices, and the
visited set only grows. -/
theorem analyze_module_terminates (host : Host) (fuel : Nat) (m : String) (st : AState)
    (h : white (Lemmas.PosImports.keys host) (m :: st.visited) < fuel) :
    ∃ st', analyzeModule host fuel m st = some st' ∧ ∀ x, x ∈ m :: st.visited → x ∈ st'.visited :=
  Lemmas.PosImports.analyzeModule_total host fuel m st h

/-- `importGraphIsCyclic` with the visited set (fix A8) returns on every graph. -/
theorem import_cycle_total (g : Graph) (start : String) : ∃ b, isCyclic g start = some b :=
  Lemmas.PosImports.isCyclic_total g start

/-- Finding A8: the check as it was (no visited set) does not return on `main → a → a` — no amount
of fuel is enough (in Go: unbounded recursion, fatal stack overflow). -/
theorem import_cycle_unfixed_counterexample :
    ∀ fuel, cycUnfixed [("main", ["a"]), ("a", ["a"])] "main" fuel "main" = none
  | 0 => rfl
  | fuel + 1 => by
    have hl : List.lookup "main" [("main", ["a"]), ("a", ["a"])] = some ["a"] := rfl
    have hne : "a" ≠ "main" := by decide
    simp only [cycUnfixed, hl, List.foldl_cons, List.foldl_nil, hne, if_false]
    exact Lemmas.PosImports.cycUnfixed_self_loop rfl hne fuel

/-- `main → a → b → a` plus a self-import of `a` and an unknown module: three modules visited, the
cycle `a → b → a` is reported once (in `a`), none through `main`. -/
example :
    (analyze [("main", ["a", "zz"]), ("a", ["b", "a"]), ("b", ["a"])] "main").map
        (fun st => (st.visited, st.cyclicAt)) = some (["b", "a", "main"], ["a"]) := by decide

example : isCyclic [("main", ["a"]), ("a", ["b"]), ("b", ["main"])] "main" = some true := by decide

end HmsProofs.C05
