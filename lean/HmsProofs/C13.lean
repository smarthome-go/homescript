import HmsProofs.Lemmas.ValEq
import HmsProofs.Lemmas.ValJson
import HmsProofs.Lemmas.ValHeap
import HmsProofs.Lemmas.ValContent
/-!
# C13 — runtime values obey equality, copy and serialisation laws

The model (`Hms/Value/*.lean`) mirrors `runtime/value` and `interpreter/value` as repaired in /repo by
X2, X3, X20 (equality), X10, X11 (display, strings), X4, X24 (JSON).

Hypotheses, evaluated by the driver on every generated case: `v.wf` — objects are finite maps (no field
name twice at any depth); `v.data` — no function value inside (a function equals nothing, not even itself).
-/
namespace HmsProofs.C13
open Hms.Value Hms.Value.Heap HmsProofs.Lemmas.ValEq HmsProofs.Lemmas.ValJson HmsProofs.Lemmas.ValHeap

theorem eq_refl (v : Val) (hw : v.wf = true) (hd : v.data = true) : v.isEqual v = true :=
  isEqual_refl v hw hd

theorem eq_symm (a b : Val) (ha : a.wf = true) (hb : b.wf = true) (h : a.isEqual b = true) :
    b.isEqual a = true :=
  isEqual_symm a b ha hb h

theorem eq_symm_iff (a b : Val) (ha : a.wf = true) (hb : b.wf = true) : a.isEqual b = b.isEqual a := by
  cases h1 : a.isEqual b <;> cases h2 : b.isEqual a <;> try rfl
  · rw [isEqual_symm b a hb ha h2] at h1; cases h1
  · rw [isEqual_symm a b ha hb h1] at h2; cases h2

theorem eq_trans (a b c : Val) (h1 : a.isEqual b = true) (h2 : b.isEqual c = true) : a.isEqual c = true :=
  isEqual_trans a b c h1 h2

/-- `==` holds exactly when the two values have the same structural content (objects as finite
maps; `Hms/Value/Content.lean`). -/
theorem eq_iff_content (a b : Val) (ha : a.wf = true) (hb : b.wf = true) (hd : a.data = true) :
    a.isEqual b = true ↔ content a = content b :=
  ⟨HmsProofs.Lemmas.ValContent.content_of_isEqual a b ha hb,
   HmsProofs.Lemmas.ValContent.isEqual_of_content a b ha hb hd⟩

/-- X2: the unrepaired code compared only the left operand's fields, so `==` was asymmetric on any-objects. -/
example : let a := Val.anyobj (.cons "a" (.int 1#64) .nil)
          let b := Val.anyobj (.cons "a" (.int 1#64) (.cons "b" (.int 2#64) .nil))
          a.isEqual b = false ∧ b.isEqual a = false := by decide

/-- X3: `1..5` and `1..=5` are different ranges. -/
example : (Val.range 1#64 5#64 false).isEqual (.range 1#64 5#64 true) = false := by decide

/-! ## Both runtimes render a value as the same text -/

theorem display_agree (v : Val) : displayVM v = displayTree v :=
  HmsProofs.Lemmas.ValJson.display_agree v

/-- X10: the unrepaired interpreter printed ranges as `{1}..{5}`. -/
theorem display_range_prefix_counterexample :
    displayTreeRangePreFix 1#64 5#64 ≠ displayVM (.range 1#64 5#64 false) := by decide

/-- Typed route (`TypeAwareUnmarshalValue` of the VM library): a JSON-representable value of type `T` comes
back equal. `marshalVM` and `marshalTree` are one function (both libraries always write a fraction), so the
two conjuncts are the same proposition. -/
theorem json_roundtrip (T : Ty) (hT : T.wf = true) (v : Val) (hw : v.wf = true) (hr : jsonRepr T v = true) :
    (∃ j v', marshalVM v = .some j ∧ unmarshalTyped T j = .some v' ∧ v'.isEqual v = true)
    ∧ (∃ j v', marshalTree v = .some j ∧ unmarshalTyped T j = .some v' ∧ v'.isEqual v = true) :=
  ⟨rt_typed _ T hT v hw hr, rt_typed _ T hT v hw hr⟩

/-- The route a program takes: a value written by `to_json`, read by `parse_json` and bound by an annotated
`let` of its type comes back equal. `jsonReprProg` admits every int (not only those below 2^53) and every
float: `parse_json` reads an integer spelling as an int and any other number as a float (J1), so `2.0` comes
back a float. The two conjuncts are again one proposition. -/
theorem json_roundtrip_prog (T : Ty) (hT : T.wf = true) (v : Val) (hw : v.wf = true)
    (hr : jsonReprProg T v = true) (p : Path) :
    (∃ j v', marshalVM v = .some j ∧ castAll false T (unmarshalUntyped j) p = .ok v' ∧ v'.isEqual v = true)
    ∧ (∃ j v', marshalTree v = .some j ∧ castAll false T (unmarshalUntyped j) p = .ok v' ∧ v'.isEqual v = true) :=
  ⟨rtp_prog _ T hT v hw hr p, rtp_prog _ T hT v hw hr p⟩

/-- Non-vacuity: a nested value in the class, with a whole float. -/
example : let T : Ty := .obj (.cons "a" (.list (.opt .int)) (.cons "b" .float .nil))
          let v : Val := .obj (.cons "b" (.flt ⟨2, 0⟩) (.cons "a" (.list (.cons .none (.cons (.some (.int 7#64)) .nil))) .nil))
          T.wf = true ∧ v.wf = true ∧ jsonReprProg T v = true := by decide

/-- Ints beyond 2^53 are in the class of the program route, not in that of the typed route (a host that
decodes to float64). -/
example : let T : Ty := .list .int
          let v : Val := .list (.cons (.int 9007199254740993#64) (.cons (.int 9223372036854775807#64) .nil))
          T.wf = true ∧ v.wf = true ∧ jsonReprProg T v = true ∧ jsonRepr T v = false := by decide

/-- The case X5 is about: 2.0 is written as `2.0`, read back as a float and accepted by `let … : float`. -/
theorem json_roundtrip_whole_float :
    marshalVM (.flt ⟨2, 0⟩) = .some (.num ⟨2, 0⟩ false)
    ∧ castAll false .float (unmarshalUntyped (.num ⟨2, 0⟩ false)) [] = .ok (.flt ⟨2, 0⟩) := by
  simp [marshalVM, marshalWith, unmarshalUntyped, castAll]

/-- `parse_json` reads back an int beyond 2^53 exactly (the typed route of a float64 host rounds it). -/
theorem json_untyped_big_int :
    (marshalVM (.int 9007199254740993#64)).map unmarshalUntyped = .some (.int 9007199254740993#64) := by
  simp [marshalVM, marshalWith, unmarshalUntyped]

/-- X26 (open): the typed unmarshaller of the VM library panics (the model's `.none`) on an any-object type. -/
theorem typed_unmarshal_anyobj_counterexample : unmarshalTyped .anyobj (.obj .nil) = .none := by decide

/-! ## `Clone()` on the cell heap

`Heap.read fuel h a = some v`: cell `a` of heap `h` denotes the value `v` (`fuel` bounds the depth).
`Closed h`: every reference is in bounds. The driver's `cloneAndMutate` starts from `alloc v []`; that this
heap is `Closed` and reads back `v` is not stated here. -/

/-- A clone denotes the same value as its original, and the original keeps its own. -/
theorem clone_eq (fuel : Nat) (h : Heap) (a : Nat) (v : Val) (hc : Closed h) (hr : Heap.read fuel h a = some v) :
    ∃ h' r', clone fuel h a = some (h', r') ∧ Heap.read fuel h' r' = some v ∧ Heap.read fuel h' a = some v := by
  obtain ⟨h', r', hcl, hrd⟩ := clone_read fuel h a v hc hr
  obtain ⟨e, _, _⟩ := clone_spec fuel h a h' r' hcl
  exact ⟨h', r', hcl, hrd, by rw [read_ext hc e fuel a (read_some_lt hr)]; exact hr⟩

/-- The statement is that of `eq_refl`, with no clone or heap in it; `original == clone` follows from it
with `clone_eq` (both read back the same `v`). -/
theorem clone_isEqual (v : Val) (hw : v.wf = true) (hd : v.data = true) : v.isEqual v = true :=
  isEqual_refl v hw hd

/-- The clone shares no cell with the original: it lives in freshly appended cells that refer
to freshly appended cells only. -/
theorem clone_fresh (fuel : Nat) (h : Heap) (a : Nat) (h' : Heap) (r' : Nat) (hcl : clone fuel h a = some (h', r')) :
    h.length ≤ r' ∧ r' < h'.length ∧
    ∃ ext : Heap, h' = h ++ ext ∧ ∀ (i : Nat) (node : Node), ext[i]? = some node →
      ∀ r ∈ node.refs, h.length ≤ r ∧ r < h'.length := by
  obtain ⟨e, h1, h2⟩ := clone_spec fuel h a h' r' hcl
  exact ⟨h1, h2, e⟩

/-- No sequence of mutations applied through the clone changes what any cell of the original
heap denotes — in particular the original value. -/
theorem clone_isolated (fuel : Nat) (h : Heap) (a : Nat) (h' : Heap) (r' : Nat) (hc : Closed h)
    (hcl : clone fuel h a = some (h', r')) (ops : List Op) (m b : Nat) (hb : b < h.length) :
    Heap.read m (applyOps h' r' ops) b = Heap.read m h b := by
  obtain ⟨e, h1, _⟩ := clone_spec fuel h a h' r' hcl
  rw [applyOps_read (sep_old hc e) r' (Or.inr h1) ops m b (Nat.zero_le _) hb]
  exact read_ext hc e m b hb

/-- No sequence of mutations applied through the original changes what the clone denotes. -/
theorem orig_isolated (fuel : Nat) (h : Heap) (a : Nat) (h' : Heap) (r' : Nat) (hc : Closed h) (ha : a < h.length)
    (hcl : clone fuel h a = some (h', r')) (ops : List Op) (m : Nat) :
    Heap.read m (applyOps h' a ops) r' = Heap.read m h' r' := by
  obtain ⟨e, h1, h2⟩ := clone_spec fuel h a h' r' hcl
  exact applyOps_read (sep_new hc e) a (Or.inl ha) ops m r' h1 h2

/-- A shallow copy would not do: with one element cell shared, a mutation through the copy changes the
original. -/
theorem shallow_copy_counterexample :
    let h : Heap := [.leaf (.int 1#64), .list [0], .list [0]]     -- cell 2 = shallow copy of the list in cell 1
    let h' := applyOps h 2 [⟨[.index 0], .assign (.int 9#64)⟩]     -- copy[0] = 9
    (Heap.read 3 h 1).map (Val.beq (.list (.cons (.int 1#64) .nil))) = some true
    ∧ (Heap.read 3 h' 1).map (Val.beq (.list (.cons (.int 9#64) .nil))) = some true := by
  decide

end HmsProofs.C13
