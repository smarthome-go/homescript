/-!
# Runtime values and value types (pure model)

Mirrors `homescript/runtime/value/*` and, where it differs, `homescript/interpreter/value/*`
(the *post-fix* code, see `fixes-proposed/X*.patch`). Values are trees; the Go runtime's `*Value`
cells matter only for the sharing laws and are modelled separately in `Hms/Value/Heap.lean`.

* `Val`/`Vals`/`Fields` and `Ty`/`TyFields` are mutually inductive (instead of nested `List`s) so
  that every function below is structurally recursive and every lemma a mutual structural
  induction.
* An object is an association list that stands for a finite map (Go: `map[string]*Value`).
  The representation invariant "no key occurs twice, at any depth" is `Val.wf` / `Ty.wf`; it is a
  hypothesis of the laws that need it and is checked by the driver on every generated case.
* Integers are `BitVec 64`. Floats are *not* Lean `Float`: `Dy = ⟨m, e⟩` stands for the rational
  `m / 2^e` (every finite float64 is one); the model only needs decidable equality, the
  conversions from/to integers and the zero test. What is assumed about IEEE-754 is confined to
  the class of floats the checks generate (|m| < 2^49, e ≤ 8, at most 15 significant decimal
  digits): there Go's conversions are exact and `%v` prints the exact decimal expansion. NaN and
  infinities are outside the model (the property excludes NaN).
-/
namespace Hms.Value

/-- A dyadic rational `m / 2^e`, kept normalised (`e = 0` or `m` odd) by `Dy.norm`. -/
structure Dy where
  m : Int
  e : Nat
  deriving DecidableEq, Repr, Inhabited

namespace Dy

def normAux : Nat → Int → Nat → Dy
  | 0, m, e => ⟨m, e⟩
  | fuel + 1, m, e => if e = 0 then ⟨m, 0⟩ else if m % 2 = 0 then normAux fuel (m / 2) (e - 1) else ⟨m, e⟩

def norm (d : Dy) : Dy := if d.m = 0 then ⟨0, 0⟩ else normAux d.e d.m d.e

def ofInt (i : Int) : Dy := ⟨i, 0⟩

def isZero (d : Dy) : Bool := d.m == 0

/-- Go `int64(f)`: truncation toward zero (in range for the generated class). -/
def trunc (d : Dy) : Int := Int.tdiv d.m (2 ^ d.e)

def isIntegral (d : Dy) : Bool := d.norm.e == 0

end Dy

mutual
inductive Val where
  | null
  | int (i : BitVec 64)
  | flt (d : Dy)
  | bool (b : Bool)
  | str (s : String)
  | list (xs : Vals)
  | obj (fs : Fields)
  | anyobj (fs : Fields)
  | none
  | some (v : Val)
  | range (a b : BitVec 64) (incl : Bool)
  | fn
inductive Vals where
  | nil
  | cons (v : Val) (vs : Vals)
inductive Fields where
  | nil
  | cons (k : String) (v : Val) (fs : Fields)
end

mutual
inductive Ty where
  | any | null | int | float | bool | str | range | anyobj | fn
  | list (t : Ty)
  | opt (t : Ty)
  | obj (fs : TyFields)
inductive TyFields where
  | nil
  | cons (k : String) (t : Ty) (fs : TyFields)
end

instance : Inhabited Val := ⟨.null⟩
instance : Inhabited Ty := ⟨.any⟩

/-! ## Decidable syntactic equality (used by the driver and by `decide` in examples) -/

mutual
def Val.beq : Val → Val → Bool
  | .null, .null => true
  | .int a, .int b => a == b
  | .flt a, .flt b => a == b
  | .bool a, .bool b => a == b
  | .str a, .str b => a == b
  | .list a, .list b => Vals.beq a b
  | .obj a, .obj b => Fields.beq a b
  | .anyobj a, .anyobj b => Fields.beq a b
  | .none, .none => true
  | .some a, .some b => Val.beq a b
  | .range a b i, .range a' b' i' => a == a' && b == b' && i == i'
  | .fn, .fn => true
  | _, _ => false
def Vals.beq : Vals → Vals → Bool
  | .nil, .nil => true
  | .cons a as, .cons b bs => Val.beq a b && Vals.beq as bs
  | _, _ => false
def Fields.beq : Fields → Fields → Bool
  | .nil, .nil => true
  | .cons k a as, .cons k' b bs => k == k' && Val.beq a b && Fields.beq as bs
  | _, _ => false
end

instance : BEq Val := ⟨Val.beq⟩

mutual
def Ty.beq : Ty → Ty → Bool
  | .any, .any | .null, .null | .int, .int | .float, .float | .bool, .bool | .str, .str
  | .range, .range | .anyobj, .anyobj | .fn, .fn => true
  | .list a, .list b => Ty.beq a b
  | .opt a, .opt b => Ty.beq a b
  | .obj a, .obj b => TyFields.beq a b
  | _, _ => false
def TyFields.beq : TyFields → TyFields → Bool
  | .nil, .nil => true
  | .cons k a as, .cons k' b bs => k == k' && Ty.beq a b && TyFields.beq as bs
  | _, _ => false
end

instance : BEq Ty := ⟨Ty.beq⟩

/-! ## Finite-map view of field lists -/

namespace Vals
def length : Vals → Nat
  | .nil => 0
  | .cons _ vs => vs.length + 1
def get? : Vals → Nat → Option Val
  | .nil, _ => .none
  | .cons v _, 0 => .some v
  | .cons _ vs, n + 1 => vs.get? n
def toList : Vals → List Val
  | .nil => []
  | .cons v vs => v :: vs.toList
def ofList : List Val → Vals
  | [] => .nil
  | v :: vs => .cons v (ofList vs)
def append : Vals → Vals → Vals
  | .nil, ys => ys
  | .cons v vs, ys => .cons v (vs.append ys)
def all (p : Val → Bool) : Vals → Bool
  | .nil => true
  | .cons v vs => p v && vs.all p
end Vals

namespace Fields
def lookup : Fields → String → Option Val
  | .nil, _ => .none
  | .cons k v fs, q => if k = q then .some v else fs.lookup q
def keys : Fields → List String
  | .nil => []
  | .cons k _ fs => k :: fs.keys
def length : Fields → Nat
  | .nil => 0
  | .cons _ _ fs => fs.length + 1
def hasKey (fs : Fields) (q : String) : Bool := fs.keys.contains q
def toList : Fields → List (String × Val)
  | .nil => []
  | .cons k v fs => (k, v) :: fs.toList
def ofList : List (String × Val) → Fields
  | [] => .nil
  | (k, v) :: r => .cons k v (ofList r)
end Fields

namespace TyFields
def lookup : TyFields → String → Option Ty
  | .nil, _ => .none
  | .cons k t fs, q => if k = q then .some t else fs.lookup q
def keys : TyFields → List String
  | .nil => []
  | .cons k _ fs => k :: fs.keys
def hasKey (fs : TyFields) (q : String) : Bool := fs.keys.contains q
def toList : TyFields → List (String × Ty)
  | .nil => []
  | .cons k t fs => (k, t) :: fs.toList
def ofList : List (String × Ty) → TyFields
  | [] => .nil
  | (k, t) :: r => .cons k t (ofList r)
end TyFields

/-- No repeated element (Boolean, so that the driver and `decide` can run it). -/
def nodupKeys : List String → Bool
  | [] => true
  | k :: ks => !ks.contains k && nodupKeys ks

/-! ## Representation invariant: every object, at any depth, is a finite map -/

mutual
def Val.wf : Val → Bool
  | .list xs => Vals.wf xs
  | .obj fs => nodupKeys fs.keys && Fields.wf fs
  | .anyobj fs => nodupKeys fs.keys && Fields.wf fs
  | .some v => Val.wf v
  | _ => true
def Vals.wf : Vals → Bool
  | .nil => true
  | .cons v vs => Val.wf v && Vals.wf vs
def Fields.wf : Fields → Bool
  | .nil => true
  | .cons _ v fs => Val.wf v && Fields.wf fs
end

mutual
def Ty.wf : Ty → Bool
  | .list t => Ty.wf t
  | .opt t => Ty.wf t
  | .obj fs => nodupKeys fs.keys && TyFields.wf fs
  | _ => true
def TyFields.wf : TyFields → Bool
  | .nil => true
  | .cons _ t fs => Ty.wf t && TyFields.wf fs
end

/-! Data values: no function inside (functions are never equal to anything, not even themselves,
and never cross the typed boundary; the properties quantify over data). -/
mutual
def Val.data : Val → Bool
  | .fn => false
  | .list xs => Vals.data xs
  | .obj fs => Fields.data fs
  | .anyobj fs => Fields.data fs
  | .some v => Val.data v
  | _ => true
def Vals.data : Vals → Bool
  | .nil => true
  | .cons v vs => Val.data v && Vals.data vs
def Fields.data : Fields → Bool
  | .nil => true
  | .cons _ v fs => Val.data v && Fields.data fs
end

/-! ## Equality (`IsEqual` of every value kind, post-fix)

Every kind first compares the kinds (X20), lists compare lengths and then element-wise, objects
and any-objects compare the number of fields and then look every left field up on the right
(X2), ranges compare both bounds and the inclusive flag (X3), functions are never equal. -/

mutual
def Val.isEqual : Val → Val → Bool
  | .null, w => match w with | .null => true | _ => false
  | .int a, w => match w with | .int b => a == b | _ => false
  | .flt a, w => match w with | .flt b => a == b | _ => false
  | .bool a, w => match w with | .bool b => a == b | _ => false
  | .str a, w => match w with | .str b => a == b | _ => false
  | .list xs, w => match w with | .list ys => xs.length == ys.length && Vals.isEqual xs ys | _ => false
  | .obj fs, w => match w with | .obj gs => fs.length == gs.length && Fields.isEqualIn fs gs | _ => false
  | .anyobj fs, w => match w with | .anyobj gs => fs.length == gs.length && Fields.isEqualIn fs gs | _ => false
  | .none, w => match w with | .none => true | _ => false
  | .some a, w => match w with | .some b => Val.isEqual a b | _ => false
  | .range a b i, w => match w with | .range a' b' i' => a == a' && b == b' && i == i' | _ => false
  | .fn, _ => false
/-- element-wise on equally long lists -/
def Vals.isEqual : Vals → Vals → Bool
  | .nil, _ => true
  | .cons a as, w => match w with | .cons b bs => Val.isEqual a b && Vals.isEqual as bs | .nil => false
/-- every field on the left has an equal field of that name on the right -/
def Fields.isEqualIn : Fields → Fields → Bool
  | .nil, _ => true
  | .cons k a as, gs => (match gs.lookup k with | .some b => Val.isEqual a b | .none => false) && Fields.isEqualIn as gs
end

/-! ## Conformance: the value deeply has the type -/

mutual
def conforms : Ty → Val → Bool
  | .any, _ => true
  | .null, v => match v with | .null => true | _ => false
  | .int, v => match v with | .int _ => true | _ => false
  | .float, v => match v with | .flt _ => true | _ => false
  | .bool, v => match v with | .bool _ => true | _ => false
  | .str, v => match v with | .str _ => true | _ => false
  | .range, v => match v with | .range .. => true | _ => false
  | .anyobj, v => match v with | .anyobj _ => true | _ => false
  | .fn, _ => false   -- functions never cross the boundary (`DeepCast` refuses them)
  | .list t, v => match v with | .list xs => xs.all (fun x => conforms t x) | _ => false
  | .opt t, v => match v with | .none => true | .some x => conforms t x | _ => false
  | .obj tfs, v => match v with
      | .obj fs => conformsFields tfs fs && fs.keys.all (fun k => tfs.hasKey k)
      | _ => false
/-- every declared field is present and conforms -/
def conformsFields : TyFields → Fields → Bool
  | .nil, _ => true
  | .cons k t rest, fs => (match fs.lookup k with | .some x => conforms t x | .none => false) && conformsFields rest fs
end
