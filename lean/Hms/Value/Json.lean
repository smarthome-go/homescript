import Hms.Value.Cast
/-!
# JSON: `MarshalValue`, `UnmarshalValue`, `TypeAwareUnmarshalValue` over a JSON *tree*

The text layer (Go's `encoding/json`: printing, parsing, string escaping, number syntax) is
trusted; what is modelled is the mapping between values and the `interface{}` tree. A number of a
document comes in two kinds (J1: `parse_json` decodes with `UseNumber` and the spelling decides):
`int i` is a number spelled as an integer (no `.`, `e`, `E`) which fits an int64 — `parse_json` reads
it exactly; `num d _` is every other number, a float64 (`Dy`) after parsing (`intLit` records an
integer spelling beyond the int64 range, or an integer literal written for a float; the
unmarshallers ignore it). Hosts of the typed route still decode every number to a float64.

Post-fix behaviour: X4 (the VM keeps `null`/`none` list elements, as the interpreter does), X24
(both libraries write `none`/`null` object fields as `null` instead of leaving them out), X9 (a
range or a function is a JSON error, not a panic).
-/
namespace Hms.Value

mutual
inductive J where
  | null
  | bool (b : Bool)
  | num (d : Dy) (intLit : Bool)
  | int (i : BitVec 64)
  | str (s : String)
  | arr (xs : Js)
  | obj (fs : JFields)
inductive Js where
  | nil
  | cons (j : J) (js : Js)
inductive JFields where
  | nil
  | cons (k : String) (j : J) (fs : JFields)
end

instance : Inhabited J := ⟨.null⟩

def J.isNull : J → Bool
  | .null => true
  | _ => false

def JFields.lookup : JFields → String → Option J
  | .nil, _ => .none
  | .cons k j fs, q => if k = q then .some j else fs.lookup q

/-! ## Marshalling (`floatInt d` = does the library write the float `d` as an integer literal, without a
fraction part; neither library ever does) -/

mutual
/-- `none` = the value cannot be encoded (range, function): JSON error. -/
def marshalWith (floatInt : Dy → Bool) : Val → Option J
  | .null => .some .null
  | .none => .some .null
  | .some v => marshalWith floatInt v
  | .int i => .some (.int i)                          -- written as an integer literal
  | .flt d => .some (.num d (floatInt d))
  | .bool b => .some (.bool b)
  | .str s => .some (.str s)
  | .list xs => (marshalList floatInt xs).map .arr
  | .obj fs => (marshalFields floatInt fs).map .obj
  | .anyobj fs => (marshalFields floatInt fs).map .obj
  | .range .. => .none
  | .fn => .none
/-- list elements are all kept (X4) -/
def marshalList (floatInt : Dy → Bool) : Vals → Option Js
  | .nil => .some .nil
  | .cons v vs =>
    match marshalWith floatInt v, marshalList floatInt vs with
    | .some j, .some js => .some (.cons j js)
    | _, _ => .none
/-- every field is written, a `none`/`null` one as `null` (X24) -/
def marshalFields (floatInt : Dy → Bool) : Fields → Option JFields
  | .nil => .some .nil
  | .cons k v fs =>
    match marshalWith floatInt v, marshalFields floatInt fs with
    | .some j, .some js => .some (.cons k j js)
    | _, _ => .none
end

/-- VM: `jsonFloat` always writes a fraction (`3.0`). -/
def marshalVM : Val → Option J := marshalWith (fun _ => false)
/-- interpreter: `jsonFloat` as well, a fraction is always written. -/
def marshalTree : Val → Option J := marshalWith (fun _ => false)

/-! ## Untyped unmarshalling (`parse_json`): `UnmarshalValue` / `unmarshalValue` -/

mutual
def unmarshalUntyped : J → Val
  | .null => .none
  | .bool b => .bool b
  | .num d _ => .flt d             -- J1: spelled with a fraction / an exponent (or beyond int64): a float
  | .int i => .int i               -- J1: an integer spelling which fits an int is read exactly
  | .str s => .str s
  | .arr xs => .list (unmarshalUntypedList xs)
  | .obj fs => .obj (unmarshalUntypedFields fs)
def unmarshalUntypedList : Js → Vals
  | .nil => .nil
  | .cons j js => .cons (unmarshalUntyped j) (unmarshalUntypedList js)
def unmarshalUntypedFields : JFields → Fields
  | .nil => .nil
  | .cons k j fs => .cons k (unmarshalUntyped j) (unmarshalUntypedFields fs)
end

/-! ## Typed unmarshalling: `TypeAwareUnmarshalValue` (VM library only) -/

/-- elements in order; `none` = a Go panic somewhere inside -/
def unmarshalTypedList (f : J → Option Val) : Js → Option Vals
  | .nil => .some .nil
  | .cons j js =>
    match f j, unmarshalTypedList f js with
    | .some v, .some vs => .some (.cons v vs)
    | _, _ => .none

mutual
/-- `none` = Go panic (type assertion on a type that is neither object nor list). -/
def unmarshalTyped : Ty → J → Option Val
  | .opt t, j => if j.isNull then .some .none else (unmarshalTyped t j).map .some
  | T, .str s => match T with | .opt _ => .none | _ => .some (.str s)
  | T, .bool b => match T with | .opt _ => .none | _ => .some (.bool b)
  | T, .null => match T with | .opt _ => .none | _ => .some .none
  | T, .num d _ => match T with | .opt _ => .none | .int => .some (.int (fltToInt d)) | _ => .some (.flt d)
  -- the host decodes every number to a float64 first
  | T, .int i => match T with | .opt _ => .none | .int => .some (.int (fltToInt (intToFlt i))) | _ => .some (.flt (intToFlt i))
  | .list t, .arr xs => (unmarshalTypedList (fun j => unmarshalTyped t j) xs).map .list
  | .obj tfs, .obj jfs => (unmarshalTypedFields tfs jfs).map .obj
  | _, .arr _ => .none
  | _, .obj _ => .none
/-- one field per *declared* field; a missing key is read as `null` -/
def unmarshalTypedFields : TyFields → JFields → Option Fields
  | .nil, _ => .some .nil
  | .cons k t rest, jfs =>
    match unmarshalTyped t ((jfs.lookup k).getD .null), unmarshalTypedFields rest jfs with
    | .some v, .some fs => .some (.cons k v fs)
    | _, _ => .none
end

/-! ## What survives the round trip

`JsonRepr T v`: `v` has type `T` and is JSON-representable *under that type* for the typed
route `TypeAwareUnmarshalValue ∘ parse ∘ print ∘ MarshalValue`:
* integers of magnitude below 2^53 (a JSON number is a float64 after parsing);
* no `null`-typed, `any`-typed, any-object, range or function component (the typed unmarshaller
  reads JSON `null` as `none`, and panics on an any-object type — X26, open);
* an option's payload type is not itself an option or `null` (JSON has one `null`). -/

def intFitsFloat (i : BitVec 64) : Bool := decide (i.toInt.natAbs < 2 ^ 53)

def Ty.nullish : Ty → Bool
  | .opt _ | .null | .any => true
  | _ => false

mutual
def jsonRepr : Ty → Val → Bool
  | .int, v => match v with | .int i => intFitsFloat i | _ => false
  | .float, v => match v with | .flt _ => true | _ => false
  | .bool, v => match v with | .bool _ => true | _ => false
  | .str, v => match v with | .str _ => true | _ => false
  | .list t, v => match v with | .list xs => xs.all (fun x => jsonRepr t x) | _ => false
  | .opt t, v => !t.nullish && (match v with | .none => true | .some x => jsonRepr t x | _ => false)
  | .obj tfs, v => match v with
      | .obj fs => jsonReprFields tfs fs && fs.keys.all (fun k => tfs.hasKey k)
      | _ => false
  | _, _ => false
def jsonReprFields : TyFields → Fields → Bool
  | .nil, _ => true
  | .cons k t rest, fs => (match fs.lookup k with | .some x => jsonRepr t x | .none => false) && jsonReprFields rest fs
end

/-! `JsonReprProg T v`: the same for the route a program takes (`to_json`, `parse_json`, annotated
`let` / `as`). Since J1 `parse_json` reads an integer spelling exactly: every int is representable
there, not only those a float64 holds. -/
mutual
def jsonReprProg : Ty → Val → Bool
  | .int, v => match v with | .int _ => true | _ => false
  | .float, v => match v with | .flt _ => true | _ => false
  | .bool, v => match v with | .bool _ => true | _ => false
  | .str, v => match v with | .str _ => true | _ => false
  | .list t, v => match v with | .list xs => xs.all (fun x => jsonReprProg t x) | _ => false
  | .opt t, v => !t.nullish && (match v with | .none => true | .some x => jsonReprProg t x | _ => false)
  | .obj tfs, v => match v with
      | .obj fs => jsonReprProgFields tfs fs && fs.keys.all (fun k => tfs.hasKey k)
      | _ => false
  | _, _ => false
def jsonReprProgFields : TyFields → Fields → Bool
  | .nil, _ => true
  | .cons k t rest, fs => (match fs.lookup k with | .some x => jsonReprProg t x | .none => false) && jsonReprProgFields rest fs
end

/-! Before J1 the in-program route (`to_json`, `parse_json`, annotated `let`) additionally lost the
difference between 2.0 and 2 (X5): floats had to be non-integral. `noIntegralFloat` is that condition;
`jsonReprProg` does not ask for it, and the driver does not evaluate it. -/
mutual
def noIntegralFloat : Val → Bool
  | .flt d => !d.isIntegral
  | .list xs => noIntegralFloatList xs
  | .obj fs => noIntegralFloatFields fs
  | .anyobj fs => noIntegralFloatFields fs
  | .some v => noIntegralFloat v
  | _ => true
def noIntegralFloatList : Vals → Bool
  | .nil => true
  | .cons v vs => noIntegralFloat v && noIntegralFloatList vs
def noIntegralFloatFields : Fields → Bool
  | .nil => true
  | .cons _ v fs => noIntegralFloat v && noIntegralFloatFields fs
end

end Hms.Value
