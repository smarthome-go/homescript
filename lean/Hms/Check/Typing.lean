import Hms.Check.Check
import Hms.Check.Compat
/-!
# C03 — the declarative typing relation (the specification)

`HasType Γ s e τ x c tys` — "in context `Γ`, at a position that is strict about `any` iff `s`,
expression `e` has type `τ`"; the three further columns are attributes the rules of the
language need:

* `x`   — the expression contains a loop exit (`break`) or a diverging sub-expression
          (a `loop` statement is of type `never` iff its body has none),
* `c`   — the expression is constant (global initialisers must be),
* `tys` — the types of `e` and of its sub-expressions, blocks, `let`- and `for`-variables in
          pre-order: what an analysis has to *record* for the later stages.

One rule per construct and case of the language rules named in the property statement:
operand / argument / return / assignment / condition / branch / iterator compatibility, arity,
known identifiers / types / members, `break` / `continue` only in loops, no duplicates,
constant globals, no implicit `any`, shape of `main`. There is no error recovery and no
analyzer state here, and no diagnostic but in the conversion of written types (below).

The finite parts (operator admissibility, member tables, `as` conversions) are shared with the
checker as tables; structural compatibility is the relation `Compatible` of
`Hms/Check/Compat.lean` (proved equivalent to the checker's `typeCheck`). Shared as functions of
the checker are also: the conversion of written types (a type is well-formed iff
`convertType true` reports nothing, so an unknown type or a duplicate field of a type is not
described independently), the result types of the constructs (`ifElseTy`, `matchTy`, `blockTy` …),
scopes and signatures (`paramScope`, `dupNames`, `curRet`, `fnSig`), and `armJoin`, `elemOK`,
`castOK`, which call `typeCheck` and not `Compatible`.
-/
namespace Hms.Check

/-- structural compatibility: a `got` may stand where an `exp` is expected -/
abbrev Compat (allowFn : Bool) (got exp : Ty) : Prop := Compatible allowFn got exp

/-- `let` without annotation needs an `any`-free initialiser; with annotation the initialiser
must be compatible with it (function values only if no `any` is involved) -/
inductive LetTy : Option PTy → Ty → Ty → Prop where
  | plain {t : Ty} : t.hasAny = false → LetTy none t t
  | annotated {a : PTy} {t at' : Ty} : convertType true a = ([], at') → Compat (!t.hasAny) t at' → LetTy (some a) t at'

mutual
/-- the rule of the construct itself -/
inductive Raw : Ctx → PExpr → Ty → Bool → Bool → List Ty → Prop where
  | int {Γ v} : Raw Γ (.int v) .int false true [.int]
  | float {Γ v} : Raw Γ (.float v) .float false true [.float]
  | bool {Γ v} : Raw Γ (.bool v) .bool false true [.bool]
  | str {Γ v} : Raw Γ (.str v) .str false true [.str]
  | null {Γ} : Raw Γ .null .null false true [.null]
  | none {Γ} : Raw Γ .none (.opt .any) false true [.opt .any]
  | anyobj {Γ} : Raw Γ .anyobj .anyobj false true [.anyobj]
  | ident {Γ name t} : Γ.lookup name = some t → Raw Γ (.ident name) t false false [t]
  | range {Γ a b incl ta xa ca la tb xb cb lb} :
      HasType Γ true a ta xa ca la → HasType Γ true b tb xb cb lb → Compat false ta .int → Compat false tb .int →
      Raw Γ (.range a b incl) .range (xa || xb) (ca && cb) (.range :: (la ++ lb))
  | list {Γ xs lt x c l} : ElemsOK Γ .any xs lt x c l → Raw Γ (.list xs) (.list lt) x c (.list lt :: l)
  | obj {Γ fs fields x c l} : FieldsOK Γ [] fs fields x c l → Raw Γ (.obj fs) (.obj fields) x c (.obj fields :: l)
  | lambda {Γ params ret body ps rt tb xb cb lb} :
      convertParamList params = ([], ps) → dupNames [] ps = 0 → convertType true ret = ([], rt) →
      BlockOK { vars := paramScope [] ps ++ Γ.vars, fns := Γ.fns, ret := some rt, inLoop := false } body tb xb cb lb →
      Compat true tb rt →
      Raw Γ (.lambda params ret body) (.fn ps rt) false false (.fn ps rt :: lb)
  | grp {Γ e t x c l} : HasType Γ true e t x c l → Raw Γ (.grp e) t x c (t :: l)
  | pre {Γ op e tb t x c l} : HasType Γ true e tb x c l → prefixResult op tb = some t → Raw Γ (.pre op e) t x c (t :: l)
  | infix {Γ op l r tl xl cl ll tr xr cr lr t} :
      HasType Γ true l tl xl cl ll → HasType Γ true r tr xr cr lr → Compat true tr tl → infixResult op tl = some t →
      Raw Γ (.infix op l r) t (xl || xr) (cl && cr) (t :: (ll ++ lr))
  | assign {Γ op l r tl xl cl ll tr xr cr lr} :
      HasType Γ true l tl xl cl ll → HasType Γ true r tr xr cr lr → Compat false tr tl → assignOk op tl = true →
      Raw Γ (.assign op l r) (assignTy tl tr) (xl || xr) false (assignTy tl tr :: (ll ++ lr))
  | callFn {Γ base args tb ps ret xb cb lb xa la} :
      HasType Γ true base tb xb cb lb → callee tb = .fn ps ret → args.length = ps.length →
      ArgsOK Γ (ps.map (·.2)) Option.none args xa la →
      Raw Γ (.call base args) ret (xb || xa) false (ret :: (lb ++ la))
  | callVar {Γ base args tb ps rest ret xb cb lb xa la} :
      HasType Γ true base tb xb cb lb → callee tb = .var ps rest ret → (ps.length = 0 ∨ ps.length ≤ args.length) →
      ArgsOK Γ ps (some rest) args xa la →
      Raw Γ (.call base args) ret (xb || xa) false (ret :: (lb ++ la))
  /-- calling something that never yields a value -/
  | callDiv {Γ base args tb xb cb lb} :
      HasType Γ true base tb xb cb lb → callee tb = .div →
      Raw Γ (.call base args) .unknown xb false (.unknown :: lb)
  /-- `spawn name(…)` starts a function *of the program* (a name no variable — local, parameter,
  global, builtin — stands for) on a new thread; no function value travels to that thread, and the
  expression itself has no value -/
  | spawnFn {Γ name args tb ps ret xb cb lb xa la} :
      HasType Γ true (.ident name) tb xb cb lb → callee tb = .fn ps ret → lookupTy name Γ.vars = Option.none →
      args.length = ps.length → SpawnArgsOK Γ (ps.map (·.2)) Option.none args xa la →
      Raw Γ (.spawn name args) .null (xb || xa) false (.null :: (lb ++ la))
  | spawnVar {Γ name args tb ps rest ret xb cb lb xa la} :
      HasType Γ true (.ident name) tb xb cb lb → callee tb = .var ps rest ret → lookupTy name Γ.vars = Option.none →
      (ps.length = 0 ∨ ps.length ≤ args.length) → SpawnArgsOK Γ ps (some rest) args xa la →
      Raw Γ (.spawn name args) .null (xb || xa) false (.null :: (lb ++ la))
  /-- spawning something that never yields a value -/
  | spawnDiv {Γ name args tb xb cb lb} :
      HasType Γ true (.ident name) tb xb cb lb → callee tb = .div →
      Raw Γ (.spawn name args) .null xb false (.null :: lb)
  | index {Γ b i tb xb cb lb ti xi ci li t} :
      HasType Γ true b tb xb cb lb → HasType Γ true i ti xi ci li → indexRule tb ti (isStrLit i) = some t →
      Raw Γ (.index b i) t (xb || xi) cb (t :: (lb ++ li))
  | member {Γ b name op tb xb cb lb t} :
      HasType Γ false b tb xb cb lb → memberRule tb name op = some t →
      Raw Γ (.member b name op) t xb cb (t :: lb)
  | cast {Γ e t tb a xb cb lb} :
      HasType Γ false e tb xb cb lb → convertType true t = ([], a) → castOK tb a = true →
      Raw Γ (.cast e t) a xb cb (a :: lb)
  | blk {Γ b t x c l} : BlockOK Γ b t x c l → Raw Γ (.blk b) t x c l
  | ifElse {Γ c t e tc xc cc lc tt xt ct lt te xe ce le} :
      HasType Γ true c tc xc cc lc → Compat true tc .bool → BlockOK Γ t tt xt ct lt → BlockOK Γ e te xe ce le →
      Compat true te tt →
      Raw Γ (.ifElse c t e) (ifElseTy tt te) (xc || xt || xe) false (ifElseTy tt te :: (lc ++ lt ++ le))
  | ifThen {Γ c t tc xc cc lc tt xt ct lt} :
      HasType Γ true c tc xc cc lc → Compat true tc .bool → BlockOK Γ t tt xt ct lt → Compat true tt .null →
      Raw Γ (.ifThen c t) .null (xc || xt) false (.null :: (lc ++ lt))
  | matchE {Γ c arms tc xc cc lc rt d xa la} :
      HasType Γ true c tc xc cc lc → ArmsOK Γ tc .unknown Option.none arms rt d xa la →
      (d.isSome = true ∨ Compat true .null (matchTy d.isSome arms.isEmpty rt)) →
      Raw Γ (.matchE c arms) (matchTy d.isSome arms.isEmpty rt) (xc || xa) false
        (matchTy d.isSome arms.isEmpty rt :: (lc ++ la ++ d.getD []))
  | tryE {Γ t name c tt xt ct lt tc xc cc lc} :
      BlockOK Γ t tt xt ct lt → BlockOK (Γ.bind name errorTy) c tc xc cc lc → Compat true tc tt →
      Raw Γ (.tryE t name c) (tryTy tt tc) (xt || xc) false (tryTy tt tc :: (lt ++ lc))
/-- an expression at a position: its own rule, plus "no implicit `any`"; a diverging
expression counts as a loop exit -/
inductive HasType : Ctx → Bool → PExpr → Ty → Bool → Bool → List Ty → Prop where
  | mk {Γ s e t x c l} : Raw Γ e t x c l → anyOK s t = true → HasType Γ s e t (x || t.isNever) c l
/-- list elements: the first element fixes the element type, the others are compatible with it -/
inductive ElemsOK : Ctx → Ty → PExprs → Ty → Bool → Bool → List Ty → Prop where
  | nil {Γ lt} : ElemsOK Γ lt .nil lt false true []
  | cons {Γ lt e rest t x c l lt' x' c' l'} :
      HasType Γ true e t x c l → elemOK t lt = true →
      ElemsOK Γ (if lt.kind == .any then t else lt) rest lt' x' c' l' →
      ElemsOK Γ lt (.cons e rest) lt' (x || x') (c && c') (l ++ l')
/-- object literal fields: distinct names, none of them a builtin member name -/
inductive FieldsOK : Ctx → List String → PFields → List (String × Ty) → Bool → Bool → List Ty → Prop where
  | nil {Γ seen} : FieldsOK Γ seen .nil [] false true []
  | cons {Γ seen k e rest t x c l fields x' c' l'} :
      builtinFieldNames.contains k = false → seen.contains k = false → HasType Γ true e t x c l →
      FieldsOK Γ (k :: seen) rest fields x' c' l' →
      FieldsOK Γ seen (.cons k e rest) ((k, t) :: fields) (x || x') (c && c') (l ++ l')
/-- arguments against the remaining parameter types -/
inductive ArgsOK : Ctx → List Ty → Option Ty → PExprs → Bool → List Ty → Prop where
  | nil {Γ ps rest} : ArgsOK Γ ps rest .nil false []
  | cons {Γ ps rest a as t x c l x' l'} :
      HasType Γ true a t x c l → t.kind ≠ .null → Compat true t (argParam ps rest) → ArgsOK Γ ps.tail rest as x' l' →
      ArgsOK Γ ps rest (.cons a as) (x || x') (l ++ l')
/-- arguments of a `spawn`: as for a call, and none of them is a function value -/
inductive SpawnArgsOK : Ctx → List Ty → Option Ty → PExprs → Bool → List Ty → Prop where
  | nil {Γ ps rest} : SpawnArgsOK Γ ps rest .nil false []
  | cons {Γ ps rest a as t x c l x' l'} :
      HasType Γ true a t x c l → t.kind ≠ .null → t.kind ≠ .fn → Compat true t (argParam ps rest) →
      SpawnArgsOK Γ ps.tail rest as x' l' →
      SpawnArgsOK Γ ps rest (.cons a as) (x || x') (l ++ l')
/-- match arms: joined result type and the (last) default arm's recorded types -/
inductive ArmsOK : Ctx → Ty → Ty → Option (List Ty) → PArms → Ty → Option (List Ty) → Bool → List Ty → Prop where
  | nil {Γ ctl rt d} : ArmsOK Γ ctl rt d .nil rt d false []
  | lits {Γ ctl rt d lits act rest ta xa ca la rt1 xl ll rt' d' xr lr} :
      HasType Γ true act ta xa ca la → armJoin rt ta = some rt1 → lits.hasDefault = false → LitsOK Γ ctl lits xl ll →
      ArmsOK Γ ctl rt1 d rest rt' d' xr lr →
      ArmsOK Γ ctl rt d (.cons lits act rest) rt' d' (xa || xl || xr) (ll ++ la ++ lr)
  | dflt {Γ ctl rt d lits act rest ta xa ca la rt1 rt' d' xr lr} :
      HasType Γ true act ta xa ca la → armJoin rt ta = some rt1 → lits.hasDefault = true →
      ArmsOK Γ ctl rt1 (some la) rest rt' d' xr lr →
      ArmsOK Γ ctl rt d (.cons lits act rest) rt' d' (xa || xr) lr
/-- the literals of an arm are compatible with the control expression -/
inductive LitsOK : Ctx → Ty → PLits → Bool → List Ty → Prop where
  | nil {Γ ctl} : LitsOK Γ ctl .nil false []
  | dflt {Γ ctl rest x l} : LitsOK Γ ctl rest x l → LitsOK Γ ctl (.dflt rest) x l
  | lit {Γ ctl e rest t x c l x' l'} :
      HasType Γ true e t x c l → Compat true t ctl → LitsOK Γ ctl rest x' l' →
      LitsOK Γ ctl (.lit e rest) (x || x') (l ++ l')
/-- statements: type of the statement, loop-exit flag, recorded types, variables afterwards -/
inductive StmtOK : Ctx → PStmt → Ty → Bool → List Ty → List (String × Ty) → Prop where
  | letS {Γ name ann e t x c l vt} :
      HasType Γ false e t x c l → LetTy ann t vt →
      StmtOK Γ (.letS name ann e) .null x (vt :: l) ((name, vt) :: Γ.vars)
  | ret {Γ e t x c l rt} :
      HasType Γ true e t x c l → Γ.ret = some rt → Compat true t rt → StmtOK Γ (.ret e) .never x l Γ.vars
  | retNone {Γ rt} : Γ.ret = some rt → Compat true .null rt → StmtOK Γ .retNone .never false [] Γ.vars
  | brk {Γ} : Γ.inLoop = true → StmtOK Γ .brk .never true [] Γ.vars
  | cont {Γ} : Γ.inLoop = true → StmtOK Γ .cont .never false [] Γ.vars
  | loopS {Γ b t x c l} :
      BlockOK { Γ with inLoop := true } b t x c l → loopBodyOK t = true →
      StmtOK Γ (.loopS b) (loopTy x) false l Γ.vars
  | whileS {Γ cnd b tc xc cc lc t x c l} :
      HasType Γ true cnd tc xc cc lc → Compat true tc .bool → BlockOK { Γ with inLoop := true } b t x c l →
      loopBodyOK t = true →
      StmtOK Γ (.whileS cnd b) .null xc (lc ++ l) Γ.vars
  | forS {Γ name it b ti xi ci li vt t x c l} :
      HasType Γ true it ti xi ci li → iterTy ti = some vt →
      BlockOK { (Γ.bind name vt) with inLoop := true } b t x c l → loopBodyOK t = true →
      StmtOK Γ (.forS name it b) .null xi (vt :: (li ++ l)) Γ.vars
  | exprS {Γ e t x c l} : HasType Γ true e t x c l → StmtOK Γ (.exprS e) t x l Γ.vars
/-- statement sequences: `never` = one of them diverges -/
inductive StmtsOK : Ctx → PStmts → Bool → Bool → List Ty → List (String × Ty) → Prop where
  | nil {Γ} : StmtsOK Γ .nil false false [] Γ.vars
  | cons {Γ s rest t x l v n x' l' v'} :
      StmtOK Γ s t x l v → StmtsOK { Γ with vars := v } rest n x' l' v' →
      StmtsOK Γ (.cons s rest) (t.isNever || n) (x || x') (l ++ l') v'
/-- blocks: the value of the trailing expression, `null` without one, `never` if a statement diverges -/
inductive BlockOK : Ctx → PBlock → Ty → Bool → Bool → List Ty → Prop where
  | mk {Γ ss e n x l v t xe ce le} :
      StmtsOK Γ ss n x l v → HasType { Γ with vars := v } true e t xe ce le →
      BlockOK Γ (.mk ss e) (blockTy n t) (x || xe) (blockCst ss ce) (blockTy n t :: (l ++ le))
  | mkNoTail {Γ ss n x l v} :
      StmtsOK Γ ss n x l v → BlockOK Γ (.mkNoTail ss) (blockTy n .null) x false (blockTy n .null :: l)
end

/-! ## Program level -/

/-- A global: constant, well-typed outside of any function, not a redefinition, not named like
a function of the module. -/
inductive GlobalsOK : List (String × Ty) → List (String × Ty) → List PGlobal → List (String × Ty) → List Ty → Prop where
  | nil {fns vars} : GlobalsOK fns vars [] vars []
  | cons {fns vars g rest t x l vt vars' l'} :
      HasType { vars := vars, fns := fns, ret := none, inLoop := false } false g.e t x true l →
      LetTy g.ann t vt → lookupTy g.name vars = none → lookupTy g.name fns = none →
      GlobalsOK fns ((g.name, vt) :: vars) rest vars' l' →
      GlobalsOK fns vars (g :: rest) vars' (vt :: l ++ l')

/-- A function definition other than `main`: distinct, well-formed parameters, a well-formed
return type, a body compatible with it; `return` statements are checked against the return
type of the signature registered under the function's name (`curRet`). -/
inductive FnOK (fns globals : List (String × Ty)) : PFn → List Ty → Prop where
  | normal {f ps rt tb xb cb lb} :
      f.name ≠ "main" → convertParamList f.params = ([], ps) → dupNames [] ps = 0 → convertType true f.ret = ([], rt) →
      BlockOK { vars := paramScope [] ps ++ globals, fns := fns, ret := some (curRet fns f.name), inLoop := false } f.body tb xb cb lb →
      Compat true tb rt →
      FnOK fns globals f (rt :: lb)
  /-- `main` has no parameters and no result -/
  | main {f rt tb xb cb lb} :
      f.name = "main" → f.params = [] → convertType true f.ret = ([], rt) → (rt.kind = .null ∨ rt.kind = .unknown) →
      BlockOK { vars := globals, fns := fns, ret := some (curRet fns f.name), inLoop := false } f.body tb xb cb lb →
      Compat true tb rt →
      FnOK fns globals f (rt :: lb)

inductive FnsOK (fns globals : List (String × Ty)) : List PFn → List Ty → Prop where
  | nil : FnsOK fns globals [] []
  | cons {f rest l l'} : FnOK fns globals f l → FnsOK fns globals rest l' → FnsOK fns globals (f :: rest) (l ++ l')

/-- no two functions share a name -/
def distinctFnNames (seen : List String) : List PFn → Bool
  | [] => true
  | f :: rest => !seen.contains f.name && distinctFnNames (f.name :: seen) rest

/-- no function takes a name of the root scope (the values the host provides; imports are
outside of the model) -/
def fnNamesFree (root : List (String × Ty)) (fs : List PFn) : Bool :=
  fs.all fun f => (lookupTy f.name root).isNone

/-- `ProgOK p tys`: the program is well-typed (the host requires `main`) and `tys` are the
types to be recorded for it. -/
inductive ProgOK (p : PProg) : List Ty → Prop where
  | mk {vars lg lf} :
      distinctFnNames [] p.fns = true →
      fnNamesFree hostScope p.fns = true →
      GlobalsOK (p.fns.map fun f => (f.name, fnSig f)) hostScope p.globals vars lg →
      FnsOK (p.fns.map fun f => (f.name, fnSig f)) vars p.fns lf →
      p.fns.any (fun f => f.name == "main") = true →
      ProgOK p (lg ++ lf)

/-- The specification of "well-typed". -/
def WellTyped (p : PProg) : Prop := ∃ tys, ProgOK p tys

end Hms.Check
