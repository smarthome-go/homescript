import Hms.Check.Types
import Hms.Check.Syntax
/-!
# C03 — the algorithmic checker

`check : PProg → List Diag` mirrors the analyzer's per-construct rules
(`analyzer/expression.go`, `statement.go`, `topLevel.go functionSignature /
functionDefinition / analyzeParams`, `analyzer.go analyzeModule`) for the core language,
*after* the repairs A1–A7, A9, A10, A14, F1, F3, SP1 (DESIGN §9). Error recovery is modelled too
(`unknown` results, dropped arguments …) because
the behavioural tie compares the multiset of error classes on ill-typed programs as well.

State of the Go analyzer and where it lives here:
* `Module.Scopes`              → `Ctx.vars` (innermost binding first), threaded through blocks
* `Module.Functions`           → `Ctx.fns`
* `Module.CurrentFunction`     → `Ctx.ret` (`none` outside of any function)
* `Module.LoopDepth > 0`       → `Ctx.inLoop`
* `CreateErrorIfContainsAny`   → the `strict` argument of `checkExpr`
* `CurrentLoopIsTerminated`    → `Res.ex` ("a `break` or a diverging expression was seen")
* `Constant()` of the analysed tree → `Res.cst`
* the analysed tree's recorded types, in pre-order → `Res.tys`
-/
namespace Hms.Check

/-- Rule classes of the property statement (what is broken), independent of the wording of
the message. -/
inductive Rule where
  | operandMismatch | operatorNotAdmitted | argMismatch | arity | returnMismatch | assignMismatch
  | conditionNotBool | branchMismatch | notIterable | unknownIdent | unknownType | unknownMember
  | breakOutsideLoop | continueOutsideLoop | duplicateDefinition | nonConstantGlobal | implicitAny
  | mainShape | annotationMismatch | elementMismatch | notCallable | indexMismatch | impossibleCast
  | missingDefault | loopBody | matchLiteral | returnOutsideFunction | nullArgument | unreachable
  | closureAcrossThreads | spawnNonFunction
  deriving Repr, DecidableEq, Inhabited

def Rule.name : Rule → String
  | .operandMismatch => "operandMismatch" | .operatorNotAdmitted => "operatorNotAdmitted"
  | .argMismatch => "argMismatch" | .arity => "arity" | .returnMismatch => "returnMismatch"
  | .assignMismatch => "assignMismatch" | .conditionNotBool => "conditionNotBool"
  | .branchMismatch => "branchMismatch" | .notIterable => "notIterable" | .unknownIdent => "unknownIdent"
  | .unknownType => "unknownType" | .unknownMember => "unknownMember" | .breakOutsideLoop => "breakOutsideLoop"
  | .continueOutsideLoop => "continueOutsideLoop" | .duplicateDefinition => "duplicateDefinition"
  | .nonConstantGlobal => "nonConstantGlobal" | .implicitAny => "implicitAny" | .mainShape => "mainShape"
  | .annotationMismatch => "annotationMismatch" | .elementMismatch => "elementMismatch"
  | .notCallable => "notCallable" | .indexMismatch => "indexMismatch" | .impossibleCast => "impossibleCast"
  | .missingDefault => "missingDefault" | .loopBody => "loopBody" | .matchLiteral => "matchLiteral"
  | .returnOutsideFunction => "returnOutsideFunction" | .nullArgument => "nullArgument"
  | .unreachable => "unreachable" | .closureAcrossThreads => "closureAcrossThreads"
  | .spawnNonFunction => "spawnNonFunction"

/-- An error-level diagnostic: message class (what the Go analyzer prints) and rule class. -/
structure Err where
  msg : Msg
  rule : Rule
  deriving Repr, DecidableEq, Inhabited

inductive Level where
  | error | warning | hint
  deriving Repr, DecidableEq, Inhabited

structure Diag where
  level : Level
  rule : Rule
  msg : Option Msg
  deriving Repr, DecidableEq, Inhabited

def Diag.ofErr (e : Err) : Diag := ⟨.error, e.rule, some e.msg⟩
def notError (d : Diag) : Bool := d.level != .error

structure Ctx where
  vars : List (String × Ty)
  fns : List (String × Ty)
  ret : Option Ty
  inLoop : Bool
  deriving Inhabited

def Ctx.bind (Γ : Ctx) (name : String) (t : Ty) : Ctx := { Γ with vars := (name, t) :: Γ.vars }

/-- `getVar`, then `getFunc` -/
def Ctx.lookup (Γ : Ctx) (name : String) : Option Ty :=
  match lookupTy name Γ.vars with
  | some t => some t
  | none => lookupTy name Γ.fns

structure Res where
  errs : List Err := []
  ty : Ty
  ex : Bool := false
  cst : Bool := false
  tys : List Ty := []
  deriving Inhabited

/-- May an expression of type `t` stand in a position that is `strict` about `any`?
(`CreateErrorIfContainsAny`; function and option types are exempt.) -/
def anyOK (strict : Bool) (t : Ty) : Bool :=
  !(strict && t.hasAny && t.kind != .fn && t.kind != .opt)

/-- Tail of `Analyzer.expression`: a diverging expression counts as a loop exit; a type that
contains `any` is an error unless the context asked for it. -/
def wrap (strict : Bool) (r : Res) : Res :=
  if anyOK strict r.ty then { r with ex := r.ex || r.ty.isNever }
  else { errs := r.errs ++ [⟨.implicitAny, .implicitAny⟩], ty := .unknown, ex := r.ex || r.ty.isNever, cst := true,
         tys := [.unknown] }

/-! ## `ConvertType` -/

def primTy : String → Option Ty
  | "null" => some .null | "int" => some .int | "float" => some .float | "range" => some .range
  | "bool" => some .bool | "str" => some .str | "any" => some .any
  | _ => none

mutual
/-- `Analyzer.ConvertType t createErrors` (after repair A3). -/
def convertType (ce : Bool) : PTy → List Err × Ty
  | .name s =>
    match primTy s with
    | some t => ([], t)
    | none => (if ce then [⟨.unknownType, .unknownType⟩] else [], .unknown)
  | .opt t => let r := convertType true t; (r.1, .opt r.2)
  | .list t => let r := convertType ce t; (r.1, .list r.2)
  | .anyobj => ([], .anyobj)
  | .obj fs =>
    match convertFields ce [] fs with
    | (e, some fs') => (e, .obj fs')
    | (e, none) => (e, .unknown)
  | .fn ps r =>
    match convertParams ce [] ps with
    | (e, some ps') => let rr := convertType ce r; (e ++ rr.1, .fn ps' rr.2)
    | (e, none) => (e, .unknown)
def convertFields (ce : Bool) (acc : List (String × Ty)) : List (String × PTy) → List Err × Option (List (String × Ty))
  | [] => ([], some acc)
  | (n, t) :: rest =>
    if (lookupTy n acc).isSome then (if ce then [⟨.duplicateTypeField, .duplicateDefinition⟩] else [], none)
    else
      let r := convertType ce t
      let rr := convertFields ce (acc ++ [(n, r.2)]) rest
      (r.1 ++ rr.1, rr.2)
def convertParams (ce : Bool) (acc : List (String × Ty)) : List (String × PTy) → List Err × Option (List (String × Ty))
  | [] => ([], some acc)
  | (n, t) :: rest =>
    if (lookupTy n acc).isSome then (if ce then [⟨.duplicateFnTypeParam, .duplicateDefinition⟩] else [], none)
    else
      let r := convertType ce t
      let rr := convertParams ce (acc ++ [(n, r.2)]) rest
      (r.1 ++ rr.1, rr.2)
end

/-! ## Operator tables -/

def InfixOp.isArith : InfixOp → Bool
  | .add | .sub | .mul | .div | .rem | .pow | .shl | .shr | .bitOr | .bitAnd | .bitXor => true
  | _ => false
def InfixOp.isCmp : InfixOp → Bool
  | .eq | .ne | .lt | .le | .gt | .ge => true
  | _ => false
def InfixOp.isEq : InfixOp → Bool
  | .eq | .ne => true
  | _ => false

/-- result type of `l op _` by the kind of the left operand; `none`: operator not admitted -/
def infixResult (op : InfixOp) (l : Ty) : Option Ty :=
  match l.kind with
  | .int => if op.isArith then some .int else if op.isCmp then some .bool else none
  | .float =>
    match op with
    | .add | .sub | .mul | .div | .pow => some .float
    | _ => if op.isCmp then some .bool else none
  | .bool =>
    match op with
    | .bitOr | .bitAnd | .bitXor | .or | .and | .eq | .ne => some .bool
    | _ => none
  | .str =>
    match op with
    | .add => some .str
    | .eq | .ne => some .bool
    | _ => none
  | .unknown | .never => some l
  | _ => if op.isEq then some .bool else none

/-- is `l op= _` admitted for a left-hand side of this type (`op = none`: plain `=`) -/
def assignOk (op : Option InfixOp) (l : Ty) : Bool :=
  match l.kind with
  | .int | .unknown | .never | .any => true
  | .float =>
    match op with
    | none | some .add | some .sub | some .mul | some .div | some .pow => true
    | _ => false
  | .bool =>
    match op with
    | none | some .bitOr | some .bitAnd | some .bitXor => true
    | _ => false
  | .str =>
    match op with
    | none | some .add => true
    | _ => false
  | _ => op.isNone

def prefixResult (op : PrefixOp) (b : Ty) : Option Ty :=
  match op with
  | .neg =>
    match b.kind with
    | .int | .float => some b
    | .never | .unknown => some .unknown
    | _ => none
  | .not =>
    match b.kind with
    | .int | .bool => some b
    | .never | .unknown => some .unknown
    | _ => none
  | .some => some (.opt b)

/-- primitive conversions that `as` always admits -/
def castAlways (b a : Ty) : Bool :=
  match b.kind, a.kind with
  | .bool, .int | .bool, .float | .int, .bool | .int, .float | .float, .bool | .float, .int => true
  | .obj, .anyobj => true
  | _, _ => false

/-- `e as a` is admitted -/
def castOK (b a : Ty) : Bool :=
  castAlways b a || ((typeCheck false b a).isNone && a.kind != .fn)

/-- type of an assignment expression -/
def assignTy (l r : Ty) : Ty := if l.isNever || r.isNever then .never else .null

/-- type of `if … {then} else {else}` once the branches are compatible: a diverging branch
does not contribute -/
def ifElseTy (t e : Ty) : Ty :=
  if t.isNever then (if e.isNever then .never else e) else if e.isNever then t else e

/-- type of `try {…} catch e {…}` once the branches are compatible -/
def tryTy (t c : Ty) : Ty :=
  if t.isNever then (if c.isNever then .never else c) else t

/-- type of a block from its statements (`never`: one of them diverges) and its value -/
def blockTy (never : Bool) (t : Ty) : Ty := if never then .never else t

/-- type of a `loop` statement: it diverges unless its body may leave it -/
def loopTy (exits : Bool) : Ty := if exits then .null else .never

/-- the parameter type an argument is checked against -/
def argParam (ps : List Ty) (rest : Option Ty) : Ty :=
  match ps with
  | p :: _ => p
  | [] => rest.getD .unknown

/-- result type of a `match` after one more arm of type `a`: the first arm that yields a
value fixes it, later arms must be compatible with it (`none`: they are not) -/
def armJoin (rt a : Ty) : Option Ty :=
  if rt.isUnknown || rt.isNever then some a
  else if (typeCheck true a rt).isNone then some rt else none

/-- type of a `match` from the joined arm type: without a default arm it falls through with
`null` when every arm diverges or there is no arm (repair A5) -/
def matchTy (hasDefault : Bool) (noArms : Bool) (rt : Ty) : Ty :=
  if !hasDefault && (rt.isNever || noArms) then .null else rt

/-- a loop body must not produce a value -/
def loopBodyOK (t : Ty) : Bool :=
  match t.kind with
  | .unknown | .never | .null => true
  | _ => false

/-- a list element of type `t` fits a list whose element type so far is `lt` (`any`: none yet) -/
def elemOK (t lt : Ty) : Bool := lt.kind == .any || (typeCheck false t lt).isNone

/-- what can be called -/
inductive Callee where
  | fn (ps : List (String × Ty)) (ret : Ty)
  | var (ps : List Ty) (rest ret : Ty)
  /-- the callee never yields a value (`unknown`, `never`) -/
  | div
  | bad

def callee : Ty → Callee
  | .fn ps ret => .fn ps ret
  | .fnvar ps rest ret => .var ps rest ret
  | .unknown => .div
  | .never => .div
  | _ => .bad

/-- type of `b[i]` from the types of `b` and `i` and the key if `i` is a string literal -/
def indexRule (tb ti : Ty) (lit : Option String) : Option Ty :=
  match tb with
  | .anyobj => if ti.kind == .str then some .any else none
  | .obj fields =>
    if ti.kind == .str then
      match lit with
      | some key => lookupTy key fields
      | none => some .any
    else none
  | .list inner => if ti.kind == .int then some inner else none
  | .str => if ti.kind == .int then some .str else none
  | .unknown => some .unknown
  | .never => some .never
  | _ => none

/-- the diagnostic when `indexRule` has no answer -/
def indexErr (tb ti : Ty) : Err :=
  match tb with
  | .anyobj => ⟨.indexType, .indexMismatch⟩
  | .obj _ => if ti.kind == .str then ⟨.unknownField, .unknownMember⟩ else ⟨.indexType, .indexMismatch⟩
  | .list _ => ⟨.indexType, .indexMismatch⟩
  | .str => ⟨.indexType, .indexMismatch⟩
  | _ => ⟨.notIndexable, .indexMismatch⟩

/-- type of `b.name`, `b->name`, `b~>name` -/
def memberRule (tb : Ty) (name : String) (op : MemberOp) : Option Ty :=
  match tb.kind with
  | .unknown | .never => some tb
  | .any => none
  | _ =>
    match op with
    | .dot => memberTy tb name
    | .arrow => if tb.kind == .anyobj then some (.opt .any) else none
    | .tildeArrow => if tb.kind == .anyobj then some .any else none

/-- constant-ness of a block expression: no statements, constant value -/
def blockCst (ss : PStmts) (c : Bool) : Bool :=
  match ss with
  | .nil => c
  | _ => false

def tcErr (allowFn : Bool) (got exp : Ty) (rule : Rule) : List Err :=
  match typeCheck allowFn got exp with
  | some m => [⟨m, rule⟩]
  | none => []

def builtinFieldNames : List String := ["keys", "to_json", "to_json_indent"]

/-- parameter scope of a function: of two parameters with one name the first one stays -/
def paramScope (acc : List (String × Ty)) : List (String × Ty) → List (String × Ty)
  | [] => acc
  | (n, t) :: rest => if (lookupTy n acc).isSome then paramScope acc rest else paramScope (acc ++ [(n, t)]) rest

def dupNames (seen : List String) : List (String × Ty) → Nat
  | [] => 0
  | (n, _) :: rest => (if seen.contains n then 1 else 0) + dupNames (n :: seen) rest

/-- `ConvertType(…, true)` over a parameter list (functions and function literals) -/
def convertParamList : List (String × PTy) → List Err × List (String × Ty)
  | [] => ([], [])
  | (n, t) :: rest =>
    let r := convertType true t
    let rr := convertParamList rest
    (r.1 ++ rr.1, (n, r.2) :: rr.2)

def iterTy (t : Ty) : Option Ty :=
  match t with
  | .range => some .int
  | .str => some .str
  | .list inner => some inner
  | .unknown | .never => some .unknown
  | _ => none

def isStrLit : PExpr → Option String
  | .str s => some s
  | _ => none

structure ArgsRes where
  errs : List Err := []
  ex : Bool := false
  tys : List Ty := []

structure ElemsRes where
  errs : List Err := []
  lt : Ty
  ex : Bool := false
  cst : Bool := true
  tys : List Ty := []

structure FieldsRes where
  errs : List Err := []
  fields : List (String × Ty) := []
  ex : Bool := false
  cst : Bool := true
  tys : List Ty := []

/-- state of `matchExpression` across the arms -/
structure MSt where
  rt : Ty := .unknown
  hadErr : Bool := false
  dflt : Option (List Ty) := none

structure ArmsRes where
  errs : List Err := []
  st : MSt
  ex : Bool := false
  tys : List Ty := []

structure LitsRes where
  errs : List Err := []
  ex : Bool := false
  tys : List Ty := []

structure StmtRes where
  errs : List Err := []
  ty : Ty := .null
  ex : Bool := false
  tys : List Ty := []
  vars : List (String × Ty)

structure StmtsRes where
  errs : List Err := []
  never : Bool := false
  ex : Bool := false
  tys : List Ty := []
  vars : List (String × Ty)

/-- annotation / implicit-`any` rule of `let`: diagnostics and the type of the variable -/
def letVarTy (ann : Option PTy) (t : Ty) : List Err × Ty :=
  match ann with
  | some a =>
    match typeCheck (!t.hasAny) t (convertType true a).2 with
    | some m => ((convertType true a).1 ++ [⟨m, .annotationMismatch⟩], t)
    | none => ((convertType true a).1, (convertType true a).2)
  | none => if t.hasAny then ([⟨.implicitAny, .implicitAny⟩], .unknown) else ([], t)

/-- `Analyzer.letStatement` after the initialiser has been analysed (`e`). -/
def letRule (Γ : Ctx) (name : String) (ann : Option PTy) (e : Res) (isGlobal : Bool) : StmtRes :=
  let nonConst := isGlobal && !e.cst
  let e1 : List Err := if nonConst then [⟨.nonConstantGlobal, .nonConstantGlobal⟩] else []
  let v := letVarTy ann e.ty
  let varTy : Ty := if nonConst then .unknown else v.2
  let e3 : List Err :=
    if isGlobal && (lookupTy name Γ.vars).isSome then [⟨.duplicateGlobal, .duplicateDefinition⟩] else []
  { errs := e.errs ++ e1 ++ v.1 ++ e3, ty := .null, ex := e.ex, tys := varTy :: e.tys, vars := (name, varTy) :: Γ.vars }

/-- `identExpression` before the tail of `Analyzer.expression`: the base of a `spawn` -/
def identRes (Γ : Ctx) (name : String) : Res :=
  match Γ.lookup name with
  | some t => { ty := t, tys := [t] }
  | none => { errs := [⟨.unknownIdent, .unknownIdent⟩], ty := .unknown, tys := [.unknown] }

/-- `spawn name(…)` on a callable `name`: only a function of the program can be spawned, not a
function value (`isProgramFunction`: a variable — local, parameter, global, builtin — takes
precedence over a function of the same name; imported functions are outside of the model) -/
def spawnTargetErr (Γ : Ctx) (name : String) : List Err :=
  if (lookupTy name Γ.vars).isSome then [⟨.spawnNonFunction, .spawnNonFunction⟩] else []

def loopBodyErr (t : Ty) : List Err :=
  if loopBodyOK t then [] else [⟨.loopBody, .loopBody⟩]

mutual
/-- `Analyzer.expression` -/
def checkExpr (Γ : Ctx) (strict : Bool) : PExpr → Res
  | .int _ => wrap strict { ty := .int, cst := true, tys := [.int] }
  | .float _ => wrap strict { ty := .float, cst := true, tys := [.float] }
  | .bool _ => wrap strict { ty := .bool, cst := true, tys := [.bool] }
  | .str _ => wrap strict { ty := .str, cst := true, tys := [.str] }
  | .null => wrap strict { ty := .null, cst := true, tys := [.null] }
  | .none => wrap strict { ty := .opt .any, cst := true, tys := [.opt .any] }
  | .anyobj => wrap strict { ty := .anyobj, cst := true, tys := [.anyobj] }
  | .ident name =>
    wrap strict <|
      match Γ.lookup name with
      | some t => { ty := t, tys := [t] }
      | none => { errs := [⟨.unknownIdent, .unknownIdent⟩], ty := .unknown, tys := [.unknown] }
  | .range a b _ =>
    let ra := checkExpr Γ true a
    let rb := checkExpr Γ true b
    let ea : List Err := if (typeCheck false ra.ty .int).isSome then [⟨.rangeOperand, .operandMismatch⟩] else []
    let eb : List Err := if (typeCheck false rb.ty .int).isSome then [⟨.rangeOperand, .operandMismatch⟩] else []
    wrap strict { errs := ra.errs ++ rb.errs ++ ea ++ eb, ty := .range, ex := ra.ex || rb.ex, cst := ra.cst && rb.cst,
                  tys := .range :: (ra.tys ++ rb.tys) }
  | .list xs =>
    let r := checkElems Γ .any xs
    wrap strict { errs := r.errs, ty := .list r.lt, ex := r.ex, cst := r.cst, tys := .list r.lt :: r.tys }
  | .obj fs =>
    let r := checkFields Γ [] fs
    wrap strict { errs := r.errs, ty := .obj r.fields, ex := r.ex, cst := r.cst, tys := .obj r.fields :: r.tys }
  | .lambda params ret body =>
    let ps := convertParamList params
    let dupErrs : List Err := List.replicate (dupNames [] ps.2) ⟨.duplicateParam, .duplicateDefinition⟩
    let rt := convertType true ret
    let Γ' : Ctx := { vars := paramScope [] ps.2 ++ Γ.vars, fns := Γ.fns, ret := some rt.2, inLoop := false }
    let b := checkBlock Γ' body
    let t : Ty := .fn ps.2 rt.2
    wrap strict { errs := dupErrs ++ ps.1 ++ rt.1 ++ b.errs ++ tcErr true b.ty rt.2 .returnMismatch, ty := t, ex := false,
                  cst := false, tys := t :: b.tys }
  | .grp e =>
    let r := checkExpr Γ true e
    wrap strict { r with tys := r.ty :: r.tys }
  | .pre op e =>
    let r := checkExpr Γ true e
    match prefixResult op r.ty with
    | some t => wrap strict { errs := r.errs, ty := t, ex := r.ex, cst := r.cst, tys := t :: r.tys }
    | none => wrap strict { errs := r.errs ++ [⟨.prefixOperand, .operandMismatch⟩], ty := .unknown, ex := r.ex, cst := r.cst,
                            tys := .unknown :: r.tys }
  | .infix op l r =>
    let a := checkExpr Γ true l
    let b := checkExpr Γ true r
    let e1 := tcErr true b.ty a.ty .operandMismatch
    match infixResult op a.ty with
    | some t => wrap strict { errs := a.errs ++ b.errs ++ e1, ty := t, ex := a.ex || b.ex, cst := a.cst && b.cst,
                              tys := t :: (a.tys ++ b.tys) }
    | none => wrap strict { errs := a.errs ++ b.errs ++ e1 ++ [⟨.infixOperand, .operatorNotAdmitted⟩], ty := .unknown,
                            ex := a.ex || b.ex, cst := a.cst && b.cst, tys := .unknown :: (a.tys ++ b.tys) }
  | .assign op l r =>
    let a := checkExpr Γ true l
    let b := checkExpr Γ true r
    let t : Ty := assignTy a.ty b.ty
    let e1 := tcErr false b.ty a.ty .assignMismatch
    let e2 : List Err := if assignOk op a.ty || !e1.isEmpty then [] else [⟨.assignOperand, .operatorNotAdmitted⟩]
    wrap strict { errs := a.errs ++ b.errs ++ e1 ++ e2, ty := t, ex := a.ex || b.ex, cst := false, tys := t :: (a.tys ++ b.tys) }
  | .call base args =>
    let b := checkExpr Γ true base
    match callee b.ty with
    | .fn ps ret =>
      if args.length != ps.length then
        wrap strict { errs := b.errs ++ [⟨.arity, .arity⟩], ty := ret, ex := b.ex, cst := false, tys := ret :: b.tys }
      else
        let r := checkArgs Γ (ps.map (·.2)) Option.none args
        wrap strict { errs := b.errs ++ r.errs, ty := ret, ex := b.ex || r.ex, cst := false, tys := ret :: (b.tys ++ r.tys) }
    | .var ps rest ret =>
      if ps.length != 0 && args.length < ps.length then
        wrap strict { errs := b.errs ++ [⟨.arity, .arity⟩], ty := ret, ex := b.ex, cst := false, tys := ret :: b.tys }
      else
        let r := checkArgs Γ ps (some rest) args
        wrap strict { errs := b.errs ++ r.errs, ty := ret, ex := b.ex || r.ex, cst := false, tys := ret :: (b.tys ++ r.tys) }
    | .div =>
      wrap strict { errs := b.errs, ty := .unknown, ex := b.ex, cst := false, tys := .unknown :: b.tys }
    | .bad =>
      wrap strict { errs := b.errs ++ [⟨.notCallable, .notCallable⟩], ty := .unknown, ex := b.ex, cst := false,
                    tys := .unknown :: b.tys }
  /- `callExpression` with `IsSpawn`: the arguments must not be function values, the callee must be a
     function of the program, and the expression has no value (`null`) whatever the callee returns -/
  | .spawn name args =>
    let b := wrap true (identRes Γ name)
    match callee b.ty with
    | .fn ps _ =>
      if args.length != ps.length then
        wrap strict { errs := b.errs ++ [⟨.arity, .arity⟩] ++ spawnTargetErr Γ name, ty := .null, ex := b.ex, cst := false,
                      tys := .null :: b.tys }
      else
        let r := checkSpawnArgs Γ (ps.map (·.2)) Option.none args
        wrap strict { errs := b.errs ++ r.errs ++ spawnTargetErr Γ name, ty := .null, ex := b.ex || r.ex, cst := false,
                      tys := .null :: (b.tys ++ r.tys) }
    | .var ps rest _ =>
      if ps.length != 0 && args.length < ps.length then
        wrap strict { errs := b.errs ++ [⟨.arity, .arity⟩] ++ spawnTargetErr Γ name, ty := .null, ex := b.ex, cst := false,
                      tys := .null :: b.tys }
      else
        let r := checkSpawnArgs Γ ps (some rest) args
        wrap strict { errs := b.errs ++ r.errs ++ spawnTargetErr Γ name, ty := .null, ex := b.ex || r.ex, cst := false,
                      tys := .null :: (b.tys ++ r.tys) }
    | .div =>
      wrap strict { errs := b.errs, ty := .null, ex := b.ex, cst := false, tys := .null :: b.tys }
    | .bad =>
      wrap strict { errs := b.errs ++ [⟨.notCallable, .notCallable⟩], ty := .null, ex := b.ex, cst := false,
                    tys := .null :: b.tys }
  | .index base idx =>
    let b := checkExpr Γ true base
    let i := checkExpr Γ true idx
    match indexRule b.ty i.ty (isStrLit idx) with
    | some t =>
      wrap strict { errs := b.errs ++ i.errs, ty := t, ex := b.ex || i.ex, cst := b.cst, tys := t :: (b.tys ++ i.tys) }
    | Option.none =>
      wrap strict { errs := b.errs ++ i.errs ++ [indexErr b.ty i.ty], ty := .unknown, ex := b.ex || i.ex, cst := b.cst,
                    tys := .unknown :: (b.tys ++ i.tys) }
  | .member base name op =>
    let b := checkExpr Γ false base
    match memberRule b.ty name op with
    | some t => wrap strict { errs := b.errs, ty := t, ex := b.ex, cst := b.cst, tys := t :: b.tys }
    | Option.none =>
      if b.ty.kind == .any then
        wrap strict { errs := b.errs ++ [⟨.implicitAny, .implicitAny⟩], ty := .unknown, ex := b.ex, cst := true,
                      tys := [.unknown, .unknown] }
      else
        match op with
        | .dot => wrap strict { errs := b.errs ++ [⟨.unknownMember, .unknownMember⟩], ty := .unknown, ex := b.ex, cst := b.cst,
                                tys := .unknown :: b.tys }
        | .arrow => wrap strict { errs := b.errs ++ [⟨.memberOperator, .unknownMember⟩], ty := .opt .any, ex := b.ex,
                                  cst := b.cst, tys := .opt .any :: b.tys }
        | .tildeArrow => wrap strict { errs := b.errs ++ [⟨.memberOperator, .unknownMember⟩], ty := .any, ex := b.ex,
                                       cst := b.cst, tys := .any :: b.tys }
  | .cast e t =>
    let b := checkExpr Γ false e
    let c := convertType true t
    let own : List Err :=
      if castOK b.ty c.2 then []
      else if (typeCheck false b.ty c.2).isSome then [⟨.impossibleCast, .impossibleCast⟩]
      else [⟨.castToFunction, .impossibleCast⟩]
    wrap strict { errs := b.errs ++ c.1 ++ own, ty := c.2, ex := b.ex, cst := b.cst, tys := c.2 :: b.tys }
  | .blk b =>
    wrap strict (checkBlock Γ b)
  | .ifElse c t e =>
    let rc := checkExpr Γ true c
    let ec := tcErr true rc.ty .bool .conditionNotBool
    let rt := checkBlock Γ t
    let re := checkBlock Γ e
    let eb := tcErr true re.ty rt.ty .branchMismatch
    let ty : Ty := if !eb.isEmpty then .unknown else ifElseTy rt.ty re.ty
    wrap strict { errs := rc.errs ++ ec ++ rt.errs ++ re.errs ++ eb, ty := ty, ex := rc.ex || rt.ex || re.ex, cst := false,
                  tys := ty :: (rc.tys ++ rt.tys ++ re.tys) }
  | .ifThen c t =>
    let rc := checkExpr Γ true c
    let ec := tcErr true rc.ty .bool .conditionNotBool
    let rt := checkBlock Γ t
    let (eb, ty) : List Err × Ty :=
      if (typeCheck true rt.ty .null).isSome then ([⟨.missingElse, .branchMismatch⟩], .unknown) else ([], .null)
    wrap strict { errs := rc.errs ++ ec ++ rt.errs ++ eb, ty := ty, ex := rc.ex || rt.ex, cst := false,
                  tys := ty :: (rc.tys ++ rt.tys) }
  | .matchE c arms =>
    let rc := checkExpr Γ true c
    let r := checkArms Γ rc.ty {} arms
    let rt : Ty := if r.st.hadErr then r.st.rt else matchTy r.st.dflt.isSome arms.isEmpty r.st.rt
    let em : List Err :=
      if r.st.dflt.isNone && (typeCheck true .null rt).isSome then [⟨.missingDefault, .missingDefault⟩] else []
    wrap strict { errs := rc.errs ++ r.errs ++ em, ty := rt, ex := rc.ex || r.ex, cst := false,
                  tys := rt :: (rc.tys ++ r.tys ++ r.st.dflt.getD []) }
  | .tryE t name c =>
    let rt := checkBlock Γ t
    let rc := checkBlock (Γ.bind name errorTy) c
    let eb := tcErr true rc.ty rt.ty .branchMismatch
    let ty : Ty := if !eb.isEmpty then .unknown else tryTy rt.ty rc.ty
    wrap strict { errs := rt.errs ++ rc.errs ++ eb, ty := ty, ex := rt.ex || rc.ex, cst := false,
                  tys := ty :: (rt.tys ++ rc.tys) }
/-- `listLiteralExpression`: the element type is the type of the first value -/
def checkElems (Γ : Ctx) (lt : Ty) : PExprs → ElemsRes
  | .nil => { lt := lt }
  | .cons x xs =>
    let r := checkExpr Γ true x
    let lt' : Ty := if elemOK r.ty lt then (if lt.kind == .any then r.ty else lt) else .unknown
    let own : List Err := if elemOK r.ty lt then [] else tcErr false r.ty lt .elementMismatch
    let rr := checkElems Γ lt' xs
    { errs := r.errs ++ own ++ rr.errs, lt := rr.lt, ex := r.ex || rr.ex, cst := r.cst && rr.cst, tys := r.tys ++ rr.tys }
/-- `objectLiteralExpression` -/
def checkFields (Γ : Ctx) (seen : List String) : PFields → FieldsRes
  | .nil => {}
  | .cons k e rest =>
    if builtinFieldNames.contains k then
      let rr := checkFields Γ seen rest
      { rr with errs := ⟨.builtinFieldName, .duplicateDefinition⟩ :: rr.errs }
    else if seen.contains k then
      let rr := checkFields Γ seen rest
      { rr with errs := ⟨.duplicateField, .duplicateDefinition⟩ :: rr.errs }
    else
      let r := checkExpr Γ true e
      let rr := checkFields Γ (k :: seen) rest
      { errs := r.errs ++ rr.errs, fields := (k, r.ty) :: rr.fields, ex := r.ex || rr.ex, cst := r.cst && rr.cst,
        tys := r.tys ++ rr.tys }
/-- `callArgs` once the number of arguments is acceptable: `ps` are the remaining fixed
parameter types, `rest` the type of the variadic remainder -/
def checkArgs (Γ : Ctx) (ps : List Ty) (rest : Option Ty) : PExprs → ArgsRes
  | .nil => {}
  | .cons a as =>
    let r := checkExpr Γ true a
    let own : List Err :=
      if r.ty.kind == .null then [⟨.nullArgument, .nullArgument⟩] else tcErr true r.ty (argParam ps rest) .argMismatch
    let rr := checkArgs Γ ps.tail rest as
    { errs := r.errs ++ own ++ rr.errs, ex := r.ex || rr.ex, tys := (if own.isEmpty then r.tys else []) ++ rr.tys }
/-- `callArgs` with `baseIsSpawn`: an argument of a function type is rejected (and dropped)
instead of being checked against the parameter -/
def checkSpawnArgs (Γ : Ctx) (ps : List Ty) (rest : Option Ty) : PExprs → ArgsRes
  | .nil => {}
  | .cons a as =>
    let r := checkExpr Γ true a
    let own : List Err :=
      if r.ty.kind == .null then [⟨.nullArgument, .nullArgument⟩]
      else if r.ty.kind == .fn then [⟨.closureAcrossThreads, .closureAcrossThreads⟩]
      else tcErr true r.ty (argParam ps rest) .argMismatch
    let rr := checkSpawnArgs Γ ps.tail rest as
    { errs := r.errs ++ own ++ rr.errs, ex := r.ex || rr.ex, tys := (if own.isEmpty then r.tys else []) ++ rr.tys }
/-- the arms of `matchExpression` (after repair A5) -/
def checkArms (Γ : Ctx) (ctl : Ty) (st : MSt) : PArms → ArmsRes
  | .nil => { st := st }
  | .cons lits act rest =>
    let a := checkExpr Γ true act
    let (st1, e1) : MSt × List Err :=
      if st.hadErr then
        -- after a mismatch the result type is frozen; later arms are still compared with it
        match typeCheck true a.ty st.rt with
        | some m => (st, [⟨m, .branchMismatch⟩])
        | none => (st, [])
      else
        match armJoin st.rt a.ty with
        | some t => ({ st with rt := t }, [])
        | none => ({ st with hadErr := true }, tcErr true a.ty st.rt .branchMismatch)
    if lits.hasDefault then
      -- (the action of a default arm is analysed once: repair A14)
      let r := checkArms Γ ctl { st1 with dflt := some a.tys } rest
      { errs := a.errs ++ e1 ++ r.errs, st := r.st, ex := a.ex || r.ex, tys := r.tys }
    else
      let l := checkLits Γ ctl lits
      let r := checkArms Γ ctl st1 rest
      { errs := a.errs ++ e1 ++ l.errs ++ r.errs, st := r.st, ex := a.ex || l.ex || r.ex, tys := l.tys ++ a.tys ++ r.tys }
def checkLits (Γ : Ctx) (ctl : Ty) : PLits → LitsRes
  | .nil => {}
  | .dflt rest => checkLits Γ ctl rest
  | .lit e rest =>
    let r := checkExpr Γ true e
    let own := tcErr true r.ty ctl .matchLiteral
    let rr := checkLits Γ ctl rest
    { errs := r.errs ++ own ++ rr.errs, ex := r.ex || rr.ex, tys := r.tys ++ rr.tys }
/-- `Analyzer.statement` -/
def checkStmt (Γ : Ctx) : PStmt → StmtRes
  | .letS name ann e => letRule Γ name ann (checkExpr Γ false e) false
  | .ret e =>
    let r := checkExpr Γ true e
    let own : List Err :=
      match Γ.ret with
      | Option.none => [⟨.returnOutsideFunction, .returnOutsideFunction⟩]
      | some rt => tcErr true r.ty rt .returnMismatch
    { errs := r.errs ++ own, ty := .never, ex := r.ex, tys := r.tys, vars := Γ.vars }
  | .retNone =>
    let own : List Err :=
      match Γ.ret with
      | Option.none => [⟨.returnOutsideFunction, .returnOutsideFunction⟩]
      | some rt => tcErr true .null rt .returnMismatch
    { errs := own, ty := .never, vars := Γ.vars }
  | .brk =>
    { errs := if Γ.inLoop then [] else [⟨.breakOutsideLoop, .breakOutsideLoop⟩], ty := .never, ex := true, vars := Γ.vars }
  | .cont =>
    { errs := if Γ.inLoop then [] else [⟨.continueOutsideLoop, .continueOutsideLoop⟩], ty := .never, vars := Γ.vars }
  | .loopS b =>
    let r := checkBlock { Γ with inLoop := true } b
    { errs := r.errs ++ loopBodyErr r.ty, ty := loopTy r.ex, ex := false, tys := r.tys, vars := Γ.vars }
  | .whileS c b =>
    let rc := checkExpr Γ true c
    let ec := tcErr true rc.ty .bool .conditionNotBool
    let r := checkBlock { Γ with inLoop := true } b
    { errs := rc.errs ++ ec ++ r.errs ++ loopBodyErr r.ty, ty := .null, ex := rc.ex, tys := rc.tys ++ r.tys, vars := Γ.vars }
  | .forS name it b =>
    let ri := checkExpr Γ true it
    let (ei, vt) : List Err × Ty :=
      match iterTy ri.ty with
      | some t => ([], t)
      | Option.none => ([⟨.notIterable, .notIterable⟩], .unknown)
    let r := checkBlock { (Γ.bind name vt) with inLoop := true } b
    { errs := ri.errs ++ ei ++ r.errs ++ loopBodyErr r.ty, ty := .null, ex := ri.ex, tys := vt :: (ri.tys ++ r.tys), vars := Γ.vars }
  | .exprS e =>
    let r := checkExpr Γ true e
    { errs := r.errs, ty := r.ty, ex := r.ex, tys := r.tys, vars := Γ.vars }
def checkStmts (Γ : Ctx) : PStmts → StmtsRes
  | .nil => { vars := Γ.vars }
  | .cons s rest =>
    let r := checkStmt Γ s
    let rr := checkStmts { Γ with vars := r.vars } rest
    { errs := r.errs ++ rr.errs, never := r.ty.isNever || rr.never, ex := r.ex || rr.ex, tys := r.tys ++ rr.tys, vars := rr.vars }
/-- `Analyzer.block`: the scope pushed for the block is dropped with the result -/
def checkBlock (Γ : Ctx) : PBlock → Res
  | .mk ss e =>
    let r := checkStmts Γ ss
    let t := checkExpr { Γ with vars := r.vars } true e
    let ty : Ty := blockTy r.never t.ty
    { errs := r.errs ++ t.errs, ty := ty, ex := r.ex || t.ex,
      cst := blockCst ss t.cst, tys := ty :: (r.tys ++ t.tys) }
  | .mkNoTail ss =>
    let r := checkStmts Γ ss
    let ty : Ty := blockTy r.never .null
    { errs := r.errs, ty := ty, ex := r.ex, cst := false, tys := ty :: r.tys }
end

/-! ## Program level -/

/-- Root scope of the testing host (`TestingAnalyzerScopeAdditions` + `throw`). -/
def timeObjTy : Ty :=
  .obj [("year", .int), ("month", .int), ("year_day", .int), ("hour", .int), ("minute", .int), ("second", .int),
        ("month_day", .int), ("week_day", .int), ("unix_milli", .int)]

def hostScope : List (String × Ty) :=
  [("log", .fn [("base", .float), ("value", .float)] .float),
   ("print", .fnvar [] .unknown .null), ("println", .fnvar [] .unknown .null), ("debug", .fnvar [] .unknown .null),
   ("fmt", .fnvar [.str] .unknown .str),
   ("time", .obj [("sleep", .fn [("seconds", .float)] .null), ("now", .fn [] timeObjTy),
                  ("add_days", .fn [("time", timeObjTy), ("days", .int)] timeObjTy)]),
   ("assert", .fn [("t", .bool)] .null),
   ("throw", .fn [("error", .unknown)] .never)]

/-- `functionSignature`: the function's type as seen by its callers (no diagnostics) -/
def fnSig (f : PFn) : Ty :=
  .fn (f.params.map fun (n, t) => (n, (convertType false t).2)) (convertType false f.ret).2

/-- duplicate function definitions (`functionSignature`) -/
def dupFnErrs (seen : List String) : List PFn → List Err
  | [] => []
  | f :: rest =>
    (if seen.contains f.name then [⟨.duplicateFunction, .duplicateDefinition⟩] else []) ++ dupFnErrs (f.name :: seen) rest

/-- a function named like a value that is already in the root scope when the signatures are
registered (`functionSignature`): imports and builtins there, the host scope in the model (imports
are outside of it). Such a value would win over the function wherever the name is used. -/
def fnClashErrs (root : List (String × Ty)) : List PFn → List Err
  | [] => []
  | f :: rest =>
    (if (lookupTy f.name root).isSome then [⟨.nameClash, .duplicateDefinition⟩] else []) ++ fnClashErrs root rest

/-- a global named like a function of the module (`letStatement`, global case: the signatures
are registered before the globals, whatever the order in the source) -/
def globalClashErrs (fns : List (String × Ty)) (name : String) : List Err :=
  if (lookupTy name fns).isSome then [⟨.nameClash, .duplicateDefinition⟩] else []

structure GlobalsRes where
  errs : List Err := []
  vars : List (String × Ty)
  tys : List Ty := []

/-- global `let` statements, in order, outside of any function -/
def checkGlobals (fns : List (String × Ty)) (vars : List (String × Ty)) : List PGlobal → GlobalsRes
  | [] => { vars := vars }
  | g :: rest =>
    let Γ : Ctx := { vars := vars, fns := fns, ret := none, inLoop := false }
    let r := letRule Γ g.name g.ann (checkExpr Γ false g.e) true
    let rr := checkGlobals fns r.vars rest
    { errs := r.errs ++ globalClashErrs fns g.name ++ rr.errs, vars := rr.vars, tys := r.tys ++ rr.tys }

/-- `setCurrentFunc`: `return` statements are checked against the return type of the first
function registered under the name -/
def curRet (fns : List (String × Ty)) (name : String) : Ty :=
  match lookupTy name fns with
  | some (.fn _ r) => r
  | _ => .unknown

/-- `functionDefinition` -/
def checkFn (fns : List (String × Ty)) (globals : List (String × Ty)) (f : PFn) : List Err × List Ty :=
  let rt := convertType true f.ret
  let isMain := f.name == "main"
  let ps := if isMain then ([], []) else convertParamList f.params
  let e1 : List Err :=
    if isMain then (if f.params.length > 0 then [⟨.mainParams, .mainShape⟩] else [])
    else List.replicate (dupNames [] ps.2) ⟨.duplicateParam, .duplicateDefinition⟩
  let badMainRet := isMain && rt.2.kind != .unknown && rt.2.kind != .null
  let e2 : List Err := if badMainRet then [⟨.mainReturn, .mainShape⟩] else []
  let declared : Ty := if badMainRet then .unknown else rt.2
  let Γ : Ctx := { vars := paramScope [] ps.2 ++ globals, fns := fns, ret := some (curRet fns f.name), inLoop := false }
  let b := checkBlock Γ f.body
  (rt.1 ++ e1 ++ e2 ++ ps.1 ++ b.errs ++ tcErr true b.ty declared .returnMismatch, declared :: b.tys)

def checkFns (fns : List (String × Ty)) (globals : List (String × Ty)) : List PFn → List Err × List Ty
  | [] => ([], [])
  | f :: rest =>
    let r := checkFn fns globals f
    let rr := checkFns fns globals rest
    (r.1 ++ rr.1, r.2 ++ rr.2)

structure ProgRes where
  errs : List Err
  tys : List Ty

/-- `analyzeModule` for a program of the core language; `needMain`: the host requires `main` -/
def checkProg (needMain : Bool) (p : PProg) : ProgRes :=
  let fns := p.fns.map fun f => (f.name, fnSig f)
  let e0 := dupFnErrs [] p.fns ++ fnClashErrs hostScope p.fns
  let g := checkGlobals fns hostScope p.globals
  let f := checkFns fns g.vars p.fns
  let em : List Err :=
    if needMain && !(p.fns.any fun f => f.name == "main") then [⟨.mainMissing, .mainShape⟩] else []
  { errs := e0 ++ g.errs ++ f.1 ++ em, tys := g.tys ++ f.2 }

/-! ## Warnings: unreachable match arms (purely syntactic) -/

mutual
def unreachE : PExpr → Nat
  | .range a b _ => unreachE a + unreachE b
  | .list xs => unreachEs xs
  | .obj fs => unreachFs fs
  | .lambda _ _ b => unreachB b
  | .grp e => unreachE e
  | .pre _ e => unreachE e
  | .infix _ l r => unreachE l + unreachE r
  | .assign _ l r => unreachE l + unreachE r
  | .call b as => unreachE b + unreachEs as
  | .spawn _ as => unreachEs as
  | .index b i => unreachE b + unreachE i
  | .member b _ _ => unreachE b
  | .cast e _ => unreachE e
  | .blk b => unreachB b
  | .ifElse c t e => unreachE c + unreachB t + unreachB e
  | .ifThen c t => unreachE c + unreachB t
  | .matchE c arms => unreachE c + unreachA false arms
  | .tryE t _ c => unreachB t + unreachB c
  | _ => 0
def unreachEs : PExprs → Nat
  | .nil => 0
  | .cons e r => unreachE e + unreachEs r
def unreachFs : PFields → Nat
  | .nil => 0
  | .cons _ e r => unreachE e + unreachFs r
/-- one warning per `match` that has a literal arm after a default arm -/
def unreachA (seenDefault : Bool) : PArms → Nat
  | .nil => 0
  | .cons lits a r =>
    let inner := (if lits.hasDefault then 2 else 1) * unreachE a + unreachL lits
    if lits.hasDefault then inner + unreachA true r
    else if seenDefault then inner + 1 + unreachA2 r
    else inner + unreachA false r
/-- the rest of the arms once the warning has been given -/
def unreachA2 : PArms → Nat
  | .nil => 0
  | .cons lits a r => (if lits.hasDefault then 2 else 1) * unreachE a + unreachL lits + unreachA2 r
def unreachL : PLits → Nat
  | .nil => 0
  | .dflt r => unreachL r
  | .lit e r => unreachE e + unreachL r
def unreachS : PStmt → Nat
  | .letS _ _ e => unreachE e
  | .ret e => unreachE e
  | .loopS b => unreachB b
  | .whileS c b => unreachE c + unreachB b
  | .forS _ it b => unreachE it + unreachB b
  | .exprS e => unreachE e
  | _ => 0
def unreachSs : PStmts → Nat
  | .nil => 0
  | .cons s r => unreachS s + unreachSs r
def unreachB : PBlock → Nat
  | .mk ss e => unreachSs ss + unreachE e
  | .mkNoTail ss => unreachSs ss
end

def warnings (p : PProg) : List Diag :=
  let n := (p.globals.map fun g => unreachE g.e).foldl (· + ·) 0 + (p.fns.map fun f => unreachB f.body).foldl (· + ·) 0
  List.replicate n ⟨.warning, .unreachable, none⟩

/-- The diagnostics of a program: error-level ones with their classes, then warnings. -/
def checkWith (needMain : Bool) (p : PProg) : List Diag :=
  (checkProg needMain p).errs.map Diag.ofErr ++ warnings p

/-- The host requires `main` (the setting of the property). -/
def check (p : PProg) : List Diag := checkWith true p

/-- The types recorded for the program, in pre-order of the analysed tree. -/
def inferTypes (p : PProg) : List Ty := (checkProg true p).tys

end Hms.Check
