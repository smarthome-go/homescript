import Hms.Core.Value
import Hms.Core.Lib
/-!
# Source-level specification semantics (`runProgram`)

A fuel-indexed big-step evaluator for the analysed core language: 64-bit two's-complement
integers, evaluation in program order with short-circuit `&&`/`||`, lexical block scoping
with shadowing, lists and objects shared by reference while scalars are copied, `for` over a
snapshot of its iterable, `if`/`match`/block/`try` yielding the value of the branch taken,
exceptions that unwind to the nearest dynamically enclosing `catch`, fatal errors that are
not catchable. This is what C01 calls "the source-level semantics"; it is written from the
language's documentation and the property statements, not from the compiler.

Constructs outside the modelled core evaluate to `Ctl.unsupported` (the checks then skip the
program and count it as outside the model).
-/
namespace Hms.Core

inductive Ctl where
  | brk
  | cont
  | ret (v : Val)
  | throw (msg : String) (sp : Span)
  | fatal (kind : String) (msg : String) (sp : Span)
  | unsupported (what : String)
  | timeout
  deriving Inhabited

structure Closure where
  params : List Param
  body : Block
  module : String
  deriving Inhabited

structure St where
  heap : Array Cell := #[]
  /-- globals per module: (module, name) ↦ value -/
  globals : List ((String × String) × Val) := []
  /-- block scopes of the current activation, innermost first -/
  scopes : List (List (String × Val)) := [[]]
  closures : Array Closure := #[]
  out : String := ""
  trig : String := ""
  module : String := "main"
  depth : Nat := 0
  deriving Inhabited

structure Cfg where
  prog : Program
  callLimit : Nat := 100
  /-- singleton values provided by the host (`Executor.LoadSingleton` answering "found") -/
  hostSingletons : HostSingletons := []
  deriving Inhabited

abbrev M := ExceptT Ctl (StateM St)

def throwCtl {α} (c : Ctl) : M α := throw c

/-! ## State helpers -/

def alloc (c : Cell) : M Val := do
  let s ← get
  set { s with heap := s.heap.push c }
  pure (.ref s.heap.size)

def readCell (a : Nat) : M Cell := do
  let s ← get
  match s.heap[a]? with
  | some c => pure c
  | none => throwCtl (.unsupported "dangling reference")

def writeCell (a : Nat) (c : Cell) : M Unit :=
  modify fun s => { s with heap := s.heap.setIfInBounds a c }

def lookupScopes (name : String) : List (List (String × Val)) → Option Val
  | [] => none
  | sc :: rest => match sc.lookup name with
    | some v => some v
    | none => lookupScopes name rest

def assignScopes (name : String) (v : Val) : List (List (String × Val)) → Option (List (List (String × Val)))
  | [] => none
  | sc :: rest =>
    if (sc.lookup name).isSome then
      some ((sc.map fun (k, old) => if k == name then (k, v) else (k, old)) :: rest)
    else (assignScopes name v rest).map (sc :: ·)

def declare (name : String) (v : Val) : M Unit :=
  modify fun s => match s.scopes with
    | sc :: rest => { s with scopes := ((name, v) :: sc) :: rest }
    | [] => { s with scopes := [[(name, v)]] }

def pushScope : M Unit := modify fun s => { s with scopes := [] :: s.scopes }
def popScope : M Unit := modify fun s => { s with scopes := s.scopes.tail }

/-- Run `m` in a fresh block scope; the scope is removed on every exit path. -/
def inScope {α} (m : M α) : M α := fun s =>
  let (r, s') := (pushScope *> m) s
  (r, { s' with scopes := s'.scopes.tail })

def emit (text : String) : M Unit := modify fun s => { s with out := s.out ++ text }

def builtinNames : List String := ["print", "println", "throw", "debug", "assert", "fmt", "log", "time"]

def findFn (prog : Program) (module name : String) : Option FnDef :=
  match prog.find? (·.name == module) with
  | some m => m.fns.find? (·.name == name)
  | none => none

/-- Which module's function does `name` denote inside `module`: its own, or one it imports. -/
def resolveFn (prog : Program) (module name : String) : Option (String × FnDef) :=
  match findFn prog module name with
  | some f => some (module, f)
  | none =>
    match prog.find? (·.name == module) with
    | some m =>
      m.imports.findSome? fun imp =>
        if imp.targetIsHms && imp.items.any (fun it => it.1 == name && it.2 == 0) then
          (findFn prog imp.fromModule name).map fun f => (imp.fromModule, f)
        else none
    | none => none

/-! ## Display, equality -/

def sortFields (fs : List (String × Val)) : List (String × Val) :=
  (fs.toArray.qsort fun a b => a.1 < b.1).toList

mutual
def display (heap : Array Cell) : Nat → Val → Option String
  | 0, _ => none
  | fuel + 1, v =>
    match v with
    | .null => some "null"
    | .int i => some (fmtInt i)
    | .float f => fmtFloat f
    | .bool b => some (if b then "true" else "false")
    | .str s => some s
    | .opt none => some "none"
    | .opt (some x) => (display heap fuel x).map fun d => s!"Some({d})"
    | .range a b _ => some s!"{fmtInt a}..{fmtInt b}"
    | .ref a =>
      match heap[a]? with
      | some (.list xs) => (displayList heap fuel xs).map fun ds => "[" ++ ", ".intercalate ds ++ "]"
      | some (.obj fs) =>
        (displayFields heap fuel (sortFields fs)).map fun ds =>
          "{\n    " ++ ",\n    ".intercalate (ds.map fun d => d.replace "\n" "\n    ") ++ "\n}"
      | some (.anyobj fs) =>
        (displayFields heap fuel (sortFields fs)).map fun ds => "{\n    " ++ ",\n    ".intercalate ds ++ "\n}"
      | none => none
    -- function values print the same on both backends (no mangled names)
    | .fn _ name => some (if (name.splitOn "$lambda_").length > 1 then "<closure>" else "<function>")
    | .closure _ => some "<closure>"
    | .builtin _ => some "<builtin-function>"
    | .bound _ _ => none
def displayList (heap : Array Cell) : Nat → List Val → Option (List String)
  | 0, _ => none
  | _ + 1, [] => some []
  | fuel + 1, x :: xs => do
    let d ← display heap fuel x
    let ds ← displayList heap fuel xs
    pure (d :: ds)
def displayFields (heap : Array Cell) : Nat → List (String × Val) → Option (List String)
  | 0, _ => none
  | _ + 1, [] => some []
  | fuel + 1, (k, x) :: xs => do
    let d ← display heap fuel x
    let ds ← displayFields heap fuel xs
    pure (s!"{k}: {d}" :: ds)
end

mutual
/-- Structural equality (`==`). `none`: not decidable within the fuel / unsupported kinds. -/
def valEq (heap : Array Cell) : Nat → Val → Val → Option Bool
  | 0, _, _ => none
  | fuel + 1, a, b =>
    match a, b with
    | .null, .null => some true
    | .int x, .int y => some (x == y)
    | .float x, .float y => some (x == y)
    | .bool x, .bool y => some (x == y)
    | .str x, .str y => some (x == y)
    | .opt none, .opt none => some true
    | .opt (some x), .opt (some y) => valEq heap fuel x y
    | .opt _, .opt _ => some false
    | .range a1 b1 i1, .range a2 b2 i2 => some (a1 == a2 && b1 == b2 && i1 == i2)
    | .ref x, .ref y =>
      match heap[x]?, heap[y]? with
      | some (.list xs), some (.list ys) => listEq heap fuel xs ys
      | some (.obj f1), some (.obj f2) => fieldsEq heap fuel (sortFields f1) (sortFields f2)
      | some (.anyobj f1), some (.anyobj f2) => fieldsEq heap fuel (sortFields f1) (sortFields f2)
      | _, _ => none
    -- function values are never equal, not even to themselves (IsEqual of both backends)
    | .fn .., _ | .closure .., _ | .builtin .., _ => some false
    | .bound .., _ => none
    | _, _ => some false
def listEq (heap : Array Cell) : Nat → List Val → List Val → Option Bool
  | 0, _, _ => none
  | _ + 1, [], [] => some true
  | fuel + 1, x :: xs, y :: ys => do
    if ← valEq heap fuel x y then listEq heap fuel xs ys else pure false
  | _ + 1, _, _ => some false
def fieldsEq (heap : Array Cell) : Nat → List (String × Val) → List (String × Val) → Option Bool
  | 0, _, _ => none
  | _ + 1, [], [] => some true
  | fuel + 1, (k1, x) :: xs, (k2, y) :: ys => do
    if k1 != k2 then pure false
    else if ← valEq heap fuel x y then fieldsEq heap fuel xs ys else pure false
  | _ + 1, _, _ => some false
end

def displayM (v : Val) : M String := do
  let s ← get
  match display s.heap 1000000 v with   -- the fuel bounds elements + nesting (a model limit)
  | some d => pure d
  | none => throwCtl (.unsupported "display of this value")

def eqM (a b : Val) : M Bool := do
  let s ← get
  match valEq s.heap 64 a b with
  | some r => pure r
  | none => throwCtl (.unsupported "equality of these values")

/-! ## JSON (`runtime/value/json.go` = `interpreter/value/json.go`) -/

/-- A line break + indentation of `json.MarshalIndent(v, "", "    ")` at nesting depth `d`; nothing for `json.Marshal`. -/
def jsonNl (indent : Bool) (d : Nat) : String :=
  if indent then "\n" ++ String.ofList (List.replicate (4 * d) ' ') else ""

mutual
/-- `json.Marshal(MarshalValue(v))` / `json.MarshalIndent`: object keys sorted, `none` / `null` as
`null`, `Some(x)` as `x`, floats through `jsonFloat`. `none`: outside the modelled class (ranges and
function values, which make Go report an error or skip the value; floats outside the dyadic class). -/
def toJson (heap : Array Cell) (indent : Bool) : Nat → Nat → Val → Option String
  | 0, _, _ => none
  | fuel + 1, d, v =>
    match v with
    | .null => some "null"
    | .int i => some (fmtInt i)
    | .float f => jsonFloat? f
    | .bool b => some (if b then "true" else "false")
    | .str s => some (jsonString s)
    | .opt none => some "null"
    | .opt (some x) => toJson heap indent fuel d x
    | .ref a =>
      match heap[a]? with
      | some (.list xs) =>
        if xs.isEmpty then some "[]"
        else (toJsonList heap indent fuel (d + 1) xs).map fun es =>
          "[" ++ jsonNl indent (d + 1) ++ ("," ++ jsonNl indent (d + 1)).intercalate es ++ jsonNl indent d ++ "]"
      | some (.obj fs) | some (.anyobj fs) =>
        if fs.isEmpty then some "{}"
        else (toJsonFields heap indent fuel (d + 1) (sortFields fs)).map fun es =>
          "{" ++ jsonNl indent (d + 1) ++ ("," ++ jsonNl indent (d + 1)).intercalate es ++ jsonNl indent d ++ "}"
      | none => none
    | _ => none
def toJsonList (heap : Array Cell) (indent : Bool) : Nat → Nat → List Val → Option (List String)
  | 0, _, _ => none
  | _ + 1, _, [] => some []
  | fuel + 1, d, x :: xs => do
    let e ← toJson heap indent fuel d x
    let es ← toJsonList heap indent fuel d xs
    pure (e :: es)
def toJsonFields (heap : Array Cell) (indent : Bool) : Nat → Nat → List (String × Val) → Option (List String)
  | 0, _, _ => none
  | _ + 1, _, [] => some []
  | fuel + 1, d, (k, x) :: xs => do
    let e ← toJson heap indent fuel d x
    let es ← toJsonFields heap indent fuel d xs
    pure ((jsonString k ++ (if indent then ": " else ":") ++ e) :: es)
end

def toJsonM (indent : Bool) (v : Val) : M Val := do
  let s ← get
  match toJson s.heap indent 1000000 0 v with
  | some t => pure (.str t)
  | none => throwCtl (.unsupported "to_json of this value")

/-! ## Operators -/

def intOp (op : InfixOp) (a b : I64) (sp : Span) : M Val :=
  match op with
  | .add => pure (.int (a + b))
  | .sub => pure (.int (a - b))
  | .mul => pure (.int (a * b))
  | .div =>
    if b == 0 then throwCtl (.fatal "ValueError" "Division by zero error: this is operation is illegal" sp)
    else pure (.int (a.sdiv b))
  | .rem =>
    if b == 0 then throwCtl (.fatal "ValueError" "Division by zero error: this is operation is illegal" sp)
    else pure (.int (a.srem b))
  | .pow =>
    if b.toInt < 0 then
      -- both backends: int64(math.Pow(float64 a, float64 b)); a reciprocal truncates to 0 unless |a| ≤ 1.
      -- The exponent's parity is that of float64(b): every float64 of magnitude ≥ 2^53 is even.
      if a == 1 then pure (.int 1)
      else if a == -1 then
        pure (.int (if b.toInt > -(2 ^ 53 : Int) && b.toInt % 2 != 0 then -1 else 1))
      else if a == 0 then throwCtl (.unsupported "0 ** negative exponent (platform-defined conversion of +Inf)")
      else pure (.int 0)
    else if b.toNat > 4096 then throwCtl (.unsupported "huge integer exponent")
    else pure (.int (powNat a b.toNat))
  | .shl =>
    if b.toInt < 0 then throwCtl (.fatal "ValueError" "Negative shift count: this is operation is illegal" sp)
    else pure (.int (shlI a b))
  | .shr =>
    if b.toInt < 0 then throwCtl (.fatal "ValueError" "Negative shift count: this is operation is illegal" sp)
    else pure (.int (shrI a b))
  | .bitOr => pure (.int (a ||| b))
  | .bitAnd => pure (.int (a &&& b))
  | .bitXor => pure (.int (a ^^^ b))
  | .lt => pure (.bool (a.slt b))
  | .le => pure (.bool (a.sle b))
  | .gt => pure (.bool (b.slt a))
  | .ge => pure (.bool (b.sle a))
  | _ => throwCtl (.unsupported "integer operator")

def floatOp (op : InfixOp) (a b : Float) (sp : Span) : M Val :=
  match op with
  | .add => pure (.float (a + b))
  | .sub => pure (.float (a - b))
  | .mul => pure (.float (a * b))
  | .div =>
    if b == 0.0 then throwCtl (.fatal "ValueError" "Division by zero error: this is operation is illegal" sp)
    else pure (.float (a / b))
  | .lt => pure (.bool (a < b))
  | .le => pure (.bool (a ≤ b))
  | .gt => pure (.bool (a > b))
  | .ge => pure (.bool (a ≥ b))
  | .pow =>
    -- both backends: math.Pow
    match goPow a b with
    | some r => pure (.float r)
    | none => throwCtl (.unsupported "float ** with a fractional exponent (math.Exp/math.Log)")
  | _ => throwCtl (.unsupported "float operator")

def boolOp (op : InfixOp) (a b : Bool) : M Val :=
  match op with
  | .bitOr => pure (.bool (a || b))
  | .bitAnd => pure (.bool (a && b))
  | .bitXor => pure (.bool (a != b))
  | _ => throwCtl (.unsupported "bool operator")

def binOp (op : InfixOp) (a b : Val) (sp : Span) : M Val :=
  match op, a, b with
  | .eq, _, _ => do pure (.bool (← eqM a b))
  | .ne, _, _ => do pure (.bool (!(← eqM a b)))
  | _, .int x, .int y => intOp op x y sp
  | _, .float x, .float y => floatOp op x y sp
  | _, .bool x, .bool y => boolOp op x y
  | .add, .str x, .str y => pure (.str (x ++ y))
  | _, _, _ => throwCtl (.unsupported "operand kinds of infix operator")

def wrapIndex (i : I64) (len : Nat) : Option Nat :=
  let k := i.toInt
  let k := if k < 0 then k + len else k
  if k < 0 ∨ k ≥ len then none else some k.toNat

mutual
/-- Zero value of a type (`value.ZeroValue`): used for singletons the host does not provide. -/
def zeroValue : Ty → M Val
  | .null => pure .null
  | .int => pure (.int 0)
  | .float => pure (.float 0.0)
  | .bool => pure (.bool false)
  | .str => pure (.str "")
  | .range => pure (.range 0 0 false)
  | .list _ => alloc (.list [])
  | .anyobj => alloc (.anyobj [])
  | .opt _ => pure (.opt none)
  | .obj fs => do alloc (.obj (← zeroFields fs))
  | _ => throwCtl (.unsupported "zero value of this type")
def zeroFields : List (String × Ty) → M (List (String × Val))
  | [] => pure []
  | (k, ft) :: rest => do
    let v ← zeroValue ft
    let vs ← zeroFields rest
    pure ((k, v) :: vs)
end

mutual
/-- Place a value handed over by the host in the heap: what the program sees of the result of
`LoadSingleton`. -/
def hostToVal : HostVal → M Val
  | .null => pure .null
  | .int v => pure (.int (I64.ofInt v))
  | .float b => pure (.float (floatOfBits b))
  | .bool b => pure (.bool b)
  | .str s => pure (.str s)
  | .none => pure (.opt none)
  | .some v => do pure (.opt (some (← hostToVal v)))
  | .range a b incl => pure (.range (I64.ofInt a) (I64.ofInt b) incl)
  | .list xs => do alloc (.list (← hostToVals xs))
  | .obj fs => do alloc (.obj (← hostToFields fs))
  | .anyobj fs => do alloc (.anyobj (← hostToFields fs))
def hostToVals : List HostVal → M (List Val)
  | [] => pure []
  | x :: xs => do pure ((← hostToVal x) :: (← hostToVals xs))
def hostToFields : List (String × HostVal) → M (List (String × Val))
  | [] => pure []
  | (k, x) :: xs => do pure ((k, ← hostToVal x) :: (← hostToFields xs))
end

/-- The value a singleton starts with (`instantiateSingleton`, `compileSingletonInit` +
`Opcode_Load_Singleton`): the host's value when it provides one, else the zero value of the type. -/
def singletonInit (host : HostSingletons) (name : String) (t : Ty) : M Val :=
  match host.lookup name with
  | some hv => hostToVal hv
  | none => zeroValue t

/-- Iteration order of a range (`ValueRange.iterNext`). -/
def rangeElems (a b : I64) (incl : Bool) : List I64 :=
  let x := a.toInt
  let y := b.toInt
  if x < y then
    let hi := if incl then y + 1 else y
    (List.range (hi - x).toNat).map fun (k : Nat) => I64.ofInt (x + (k : Int))
  else
    let lo := if incl then y - 1 else y
    (List.range (x - lo).toNat).map fun (k : Nat) => I64.ofInt (x - (k : Int))

/-- `int64(f)` where it is defined. -/
def floatToIntM (f : Float) : M Val :=
  match floatToI64? f with
  | some i => pure (.int i)
  | none => throwCtl (.unsupported "int64(f) outside the int64 range (implementation-defined)")

def floatIsIntM (f : Float) : M Val :=
  match floatIsInt? f with
  | some b => pure (.bool b)
  | none => throwCtl (.unsupported "int64(f) outside the int64 range (implementation-defined)")

/-! ## Casts (`value.DeepCast`, `runtime/value/cast.go` = `interpreter/value/cast.go`) -/

/-- `Value.Kind().String()` as the cast error messages print it. -/
def kindNameM (v : Val) : M String := do
  match v with
  | .null => pure "null"
  | .int _ => pure "int"
  | .float _ => pure "float"
  | .bool _ => pure "bool"
  | .str _ => pure "string"
  | .opt _ => pure "option"
  | .range .. => pure "range"
  | .ref a => do
    match ← readCell a with
    | .list _ => pure "list"
    | .obj _ => pure "object"
    | .anyobj _ => pure "any-object"
  -- the two backends name function values differently ("closure" / "function")
  | _ => throwCtl (.unsupported "kind name of a function value")

/-- `Value.Kind().TypeKind().String()` (`get_type`). -/
def typeKindNameM (v : Val) : M String := do
  match v with
  | .null => pure "null"
  | .int _ => pure "int"
  | .float _ => pure "float"
  | .bool _ => pure "bool"
  | .str _ => pure "str"
  | .opt _ => pure "Option"
  | .range .. => pure "range"
  | .ref a => do
    match ← readCell a with
    | .list _ => pure "list"
    | .obj _ => pure "object"
    | .anyobj _ => pure "any-object"
  | .fn .. | .closure _ | .builtin _ => pure "function"
  | .bound .. => throwCtl (.unsupported "type name of a bound member")

mutual
/-- `Value.Clone()`: a deep copy of lists, objects, any-objects (through options). -/
def deepClone : Nat → Val → M Val
  | 0, _ => throwCtl (.unsupported "clone depth")
  | fuel + 1, v =>
    match v with
    | .ref a => do
      match ← readCell a with
      | .list xs => do alloc (.list (← deepCloneList fuel xs))
      | .obj fs => do alloc (.obj (← deepCloneFields fuel fs))
      | .anyobj fs => do alloc (.anyobj (← deepCloneFields fuel fs))
    | .opt (some x) => do pure (.opt (some (← deepClone fuel x)))
    | v => pure v
def deepCloneList : Nat → List Val → M (List Val)
  | 0, _ => throwCtl (.unsupported "clone depth")
  | _ + 1, [] => pure []
  | fuel + 1, x :: xs => do
    let y ← deepClone fuel x
    let ys ← deepCloneList fuel xs
    pure (y :: ys)
def deepCloneFields : Nat → List (String × Val) → M (List (String × Val))
  | 0, _ => throwCtl (.unsupported "clone depth")
  | _ + 1, [] => pure []
  | fuel + 1, (k, x) :: xs => do
    let y ← deepClone fuel x
    let ys ← deepCloneFields fuel xs
    pure ((k, y) :: ys)
end

/-- `CastError.Message()` / `newCastErr`: the text of the catchable exception. -/
def castErrMsg (path what : String) : String :=
  "Cast error" ++ (if path.isEmpty then "" else " at `" ++ path ++ "`") ++ ": " ++ what

def castIncompat {α} (v : Val) (t : Ty) (path : String) (sp : Span) : M α := do
  let k ← kindNameM v
  match tyText t with
  | some ts =>
    throwCtl (.throw (castErrMsg path
      s!"Incompatible values: a value of type '{k}' is not compatible with a value of type '{ts}'") sp)
  | none => throwCtl (.unsupported "cast error naming an object / function type")

mutual
/-- `deepCastRecursive(val, typ, span, allowCasts, path)`. A cast list / object is a new
container (elements converted one by one); an any-object is returned as it is; an object cast to
`{ ? }` is a deep copy. -/
def castVal : Nat → Val → Ty → Bool → String → Span → M Val
  | 0, _, _, _, _, _ => throwCtl (.unsupported "cast depth")
  | fuel + 1, v, t, allow, path, sp =>
    match t with
    | .any => pure v
    | .opt inner =>
      match v with
      | .opt none => pure (.opt none)
      | .opt (some x) => do
        pure (.opt (some (← castVal fuel x inner allow (path ++ "<option-inner>") sp)))
      | .null => pure (.opt none)
      | _ => do pure (.opt (some (← castVal fuel v inner allow path sp)))
    | _ =>
      match v with
      | .bool b =>
        match t with
        | .bool => pure v
        | .int => if allow then pure (.int (if b then 1 else 0)) else castIncompat v t path sp
        | .float => if allow then pure (.float (if b then 1.0 else 0.0)) else castIncompat v t path sp
        | _ => castIncompat v t path sp
      | .int i =>
        match t with
        | .int => pure v
        | .bool => if allow then pure (.bool (i != 0)) else castIncompat v t path sp
        | .float => if allow then pure (.float (i64ToFloat i)) else castIncompat v t path sp
        | _ => castIncompat v t path sp
      | .float f =>
        match t with
        | .float => pure v
        | .bool => if allow then pure (.bool (!(f == 0))) else castIncompat v t path sp
        | .int =>
          if allow then floatToIntM f else castIncompat v t path sp
        | _ => castIncompat v t path sp
      | .str _ =>
        match t with
        | .str => pure v
        | _ => castIncompat v t path sp
      | .null =>
        match t with
        | .null => pure v
        | _ => castIncompat v t path sp
      | .range .. =>
        match t with
        | .range => pure v
        | _ => castIncompat v t path sp
      | .opt _ => castIncompat v t path sp
      | .ref a => do
        match ← readCell a with
        | .list xs =>
          match t with
          | .list inner => do alloc (.list (← castList fuel xs inner allow path 0 sp))
          | _ => castIncompat v t path sp
        | .anyobj _ =>
          match t with
          | .anyobj => pure v
          | _ => castIncompat v t path sp
        | .obj fs =>
          match t with
          | .anyobj => do alloc (.anyobj (← deepCloneFields 1000000 fs))
          | .obj tfs => do
            -- the fields of the value in key order; the first error found is the one reported
            let out ← castFields fuel (sortFields fs) tfs allow path sp
            match tfs.find? fun kt => (fs.lookup kt.1).isNone with
            | some (k, _) =>
              throwCtl (.throw (castErrMsg path s!"Incompatible values: field '{k}' was expected but not found") sp)
            | none => alloc (.obj out)
          | _ => castIncompat v t path sp
      | _ => throwCtl (.unsupported "cast of a function value")
def castList : Nat → List Val → Ty → Bool → String → Nat → Span → M (List Val)
  | 0, _, _, _, _, _, _ => throwCtl (.unsupported "cast depth")
  | _ + 1, [], _, _, _, _, _ => pure []
  | fuel + 1, x :: xs, inner, allow, path, idx, sp => do
    let y ← castVal fuel x inner allow (path ++ s!"[{idx}]") sp
    let ys ← castList fuel xs inner allow path (idx + 1) sp
    pure (y :: ys)
def castFields : Nat → List (String × Val) → List (String × Ty) → Bool → String → Span → M (List (String × Val))
  | 0, _, _, _, _, _ => throwCtl (.unsupported "cast depth")
  | _ + 1, [], _, _, _, _ => pure []
  | fuel + 1, (k, x) :: xs, tfs, allow, path, sp => do
    match tfs.lookup k with
    | none => throwCtl (.throw (castErrMsg path s!"Incompatible values: found unexpected field '{k}'") sp)
    | some ft =>
      let y ← castVal fuel x ft allow (path ++ "." ++ k) sp
      let ys ← castFields fuel xs tfs allow path sp
      pure ((k, y) :: ys)
end

/-- The fuel of a cast: bounds elements + nesting of the value (a model limit). -/
def castFuel : Nat := 1000000

mutual
/-- `containsAnyObject(val, target)` of `valueAnyObject.go`: does `v` hold, at any depth, the
any-object at heap address `target`? `none`: not decided within the fuel. -/
def reachesVal (heap : Array Cell) (target : Nat) : Nat → Val → Option Bool
  | 0, _ => none
  | fuel + 1, v =>
    match v with
    | .ref b =>
      if b == target then some true
      else
        match heap[b]? with
        | some (.list xs) => reachesList heap target fuel xs
        | some (.obj fs) => reachesList heap target fuel (fs.map (·.2))
        | some (.anyobj fs) => reachesList heap target fuel (fs.map (·.2))
        | none => none
    | .opt (some x) => reachesVal heap target fuel x
    | _ => some false
def reachesList (heap : Array Cell) (target : Nat) : Nat → List Val → Option Bool
  | 0, _ => none
  | _ + 1, [] => some false
  | fuel + 1, x :: xs =>
    match reachesVal heap target fuel x with
    | some true => some true
    | some false => reachesList heap target fuel xs
    | none => none
end

/-! ## The evaluator -/

structure Place where
  /-- variable (`none` addr) or heap slot -/
  var : Option (String × Bool) := none
  addr : Nat := 0
  idx : Nat := 0
  field : Option String := none
  deriving Inhabited

def spOf : Expr → Span
  | .int sp _ | .float sp _ | .bool sp _ | .str sp _ | .null sp | .none sp => sp
  | .ident sp .. | .range sp .. | .list sp .. | .anyobj sp | .obj sp .. | .lambda sp ..
  | .grouped sp _ | .pre sp .. | .infix sp .. | .assign sp .. | .call sp .. | .index sp ..
  | .member sp .. | .cast sp .. | .ifE sp .. | .matchE sp .. | .tryE sp .. => sp
  | .blockE (.mk sp ..) => sp

def readPlace (pl : Place) : M Val := do
  match pl.var with
  | some (name, _) => do
    let s ← get
    match lookupScopes name s.scopes with
    | some v => pure v
    | none =>
      match s.globals.lookup (s.module, name) with
      | some v => pure v
      | none => throwCtl (.unsupported "assignment to an unknown variable")
  | none => do
    match ← readCell pl.addr, pl.field with
    | .list xs, none => pure (xs.getD pl.idx .null)
    | .obj fs, some k | .anyobj fs, some k => pure ((fs.lookup k).getD .null)
    | _, _ => throwCtl (.unsupported "place")
def writePlace (pl : Place) (v : Val) : M Unit := do
  match pl.var with
  | some (name, _) => do
    let s ← get
    match assignScopes name v s.scopes with
    | some sc => set { s with scopes := sc }
    | none =>
      if (s.globals.lookup (s.module, name)).isSome then
        set { s with globals := s.globals.map fun (k, old) => if k == (s.module, name) then (k, v) else (k, old) }
      else throwCtl (.unsupported "assignment to an unknown variable")
  | none => do
    match ← readCell pl.addr, pl.field with
    | .list xs, none => writeCell pl.addr (.list (xs.set pl.idx v))
    | .obj fs, some k => writeCell pl.addr (.obj (fs.map fun (k', old) => if k' == k then (k', v) else (k', old)))
    | .anyobj fs, some k => writeCell pl.addr (.anyobj (fs.map fun (k', old) => if k' == k then (k', v) else (k', old)))
    | _, _ => throwCtl (.unsupported "place")
def indexVal (b i : Val) (sp : Span) : M Val := do
  match b, i with
  | .ref a, .int k => do
    match ← readCell a with
    | .list xs =>
      match wrapIndex k xs.length with
      | some n => pure (xs.getD n .null)
      | none => throwCtl (.fatal "IndexOutOfBounds"
          s!"Index out of bounds: cannot index a list of length {xs.length} with {if k.toInt < 0 then k.toInt + xs.length else k.toInt}" sp)
    | _ => throwCtl (.unsupported "index base")
  | .ref a, .str k => do
    match ← readCell a with
    | .obj fs =>
      match fs.lookup k with
      | some v => pure v
      | none => throwCtl (.fatal "IndexOutOfBounds" s!"Value of type 'object' has no field named '{k}'" sp)
    | .anyobj fs =>
      match fs.lookup k with
      | some v => pure v
      | none => throwCtl (.fatal "IndexOutOfBounds" s!"Value of type 'any-object' has no field named '{k}'" sp)
    | _ => throwCtl (.unsupported "index base")
  | .str s, .int k =>
    -- strings are indexed by character, as `len` and iteration count them
    match wrapIndex k s.length with
    | some n => pure (.str (String.singleton (s.toList.getD n ' ')))
    | none => throwCtl (.fatal "IndexOutOfBounds"
        s!"Index out of bounds: cannot index a string of length {s.length} with {if k.toInt < 0 then k.toInt + s.length else k.toInt}" sp)
  | _, _ => throwCtl (.unsupported "index operands")
def memberVal (b : Val) (name : String) (op : MemberOp) (_sp : Span) : M Val := do
  match op with
  | .dot =>
    match b with
    | .ref a => do
      match ← readCell a with
      | .obj fs =>
        match fs.lookup name with
        | some v => pure v
        | none => pure (.bound b name)
      | _ => pure (.bound b name)
    | .range x y _ =>
      if name == "start" then pure (.int x) else if name == "end" then pure (.int y) else pure (.bound b name)
    | _ => pure (.bound b name)
  -- `o->k`: the data field `k` of an any-object as an option (Member_Anyobj); `o~>k`: that option
  -- unwrapped (Member_Anyobj; Member_Unwrap; the interpreter's memberExpression does the same since fix V42).
  | .arrow =>
    match b with
    | .ref a => do
      match ← readCell a with
      | .anyobj fs => pure (.opt (fs.lookup name))
      | _ => throwCtl (.unsupported "-> on a value that is not an any-object")
    | _ => throwCtl (.unsupported "-> on a value that is not an any-object")
  | .tildeArrow =>
    match b with
    | .ref a => do
      match ← readCell a with
      | .anyobj fs =>
        match fs.lookup name with
        | some v => pure v
        | none => throwCtl (.throw "Called 'unwrap' on a 'null' option value" _sp)
      | _ => throwCtl (.unsupported "~> on a value that is not an any-object")
    | _ => throwCtl (.unsupported "~> on a value that is not an any-object")
def iterElems (v : Val) : M (List Val) := do
  match v with
  | .range a b incl =>
    if (a.toInt - b.toInt).natAbs > 100000 then throwCtl (.unsupported "huge range")
    else pure ((rangeElems a b incl).map Val.int)
  | .ref a => do
    match ← readCell a with
    | .list xs => pure xs
    | _ => throwCtl (.unsupported "iteration over this value")
  | .str s => pure (s.toList.map fun c => Val.str (String.singleton c))
  | _ => throwCtl (.unsupported "iteration over this value")
def callBuiltin (name : String) (vals : List Val) (sp : Span) : M Val := do
  match name with
  | "print" => do
    let ds ← vals.mapM displayM
    emit (" ".intercalate ds)
    pure .null
  | "println" => do
    let ds ← vals.mapM displayM
    emit (" ".intercalate ds ++ "\n")
    pure .null
  | "debug" => do
    let ds ← vals.mapM displayM
    emit ("DEBUG: " ++ " ".intercalate ds ++ "\n")
    pure .null
  | "throw" =>
    match vals with
    | [v] => do throwCtl (.throw (← displayM v) sp)
    | _ => throwCtl (.unsupported "throw arity")
  | "assert" =>
    match vals with
    | [.bool true] => pure .null
    | [.bool false] => throwCtl (.fatal "HostError" "Assert failed" sp)
    | _ => throwCtl (.unsupported "assert argument")
  | _ => throwCtl (.unsupported s!"builtin {name}")
/-- Members of a float (`valueFloat.go`) beyond `to_string`: `is_int`, `trunc`, `round`. -/
def floatMember (f : Float) (name : String) (vals : List Val) : M Val :=
  if name == "is_int" && vals.isEmpty then floatIsIntM f
  else if name == "trunc" && vals.isEmpty then floatToIntM (floatTrunc f)
  else if name == "round" && vals.isEmpty then floatToIntM f.round
  else throwCtl (.unsupported ("member " ++ name))

/-! Members of a string (`valueString.go`) beyond those listed in `callMember`; one function per
member, `strMember` dispatches on the name. -/

def strSubstring (s : String) (vals : List Val) (sp : Span) : M Val :=
  match vals with
  | [.int u] =>
    -- runes[0:upper]; `upper == len` is refused too
    if u.toInt < 0 || u.toInt ≥ (s.length : Int) then throwCtl (.throw "index out of range" sp)
    else pure (.str (String.ofList (s.toList.take u.toNat)))
  | _ => throwCtl (.unsupported "member substring")

def strReplace (s : String) (vals : List Val) : M Val :=
  match vals with
  | [.str old, .str new] => pure (.str (String.ofList (goReplaceAll s.toList old.toList new.toList)))
  | _ => throwCtl (.unsupported "member replace")

def strSplit (s : String) (vals : List Val) : M Val :=
  match vals with
  | [.str sep] => alloc (.list ((goSplit s.toList sep.toList).map fun piece => Val.str (String.ofList piece)))
  | _ => throwCtl (.unsupported "member split")

def strToUpper (s : String) : M Val :=
  match goToUpper? s.toList with
  | some r => pure (.str (String.ofList r))
  | none => throwCtl (.unsupported "to_upper of a non-ASCII string")

def strToLower (s : String) : M Val :=
  match goToLower? s.toList with
  | some r => pure (.str (String.ofList r))
  | none => throwCtl (.unsupported "to_lower of a non-ASCII string")

/-- The exception of a failed `strconv` parse: `NumError.Error()`. -/
def strconvErr {α} (fn : String) (s : String) (why : String) (sp : Span) : M α :=
  match goQuote? s.toList with
  | some q => throwCtl (.throw ("strconv." ++ fn ++ ": parsing " ++ q ++ ": " ++ why) sp)
  | none => throwCtl (.unsupported "strconv.Quote of a non-ASCII / unprintable string")

def strParseInt (s : String) (sp : Span) : M Val :=
  match goParseInt s.toList with
  | .ok i => pure (.int i)
  | .error e => strconvErr "ParseInt" s e.text sp

def strParseBool (s : String) (sp : Span) : M Val :=
  match goParseBool s with
  | some b => pure (.bool b)
  | none => strconvErr "ParseBool" s "invalid syntax" sp

def strParseFloat (s : String) (sp : Span) : M Val :=
  match goParseFloat s.toList with
  | .ok f => pure (.float f)
  | .syntaxErr => strconvErr "ParseFloat" s "invalid syntax" sp
  | .unmodelled => throwCtl (.unsupported "parse_float outside the decided class")

/-! `parse_json`: a `json.Decoder` with `UseNumber` into `interface{}` followed by `UnmarshalValue`. Modelled for valid
documents of the decided class (numbers without exponent that `jsonNumber?` decides, strings without
surrogate escapes); everything else — syntax errors with their `encoding/json` texts included — is
answered `unsupported`. JSON objects become objects (a repeated key keeps its last value), `null`
becomes `none`, a number spelled as an integer which fits an int becomes that int, every other number a
float (J1). -/

def jsonUnmodelled {α} : M α := throwCtl (.unsupported "parse_json outside the decided class")

def jsonSetField (fs : List (String × Val)) (k : String) (v : Val) : List (String × Val) :=
  if (fs.lookup k).isSome then fs.map fun kv => if kv.1 == k then (kv.1, v) else kv else fs ++ [(k, v)]

def isJsonNumChar (c : Char) : Bool := c == '-' || c == '+' || c == '.' || c == 'e' || c == 'E' || ('0' ≤ c && c ≤ '9')

mutual
/-- One JSON value at the head of `cs` (after optional white space): the value and the rest. -/
def pjValue : Nat → List Char → M (Val × List Char)
  | 0, _ => jsonUnmodelled
  | fuel + 1, cs =>
    match jsonSkipWs cs with
    | '{' :: rest =>
      match jsonSkipWs rest with
      | '}' :: rest' => do pure (← alloc (.obj []), rest')
      | rest' => pjMembers fuel rest' []
    | '[' :: rest =>
      match jsonSkipWs rest with
      | ']' :: rest' => do pure (← alloc (.list []), rest')
      | rest' => pjElems fuel rest' []
    | '"' :: rest =>
      match jsonStringBody (rest.length + 1) [] rest with
      | some (s, rest') => pure (.str s, rest')
      | none => jsonUnmodelled
    | 't' :: 'r' :: 'u' :: 'e' :: rest => pure (.bool true, rest)
    | 'f' :: 'a' :: 'l' :: 's' :: 'e' :: rest => pure (.bool false, rest)
    | 'n' :: 'u' :: 'l' :: 'l' :: rest => pure (.opt none, rest)
    | cs' =>
      let num := cs'.takeWhile isJsonNumChar
      match jsonNumber? num with
      | some (.int i) => pure (.int i, cs'.drop num.length)
      | some (.float f) => pure (.float f, cs'.drop num.length)
      | none => jsonUnmodelled
/-- The elements of an array after `[` (at least one), up to and including `]`. -/
def pjElems : Nat → List Char → List Val → M (Val × List Char)
  | 0, _, _ => jsonUnmodelled
  | fuel + 1, cs, acc => do
    let (v, rest) ← pjValue fuel cs
    match jsonSkipWs rest with
    | ',' :: rest' => pjElems fuel rest' (acc ++ [v])
    | ']' :: rest' => do pure (← alloc (.list (acc ++ [v])), rest')
    | _ => jsonUnmodelled
/-- The members of an object after `{` (at least one), up to and including `}`. -/
def pjMembers : Nat → List Char → List (String × Val) → M (Val × List Char)
  | 0, _, _ => jsonUnmodelled
  | fuel + 1, cs, acc =>
    match jsonSkipWs cs with
    | '"' :: rest =>
      match jsonStringBody (rest.length + 1) [] rest with
      | some (k, rest') =>
        match jsonSkipWs rest' with
        | ':' :: rest'' => do
          let (v, rest3) ← pjValue fuel rest''
          match jsonSkipWs rest3 with
          | ',' :: rest4 => pjMembers fuel rest4 (jsonSetField acc k v)
          | '}' :: rest4 => do pure (← alloc (.obj (jsonSetField acc k v)), rest4)
          | _ => jsonUnmodelled
        | _ => jsonUnmodelled
      | none => jsonUnmodelled
    | _ => jsonUnmodelled
end

def strParseJson (s : String) : M Val := do
  let (v, rest) ← pjValue (s.length + 2) s.toList
  if (jsonSkipWs rest).isEmpty then pure v else jsonUnmodelled

def strCompareLev (s : String) (vals : List Val) : M Val :=
  match vals with
  | [.str t] =>
    match goLevenshtein? s.toList t.toList with
    | some d => pure (.int (I64.ofInt d))
    | none => throwCtl (.unsupported "compare_lev of very long strings")
  | _ => throwCtl (.unsupported "member compare_lev")

def strMember (s : String) (name : String) (vals : List Val) (sp : Span) : M Val :=
  if name == "substring" then strSubstring s vals sp
  else if name == "replace" then strReplace s vals
  else if name == "split" then strSplit s vals
  else if name == "to_upper" && vals.isEmpty then strToUpper s
  else if name == "to_lower" && vals.isEmpty then strToLower s
  else if name == "parse_int" && vals.isEmpty then strParseInt s sp
  else if name == "parse_bool" && vals.isEmpty then strParseBool s sp
  else if name == "parse_float" && vals.isEmpty then strParseFloat s sp
  else if name == "parse_json" && vals.isEmpty then strParseJson s
  else if name == "compare_lev" then strCompareLev s vals
  else throwCtl (.unsupported ("member " ++ name))

/-- `sort` of the list at address `a` with elements `xs` (`valueList.go`). -/
def listSort (a : Nat) (xs : List Val) : M Val :=
  -- insertion sort, dispatched on the kind of the first element
  match xs with
  | [] => pure .null
  | .int _ :: _ =>
    match xs.mapM fun x => match x with | .int i => some i | _ => none with
    | some is => do
      writeCell a (.list ((insertionSort (fun (x t : I64) => t.slt x) is).map Val.int)); pure .null
    | none => throwCtl (.unsupported "sort of a list of mixed kinds")
  | .float _ :: _ =>
    match xs.mapM fun x => match x with | .float f => some f | _ => none with
    | some fs => do
      writeCell a (.list ((insertionSort (fun (x t : Float) => x > t) fs).map Val.float)); pure .null
    | none => throwCtl (.unsupported "sort of a list of mixed kinds")
  | .str _ :: _ =>
    match xs.mapM fun x => match x with | .str s => some s | _ => none with
    | some ss => do
      writeCell a (.list ((insertionSort (fun (x t : String) => decide (t < x)) ss).map Val.str)); pure .null
    | none => throwCtl (.unsupported "sort of a list of mixed kinds")
  | _ => throwCtl (.unsupported "sort of this element kind")

def callMember (recv : Val) (name : String) (vals : List Val) (sp : Span) : M Val := do
  match recv, name, vals with
  | .int i, "to_string", [] => pure (.str (fmtInt i))
  | .int i, "to_range", [] => pure (.range 0 i false)
  | .bool b, "to_string", [] => pure (.str (if b then "true" else "false"))
  | .float f, "to_string", [] => do pure (.str (← displayM (.float f)))
  | .float f, _, _ => floatMember f name vals
  | .str s, "len", [] => pure (.int (I64.ofInt s.length))
  | .str s, "to_string", [] => pure (.str s)
  | .str s, "contains", [.str t] =>
    pure (.bool ((s.splitOn t).length > 1 || t.isEmpty))
  | .str s, "starts_with", [.str t] => pure (.bool (t.toList.isPrefixOf s.toList))
  | .str s, "repeat", [.int n] =>
    let bytes := utf8Len s.toList
    if n.toInt < 0 then throwCtl (.throw "negative repeat count" sp)
    else if bytes > 0 && n.toInt > (9223372036854775807 : Int) / (bytes : Int) then
      throwCtl (.throw "repeat output length overflow" sp)
    else if s.isEmpty then pure (.str "")     -- `strings.Repeat("", n)`
    else if n.toNat * s.length > 100000 then throwCtl (.unsupported "huge repeat")
    else pure (.str (String.join (List.replicate n.toNat s)))
  | .str s, _, _ => strMember s name vals sp
  | .opt o, "is_some", [] => pure (.bool o.isSome)
  | .opt o, "is_none", [] => pure (.bool o.isNone)
  | .opt o, "unwrap", [] =>
    match o with
    | some v => pure v
    | none => throwCtl (.throw "Called 'unwrap' on a 'null' option value" sp)
  | .opt o, "unwrap_or", [d] => pure (o.getD d)
  | .opt o, "expect", [.str msg] =>
    match o with
    | some v => pure v
    | none => throwCtl (.fatal "ValueError" msg sp)
  | .opt o, "to_string", [] => do pure (.str (← displayM (.opt o)))
  | .range a b incl, "rev", [] => pure (.range b a incl)
  | .range a b _, "diff", [] =>
    pure (.int (if b.slt a then a - b else b - a))
  | .range .., "to_string", [] => do pure (.str (← displayM recv))
  | .ref a, _, _ => do
    match ← readCell a, name, vals with
    | .list xs, "len", [] => pure (.int (I64.ofInt xs.length))
    | .list xs, "push", [v] => do writeCell a (.list (xs ++ [v])); pure .null
    | .list xs, "push_front", [v] => do writeCell a (.list (v :: xs)); pure .null
    | .list xs, "pop", [] =>
      match xs.getLast? with
      | some v => do writeCell a (.list xs.dropLast); pure (.opt (some v))
      | none => pure (.opt none)
    | .list xs, "pop_front", [] =>
      match xs with
      | v :: rest => do writeCell a (.list rest); pure (.opt (some v))
      | [] => pure (.opt none)
    | .list xs, "last", [] => pure (.opt xs.getLast?)
    | .list xs, "contains", [v] => do
      let mut found := false
      for x in xs do
        if ← eqM v x then found := true
      pure (.bool found)
    | .list xs, "concat", [.ref b] => do
      match ← readCell b with
      | .list ys => do writeCell a (.list (xs ++ ys)); pure .null
      | _ => throwCtl (.unsupported "concat argument")
    | .list xs, "join", [.str sep] => do
      let ds ← xs.mapM displayM
      pure (.str (sep.intercalate ds))
    | .list xs, "insert", [.int i, v] =>
      let k := if i.toInt < 0 then i.toInt + xs.length else i.toInt
      if k < 0 ∨ k > xs.length then
        throwCtl (.fatal "IndexOutOfBounds" s!"Index out of bounds: the index is {k}, the but length is {xs.length}" sp)
      else do writeCell a (.list (xs.take k.toNat ++ v :: xs.drop k.toNat)); pure .null
    | .list xs, "remove", [.int i] =>
      let k := if i.toInt < 0 then i.toInt + xs.length else i.toInt
      if k < 0 ∨ k ≥ xs.length then
        throwCtl (.fatal "IndexOutOfBounds" s!"Index out of bounds: the index is {k}, the but length is {xs.length}" sp)
      else do writeCell a (.list (xs.eraseIdx k.toNat)); pure .null
    | .list _, "to_string", [] => do pure (.str (← displayM recv))
    | .list xs, "sort", [] => listSort a xs
    | _, "to_json", [] => toJsonM false recv
    | _, "to_json_indent", [] => toJsonM true recv
    | .obj _, "to_string", [] => do pure (.str (← displayM recv))
    | .obj fs, "keys", [] => do alloc (.list ((sortFields fs).map fun (k, _) => Val.str k))
    | .anyobj fs, "keys", [] => do alloc (.list ((sortFields fs).map fun (k, _) => Val.str k))
    | .anyobj fs, "set", [.str k, v] => do
      -- an any-object that would contain itself is refused (catchable)
      match reachesVal (← get).heap a 100000 v with
      | some true => throwCtl (.throw "an any-object cannot contain itself" sp)
      | none => throwCtl (.unsupported "containment test of any-object set")
      | some false => pure ()
      if (fs.lookup k).isSome then
        writeCell a (.anyobj (fs.map fun (k', old) => if k' == k then (k', v) else (k', old)))
      else writeCell a (.anyobj (fs ++ [(k, v)]))
      pure .null
    | .anyobj fs, "get", [.str k] => pure (.opt (fs.lookup k))
    | .anyobj fs, "get_type", [.str k] =>
      match fs.lookup k with
      | some v => do pure (.str (← typeKindNameM v))
      | none => throwCtl (.fatal "IndexOutOfBounds" s!"Value of type 'any-object' has no field named '{k}'" sp)
    | .anyobj _, "to_string", [] => do pure (.str (← displayM recv))
    | _, _, _ => throwCtl (.unsupported s!"member {name}")
  | _, _, _ => throwCtl (.unsupported s!"member {name}")

mutual
def evalExpr (cfg : Cfg) : Nat → Expr → M Val
  | 0, _ => throwCtl .timeout
  | fuel + 1, e =>
    match e with
    | .int _ v => pure (.int (I64.ofInt v))
    | .float _ bits => pure (.float (floatOfBits bits))
    | .bool _ b => pure (.bool b)
    | .str _ s => pure (.str s)
    | .null _ => pure .null
    | .none _ => pure (.opt none)
    | .grouped _ e => evalExpr cfg fuel e
    | .ident _ _ name _ _ _ => do
      let s ← get
      match lookupScopes name s.scopes with
      | some v => pure v
      | none =>
        match s.globals.lookup (s.module, name) with
        | some v => pure v
        | none =>
          match resolveFn cfg.prog s.module name with
          | some (m, _) => pure (.fn m name)
          | none =>
            if builtinNames.contains name then pure (.builtin name)
            else throwCtl (.unsupported s!"identifier {name} (captured variable or host value)")
    | .range _ a b incl => do
      let x ← evalExpr cfg fuel a
      let y ← evalExpr cfg fuel b
      match x, y with
      | .int x, .int y => pure (.range x y incl)
      | _, _ => throwCtl (.unsupported "range bounds")
    | .list _ _ xs => do
      let vs ← evalList cfg fuel xs
      alloc (.list vs)
    | .anyobj _ => alloc (.anyobj [])
    | .obj _ _ fields => do
      let vs ← evalFields cfg fuel fields
      alloc (.obj vs)
    | .lambda _ _ params _ body => do
      let s ← get
      set { s with closures := s.closures.push ⟨params, body, s.module⟩ }
      pure (.closure s.closures.size)
    | .pre sp _ op e => do
      let v ← evalExpr cfg fuel e
      match op, v with
      | .neg, .int x => pure (.int (-x))
      | .neg, .float x => pure (.float (-x))
      | .not, .bool b => pure (.bool (!b))
      | .not, .int x => pure (.int (~~~x))
      | .some, v => pure (.opt (some v))
      | _, _ => let _ := sp; throwCtl (.unsupported "prefix operand kind")
    | .infix sp _ op l r =>
      match op with
      | .or => do
        match ← evalExpr cfg fuel l with
        | .bool true => pure (.bool true)
        | .bool false => evalExpr cfg fuel r
        | _ => throwCtl (.unsupported "|| operand")
      | .and => do
        match ← evalExpr cfg fuel l with
        | .bool false => pure (.bool false)
        | .bool true => evalExpr cfg fuel r
        | _ => throwCtl (.unsupported "&& operand")
      | _ => do
        let a ← evalExpr cfg fuel l
        let b ← evalExpr cfg fuel r
        binOp op a b sp
    | .assign sp op l r => do
      let pl ← evalPlace cfg fuel l
      let rhs ← match op with
        | none => evalExpr cfg fuel r
        | some o => do
          let cur ← readPlace pl
          let b ← evalExpr cfg fuel r
          binOp o cur b sp
      writePlace pl rhs
      pure .null
    | .call sp _ base args isSpawn =>
      if isSpawn then throwCtl (.unsupported "spawn")
      else evalCall cfg fuel sp base args
    | .index sp _ base idx => do
      let b ← evalExpr cfg fuel base
      let i ← evalExpr cfg fuel idx
      indexVal b i sp
    | .member sp _ base name op => do
      let b ← evalExpr cfg fuel base
      memberVal b name op sp
    | .cast sp ty e => do
      let v ← evalExpr cfg fuel e
      castVal castFuel v ty true "" sp
    | .blockE b => inScope (evalBlock cfg fuel b)
    | .ifE _ _ c t e => do
      match ← evalExpr cfg fuel c with
      | .bool true => inScope (evalBlock cfg fuel t)
      | .bool false =>
        match e with
        | some eb => inScope (evalBlock cfg fuel eb)
        | none => pure .null
      | _ => throwCtl (.unsupported "if condition")
    | .matchE _ _ c arms dflt => do
      let v ← evalExpr cfg fuel c
      evalArms cfg fuel v arms dflt
    | .tryE _ _ t catchIdent c => fun s =>
      match (inScope (evalBlock cfg fuel t)) s with
      | (.error (.throw msg sp), s') =>
        -- handlers and scopes of the `try` body are gone; effects persist
        let body : M Val := inScope do
          let o ← alloc (.obj [("message", .str msg), ("line", .int (I64.ofInt sp.sl)),
                               ("column", .int (I64.ofInt sp.sc)), ("filename", .str s'.module)])
          declare catchIdent o
          evalBlock cfg fuel c
        -- `inScope` has already removed the scopes of the `try` body; variable updates persist
        body s'
      | r => r
def evalList (cfg : Cfg) : Nat → List Expr → M (List Val)
  | 0, _ => throwCtl .timeout
  | _ + 1, [] => pure []
  | fuel + 1, e :: es => do
    let v ← evalExpr cfg fuel e
    let vs ← evalList cfg fuel es
    pure (v :: vs)
def evalFields (cfg : Cfg) : Nat → List (String × Expr) → M (List (String × Val))
  | 0, _ => throwCtl .timeout
  | _ + 1, [] => pure []
  | fuel + 1, (k, e) :: es => do
    let v ← evalExpr cfg fuel e
    let vs ← evalFields cfg fuel es
    pure ((k, v) :: vs)
def evalArms (cfg : Cfg) : Nat → Val → List (List Expr × Expr) → Option Expr → M Val
  | 0, _, _, _ => throwCtl .timeout
  | fuel + 1, _, [], dflt =>
    match dflt with
    | some d => evalExpr cfg fuel d
    | none => pure .null
  | fuel + 1, v, (lits, act) :: rest, dflt => do
    if ← anyLit cfg fuel v lits then evalExpr cfg fuel act
    else evalArms cfg fuel v rest dflt
def anyLit (cfg : Cfg) : Nat → Val → List Expr → M Bool
  | 0, _, _ => throwCtl .timeout
  | _ + 1, _, [] => pure false
  | fuel + 1, v, l :: ls => do
    let lv ← evalExpr cfg fuel l
    if ← eqM lv v then pure true else anyLit cfg fuel v ls
/-- Left-hand side of an assignment: a variable or a heap slot (bounds checked here, before the
right-hand side is evaluated). -/
def evalPlace (cfg : Cfg) : Nat → Expr → M Place
  | 0, _ => throwCtl .timeout
  | fuel + 1, e =>
    match e with
    | .grouped _ e => evalPlace cfg fuel e
    | .ident _ _ name isGlobal _ _ => pure { var := some (name, isGlobal) }
    | .index sp _ base idx => do
      let b ← evalExpr cfg fuel base
      let i ← evalExpr cfg fuel idx
      match b, i with
      | .ref a, .int k => do
        match ← readCell a with
        | .list xs =>
          match wrapIndex k xs.length with
          | some n => pure { addr := a, idx := n }
          | none => throwCtl (.fatal "IndexOutOfBounds"
              s!"Index out of bounds: cannot index a list of length {xs.length} with {if k.toInt < 0 then k.toInt + xs.length else k.toInt}" sp)
        | _ => throwCtl (.unsupported "index assignment target")
      | .ref a, .str k => do
        match ← readCell a with
        | .obj fs | .anyobj fs =>
          if (fs.lookup k).isSome then pure { addr := a, field := some k }
          else throwCtl (.unsupported "index assignment to a missing field")
        | _ => throwCtl (.unsupported "index assignment target")
      | _, _ => throwCtl (.unsupported "index assignment target")
    | .member _ _ base name .dot => do
      match ← evalExpr cfg fuel base with
      | .ref a => do
        match ← readCell a with
        | .obj fs =>
          if (fs.lookup name).isSome then pure { addr := a, field := some name }
          else throwCtl (.unsupported "member assignment to a missing field")
        | _ => throwCtl (.unsupported "member assignment target")
      | _ => throwCtl (.unsupported "member assignment target")
    | _ => throwCtl (.unsupported "assignment target")
def evalCall (cfg : Cfg) : Nat → Span → Expr → List (String × Expr) → M Val
  | 0, _, _, _ => throwCtl .timeout
  | fuel + 1, sp, base, args => do
    let f ← evalExpr cfg fuel base
    let vals ← evalList cfg fuel (args.map (·.2))
    applyFn cfg fuel sp f vals
def applyFn (cfg : Cfg) : Nat → Span → Val → List Val → M Val
  | 0, _, _, _ => throwCtl .timeout
  | fuel + 1, sp, f, vals =>
    match f with
    | .builtin name => callBuiltin name vals sp
    | .bound recv name => callMember recv name vals sp
    | .fn m name =>
      match findFn cfg.prog m name with
      | none => throwCtl (.unsupported s!"function {name}")
      | some fd => callBody cfg fuel sp m fd.params fd.body vals
    | .closure id => do
      let s ← get
      match s.closures[id]? with
      | some c => callBody cfg fuel sp c.module c.params c.body vals
      | none => throwCtl (.unsupported "closure")
    | _ => throwCtl (.unsupported "call of a non-function")
/-- Function activation: fresh scopes, parameters bound in order, `return` caught here;
the caller's scopes, module and depth are restored on every exit path. -/
def callBody (cfg : Cfg) : Nat → Span → String → List Param → Block → List Val → M Val
  | 0, _, _, _, _, _ => throwCtl .timeout
  | fuel + 1, sp, m, params, body, vals => fun s =>
    if s.depth > cfg.callLimit then
      (.error (.fatal "StackOverFlow" s!"Maximum callstack size of {cfg.callLimit} was exceeded" sp), s)
    else
      let normal := params.filter (!·.isSingleton)
      if normal.length != vals.length then (.error (.unsupported "arity"), s)
      else
        let sing := params.filter (·.isSingleton)
        let singBinds := sing.filterMap fun p => (s.globals.lookup (m, p.singleton)).map fun v => (p.name, v)
        if singBinds.length != sing.length then (.error (.unsupported "singleton parameter"), s)
        else
          let binds := (normal.map (·.name)).zip vals ++ singBinds
          let s0 := { s with scopes := [binds.reverse], module := m, depth := s.depth + 1 }
          let (r, s1) := (match body with | .mk _ _ stmts e => evalBlock cfg fuel (.mk ⟨0,0,0,0⟩ .null stmts e)) s0
          let s2 := { s1 with scopes := s.scopes, module := s.module, depth := s.depth }
          match r with
          | .error (.ret v) => (.ok v, s2)
          | .error .brk | .error .cont => (.error (.unsupported "loop exit outside a loop"), s2)
          | r => (r, s2)
def evalBlock (cfg : Cfg) : Nat → Block → M Val
  | 0, _ => throwCtl .timeout
  | fuel + 1, .mk _ _ stmts e => do
    evalStmts cfg fuel stmts
    match e with
    | some e => evalExpr cfg fuel e
    | none => pure .null
def evalStmts (cfg : Cfg) : Nat → List Stmt → M Unit
  | 0, _ => throwCtl .timeout
  | _ + 1, [] => pure ()
  | fuel + 1, s :: ss => do
    evalStmt cfg fuel s
    evalStmts cfg fuel ss
def evalStmt (cfg : Cfg) : Nat → Stmt → M Unit
  | 0, _ => throwCtl .timeout
  | fuel + 1, st =>
    match st with
    | .typedef _ => pure ()
    | .trigger _ cb _ tr args => do
      let vals ← evalList cfg fuel (args.map (·.2))
      let ds ← vals.mapM displayM
      modify fun s => { s with trig := s.trig ++ s!"{cb}<-{tr}({",".intercalate ds});" }
    | .letS sp name _ needsCast optTy e => do
      let v ← evalExpr cfg fuel e
      -- an initialiser whose static type mentions `any` is validated against the annotation (no conversions)
      if needsCast then do declare name (← castVal castFuel v optTy false "" sp)
      else declare name v
    | .ret _ e => do
      match e with
      | some e => do throwCtl (.ret (← evalExpr cfg fuel e))
      | none => throwCtl (.ret .null)
    | .brk _ => throwCtl .brk
    | .cont _ => throwCtl .cont
    | .loopS _ body => loopRun cfg fuel none body
    | .whileS _ c body => loopRun cfg fuel (some c) body
    | .forS _ name _ iter body => do
      let it ← evalExpr cfg fuel iter
      let elems ← iterElems it
      forRun cfg fuel name elems body
    | .exprS _ e => do let _ ← evalExpr cfg fuel e
/-- `loop` (no condition) and `while`: `break` ends the loop, `continue` starts the next round. -/
def loopRun (cfg : Cfg) : Nat → Option Expr → Block → M Unit
  | 0, _, _ => throwCtl .timeout
  | fuel + 1, cond, body => do
    let go ← match cond with
      | none => pure true
      | some c => do
        match ← evalExpr cfg fuel c with
        | .bool b => pure b
        | _ => throwCtl (.unsupported "while condition")
    if !go then pure ()
    else fun s =>
      match (inScope (evalBlock cfg fuel body)) s with
      | (.error .brk, s') => (.ok (), s')
      | (.error .cont, s') => loopRun cfg fuel cond body s'
      | (.ok _, s') => loopRun cfg fuel cond body s'
      | (.error c, s') => (.error c, s')
/-- `for` over the snapshot `elems`. -/
def forRun (cfg : Cfg) : Nat → String → List Val → Block → M Unit
  | 0, _, _, _ => throwCtl .timeout
  | _ + 1, _, [], _ => pure ()
  | fuel + 1, name, x :: xs, body => fun s =>
    let round : M Val := inScope do
      declare name x
      evalBlock cfg fuel body
    match round s with
    | (.error .brk, s') => (.ok (), s')
    | (.error .cont, s') => forRun cfg fuel name xs body s'
    | (.ok _, s') => forRun cfg fuel name xs body s'
    | (.error c, s') => (.error c, s')
end

/-! ## Whole programs -/

inductive Outcome where
  | ok (out trig : String)
  | fatal (kind msg : String) (sp : Span) (out trig : String)
  | unsupported (what : String)
  | timeout
  deriving Repr, Inhabited

/-- How a run is reported to the host: normal completion, an exception no handler encloses as
the fatal error `UncaughtThrow` with the thrown message and position, a fatal error with its
own kind. -/
def outcomeOf : Except Ctl Val × St → Outcome
  | (.ok _, s) => .ok s.out s.trig
  | (.error (.throw msg sp), s) => .fatal "UncaughtThrow" msg sp s.out s.trig
  | (.error (.fatal k msg sp), s) => .fatal k msg sp s.out s.trig
  | (.error (.unsupported w), _) => .unsupported w
  | (.error .timeout, _) => .timeout
  | (.error (.ret _), s) => .ok s.out s.trig
  | (.error .brk, _) | (.error .cont, _) => .unsupported "loop exit at top level"

/-- Initialise the globals of every module (a singleton from the value the host provides for
its name, `cfg.hostSingletons`, else from the zero value of its type), then run `main` of the
entry module. -/
def runProgram (cfg : Cfg) (fuel : Nat) (entry : String := "main") : Outcome :=
  let init : M Unit := do
    for m in cfg.prog do
      modify fun s => { s with module := m.name, scopes := [[]] }
      for (name, t) in m.singletons do
        let v ← singletonInit cfg.hostSingletons name t
        modify fun s => { s with globals := s.globals ++ [((m.name, name), v)] }
      for g in m.globals do
        match g with
        | .letS sp name _ needsCast optTy e => do
          let v ← evalExpr cfg fuel e
          let v ← if needsCast then castVal castFuel v optTy false "" sp else pure v
          modify fun s => { s with globals := s.globals ++ [((m.name, name), v)] }
        | _ => throwCtl (.unsupported "global statement")
    modify fun s => { s with module := "main", scopes := [[]] }
  let main : M Val := do
    init
    match findFn cfg.prog "main" entry with
    | some fd => applyFn cfg fuel fd.sp (.fn "main" entry) []
    | none => throwCtl (.unsupported "no entry function")
  outcomeOf (main {})

end Hms.Core
