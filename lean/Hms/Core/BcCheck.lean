import Hms.Core.VM
/-!
# Bytecode checker (operand-stack heights, handler depth, frame slots)

A verifier in the style of JVM bytecode verification, restricted to *heights*: for every
function it records, per instruction index, the operand-stack height relative to the base of
the activation, the memory-pointer offset relative to function entry, and the exception
handlers the activation has installed. `verify code A` checks an annotation `A` locally
(one instruction at a time); `infer` computes a candidate annotation by forward propagation;
`hcheck code = verify code (infer code)`. Only `verify` is trusted by the soundness theorems
(`HmsProofs.C02`); `infer` may use heuristics.

Conventions
* A function with `params` parameters is entered with height `params` (the arguments are on the
  stack of the callee's activation) and left by `ret` with height `results`, offset `0`, no handler.
* `callVal`, `hostCall` and `spawn` take their argument count from the operand stack; the checker
  accepts them only directly after `copyPush (int n)` and only where no jump lands between
  the two, so the count is the static `n`.
* `callVal` is dynamic: the number of results (0 for a `null` result, else 1) is part of the
  annotation (`FnAnn.dyn`), chosen by `infer` from the name of the callee where the code shows it
  (else by trying 1, then 0). The soundness theorems assume that the called value conforms to the
  site (`HmsProofs.Lemmas.VMCheck.DynOK`).
* `setTry` records (catch label, height, offset); the catch label is entered with height + 1 (the
  error object), that offset and the handler still installed; no instruction inside the protected
  region takes the stack below the recorded height; `ret` needs an empty handler list.
* `throw` has no successor; unreachable instructions carry no annotation and are not checked.

Driver use: `hcheck (compile prog).fns`; `hcheckReport` names the first function / instruction
index that is not accepted.
-/
namespace Hms.Core.BcCheck
open Hms.Core Hms.Core.Comp Hms.Core.VM

/-- What is recorded for one instruction index. -/
structure Ann where
  /-- operand-stack height relative to the base of the activation -/
  h : Nat
  /-- memory pointer relative to its value at function entry -/
  off : Nat
  /-- handlers installed by this activation, innermost first:
  (catch label, height at `setTry`, memory-pointer offset at `setTry`) -/
  hs : List (Nat × Nat × Nat)
  deriving DecidableEq, Repr, Inhabited

structure FnAnn where
  params : Nat
  results : Nat
  /-- per instruction index; `none` = unreachable -/
  pts : List (Option Ann)
  /-- `callVal` site ↦ number of results -/
  dyn : List (Nat × Nat) := []
  deriving Repr, Inhabited

abbrev FnCode := List (RInstr × Span)

/-- (pops, pushes) of the instructions that only touch the operand stack and fall through.
`dup` is "pop 1, push 2"; `eqPopOnce` "pop 2, push 2" (it needs two operands and keeps one). -/
def simpleEff : RInstr → Option (Nat × Nat)
  | .nop => some (0, 0)
  | .copyPush _ | .cloningPush _ => some (0, 1)
  | .clone => some (1, 1)
  | .drop => some (1, 0)
  | .dup => some (1, 2)
  | .loadSingleton _ _ => some (1, 1)     -- replaces the default below it when the host provides a value
  | .getGlob _ => some (0, 1)
  | .setGlob _ => some (1, 0)
  | .assign => some (2, 0)
  | .cast _ _ => some (1, 1)
  | .neg | .some | .not => some (1, 1)
  | .add | .sub | .mul | .pow | .div | .rem | .eq | .lt | .gt | .le | .ge | .shl | .shr
  | .bitOr | .bitAnd | .bitXor => some (2, 1)
  | .eqPopOnce => some (2, 2)
  | .index => some (2, 1)
  | .member _ | .memberAnyobj _ | .unwrap => some (1, 1)
  | .importI _ _ => some (0, 0)
  | .intoRange _ => some (2, 1)
  | .intoIter => some (1, 1)
  | .iterAdvance => some (1, 2)
  | _ => none

/-- The static argument count of a `callVal`/`hostCall`/`spawn` at `ip`: the constant pushed by
the instruction before it. Below `2^31` it is a count that Go's `int(numArgs)` (`Opcode_Call_Val`,
execute.go) reads back whatever the width of `int`; soundness needs only that it is below `2^64`, so that
it survives the `I64` on the operand stack. -/
def argcAt (c : FnCode) (ip : Nat) : Option Nat :=
  match ip with
  | 0 => none
  | k + 1 =>
    match c[k]? with
    | some (.copyPush (.int n), _) => if 0 ≤ n ∧ n < 2147483648 then some n.toNat else none
    | _ => none

/-- Is `ip` the target of a jump or the catch label of a `setTry`? -/
def isTarget (c : FnCode) (ip : Nat) : Bool :=
  c.any fun x =>
    match x.1 with
    | .jump l | .jumpIfFalse l | .setTry _ l => l == ip
    | _ => false

/-- Results of a host call: the list-literal helper returns the list, `@trigger` returns nothing. -/
def hostResults (name : String) : Nat := if name == "__internal_list_push" then 1 else 0

/-- Admissibility of instruction `i` at index `ip` under annotation `a`: `none` if the
instruction is not acceptable there, else the number of operands it removes (also on its
exceptional exit) and the annotations its successors must carry.
`sig f`: (params, results) of function `f`; `name`, `results`: of the function being checked;
`r`: recorded result count if `i` is a `callVal`. -/
def succs (sig : String → Option (Nat × Nat)) (name : String) (c : FnCode) (results r : Nat)
    (ip : Nat) (a : Ann) (i : RInstr) : Option (Nat × List (Nat × Ann)) :=
  match i with
  | .label _ => none
  | .jump l => some (0, [(l, a)])
  | .jumpIfFalse l =>
    if 1 ≤ a.h then some (1, [(ip + 1, { a with h := a.h - 1 }), (l, { a with h := a.h - 1 })]) else none
  | .getVar k => if k < a.off then some (0, [(ip + 1, { a with h := a.h + 1 })]) else none
  | .setVar k => if k < a.off ∧ 1 ≤ a.h then some (1, [(ip + 1, { a with h := a.h - 1 })]) else none
  | .callImm f =>
    match sig f with
    | some (p, q) => if p ≤ a.h then some (p, [(ip + 1, { a with h := a.h - p + q })]) else none
    | none => none
  | .callVal =>
    match argcAt c ip with
    | some n =>
      if 2 + n ≤ a.h ∧ isTarget c ip = false then some (2 + n, [(ip + 1, { a with h := a.h - (2 + n) + r })])
      else none
    | none => none
  | .hostCall name =>
    match argcAt c ip with
    | some n =>
      if 1 + n ≤ a.h ∧ isTarget c ip = false then
        some (1 + n, [(ip + 1, { a with h := a.h - (1 + n) + hostResults name })])
      else none
    | none => none
  | .spawn _ =>
    match argcAt c ip with
    | some n =>
      if 1 + n ≤ a.h ∧ isTarget c ip = false then some (1 + n, [(ip + 1, { a with h := a.h - (1 + n) + 1 })])
      else none
    | none => none
  | .ret => if a.h = results ∧ a.off = 0 ∧ a.hs = [] then some (0, []) else none
  | .setTry fn l =>
    if fn = name then
      some (0, [(ip + 1, { a with hs := (l, a.h, a.off) :: a.hs }),
        (l, { a with h := a.h + 1, hs := (l, a.h, a.off) :: a.hs })])
    else none
  | .popTry =>
    match a.hs with
    | _ :: hs' => some (0, [(ip + 1, { a with hs := hs' })])
    | [] => none
  | .throw => if 1 ≤ a.h then some (1, []) else none
  | .addMp n =>
    if 0 ≤ (a.off : Int) + n then some (0, [(ip + 1, { a with off := ((a.off : Int) + n).toNat })]) else none
  | i =>
    match simpleEff i with
    | some (p, q) => if p ≤ a.h then some (p, [(ip + 1, { a with h := a.h - p + q })]) else none
    | none => none

/-- The innermost handler of the activation is entered with the height recorded at its `setTry`
plus one (the error object), the offset recorded there (the VM unwinds the operand stack and
restores the memory pointer) and the same handler list (the VM does not pop the handler; the
catch block does); and the instruction never takes the stack below the recorded height. -/
def handlerOK (pts : List (Option Ann)) (a : Ann) (pops : Nat) : Bool :=
  match a.hs with
  | [] => true
  | (l, H, o) :: _ =>
    decide (pts[l]? = some (some { h := H + 1, off := o, hs := a.hs })) && decide (H + pops ≤ a.h)

/-- Instructions that take their argument count from the operand stack. -/
def usesArgc : RInstr → Bool
  | .callVal | .hostCall _ | .spawn _ => true
  | _ => false

/-- The catch label of the innermost handler is not itself a dynamic-count instruction (the VM
enters it with the error object on top of the stack, not with a count). -/
def handlerEntryOK (c : FnCode) (a : Ann) : Bool :=
  match a.hs with
  | [] => true
  | (l, _) :: _ =>
    match c[l]? with
    | some (i, _) => !usesArgc i
    | none => false

def checkAt (sig : String → Option (Nat × Nat)) (name : String) (c : FnCode) (fa : FnAnn) (ip : Nat) : Bool :=
  match fa.pts[ip]? with
  | some (some a) =>
    match c[ip]? with
    | some (i, _) =>
      match succs sig name c fa.results ((fa.dyn.lookup ip).getD 0) ip a i with
      | some (pops, l) =>
        l.all (fun x => decide (fa.pts[x.1]? = some (some x.2))) && handlerOK fa.pts a pops
          && handlerEntryOK c a
      | none => false
    | none => false
  | _ => true

def checkFn (sig : String → Option (Nat × Nat)) (cf : CompiledFn) (fa : FnAnn) : Bool :=
  decide (fa.pts.length = cf.code.length)
    && decide (fa.pts[0]? = some (some { h := fa.params, off := 0, hs := [] }))
    && (List.range cf.code.length).all (checkAt sig cf.name cf.code fa)

/-- The function `findCode` would run for `fn`, with its annotation. -/
def lookupFn (code : Code) (A : List FnAnn) (fn : String) : Option (FnCode × FnAnn) :=
  ((code.zip A).find? (·.1.name == fn)).map fun x => (x.1.code, x.2)

def sigOf (code : Code) (A : List FnAnn) (fn : String) : Option (Nat × Nat) :=
  (lookupFn code A fn).map fun x => (x.2.params, x.2.results)

/-- `A` (one `FnAnn` per function, in order) is a consistent height annotation of `code`. -/
def verify (code : Code) (A : List FnAnn) : Bool :=
  decide (code.length = A.length) && (code.zip A).all fun x => checkFn (sigOf code A) x.1 x.2

/-! ## Inference (untrusted) -/

/-- Names of builtins and members whose calls leave no result (they return `null`): a hint for
the result count of `callVal` sites. -/
def nullCallees : List String :=
  ["print", "println", "debug", "assert", "log", "concat", "insert", "push", "push_front", "remove", "sort", "set"]

/-- The hint for the `callVal` at `ip`: the instruction two before it names the callee. -/
def dynHint (c : FnCode) (ip : Nat) : Option Nat :=
  match ip with
  | k + 2 =>
    match c[k]? with
    | some (.getGlob n, _) => if nullCallees.contains n then some 0 else if builtinNames.contains n then some 1 else none
    | some (.member n, _) => if nullCallees.contains n then some 0 else some 1
    | _ => none
  | _ => none

/-- Parameters of a function: the `setVar`s directly after its leading `addMp`. -/
def leadingSetVars : FnCode → Nat
  | (.setVar _, _) :: rest => leadingSetVars rest + 1
  | _ => 0

def paramsOf (c : FnCode) : Nat :=
  match c with
  | (.addMp _, _) :: rest => leadingSetVars rest
  | _ => 0

structure InfState where
  pts : Array (Option Ann)
  dyn : List (Nat × Nat) := []
  results : Option Nat := none
  work : List Nat := []

/-- Record annotation `a` for `ip`; `none` on a conflict. -/
def InfState.record (st : InfState) (x : Nat × Ann) : Option InfState :=
  if h : x.1 < st.pts.size then
    match st.pts[x.1] with
    | none => some { st with pts := st.pts.set x.1 (some x.2), work := x.1 :: st.work }
    | some a' => if a' = x.2 then some st else none
  else none

def InfState.recordAll (st : InfState) : List (Nat × Ann) → Option InfState
  | [] => some st
  | x :: xs => (st.record x).bind (·.recordAll xs)

/-- Worklist propagation with backtracking over the result count of `callVal` sites.
`budget` bounds the total number of instructions visited. Returns the final state (or `none`)
and the remaining budget. -/
def inferGo (sig : String → Option (Nat × Nat)) (name : String) (c : Array (RInstr × Span)) (cl : FnCode) :
    Nat → Nat → InfState → Option InfState × Nat
  | 0, budget, _ => (none, budget)
  | _, 0, _ => (none, 0)
  | fuel + 1, budget + 1, st =>
    match st.work with
    | [] => (some st, budget)
    | ip :: work =>
      let st := { st with work := work }
      match st.pts[ip]?, c[ip]? with
      | some (some a), some (i, _) =>
        let hOK (pops : Nat) : Bool :=
          match a.hs with
          | [] => true
          | (_, H, _) :: _ => decide (H + pops ≤ a.h)
        let continueWith (st : InfState) (r : Nat) (results : Nat) : Option InfState × Nat :=
          match succs sig name cl results r ip a i with
          | some (pops, l) =>
            if hOK pops then
              match st.recordAll l with
              | some st' => inferGo sig name c cl fuel budget st'
              | none => (none, budget)
            else (none, budget)
          | none => (none, budget)
        match i with
        | .ret =>
          match st.results with
          | some q => continueWith st 0 q
          | none => continueWith { st with results := some a.h } 0 a.h
        | .callImm f =>
          match sig f with
          | some _ => continueWith st 0 0
          | none => inferGo sig name c cl fuel budget st     -- callee not yet known: leave the successor open
        | .callVal =>
          let first := (dynHint cl ip).getD 1
          match continueWith { st with dyn := (ip, first) :: st.dyn } first 0 with
          | (some st', b) => (some st', b)
          | (none, b) =>
            let second := 1 - first
            match b with
            | 0 => (none, 0)
            | b' + 1 =>
              match succs sig name cl 0 second ip a i with
              | some (pops, l) =>
                if hOK pops then
                  match { st with dyn := (ip, second) :: st.dyn }.recordAll l with
                  | some st' => inferGo sig name c cl fuel b' st'
                  | none => (none, b')
                else (none, b')
              | none => (none, b')
        | _ => continueWith st 0 0
      | _, _ => (none, budget)

/-- Annotation of one function under the signatures `sig` known so far. -/
def inferFn (sig : String → Option (Nat × Nat)) (cf : CompiledFn) : Option FnAnn × Option Nat :=
  let n := cf.code.length
  let params := paramsOf cf.code
  let st0 : InfState :=
    { pts := (Array.replicate n none).setIfInBounds 0 (some { h := params, off := 0, hs := [] }), work := [0] }
  if n = 0 then (none, none)
  else
    match (inferGo sig cf.name cf.code.toArray cf.code (n * n + n + 1) (64 * n + 64) st0).1 with
    | some st =>
      (some { params := params, results := st.results.getD 0, pts := st.pts.toList, dyn := st.dyn }, st.results)
    | none => (none, none)

/-- Rounds of signature inference: a function's result count becomes known once one of its
`ret`s has been reached. -/
def inferSigs (code : Code) : Nat → List (String × Nat × Nat) → List (String × Nat × Nat)
  | 0, known => known
  | rounds + 1, known =>
    let sig (f : String) : Option (Nat × Nat) := known.lookup f
    let known' := code.foldl (fun acc cf =>
      if (acc.lookup cf.name).isSome then acc
      else
        match (inferFn sig cf).2 with
        | some q => acc ++ [(cf.name, paramsOf cf.code, q)]
        | none => acc) known
    if known'.length = known.length then known else inferSigs code rounds known'

/-- Signatures for the final pass: a function none of whose `ret`s was reached (it always throws
or loops) gets result count 0 — any count is consistent for it. -/
def finalSigs (code : Code) : List (String × Nat × Nat) :=
  let known := inferSigs code (code.length + 1) []
  code.foldl (fun acc cf =>
    if (acc.lookup cf.name).isSome then acc else acc ++ [(cf.name, paramsOf cf.code, 0)]) known

def infer (code : Code) : Option (List FnAnn) :=
  let known := finalSigs code
  let sig (f : String) : Option (Nat × Nat) := known.lookup f
  code.mapM fun cf => (inferFn sig cf).1

/-- The checker: infer an annotation, then verify it. -/
def hcheck (code : Code) : Bool :=
  match infer code with
  | some A => verify code A
  | none => false

/-- Why a program is rejected, for the driver: the first function whose annotation cannot be
inferred, or the first instruction index that fails `checkAt`. -/
def hcheckReport (code : Code) : String :=
  let known := finalSigs code
  let sig (f : String) : Option (Nat × Nat) := known.lookup f
  match code.find? (fun cf => (inferFn sig cf).1.isNone) with
  | some cf => s!"infer {cf.name}"
  | none =>
    match infer code with
    | none => "infer"
    | some A =>
      if verify code A then "ok"
      else
        match (code.zip A).find? (fun x => !checkFn (sigOf code A) x.1 x.2) with
        | some (cf, fa) =>
          match (List.range cf.code.length).find? (fun ip => !checkAt (sigOf code A) cf.name cf.code fa ip) with
          | some ip => s!"verify {cf.name} {ip}"
          | none => s!"verify {cf.name} entry"
        | none => "verify length"

end Hms.Core.BcCheck
