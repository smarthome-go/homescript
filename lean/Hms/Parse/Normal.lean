import Hms.Parse.Pratt
/-!
# Normal trees

`normal prec p t`: `t` is a tree that the precedence-climbing loop, entered at binding
power `p`, rebuilds from its own flattening. `rightSpineOK prec q t`: no operator on the
right spine of `t` would give up its right operand to a following operator of left
power `q` (a range literal parses its right operand at power 0 and therefore gives way to
nothing: it absorbs whatever follows).
-/
namespace Hms.Pratt
open Hms

def headLbp (prec : Prec) : List TokKind → Nat
  | [] => 0
  | k :: _ => (prec k).1

def rightSpineOK (prec : Prec) (q : Nat) : Tree → Bool
  | .bin _ o r => decide ((prec o).2 ≥ q) && rightSpineOK prec q r
  | .asg _ o r => decide ((prec o).2 ≥ q) && rightSpineOK prec q r
  | .pre _ e => decide (prefixBp ≥ q) && rightSpineOK prec q e
  | .range _ _ b => decide (q = 0) && rightSpineOK prec q b
  | _ => true

mutual
def normal (prec : Prec) (p : Nat) : Tree → Bool
  | .atom k => isAtom k
  | .grp e => normal prec 0 e
  | .pre op e => isPrefix op && normal prec prefixBp e
  | .bin l o r =>
      isInfix o && decide ((prec o).1 > p) && normal prec p l && rightSpineOK prec (prec o).1 l
        && normal prec (prec o).2 r
  | .asg l o r =>
      isAssign o && decide ((prec o).1 > p) && normal prec p l && rightSpineOK prec (prec o).1 l
        && validAssignTarget l && normal prec (prec o).2 r
  | .call f args =>
      decide ((prec .lParen).1 > p) && normal prec p f && rightSpineOK prec (prec .lParen).1 f
        && normalArgs prec args
  | .index b i =>
      decide ((prec .lBracket).1 > p) && normal prec p b && rightSpineOK prec (prec .lBracket).1 b
        && normal prec 0 i
  | .member b op name =>
      isMemberOp op && (name == .identifier || name == .underscore) && decide ((prec op).1 > p)
        && normal prec p b && rightSpineOK prec (prec op).1 b
  | .cast b ty =>
      (ty == .identifier) && decide ((prec .as).1 > p) && normal prec p b
        && rightSpineOK prec (prec .as).1 b
  | .range a _ b =>
      decide ((prec .doubleDot).1 > p) && normal prec p a && rightSpineOK prec (prec .doubleDot).1 a
        && normal prec 0 b
  | .list xs => normalArgs prec xs
def normalArgs (prec : Prec) : Args → Bool
  | .nil => true
  | .cons x xs => normal prec 0 x && normalArgs prec xs
end

/-- The fact about closing tokens that the loop relies on: closers and separators never continue
an expression (`)`, `]` and `,` have left power 0). -/
def TableSane (prec : Prec) : Prop :=
  (prec .rParen).1 = 0 ∧ (prec .rBracket).1 = 0 ∧ (prec .comma).1 = 0

end Hms.Pratt
