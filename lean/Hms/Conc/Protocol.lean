/-!
# The Wait / cores / signal-channel / cores-lock / globals-mutex protocol

Transition system that mirrors `runtime/vm.go` (`spawnCore`, `spawnCoreInternal`, `Wait`),
the tail of `Core.Run` in `runtime/core.go` (every exit path sends exactly one value on the
core's signal channel) and the two globals instructions of `runtime/execute.go`
(`GetGlobImm`: RLock / read / RUnlock, `SetGlobImm`: Lock / write / Unlock).

* A core goroutine is `running` until it sends its signal (`nil` = finished, or an interrupt).
  With a buffered channel (capacity 1, after V19) the send never blocks: `signalled`.
  With the old unbuffered channel the goroutine stays in `sending` until `Wait` receives.
* `VM.Cores.Cores` is `listed`; its RW lock is held in read mode exactly while `Wait` is in a
  `scan` phase; write-locked sections (`spawnCore`, the two in `Wait`) touch nothing but the list
  and are therefore single atomic transitions. `leaked` counts read locks that were never
  released (V18: `Wait` used to return from the interrupt path holding one).
* The globals mutex is modelled by its holders (`gWriter`, `gReader`).

`Cfg.fixed` is the code after the fixes V18, V19, H1; the other configurations exist for the
counterexample theorems only.
-/
namespace Hms.Conc

/-- Interrupt classes a core can signal (`value.VmInterruptKind`, exceptions that reach the
host are always fatal: an uncaught `throw` is turned into a fatal `UncaughtThrow`). -/
inductive Intr where
  | terminate | fatal | exit
  deriving DecidableEq, Repr, Inhabited

/-- What travels over a signal channel: `none` = `nil` = the core finished normally. -/
abbrev Sig := Option Intr

/-- Position of a running core relative to the globals mutex. -/
inductive GPc where
  | idle | rd | wr
  deriving DecidableEq, Repr

inductive CoreSt where
  | absent
  | running (g : GPc)
  | sending (s : Sig)
  | signalled (s : Sig)
  | received (s : Sig)
  deriving DecidableEq, Repr

def CoreSt.isLive : CoreSt → Bool
  | .running _ | .sending _ | .signalled _ => true
  | _ => false

/-- Program counter of the goroutine that executes `VM.Wait`. -/
inductive WaitPc where
  | idle
  | top
  | scan (rest : List Nat)
  | rmWantLock (c : Nat) (stale : List Nat) (rest : List Nat)
  | rmWantRLock (rest : List Nat)
  | cancelWantLock (c : Nat) (i : Intr)
  | sleeping
  | returned (r : Option (Nat × Intr))
  deriving DecidableEq, Repr

def WaitPc.holdsR : WaitPc → Bool
  | .scan _ => true
  | _ => false

def WaitPc.active : WaitPc → Bool
  | .idle | .returned _ => false
  | _ => true

structure Cfg where
  buffered : Bool
  leakRLock : Bool
  staleFilter : Bool
  deriving DecidableEq, Repr

/-- The protocol as it is after V18 (no leaked read lock), V19 (buffered signal channels)
and H1 (core list shortened under the write lock). -/
def Cfg.fixed : Cfg := ⟨true, false, false⟩

def upd {α : Type} (f : Nat → α) (i : Nat) (v : α) : Nat → α := fun j => if j = i then v else f j

@[simp] theorem upd_same {α : Type} (f : Nat → α) (i : Nat) (v : α) : upd f i v i = v := by simp [upd]
theorem upd_other {α : Type} {f : Nat → α} {i j : Nat} {v : α} (h : j ≠ i) : upd f i v j = f j := by
  simp [upd, h]
theorem upd_upd {α : Type} (f : Nat → α) (i : Nat) (v w : α) : upd (upd f i v) i w = upd f i w := by
  funext j; by_cases h : j = i <;> simp [upd, h]

structure PState where
  n : Nat
  core : Nat → CoreSt
  listed : List Nat
  leaked : Nat
  cancelled : Bool
  dropped : Bool
  wait : WaitPc
  gWriter : Option Nat
  gReader : Nat → Bool
  gVersion : Nat

def PState.init : PState :=
  { n := 0, core := fun _ => .absent, listed := [], leaked := 0, cancelled := false, dropped := false,
    wait := .idle, gWriter := none, gReader := fun _ => false, gVersion := 0 }

/-- Can `spawnCore` take the write lock on the core list? -/
def PState.lockFree (s : PState) : Bool := !s.wait.holdsR && s.leaked == 0

/-- `spawnCore` + `go core.Run(..)`: a new running core, appended to the list under the write lock. -/
def PState.spawn (s : PState) : PState :=
  { s with n := s.n + 1, core := upd s.core s.n (.running .idle), listed := s.listed ++ [s.n] }

/-- The state of a core goroutine right after `SignalHandle <- sg`. -/
def sent (cfg : Cfg) (sg : Sig) : CoreSt := if cfg.buffered then .signalled sg else .sending sg

/-- One step of the goroutine executing `Wait` (`none`: not in `Wait`, or blocked on the lock). -/
def waitStep (cfg : Cfg) (s : PState) : Option PState :=
  match s.wait with
  | .idle | .returned _ => none
  | .top => some { s with wait := .scan s.listed }
  | .sleeping => some { s with wait := .top }
  | .scan [] =>
    if s.listed.isEmpty then some { s with wait := .returned none } else some { s with wait := .sleeping }
  | .scan (c :: rest) =>
    let recv (sg : Sig) : PState :=
      match sg with
      | none => { s with core := upd s.core c (.received none),
                         wait := .rmWantLock c (s.listed.filter (· != c)) rest }
      | some i => { s with core := upd s.core c (.received (some i)), wait := .cancelWantLock c i }
    match s.core c with
    | .signalled sg => some (recv sg)
    | .sending sg => some (recv sg)
    | _ => some { s with wait := .scan rest }
  | .rmWantLock c stale rest =>
    if s.leaked = 0 then
      some { s with listed := if cfg.staleFilter then stale else s.listed.filter (· != c),
                    wait := .rmWantRLock rest }
    else none
  | .rmWantRLock rest => some { s with wait := .scan rest }
  | .cancelWantLock c i =>
    if s.leaked = 0 then
      some { s with cancelled := true, dropped := true, listed := [],
                    leaked := if cfg.leakRLock then 1 else 0, wait := .returned (some (c, i)) }
    else none

/-- All interleavings: the transitions of the host, of every core and of `Wait`. -/
inductive Step (cfg : Cfg) : PState → PState → Prop where
  | hostSpawn (s : PState) : s.lockFree = true → Step cfg s s.spawn
  | coreSpawn (s : PState) (c : Nat) : s.core c = .running .idle → s.lockFree = true → Step cfg s s.spawn
  | hostCancel (s : PState) : Step cfg s { s with cancelled := true }
  | coreFinish (s : PState) (c : Nat) (sg : Sig) : s.core c = .running .idle →
      (sg = some .terminate → s.cancelled = true) →
      Step cfg s { s with core := upd s.core c (sent cfg sg) }
  | gRLock (s : PState) (c : Nat) : s.core c = .running .idle → s.gWriter = none →
      Step cfg s { s with core := upd s.core c (.running .rd), gReader := upd s.gReader c true }
  | gRUnlock (s : PState) (c : Nat) : s.core c = .running .rd →
      Step cfg s { s with core := upd s.core c (.running .idle), gReader := upd s.gReader c false }
  | gLock (s : PState) (c : Nat) : s.core c = .running .idle → s.gWriter = none →
      (∀ d, s.gReader d = false) →
      Step cfg s { s with core := upd s.core c (.running .wr), gWriter := some c }
  | gWrite (s : PState) (c : Nat) : s.core c = .running .wr →
      Step cfg s { s with gVersion := s.gVersion + 1 }
  | gUnlock (s : PState) (c : Nat) : s.core c = .running .wr →
      Step cfg s { s with core := upd s.core c (.running .idle), gWriter := none }
  | waitStart (s : PState) : s.wait.active = false → Step cfg s { s with wait := .top }
  | wait (s s' : PState) : waitStep cfg s = some s' → Step cfg s s'

inductive Reach (cfg : Cfg) : PState → Prop where
  | init : Reach cfg PState.init
  | step (s s' : PState) : Reach cfg s → Step cfg s s' → Reach cfg s'

/-- `Wait` running alone for at most `fuel` of its own steps. -/
def waitRun (cfg : Cfg) : Nat → PState → PState
  | 0, s => s
  | fuel + 1, s =>
    match waitStep cfg s with
    | some s' => waitRun cfg fuel s'
    | none => s

/-- `Wait`'s answer. -/
def PState.waitResult (s : PState) : Option (Option (Nat × Intr)) :=
  match s.wait with
  | .returned r => some r
  | _ => none

end Hms.Conc
