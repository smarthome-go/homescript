import Hms.Mod.Graph
/-!
# Linking and execution of a module graph

* `resolveFn` / `resolveGlob`: *lexical, per-module* resolution — a name denotes the module's own
  definition or the definition it explicitly imports. This is the specification.
* `linkFn` / `linkGlob`: what the bytecode compiler does (`compiler/util.go`): `getMangledFn`
  looks in the current module and then in *any* module (Go map order), and all modules' globals
  live in one scope keyed by the source name (`mangleVar` writes `varScopes[0][name]`, the module
  visited last wins). Both orders are parameters of the model (finding V22).
* `run`: execution of the action language against globals keyed by (module, name), with the
  resolver as a parameter; `runLex` is the specification, `runLinked ord any` the compiled program.
* `initCode`: shape of the `@init` functions the compiler emits (`compileProgram`), `startup`:
  the events of VM construction followed by `main`.
* `treeExecs`: the modules the tree-walking interpreter executes while importing
  (`interpreter/topLevel.go importItem`): once per module after the fix for V24,
  `treeExecsUnfixed`: once per import statement.
-/
namespace Hms.Mod

/-! ## Resolution -/

/-- The module that defines the function `n` as seen from `m`: `m` itself, or the target of an
import statement of `m` that names `n`. -/
def resolveFn (ms : Modules) (m : Module) (n : String) : Option String :=
  if m.defines .fn n then some m.name
  else m.imports.findSome? fun imp =>
    if imp.items.any (fun it => it.name == n && it.kind == .normal) then
      match findMod ms imp.target with
      | some t => if t.defines .fn n then some t.name else none
      | none => none
    else none

def resolveGlob (ms : Modules) (m : Module) (n : String) : Option String :=
  if m.defines .glob n then some m.name
  else m.imports.findSome? fun imp =>
    if imp.items.any (fun it => it.name == n && it.kind == .normal) then
      match findMod ms imp.target with
      | some t => if t.defines .glob n then some t.name else none
      | none => none
    else none

/-- `getMangledFn`: own module first, else the first module of `any` (an arbitrary order: the Go
code ranges over a map) that has a function of that name. -/
def linkFn (any : Modules) (m : Module) (n : String) : Option String :=
  if m.defines .fn n then some m.name
  else (any.find? fun t => t.defines .fn n).map (·.name)

/-- `getMangled` for a global: one scope for all modules, keyed by the source name; the module
compiled last (in visiting order `ord`) has overwritten the entry. -/
def linkGlob (ord : Modules) (n : String) : Option String :=
  (ord.reverse.find? fun t => t.defines .glob n).map (·.name)

structure Resolver where
  fn : Module → String → Option String
  glob : Module → String → Option String

def lexical (ms : Modules) : Resolver := ⟨resolveFn ms, resolveGlob ms⟩
def linked (ord any : Modules) : Resolver := ⟨linkFn any, fun _ n => linkGlob ord n⟩

/-! ## Name clashes (the hypothesis finding V22 costs) -/

def definers (ms : Modules) (k : ItemKind) (n : String) : List String :=
  (ms.filter fun m => m.defines k n).map (·.name)

def globalNames (ms : Modules) : List String :=
  ms.flatMap fun m => (m.items.filter (·.kind == .glob)).map (·.name)

def fnNames (ms : Modules) : List String :=
  ms.flatMap fun m => (m.items.filter (·.kind == .fn)).map (·.name)

/-- Names a module refers to without defining them: the names of its `normal` imports. -/
def importedNames (m : Module) : List String :=
  m.imports.flatMap fun i => (i.items.filter (·.kind == .normal)).map (·.name)

/-- No two modules define a global of the same name; a function name that some module imports
(instead of defining it) is defined by at most one module; no name is a function in one module
and a global in another. -/
def noCrossModuleClash (ms : Modules) : Bool :=
  (globalNames ms).Nodup &&
  (ms.all fun m => (importedNames m).all fun n => m.defines .fn n || (definers ms .fn n).length ≤ 1) &&
  ((fnNames ms).all fun n => !(globalNames ms).contains n)

/-! ## Execution -/

structure RState where
  globals : List ((String × String) × String) := []
  out : String := ""
  deriving Repr, Inhabited, DecidableEq

def RState.read (s : RState) (m n : String) : Option String := s.globals.lookup (m, n)

def RState.write (s : RState) (m n v : String) : RState :=
  { s with globals := s.globals.map fun (k, old) => if k == (m, n) then (k, v) else (k, old) }

/-- Every module's globals with their initial values (each initialised exactly once). -/
def initGlobals (ms : Modules) : List ((String × String) × String) :=
  ms.flatMap fun m => m.inits.map fun (n, v) => ((m.name, n), v)

def readAll (R : Resolver) (s : RState) (m : Module) : List String → Option (List String)
  | [] => some []
  | g :: rest =>
    match R.glob m g with
    | none => none
    | some d =>
      match s.read d g, readAll R s m rest with
      | some v, some vs => some (v :: vs)
      | _, _ => none

/-- Run a list of actions of module `m`; `none` = stuck (unresolved name) or out of fuel. -/
def run (ms : Modules) (R : Resolver) : Nat → Module → List Act → RState → Option RState
  | _, _, [], s => some s
  | 0, _, _ :: _, _ => none
  | fuel + 1, m, a :: rest, s =>
    let s' : Option RState :=
      match a with
      | .say label gs =>
        (readAll R s m gs).map fun vs => { s with out := s.out ++ " ".intercalate (label :: vs) ++ "\n" }
      | .bump g =>
        match R.glob m g with
        | none => none
        | some d => (s.read d g).map fun v => s.write d g (v ++ "!")
      | .call f =>
        match R.fn m f with
        | none => none
        | some d =>
          match findMod ms d with
          | none => none
          | some dm =>
            match dm.bodies.lookup f with
            | none => none
            | some body => run ms R fuel dm body s
    match s' with
    | none => none
    | some s' => run ms R fuel m rest s'

def runMain (ms : Modules) (R : Resolver) (fuel : Nat) (entry : String := "main") : Option String :=
  match findMod ms entry with
  | none => none
  | some m =>
    match m.bodies.lookup "main" with
    | none => none
    | some body => (run ms R fuel m body { globals := initGlobals ms }).map (·.out)

def runLex (ms : Modules) (fuel : Nat) : Option String := runMain ms (lexical ms) fuel
def runLinked (ms ord any : Modules) (fuel : Nat) : Option String := runMain ms (linked ord any) fuel

/-- Every name used in a body resolves lexically (what the analyzer guarantees for an accepted
program). -/
def closedBody (ms : Modules) (m : Module) : List Act → Bool
  | [] => true
  | .say _ gs :: rest => gs.all (fun g => (resolveGlob ms m g).isSome) && closedBody ms m rest
  | .bump g :: rest => (resolveGlob ms m g).isSome && closedBody ms m rest
  | .call f :: rest => (resolveFn ms m f).isSome && closedBody ms m rest

def closed (ms : Modules) : Bool := ms.all fun m => m.bodies.all fun (_, b) => closedBody ms m b

/-! ## The `@init` functions -/

inductive InitInstr where
  | setGlob (module name : String)
  | callInit (module : String)
  | ret
  deriving DecidableEq, Repr, Inhabited

def InitInstr.render : InitInstr → String
  | .setGlob m n => s!"SetGlob({m}.{n})"
  | .callInit m => s!"Call(@{m}_@init)"
  | .ret => "Return"

def globalsOf (m : Module) : List String := (m.items.filter (·.kind == .glob)).map (·.name)

/-- `@init` of module `m`: its globals in declaration order; the entry module then calls every
other module's `@init` (in the order `ord`, a parameter of the model: `compileProgram` visits the module
names sorted, `compiler.go`);
every `@init` ends with `Return` (after the fix for V31 an `@init` is never empty). -/
def initOf (ord : Modules) (entry : String) (m : Module) : List InitInstr :=
  (globalsOf m).map (.setGlob m.name) ++
  (if m.name == entry then (ord.filter (·.name != entry)).map (fun o => .callInit o.name) else []) ++
  [.ret]

/-- The unfixed compiler (finding V31): only the entry module's `@init` gets a `Return`; the
`@init` of an imported module without globals is empty. -/
def initOfUnfixed (ord : Modules) (entry : String) (m : Module) : List InitInstr :=
  (globalsOf m).map (.setGlob m.name) ++
  (if m.name == entry then (ord.filter (·.name != entry)).map (fun o => .callInit o.name) ++ [.ret] else [])

/-- The VM refuses to run a function without instructions ("Cannot execute instructions of
non-existent routine", a Go panic of the host). -/
def startupPanicsUnfixed (ord : Modules) (entry : String) : Bool :=
  ord.any fun m => m.name != entry && (initOfUnfixed ord entry m).isEmpty

def initCode (ord : Modules) (entry : String) : List (String × List InitInstr) :=
  ord.map fun m => (m.name, initOf ord entry m)

inductive Event where
  | init (module : String)
  | main
  deriving DecidableEq, Repr, Inhabited

/-- Events of running one `@init` (a call runs the callee's `@init`; callees call nobody). -/
def initEvents (code : List (String × List InitInstr)) : Nat → String → List Event
  | 0, _ => []
  | fuel + 1, m =>
    .init m :: ((code.lookup m).getD []).flatMap fun i =>
      match i with
      | .callInit o => initEvents code fuel o
      | _ => []

/-- `runtime.NewVM` runs the entry module's `@init`; the host then spawns `main`. -/
def startup (ord : Modules) (entry : String) : List Event :=
  initEvents (initCode ord entry) 2 entry ++ [.main]

/-! ## The interpreter's import execution -/

/-- Modules executed by `execModule(name)` and the imports below it, in order; `done` = modules
already instantiated. After the fix for V24 `importItem` executes a module only if it has not
been instantiated yet. -/
def treeExecs (ms : Modules) : Nat → List String → String → List String × List String
  | 0, done, _ => ([], done)
  | fuel + 1, done, name =>
    match findMod ms name with
    | none => ([], done)
    | some m =>
      m.imports.foldl (fun (acc : List String × List String) imp =>
        if (findMod ms imp.target).isNone || acc.2.contains imp.target then acc
        else
          let (ex, done') := treeExecs ms fuel acc.2 imp.target
          (acc.1 ++ ex, done')) ([name], name :: done)

/-- The unfixed interpreter: `importItem` executes the module for every import statement. -/
def treeExecsUnfixed (ms : Modules) : Nat → String → List String
  | 0, _ => []
  | fuel + 1, name =>
    match findMod ms name with
    | none => []
    | some m =>
      name :: m.imports.flatMap fun imp =>
        if (findMod ms imp.target).isNone then [] else treeExecsUnfixed ms fuel imp.target

end Hms.Mod
